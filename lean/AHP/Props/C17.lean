/-
  C17 — Pickled and cloned documents are faithful, independent copies.

  Model: AHP/Model/Pickle.lean (the definitions the driver executes).  Lemmas: AHP/Lemmas/PickleAttrs.lean (dict,
  attribute store and its closure under the mutators), PickleTree.lean (induction over block lists), Pickle.lean (trees, the specification function `relabel`: the copy as it should be), PickleStr.lean (the two string round
  trips), PickleIdx.lean (indexes of the copy), PickleEdit.lean (closure of the domain under edits).

  Domain predicate `WFT t` (decidable data conditions, the analogue of "a C01 tree"): every element has a
  lower-case name and a well-formed attribute store (`Attrs.WF`: unique lower-case valid keys, the `style` key
  holds the style object, `spellcheck`-like keys hold a normalised string, and the two string round trips
  `classTokens (className cls) = cls`, `styleToDict (styleStr sty) = sty` hold of the stored data) in which
  `class`, once synchronised, is the last entry (`Attrs.ClassLast`; see `classLast_needed` for why).
  `ScOK t` is the part of C04's invariant a copy can only inherit ("self-closing ⇒ no content").

  Object identity is the `oid`; "fresh" means `n` is above every object id in use, as the allocator guarantees.
  Python-level aliasing (weak references, pickle memo, protocols) is outside a value model: the oracle of the
  correspondence check covers it on the real objects.

  Names are written `Pk.Attrs.…`, `Pk.styleToDict`, … : the lemma files bring the other attribute-store models
  into scope (they reuse their dict and string lemmas through the equalities of Lemmas/AttrStores*.lean), and an
  enclosing-namespace name (`AHP.Attrs.…`) would win over the opened `AHP.Pk`.
-/
import AHP.Lemmas.PickleIdx
import AHP.Lemmas.PickleEdit
namespace AHP.C17
open AHP AHP.Pk

/-! ### C17a — `pickle.loads(pickle.dumps(t))` of a detached tree -/

/-- Unpickling never raises on a well-formed tree and yields exactly the specified copy. -/
theorem unpickle_eq (ρ : Option Nat → Option Nat) (t : DN) (h : WFT t) (n : Nat) :
    roundTrip ρ t n = some ((relabel none (ρ (DN.ownerOf t)) t n).1, n + DN.size t) := by
  unfold roundTrip
  rw [load_spec ρ t h n, ← relabel_snd none (ρ (DN.ownerOf t)) t n]

/-- C17a, all clauses for a tree: the copy exists, consumes exactly `size t` fresh objects, serialises
    identically, has the same uids element for element and the same per-element name / attribute list /
    self-closing flag, is made of the fresh objects `n, n+1, …` in document order (hence pairwise distinct and
    none of them an object of the original), and is itself well-formed. -/
theorem unpickle_faithful (ρ : Option Nat → Option Nat) (t : DN) (h : WFT t) (n : Nat) :
    ∃ t', roundTrip ρ t n = some (t', n + DN.size t) ∧
      DN.html t' = DN.html t ∧
      DN.uids t' = DN.uids t ∧
      (DN.elems t').map elView = (DN.elems t).map elView ∧
      DN.oids t' = List.range' n (DN.size t) ∧
      WFT t' := by
  refine ⟨_, unpickle_eq ρ t h n, html_relabel _ _ t h n, uids_relabel _ _ t n, views_relabel _ _ t h n,
    oids_relabel _ _ t n, WFT_relabel _ _ t h n⟩

/-- C17a, links: in the copy every `parentNode` is the containing element *of the copy*, the root has none,
    `children` and `text` mirror the block list, and every `ownerDocument` is what the root's reference
    resolves to — C04's invariant, given that the original kept "self-closing ⇒ no content". -/
theorem unpickle_links (ρ : Option Nat → Option Nat) (t : DN) (h : WFT t) (hs : ScOK t) (n : Nat) (t' : DN) (m : Nat)
    (e : roundTrip ρ t n = some (t', m)) : OK none (ρ (DN.ownerOf t)) t' := by
  rw [unpickle_eq ρ t h n] at e
  cases e
  exact OK_relabel none _ t hs n

/-- the objects of the copy are pairwise distinct -/
theorem unpickle_oids_nodup (ρ : Option Nat → Option Nat) (t : DN) (h : WFT t) (n : Nat) (t' : DN) (m : Nat)
    (e : roundTrip ρ t n = some (t', m)) : (DN.oids t').Nodup := by
  rw [unpickle_eq ρ t h n] at e
  cases e
  rw [oids_relabel]; exact List.nodup_range'

/-- C17b, disjointness: no object of the copy is an object of the original (or of anything allocated before). -/
theorem unpickle_disjoint (ρ : Option Nat → Option Nat) (t : DN) (h : WFT t) (n : Nat) (t' : DN) (m : Nat)
    (e : roundTrip ρ t n = some (t', m)) (used : List Nat) (hfresh : ∀ o ∈ used, o < n) :
    ∀ o ∈ DN.oids t', o ∉ used := by
  rw [unpickle_eq ρ t h n] at e
  cases e
  intro o ho hu
  rw [oids_relabel, List.mem_range'_1] at ho
  have := hfresh o hu
  omega

/-- C17b, closure: the copy can be pickled again, with any protocol's memo `ρ'`; the second copy is as
    faithful to the original as the first. -/
theorem repickle (ρ ρ' : Option Nat → Option Nat) (t : DN) (h : WFT t) (n : Nat) (t' : DN) (m : Nat)
    (e : roundTrip ρ t n = some (t', m)) :
    ∃ t'', roundTrip ρ' t' m = some (t'', m + DN.size t') ∧ DN.html t'' = DN.html t ∧ DN.uids t'' = DN.uids t := by
  obtain ⟨t1, e1, h1, h2, _, _, h5⟩ := unpickle_faithful ρ t h n
  rw [e1] at e; cases e
  obtain ⟨t2, e2, g1, g2, _, _, _⟩ := unpickle_faithful ρ' t' h5 (n + DN.size t)
  exact ⟨t2, e2, g1.trans h1, g2.trans h2⟩

/-! ### C17b — edits are addressed to objects: one side's edit finds nothing to change on the other -/

theorem mapAtL_not_mem (o : Nat) (f : DN → DN) (bs : List DN) (h : o ∉ DN.oidsL bs) : mapAtL o f bs = bs := by
  induction bs using DN.forest_induct with
  | nil => rfl
  | text s bs ih => simp only [mapAtL, mapAt, ih h]
  | el o1 u nm a sc blocks ch tx p ow bs ihb ih =>
    simp only [DN.oidsL, DN.oids, List.mem_append, List.mem_cons, not_or] at h
    simp only [mapAtL, mapAt, if_neg (Ne.symm h.1.1), ihb h.1.2, ih h.2]
theorem mapAt_not_mem (o : Nat) (f : DN → DN) (t : DN) (h : o ∉ DN.oids t) : mapAt o f t = t := by
  simpa only [mapAtL, List.cons.injEq, and_true] using
    mapAtL_not_mem o f [t] (by simpa only [DN.oidsL, List.append_nil] using h)

private theorem applyEdit_not_mem (target oid uid : Nat) (ed : Edit) (t : DN) (h : target ∉ DN.oids t) :
    applyEdit target oid uid ed t = t := by
  cases ed <;> simp only [applyEdit] <;> (try split) <;> first | exact mapAt_not_mem _ _ _ h | rfl

/-! STATUS of the two independence theorems below.  In this value model a tree *is* its value and an
    edit is addressed to an object id, so "an edit on the copy leaves the original" reduces to `mapAt_not_mem`:
    an edit addressed to an object id that does not occur in a tree changes nothing in that tree.  That is true
    of ANY two trees with disjoint object ids; the only pickle-specific input is `unpickle_disjoint` (the copy
    is made of fresh object ids).  What the property means by "shares no mutable state" — no aliasing in the
    Python object graph (a shared style object, attribute dict, blocks / children / class list) — is not
    expressible here and is decided by the oracle of the tie (identity comparison of every mutable object of
    the two sides, edits on each side observed on the other), not by these theorems.  Likewise `clone_not_eq`
    takes the freshness of the new uid as a hypothesis (uid generation is not modelled) and "clone shares no
    mutable state" has no statement beyond `clone_eq`. -/

/-- An edit of any kind on an element of the copy leaves the original exactly as it was … (a fact about
    disjoint object ids: `mapAt_not_mem` + `unpickle_disjoint`) -/
theorem edit_copy_leaves_original (ρ : Option Nat → Option Nat) (t : DN) (h : WFT t) (n : Nat) (t' : DN) (m : Nat)
    (e : roundTrip ρ t n = some (t', m)) (hfresh : ∀ o ∈ DN.oids t, o < n)
    (target : Nat) (ht : target ∈ DN.oids t') (oid uid : Nat) (ed : Edit) :
    applyEdit target oid uid ed t = t := by
  exact applyEdit_not_mem target oid uid ed t (unpickle_disjoint ρ t h n t' m e (DN.oids t) hfresh target ht)

/-- … and an edit on an element of the original leaves the copy exactly as it was. -/
theorem edit_original_leaves_copy (ρ : Option Nat → Option Nat) (t : DN) (h : WFT t) (n : Nat) (t' : DN) (m : Nat)
    (e : roundTrip ρ t n = some (t', m)) (hfresh : ∀ o ∈ DN.oids t, o < n)
    (target : Nat) (ht : target ∈ DN.oids t) (oid uid : Nat) (ed : Edit) :
    applyEdit target oid uid ed t' = t' := by
  exact applyEdit_not_mem target oid uid ed t'
    (fun hm => unpickle_disjoint ρ t h n t' m e (DN.oids t) hfresh target hm ht)

/-! ### C17a for parsers -/

theorem inner_relabel (par own : Option Nat) (t : DN) (h : WFT t) (n : Nat) : DN.inner (relabel par own t n).1 = DN.inner t := by
  cases t with
  | text s => simp [relabel, DN.inner]
  | el o u nm a sc blocks ch tx p ow =>
    simp only [WFT] at h
    simp only [relabel, DN.inner]
    rw [htmlL_relabelL _ _ blocks h.2.2.2]

/-- Unpickling a parser: a new parser object `n` that kept the doctype, has its `reset` hook, serialises
    identically; its root is the faithful copy of the root made of the next fresh objects, with the same uids,
    and — when the original's root was owned by the original parser — every element of the copy is owned by the
    *new* parser and linked inside the copy. -/
theorem parser_unpickle (p : Parser) (r : DN) (hr : p.root = some r) (h : WFT r) (n : Nat) :
    ∃ p' r', p.roundTrip n = some (p', n + 1 + DN.size r) ∧
      p'.oid = n ∧ p'.doctype = p.doctype ∧ p'.hasReset = true ∧ p'.html = p.html ∧
      p'.root = some r' ∧ DN.uids r' = DN.uids r ∧ DN.oids r' = List.range' (n + 1) (DN.size r) ∧ WFT r' ∧
      (DN.ownerOf r = some p.oid → ScOK r → OK none (some n) r') := by
  refine ⟨_, _, Parser.roundTrip_eq p r hr h n, rfl, rfl, rfl, ?_, rfl, uids_relabel _ _ r (n + 1),
    oids_relabel _ _ r (n + 1), WFT_relabel _ _ r h (n + 1), ?_⟩
  · unfold Parser.html Parser.copyRoot
    simp only [hr]
    cases r with
    | text s => simp [relabel]
    | el o u nm a sc blocks ch tx pp ow =>
      have hi := fun own => inner_relabel none own (.el o u nm a sc blocks ch tx pp ow) h (n + 1)
      have hh := fun own => html_relabel none own (.el o u nm a sc blocks ch tx pp ow) h (n + 1)
      simp only [relabel] at hi hh ⊢
      rw [hi, hh]
  · intro ho hs
    unfold Parser.copyRoot
    rw [if_pos ho]
    exact OK_relabel none (some n) r hs (n + 1)

/-- A parser that has parsed nothing pickles to a parser that has parsed nothing (and can parse). -/
theorem parser_unpickle_empty (p : Parser) (hr : p.root = none) (n : Nat) :
    ∃ p', p.roundTrip n = some (p', n + 1) ∧ p'.root = none ∧ p'.hasReset = true ∧ p'.doctype = p.doctype := by
  refine ⟨{ p with oid := n, hasReset := true }, ?_, hr, rfl, rfl⟩
  unfold Parser.roundTrip
  simp [hr]

/-- BY CONSTRUCTION OF THE MODEL (`rfl`): `Parser.afterGetstate` is *defined* as `{ p with root := … }`, so the
    hook is kept by definition.  `__getstate__` works on a copy of `__dict__`, so pickling leaves the original
    parser's `reset` hook in place; a `__getstate__` that deletes it from the live dict (the library's before
    dbfbe99) could not have contradicted this statement — it was found, and the clause is decided, by the tie
    (`reset` present on both sides after every `dumps`; parser re-use). -/
theorem getstate_keeps_reset_by_construction (p : Parser) : p.afterGetstate.hasReset = p.hasReset := rfl

/-! #### working indexes: references are carried to the same document position of the copy -/

theorem lookup_zip_range' (xs : List Nat) (s x : Nat) (h : x ∈ xs) :
    (xs.zip (List.range' s xs.length)).lookup x = some (s + xs.idxOf x) :=
  lookup_zip_range'' xs s x h

theorem length_oids (t : DN) : (DN.oids t).length = DN.size t := by
  rw [← infos_oids, List.length_map, length_infos]
theorem length_oidsL (bs : List DN) : (DN.oidsL bs).length = DN.sizeL bs := by
  rw [← infosL_oids, List.length_map, length_infosL]

/-- An index entry (or any other object reference held by the parser) that pointed at the `k`-th element of
    the original document points, in the unpickled parser, at the `k`-th element of the copy: the pickle memo
    `remap` sends it to the object `n + 1 + k`, which is `oids r'` at position `k`. -/
theorem index_reference_carried (r : DN) (h : WFT r) (own : Option Nat) (n : Nat) (x : Nat) (hx : x ∈ DN.oids r) :
    let r' := (relabel none own r (n + 1)).1
    remap ((DN.oids r).zip (DN.oids r')) x = n + 1 + (DN.oids r).idxOf x ∧
    (DN.oids r')[(DN.oids r).idxOf x]? = some (n + 1 + (DN.oids r).idxOf x) := by
  intro r'
  have ho : DN.oids r' = List.range' (n + 1) (DN.oids r).length := by
    rw [length_oids]; exact oids_relabel none own r (n + 1)
  constructor
  · unfold remap
    rw [ho, lookup_zip_range' _ _ _ hx]
  · rw [ho]
    have : (DN.oids r).idxOf x < (DN.oids r).length := List.idxOf_lt_length_of_mem hx
    simp [List.getElem?_range', this]

/-- **Working indexes (IdxInv)**: if the index of the original parser is the index of its document — as after any
    parse or `reindex()` — then the index of the unpickled parser is the index of *its* document: every map, every
    key, every list in the same order, every entry an element of the copy. -/
theorem indexed_parser_unpickle (p : Parser) (r : DN) (hr : p.root = some r) (h : WFT r) (hn : (DN.oids r).Nodup)
    (ids names classes tags : Bool) (attrNames : List Str)
    (hix : p.index = some (indexDoc ids names classes tags attrNames r)) (n : Nat) :
    ∃ p' r', p.roundTrip n = some (p', n + 1 + DN.size r) ∧ p'.root = some r' ∧
      p'.index = some (indexDoc ids names classes tags attrNames r') := by
  refine ⟨_, _, Parser.roundTrip_eq p r hr h n, rfl, ?_⟩
  simp only [hix, Option.map_some]
  rw [Parser.copyRoot, remap_indexDoc ids names classes tags attrNames r hn]

/-! ### C17c — cloneNode / copy.copy / copy.deepcopy -/

/-- The clone is built by the constructor from the original's name, attribute list and self-closing flag:
    it is childless (one empty text block, no children, empty text), detached (no parent, no owner), carries
    the fresh identities it was given and the rebuilt attribute store. -/
theorem clone_eq (o u : Nat) (nm : Str) (a : Attrs) (sc : Bool) (blocks : List DN) (ch : List Nat) (tx : Str)
    (p ow : Option Nat) (hn : lower nm = nm) (ha : Pk.Attrs.WF a) (oid' uid' : Nat) :
    clone oid' uid' (.el o u nm a sc blocks ch tx p ow) =
      some (.el oid' uid' nm (Pk.Attrs.fresh a) (if !sc && Pk.voidTags.contains nm then true else sc) [.text []] [] [] none none) := by
  simp only [clone, DN.mk, Pk.Attrs.init_attrsList a ha, hn]

/-- … unequal to the original under `==` exactly because its uid is fresh. -/
theorem clone_not_eq (o u : Nat) (nm : Str) (a : Attrs) (sc : Bool) (blocks : List DN) (ch : List Nat) (tx : Str)
    (p ow : Option Nat) (hn : lower nm = nm) (ha : Pk.Attrs.WF a) (oid' uid' : Nat) (hfresh : uid' ≠ u) (c : DN)
    (e : clone oid' uid' (.el o u nm a sc blocks ch tx p ow) = some c) :
    tagEq (.el o u nm a sc blocks ch tx p ow) c = false ∧ tagEq c (.el o u nm a sc blocks ch tx p ow) = false := by
  rw [clone_eq o u nm a sc blocks ch tx p ow hn ha] at e
  cases e
  simp [tagEq, hfresh]
  exact fun h => hfresh h.symm

/-- … tag-equal to its original in both directions (`isTagEqual`: same name, same attribute names, same value
    per name — whatever the position of `class`). -/
theorem clone_tag_equal (o u : Nat) (nm : Str) (a : Attrs) (sc : Bool) (blocks : List DN) (ch : List Nat) (tx : Str)
    (p ow : Option Nat) (hn : lower nm = nm) (ha : Pk.Attrs.WF a) (oid' uid' : Nat) (c : DN)
    (e : clone oid' uid' (.el o u nm a sc blocks ch tx p ow) = some c) :
    isTagEqual (.el o u nm a sc blocks ch tx p ow) c = true ∧ isTagEqual c (.el o u nm a sc blocks ch tx p ow) = true := by
  rw [clone_eq o u nm a sc blocks ch tx p ow hn ha] at e
  cases e
  simp only [isTagEqual, Bool.and_eq_true, beq_self_eq_true, true_and, List.all_eq_true, List.contains_iff_mem,
    Pk.Attrs.getForEq_fresh a ha, Pk.Attrs.GVal.eq_refl, implies_true, and_true]
  refine ⟨⟨fun k hk => ?_, fun k hk => ?_⟩, ⟨fun k hk => ?_, fun k hk => ?_⟩⟩
  · exact (Pk.Attrs.mem_keys_handle_fresh a ha k).mpr hk
  · exact (Pk.Attrs.mem_keys_handle_fresh a ha k).mp hk
  · exact (Pk.Attrs.mem_keys_handle_fresh a ha k).mp hk
  · exact (Pk.Attrs.mem_keys_handle_fresh a ha k).mpr hk

/-- … and renders the same start tag (name and attributes) whenever the original's `class` is in its
    canonical last position — always, up to the order of attributes (`clone_tag_equal`). -/
theorem clone_same_start_tag (nm : Str) (a : Attrs) (sc : Bool) (ha : Pk.Attrs.WF a) (hl : Pk.Attrs.ClassLast a) :
    Pk.Attrs.startTag nm (Pk.Attrs.fresh a) sc = Pk.Attrs.startTag nm a sc := Pk.Attrs.startTag_fresh nm a sc ha hl

/-! ### the two string round trips, from a syntactic description of the stored data -/

/-- class tokens that are non-empty and free of white space survive `' '.join` → `stripWordsOnly` → `split(' ')` -/
theorem class_round_trip (cls : List Str) (h : ∀ t ∈ cls, Tok t) : classTokens (className cls) = cls :=
  classTokens_className cls h

/-- style maps with unique names whose properties are `PropOK` (lower-case non-empty name without `:`/`;` and
    without white space at its ends; non-empty value without `;` and without white space at its ends) survive
    `_asStr` → `styleToDict` -/
theorem style_round_trip (sty : List (Str × Str)) (h : ∀ q ∈ sty, PropOK q) (hn : (dkeys sty).Nodup) :
    Pk.styleToDict (Pk.styleStr sty) = sty :=
  styleToDict_styleStr_wide sty hn (fun q hq => goodDecl_of_propOK q (h q hq))

/-- hence `Attrs.WF` follows from purely syntactic conditions on the store -/
theorem wf_of_syntactic (a : Attrs) (hn : (dkeys a.dict).Nodup)
    (hnames : ∀ p ∈ a.dict, Pk.validAttrName p.1 = true ∧ lower p.1 = p.1)
    (hstyle : ∀ p ∈ a.dict, (p.1 = sStyle → p.2 = DVal.style) ∧ (p.1 ≠ sStyle → p.2 ≠ DVal.style))
    (hbool : ∀ p ∈ a.dict, boolStrAttrs.contains p.1 = true → p.1 ≠ sClass → ∃ s, p.2 = DVal.str s ∧ convBoolStr (some s) = s)
    (hcls : ∀ t ∈ a.cls, Tok t) (hsty : ∀ q ∈ a.sty, PropOK q) (hsn : (dkeys a.sty).Nodup) : Pk.Attrs.WF a :=
  ⟨hn, hnames, hstyle, hbool, class_round_trip a.cls hcls, style_round_trip a.sty hsty hsn⟩

/-! ### the domain is closed under the edit operations: the theorems above apply after any history of edits

  Besides unpickling and cloning (`WF_fresh`), `Attrs.WF` is closed under every mutator of the model, with ONE
  operand condition: the token handed to `addClass` has no space inside and no white
  space at its ends (`TokArg`; the model's `addClass` takes one token of `stripWordsOnly(…).split(' ')`).
  `setAttribute` needs none: whatever text is assigned to `class` / `style` is stored as split / as parsed, and
  both parsers are idempotent through the string form (`clsOK_classTokens`, `styleToDict_idem_pk`).

  `ClassLast` (the position of `class` in the synchronised dict) is NOT closed under edits after a read — that is
  the known finding `C17-repickle-class-position` (`classLast_needed`).  What is closed is `ClassLazy` (the raw
  dict does not hold `class` yet, a non-empty style has its key): it holds of every store a constructor,
  unpickling or cloning builds, every mutator keeps it, and it implies `ClassLast`.  `WFTz` is `WFT` with
  `ClassLazy` in the place of `ClassLast`. -/

/-- a mutator of the attribute store -/
inductive AEdit where
  | set (k : Str) (v : Option Str)      -- `_attributes[k] = v` (`setAttribute`, attribute loop of the constructor)
  | del (k : Str)                       -- `del _attributes[k]` (`removeAttribute`)
  | addClass (tok : Str)

def AEdit.apply (a : Attrs) : AEdit → Attrs
  | .set k v => match Pk.Attrs.setitem a k v with | some a' => a' | none => a
  | .del k => Pk.Attrs.delitem a k
  | .addClass tok => Pk.Attrs.addClass a tok

/-- operand conditions: the key of a write is a valid attribute name (`setAttribute` raises `KeyError` on any
    other name, the constructor drops it); the token of `addClass` has no space inside and no white space at
    its ends -/
def AEdit.OK : AEdit → Prop
  | .set k _ => Pk.validAttrName (lower k) = true
  | .del _ => True
  | .addClass tok => Pk.Attrs.TokArg tok

/-- **`Attrs.WF` is closed under every mutator** (and `ClassLazy` with it). -/
theorem WF_edit (a : Attrs) (e : AEdit) (he : e.OK) (h : Pk.Attrs.WF a) : Pk.Attrs.WF (e.apply a) := by
  cases e with
  | set k v =>
    obtain ⟨a', e'⟩ := Pk.Attrs.setitem_isSome a k v
    simp only [AEdit.apply, e']
    exact Pk.Attrs.WF_setitem a k v h he a' e'
  | del k => exact Pk.Attrs.WF_delitem a k h
  | addClass tok => exact Pk.Attrs.WF_addClass a tok h he

theorem classLazy_edit (a : Attrs) (e : AEdit) (h : Pk.Attrs.ClassLazy a) : Pk.Attrs.ClassLazy (e.apply a) := by
  cases e with
  | set k v =>
    obtain ⟨a', e'⟩ := Pk.Attrs.setitem_isSome a k v
    simp only [AEdit.apply, e']
    exact Pk.Attrs.classLazy_setitem a k v h a' e'
  | del k => exact Pk.Attrs.classLazy_delitem a k h
  | addClass tok => exact Pk.Attrs.classLazy_addClass a tok h

/-- **after any history of mutators** the store is well formed; if `class` was still lazy at the start (as in
    every constructed / unpickled / cloned store) it still is, so `class` is in its canonical last position and
    the copy theorems (`clone_eq`, `clone_tag_equal`, `clone_same_start_tag`, `Attrs.init_attrsList`, …) apply. -/
theorem WF_history (es : List AEdit) (he : ∀ e ∈ es, e.OK) : ∀ a : Attrs, Pk.Attrs.WF a →
    Pk.Attrs.WF (es.foldl AEdit.apply a) ∧
    (Pk.Attrs.ClassLazy a → Pk.Attrs.ClassLazy (es.foldl AEdit.apply a) ∧ Pk.Attrs.ClassLast (es.foldl AEdit.apply a)) := by
  induction es with
  | nil => intro a h; exact ⟨h, fun hl => ⟨hl, Pk.Attrs.classLast_of_lazy a hl⟩⟩
  | cons e es ih =>
    intro a h
    have h1 := WF_edit a e (he e List.mem_cons_self) h
    have := ih (fun x hx => he x (List.mem_cons_of_mem _ hx)) (e.apply a) h1
    exact ⟨this.1, fun hl => this.2 (classLazy_edit a e hl)⟩

/-- every store a constructor builds — from ANY attribute list — is in the closed domain -/
theorem constructed_store_in_domain (l : List (Str × Option Str)) (a : Attrs) (e : Pk.Attrs.init l = some a) :
    Pk.Attrs.WF a ∧ Pk.Attrs.ClassLazy a ∧ Pk.Attrs.ClassLast a :=
  ⟨Pk.Attrs.WF_init l a e, Pk.Attrs.classLazy_init l a e, Pk.Attrs.classLast_of_lazy a (Pk.Attrs.classLazy_init l a e)⟩

/-- the read (`items()/keys()/getAttributesList()`) keeps `WF` and the position of `class` — but ends the
    laziness when the class list is non-empty (see `read_ends_laziness`) -/
theorem WF_read (a : Attrs) (h : Pk.Attrs.WF a) (hl : Pk.Attrs.ClassLast a) :
    Pk.Attrs.WF (Pk.Attrs.handle a) ∧ Pk.Attrs.ClassLast (Pk.Attrs.handle a) :=
  ⟨Pk.Attrs.WF_handle a h, Pk.Attrs.classLast_handle a h.nodup hl⟩

/-- **one edit of the model keeps a tree in the closed domain** — all six kinds (appendText, appendChild,
    setAttribute, removeAttribute, addClass, removeChild), any target object. -/
theorem WFT_edit (target oid uid : Nat) (e : Edit) (he : EditOK e) (d : DN) (h : WFTz d) :
    WFTz (applyEdit target oid uid e d) := WFTz_applyEdit target oid uid e he d h

/-- **after any history of edits** the tree is in the closed domain, hence `WFT`. -/
theorem WFT_history (es : List (Nat × Nat × Nat × Edit)) (he : ∀ x ∈ es, EditOK x.2.2.2) (d : DN) (h : WFTz d) :
    WFTz (applyHistory es d) ∧ WFT (applyHistory es d) :=
  ⟨WFTz_applyHistory es he d h, WFT_of_WFTz _ (WFTz_applyHistory es he d h)⟩

/-- what unpickling returns is in the closed domain again (not only `WFT`): histories may alternate edits and
    pickling on either side -/
theorem unpickle_in_closed_domain (ρ : Option Nat → Option Nat) (t : DN) (h : WFT t) (n : Nat) (t' : DN) (m : Nat)
    (e : roundTrip ρ t n = some (t', m)) : WFTz t' := by
  rw [unpickle_eq ρ t h n] at e
  cases e
  exact WFTz_relabel none _ t h n

/-- every element a constructor builds (`AdvancedTag(name, attrList, isSelfClosing)`) is in the closed domain -/
theorem constructed_in_domain (oid uid : Nat) (name : Str) (l : List (Str × Option Str)) (sc : Bool) (ow : Option Nat)
    (c : DN) (e : DN.mk oid uid name l sc ow = some c) : WFTz c := WFTz_mk oid uid name l sc ow c e

/-- **C17a/b after any history of edits.**  Start from a tree in the closed domain (constructed, parsed,
    unpickled, cloned), apply any sequence of edits with admissible operands: pickling the result never raises and
    yields a faithful copy — same serialisation, same uids, same per-element view, fresh objects — which is again
    in the closed domain. -/
theorem unpickle_after_history (ρ : Option Nat → Option Nat) (t : DN) (h : WFTz t)
    (es : List (Nat × Nat × Nat × Edit)) (he : ∀ x ∈ es, EditOK x.2.2.2) (n : Nat) :
    ∃ t', roundTrip ρ (applyHistory es t) n = some (t', n + DN.size (applyHistory es t)) ∧
      DN.html t' = DN.html (applyHistory es t) ∧
      DN.uids t' = DN.uids (applyHistory es t) ∧
      (DN.elems t').map elView = (DN.elems (applyHistory es t)).map elView ∧
      DN.oids t' = List.range' n (DN.size (applyHistory es t)) ∧
      WFTz t' := by
  have hw := (WFT_history es he t h).2
  obtain ⟨t', e, h1, h2, h3, h4, _⟩ := unpickle_faithful ρ (applyHistory es t) hw n
  exact ⟨t', e, h1, h2, h3, h4, unpickle_in_closed_domain ρ _ hw n t' _ e⟩

/-- reads on the original (pickling calls `getAttributesList()` on every element) keep `WFT` -/
theorem read_keeps_WFT (t : DN) (h : WFT t) : WFT (materialise t) := WFT_materialise t h

/-! ### the two string round trips, exactly

  `wf_of_syntactic` asks for `Tok` (no white space at all in a class token) and `PropOK` (non-empty name and
  value).  Both are wider in the library; the exact shapes are `ClsOK` and `GoodDecl` + unique names. -/

/-- class lists: the round trip holds **exactly** for lists of non-empty tokens without a space whose first token
    does not start and whose last token does not end with white space (a tab inside a token, or at the inner ends,
    is fine) -/
theorem class_round_trip_iff (cls : List Str) : classTokens (className cls) = cls ↔ ClsOK cls := clsOK_iff cls

/-- style maps: the round trip holds **exactly** for maps with unique names whose declarations are `GoodDecl`
    (trimmed lower-case name without `:`/`;`, trimmed value without `;` — either may be EMPTY) -/
theorem style_round_trip_iff (sty : List (Str × Str)) :
    Pk.styleToDict (Pk.styleStr sty) = sty ↔ ((dkeys sty).Nodup ∧ ∀ q ∈ sty, Attrs.GoodDecl q) := by
  constructor
  · intro h; rw [← h]; exact goodDecl_styleToDict _
  · intro h; exact styleToDict_styleStr_wide sty h.1 h.2

/-- whatever is assigned, the stored data has the round-trip shape -/
theorem stored_class_round_trips (v : Str) : classTokens (className (classTokens v)) = classTokens v :=
  classTokens_idem v
theorem stored_style_round_trips (s : Str) : Pk.styleToDict (Pk.styleStr (Pk.styleToDict s)) = Pk.styleToDict s :=
  styleToDict_idem_pk s

/-- **`Attrs.WF` from purely syntactic conditions, exact form** (`wf_of_syntactic` does not cover empty style
    values and names, or white space other than the space inside class tokens) -/
theorem wf_iff_syntactic (a : Attrs) : Pk.Attrs.WF a ↔
    ((dkeys a.dict).Nodup ∧
     (∀ p ∈ a.dict, Pk.validAttrName p.1 = true ∧ lower p.1 = p.1) ∧
     (∀ p ∈ a.dict, (p.1 = sStyle → p.2 = DVal.style) ∧ (p.1 ≠ sStyle → p.2 ≠ DVal.style)) ∧
     (∀ p ∈ a.dict, boolStrAttrs.contains p.1 = true → p.1 ≠ sClass → ∃ s, p.2 = DVal.str s ∧ convBoolStr (some s) = s) ∧
     ClsOK a.cls ∧ (dkeys a.sty).Nodup ∧ ∀ q ∈ a.sty, Attrs.GoodDecl q) := by
  constructor
  · intro h
    exact ⟨h.nodup, h.names, h.styleKey, h.boolStr, (class_round_trip_iff _).mp h.cls,
      ((style_round_trip_iff _).mp h.sty).1, ((style_round_trip_iff _).mp h.sty).2⟩
  · rintro ⟨h1, h2, h3, h4, h5, h6, h7⟩
    exact ⟨h1, h2, h3, h4, (class_round_trip_iff _).mpr h5, (style_round_trip_iff _).mpr ⟨h6, h7⟩⟩

/-- the description of `wf_of_syntactic` is a special case -/
theorem wf_of_syntactic_is_special (cls : List Str) (sty : List (Str × Str)) (hcls : ∀ t ∈ cls, Tok t)
    (hsty : ∀ q ∈ sty, PropOK q) : ClsOK cls ∧ ∀ q ∈ sty, Attrs.GoodDecl q :=
  ⟨clsOK_of_tok cls hcls, fun q hq => goodDecl_of_propOK q (hsty q hq)⟩

/-! stores `wf_of_syntactic` does not cover: an empty style value, an empty style name, a tab inside / at the inner end of a token -/
example : Pk.styleToDict (Pk.styleStr [(str "color", []), (str "width", str "5px")]) = [(str "color", []), (str "width", str "5px")] := by decide +kernel
example : Pk.styleToDict (Pk.styleStr [([], str "red"), (str "b", [])]) = [([], str "red"), (str "b", [])] := by decide +kernel
example : classTokens (className [str "a\tb", str "c\t", str "\td", str "e"]) = [str "a\tb", str "c\t", str "\td", str "e"] := by decide +kernel

/-! … and every excluded store really breaks the round trip (so the copy differs from the original).  The library
    can hold each of them:
    * a token starting / ending with a tab at an END of the list: `tag.className = "a \tb"; tag.removeClass("a")`
      leaves `['\tb']`, the pickled copy has `['b']` (`stripWordsOnly` splits at spaces, `strip` eats the tab);
    * a token with a space or an empty token: only by writing `_classNames` directly (every public mutator splits);
    * a style value with `;` or with white space at an end: `tag.style.background = "url(a;b)"`, `tag.style.color = " red"`
      (the property setter stores the text verbatim; the copy goes through `styleToDict`);
    * an upper-case / untrimmed / `:`-containing / repeated style name: only by writing `_styleDict` directly
      (`setProperty` and attribute access lower-case and dash the name). -/
example : classTokens (className [str "\tb"]) = [str "b"] := by decide +kernel
example : classTokens (className [str "a", str "b\t"]) = [str "a", str "b"] := by decide +kernel
example : classTokens (className [str "a b"]) = [str "a", str "b"] := by decide +kernel
example : classTokens (className [[], str "a"]) = [str "a"] := by decide +kernel
example : Pk.styleToDict (Pk.styleStr [(str "background", str "url(a;b)")]) = [(str "background", str "url(a")] := by decide +kernel
example : Pk.styleToDict (Pk.styleStr [(str "color", str " red")]) = [(str "color", str "red")] := by decide +kernel
example : Pk.styleToDict (Pk.styleStr [(str "Color", str "red")]) = [(str "color", str "red")] := by decide +kernel
example : Pk.styleToDict (Pk.styleStr [(str "a:b", str "x")]) = [(str "a", str "b: x")] := by decide +kernel
example : Pk.styleToDict (Pk.styleStr [(str "a", str "x"), (str "a", str "y")]) = [(str "a", str "y")] := by decide +kernel

/-! ### non-vacuity and the boundary of the domain -/

/-- a small document: `<div id="x" class="a b" style="color: red">t<br /></div>` as the constructor builds it -/
def sample : DN :=
  .el 0 0 (str "div")
    ⟨[(str "id", .str (str "x")), (sStyle, .style)], [str "a", str "b"], [(str "color", str "red")]⟩ false
    [.text [], .text (str "t"),
     .el 1 1 (str "br") Pk.Attrs.empty true [.text []] [] [] (some 0) none]
    [1] (str "t") none none

example : DN.html sample = str "<div id=\"x\" style=\"color: red\" class=\"a b\" >t<br /></div>" := by
  rw [str, String.toList_ofList]; decide +kernel

theorem wf_empty : Pk.Attrs.WF Pk.Attrs.empty := Pk.Attrs.WF_empty

theorem sample_wfz : WFTz sample := by
  unfold sample
  simp only [WFTz, WFTzL]
  exact ⟨by decide +kernel, sample_wf_attrs, ⟨by decide +kernel, fun _ => by decide +kernel⟩, trivial, trivial,
    ⟨by decide +kernel, wf_empty, Pk.Attrs.classLazy_empty, trivial, trivial⟩, trivial⟩
where
  sample_wf_attrs : Pk.Attrs.WF ⟨[(str "id", .str (str "x")), (sStyle, .style)], [str "a", str "b"], [(str "color", str "red")]⟩ :=
    ⟨by decide +kernel, by decide +kernel, by decide +kernel, Pk.Attrs.boolStr_of_none _ (by decide +kernel),
      by decide +kernel, by decide +kernel⟩

theorem sample_wf : WFT sample := WFT_of_WFTz sample sample_wfz

/-- the copy of `sample` is computed, not assumed: same serialisation, new objects 2 and 3 -/
example : (roundTrip id sample 2).map (fun r => (DN.html r.1, DN.oids r.1, DN.uids r.1, r.2)) =
    some (str "<div id=\"x\" style=\"color: red\" class=\"a b\" >t<br /></div>", [2, 3], [0, 1], 4) := by
  rw [str, String.toList_ofList]; decide +kernel

/-! #### non-vacuity of the closure theorems -/

/-- a history touching every edit kind: a mixed-case new attribute, a class value with a tab and several spaces, a
    style text with an empty value and a duplicate, `spellcheck`, a removed attribute, a new class token, a new
    child, text, a removed child -/
def sampleHistory : List (Nat × Nat × Nat × Edit) :=
  [(0, 0, 0, .setAttribute (str "Title") (str "T")),
   (0, 0, 0, .setAttribute (str "class") (str "  x\ty   z ")),
   (1, 0, 0, .setAttribute (str "style") (str "color: ; W:1;color:blue")),
   (1, 0, 0, .setAttribute (str "spellcheck") (str "Nope")),
   (0, 0, 0, .removeAttribute (str "id")),
   (0, 0, 0, .addClass (str "q")),
   (0, 7, 7, .appendChild (str "P")),
   (7, 0, 0, .appendText (str "tail")),
   (0, 0, 0, .removeChild 0)]

theorem sampleHistory_ok : ∀ x ∈ sampleHistory, EditOK x.2.2.2 := by
  intro x hx
  simp only [sampleHistory, List.mem_cons, List.mem_nil_iff, or_false] at hx
  rcases hx with rfl | rfl | rfl | rfl | rfl | rfl | rfl | rfl | rfl <;> try trivial
  exact Pk.Attrs.tokArg_of_tok _ ⟨by decide +kernel, by decide +kernel⟩

example : DN.html (applyHistory sampleHistory sample)
    = str "<div style=\"color: red\" title=\"T\" class=\"x\ty z q\" >t<p >tail</p></div>" := by
  rw [str, String.toList_ofList]; decide +kernel

/-- the edited document is still in the domain, and its pickled copy is the faithful one (computed: same text,
    new objects) -/
example : WFT (applyHistory sampleHistory sample) := (WFT_history _ sampleHistory_ok _ sample_wfz).2
example : (roundTrip id (applyHistory sampleHistory sample) 10).map (fun r => (DN.html r.1, DN.oids r.1, DN.uids r.1, r.2)) =
    some (str "<div style=\"color: red\" title=\"T\" class=\"x\ty z q\" >t<p >tail</p></div>", [10, 11], [0, 7], 12) := by
  rw [str, String.toList_ofList]; decide +kernel

/-- attribute level: a history on the sample's store -/
example : Pk.Attrs.WF ([AEdit.set (str "STYLE") (some (str "a:;b: 2 ")), .addClass (str "n"), .del (str "id"), .set (str "x-y") none].foldl
    AEdit.apply ⟨[(str "id", .str (str "x")), (sStyle, .style)], [str "a", str "b"], [(str "color", str "red")]⟩) :=
  (WF_history _ (by
    intro e he
    simp only [List.mem_cons, List.mem_nil_iff, or_false] at he
    rcases he with rfl | rfl | rfl | rfl
    · show Pk.validAttrName (lower (str "STYLE")) = true; decide +kernel
    · exact Pk.Attrs.tokArg_of_tok _ ⟨by decide +kernel, by decide +kernel⟩
    · trivial
    · show Pk.validAttrName (lower (str "x-y")) = true; decide +kernel) _ sample_wfz.sample_wf_attrs).1

/-- the operand condition of `addClass` is needed: a token with a space is stored as given by the model's
    one-token `addClass` and comes back as two -/
example : classTokens (className (Pk.Attrs.addClass Pk.Attrs.empty (str "a b")).cls) ≠ (Pk.Attrs.addClass Pk.Attrs.empty (str "a b")).cls := by decide +kernel

/-- a read ends the laziness (the raw dict now holds `class`): from here on a NEW attribute lands behind `class` —
    the known finding `classLast_needed` -/
theorem read_ends_laziness : ¬ Pk.Attrs.ClassLazy (Pk.Attrs.handle ⟨[], [str "a"], []⟩) := by
  intro h; exact h.1 (by decide +kernel)

/-- Why `ClassLast` is a hypothesis: a store in which an attribute was added after `class` had been
    synchronised (`class` then `title`) is rebuilt with `class` last — same mapping, different order. -/
def lateAttr : Attrs := ⟨[(sClass, .str (str "a")), (str "title", .str (str "new"))], [str "a"], []⟩

theorem classLast_needed :
    Pk.Attrs.WF lateAttr ∧ ¬ Pk.Attrs.ClassLast lateAttr ∧
    Pk.Attrs.startTag (str "div") lateAttr false = str "<div class=\"a\" title=\"new\" >" ∧
    (Pk.Attrs.init (Pk.Attrs.attrsList lateAttr)).map (fun a => Pk.Attrs.startTag (str "div") a false)
      = some (str "<div title=\"new\" class=\"a\" >") := by
  exact ⟨⟨by decide +kernel, by decide +kernel, by decide +kernel, Pk.Attrs.boolStr_of_none _ (by decide +kernel),
    by decide +kernel, by decide +kernel⟩, by unfold Pk.Attrs.ClassLast; decide +kernel,
    by unfold str; char_lits
       decide +kernel,
    by unfold str; char_lits
       decide +kernel⟩

end AHP.C17
