/-
  C09 — The class attribute, className, classList and the rendered HTML never diverge.

  Property theorems only.  Model: AHP/Model/Attrs.lean (the functions the native driver executes);
  lemmas: AHP/Lemmas/Attrs*.lean.

  Reading guide.  `Reach T e` says that `e` is reachable: constructed from an attribute list (directly, by the
  parser, by cloneNode / copy / unpickling — all are `mk`) and then taken through *any* sequence of operations of
  the attribute store (`Op`: the seven class writers of the property, every other attribute and style writer, and
  `sync`, the lazy synchronisation every reader may trigger).  The invariants are proved for every `Op`, hence for
  every history.  Each view is the model function of its own read path (with its own synchronisation); the view
  theorems say that all of them are projections of the one list `e.cls` (`_classNames`).

  `T : Tables` (the dot-access tables of constants.py) is universally quantified; the only table fact used is
  `ClassPlain T`: `class` is not listed as a boolean attribute (checked on the real tables by the harness on every run).
-/
import AHP.Lemmas.AttrsCreate
namespace AHP.C09
open AHP AHP.Attrs

def Reach (T : Tables) (e : El) : Prop :=
  ∃ tag sc attrs ops, e = run T (mk T tag sc attrs) ops

/-- `class` is not in `TAG_ITEM_BINARY_ATTRIBUTES` / `…_STRING_ATTR` -/
def ClassPlain (T : Tables) : Prop := T.binary.contains classK = false ∧ T.binStr.contains classK = false

/-! ### C09b — the invariant, for every operation and every history -/

/-- C09b: in every reachable state no class name is empty or contains a space; the underlying dict has distinct,
    valid, lower-case keys, with the `class` key holding a class snapshot only. -/
theorem reach_inv {T : Tables} {e : El} (h : Reach T e) : ClsInv e ∧ DictInv e := by
  obtain ⟨tag, sc, attrs, ops, rfl⟩ := h
  exact ⟨clsInv_run T ops (clsInv_mk T tag sc attrs), dictInv_run T ops (dictInv_mk T tag sc attrs)⟩

/-- C09b, step form: every single operation keeps "no empty name, no name with a space". -/
theorem no_empty_names_step (T : Tables) (op : Op) {e : El} (h : ClsInv e) : ClsInv (step T e op).2 :=
  clsInv_step T op h

theorem reach_step {T : Tables} {e : El} (h : Reach T e) (op : Op) : Reach T (step T e op).2 := by
  obtain ⟨tag, sc, attrs, ops, rfl⟩ := h
  exact ⟨tag, sc, attrs, ops ++ [op], (run_snoc T _ ops op).symm⟩

/-- C09b: `addClass` never introduces a duplicate — for every argument string: a name's number of occurrences
    never grows beyond one (names already duplicated by a `className` assignment stay as they are). -/
theorem addClass_no_new_duplicate (s : Str) (e : El) (x : Str) :
    (addClass s e).cls.count x ≤ max 1 (e.cls.count x) := count_addClassL s e.cls x

theorem addClass_keeps_nodup (s : Str) (e : El) (h : e.cls.Nodup) : (addClass s e).cls.Nodup := nodup_addClassL s h

/-- C09b: both accept several space separated names and act name by name (operands whose only white space is
    the ASCII space, as in the property's operand set). -/
theorem addClass_name_by_name {s : Str} (hs : SpaceOnly s) (e : El) :
    (addClass s e).cls = (words s).foldl addOne e.cls := addClassL_eq_fold hs e.cls

theorem removeClass_name_by_name {s : Str} (hs : SpaceOnly s) (e : El) :
    (removeClass s e).cls = (words s).foldl rmOne e.cls := rmClassL_eq_fold hs e.cls

/-- C09b: `addClass` of present names is a no-op -/
theorem addClass_present {s : Str} (hs : SpaceOnly s) (e : El) (h : ∀ w ∈ words s, w ∈ e.cls) : addClass s e = e := by
  have : (addClass s e).cls = e.cls := by
    rw [addClass_name_by_name hs, foldl_addOne_of_all_mem _ _ h]
  cases e
  simp only [addClass] at this ⊢
  rw [this]

/-- C09b: `removeClass` of absent names is a no-op -/
theorem removeClass_absent {s : Str} (hs : SpaceOnly s) (e : El) (h : ∀ w ∈ words s, w ∉ e.cls) : removeClass s e = e := by
  have : (removeClass s e).cls = e.cls := by
    rw [removeClass_name_by_name hs, foldl_rmOne_of_none_mem _ _ h]
  cases e
  simp only [removeClass] at this ⊢
  rw [this]

/-- C09b: a new single name goes to the end; a present one changes nothing; removal takes the name out. -/
theorem addOne_spec (cls : List Str) (w : Str) : addOne cls w = if w ∈ cls then cls else cls ++ [w] := by
  by_cases h : w ∈ cls
  · rw [addOne_of_mem h, if_pos h]
  · rw [addOne_of_not_mem h, if_neg h]

theorem rmOne_spec (cls : List Str) (w : Str) : rmOne cls w = cls.erase w := by
  by_cases h : w ∈ cls
  · exact rmOne_of_mem h
  · rw [rmOne_of_not_mem h, List.erase_of_not_mem h]

/-! ### C09a — every view is a projection of the one list -/

/-- `classList` / `classNames` -/
theorem view_classList (e : El) : classList e = e.cls := rfl

/-- `className` -/
theorem view_className (e : El) : e.className = joinWith [' '] e.cls := rfl

/-- `hasClass` -/
theorem view_hasClass (n : Str) (e : El) : hasClass n e = true ↔ n ∈ e.cls := List.contains_iff_mem

/-- `attributes['class']`, for every spelling of the key -/
theorem view_getitem (T : Tables) {k : Str} (hk : lower k = classK) (e : El) : getitem T k e = .str e.className := by
  unfold getitem
  simp only [hk]
  simp [classK_ne_styleK]

/-- `attributes.get('class')`: the value and no write -/
theorem view_mapGet (T : Tables) {k : Str} (hk : lower k = classK) (d : PyVal) (e : El) :
    mapGet T k d e = (.str e.className, e) := by
  unfold mapGet
  simp only [hk, if_true]

/-- `getAttribute('class')`, for every spelling that is not itself a boolean attribute name -/
theorem view_getAttribute (T : Tables) {k : Str} (hk : lower k = classK) (hb : T.binary.contains k = false)
    (d : PyVal) (e : El) : getAttribute T k d e = (.str e.className, e) := by
  unfold getAttribute
  rw [hb]
  exact view_mapGet T hk d e

/-- `attributes.items()`: the `class` entry is exactly the rendered list, and it is there iff the list is non-empty -/
theorem view_items (e : El) :
    aget classK (items e).1 = if e.cls.isEmpty then none else some (.str e.className) := by
  rw [aget_items, aget_class_sync]
  split <;> rfl

/-- `getAttributesList()` / `getAttributesDict()` -/
theorem view_attrsList (e : El) :
    aget classK (attrsList e).1 = if e.cls.isEmpty then none else some (some e.className) := viewList_class e

/-- the rendered start tag, read back: `class` carries `escapeQuotes(className)` between quotes -/
theorem view_startTag (T : Tables) (hT : ClassPlain T) (e : El) :
    aget classK (readBack (startTagItems T e).1)
      = if e.cls.isEmpty then none else some (some (unescQ (escQ e.className))) := by
  rw [aget_readBack, view_items]
  split
  · rfl
  · exact congrArg some (readBackVal_str T classK (Or.inr hT.1))

/-! ### C09a — presence: the attribute is there exactly when the list is non-empty -/

/-- `'class' in attributes` -/
theorem presence_contains {k : Str} (hk : lower k = classK) (e : El) : contains k e = !e.cls.isEmpty := by
  unfold contains
  simp only [hk, if_true]

/-- `hasAttribute('class')`, any spelling -/
theorem presence_hasAttribute {k : Str} (hk : lower k = classK) (e : El) : hasAttribute k e = !e.cls.isEmpty := by
  unfold hasAttribute
  exact presence_contains (by rw [lower_idem, hk]) e

/-- `keys()` / iteration -/
theorem presence_keys (e : El) : classK ∈ (keys e).1 ↔ e.cls ≠ [] := by
  rw [keys_fst]
  exact class_mem_sync e

/-- the DOM node map lists `class` iff the list is non-empty, and its node carries the rendered list -/
theorem presence_domKeys (e : El) : classK ∈ (domKeys e).1 ↔ e.cls ≠ [] := by
  unfold domKeys
  simp only
  rw [List.mem_filter, presence_contains lower_classK]
  show classK ∈ (keys e).1 ∧ (!e.cls.isEmpty) = true ↔ _
  have := presence_keys e
  constructor
  · intro h; exact this.mp h.1
  · intro h
    refine ⟨this.mpr h, ?_⟩
    cases hc : e.cls with
    | nil => exact absurd hc h
    | cons a r => rfl

theorem view_domItem (T : Tables) {k : Str} (hk : lower k = classK) (e : El) :
    domItem T k e = if e.cls.isEmpty then none else some (classK, .str e.className) := by
  unfold domItem
  simp only [hk, presence_contains lower_classK, view_getitem T lower_classK]
  cases e.cls.isEmpty <;> rfl

/-- the rendered HTML has a `class` attribute iff the list is non-empty -/
theorem presence_startTag (T : Tables) (e : El) : classK ∈ akeys (readBack (startTagItems T e).1) ↔ e.cls ≠ [] := by
  rw [akeys_readBack]
  exact presence_keys e

/-- every name of the list is non-empty, so a non-empty list renders a non-empty value -/
theorem className_ne_nil {e : El} (h : ClsInv e) (hne : e.cls ≠ []) : e.className ≠ [] := by
  unfold El.className
  rcases hc : e.cls with _ | ⟨w, r⟩
  · exact absurd hc hne
  · have hw : w ≠ [] := (h w (by rw [hc]; simp)).1
    rcases r with _ | ⟨w', r'⟩
    · simpa [joinWith] using hw
    · rw [joinWith_cons_cons]
      intro h0
      have := List.append_eq_nil_iff.mp h0
      exact hw (List.append_eq_nil_iff.mp this.1).1

/-! ### C09a/d — the list seen through the string views, and through a re-parse / a copy -/

/-- splitting the string every string view returns gives the list back (operands of the property) -/
theorem words_className {e : El} (h : Clean e) : words e.className = e.cls :=
  words_join_clean (fun w hw => (h w hw).1)

theorem className_no_amp {e : El} (h : Clean e) : '&' ∉ e.className :=
  not_mem_joinWith (by decide) e.cls (fun w hw => (h w hw).2)

/-- C09d: the attribute list read back from the rendered start tag carries exactly `className` -/
theorem reparse_value (T : Tables) (hT : ClassPlain T) {e : El} (h : Clean e) :
    aget classK (readBack (startTagItems T e).1) = if e.cls.isEmpty then none else some (some e.className) := by
  rw [view_startTag T hT, unescQ_escQ (className_no_amp h)]

/-- C09d: re-parsing the rendered start tag yields an element with the same class list -/
theorem view_reparse (T : Tables) (hT : ClassPlain T) {e : El} (hr : Reach T e) (h : Clean e) :
    (reparse T e).1.cls = e.cls :=
  mk_cls_eq T _ _ (goodKeys_of_sync (reach_inv hr).2 (akeys_readBack T e)) (fun w hw => (h w hw).1) (reparse_value T hT h)

/-- C08e/C09: `cloneNode`, `copy`, unpickling, `eval(repr(tag))` reproduce the class list -/
theorem view_clone (T : Tables) {e : El} (hr : Reach T e) (h : Clean e) : (clone T e).1.cls = e.cls :=
  mk_cls_eq T _ _ (goodKeys_of_sync (reach_inv hr).2 (akeys_attrsList e)) (fun w hw => (h w hw).1) (view_attrsList e)

/-- `Clean` holds in every state reached with operands of the property (white space = ASCII space, no `&`) -/
theorem reach_clean (T : Tables) (tag : Str) (sc : Bool) (attrs : List (Str × Option Str)) (ops : List Op)
    (ha : ∀ p ∈ attrs, ∀ s, p.2 = some s → GoodStr s) (ho : ∀ op ∈ ops, GoodOp op) :
    Clean (run T (mk T tag sc attrs) ops) :=
  clean_run T ops ho (clean_mk T tag sc attrs ha)

/-! ### C09c — readers do not change the list (the copy clause itself is checked on the real code only, see below) -/

/-- reading any synchronising view leaves `_classNames` (and the style map) alone -/
theorem readers_keep_list (T : Tables) (e : El) :
    (items e).2.cls = e.cls ∧ (keys e).2.cls = e.cls ∧ (attrsList e).2.cls = e.cls ∧
    (startTagItems T e).2.cls = e.cls ∧ (domKeys e).2.cls = e.cls := ⟨rfl, rfl, rfl, rfl, rfl⟩

/- C09c, "classList returns a copy whose mutation does not affect the element": NOT a theorem here.  The clause is
   about Python object identity (the list object handed out is not the list object the element keeps).  In a value
   model `classList e` is a value of type `List Str`; any statement "mutating it leaves `e` alone" is `x = x`.  The clause is checked on the
   real code only: oracle
   `harness/ahpcheck/props/c09.py`, failure kind `classList-aliased` (the returned list is mutated — append, clear — and
   the element's className / classList / start tag are read again), on every generated history. -/

/-- interleavings: every operation that does not address the class attribute — other attributes through any of the
    six writers, every style writer, every synchronising reader — leaves the list exactly as it was -/
theorem other_operations_keep_list (T : Tables) (op : Op) (h : KeepsClass T op) (e : El) : (step T e op).2.cls = e.cls :=
  step_cls_frame T op h e

/-! ### C09e — WRITE → READ and FRAME for the whole-list writers

  `className = v`, `setAttribute('class', v)`, `attributes['class'] = v`, `tag.className = v` through the dot table,
  `removeAttribute('class')`, `del attributes['class']` (any spelling of the key).  `addClass` / `removeClass`: C09b. -/

theorem validName_of_class {k : Str} (hk : lower k = classK) : validName k = true := by
  rw [← validName_lower, hk]; decide

/-- WRITE → READ, the list: every whole-list writer replaces `_classNames` by the words of the assigned string
    (`stripWordsOnly`, split at spaces, empty words dropped; `None` = no names); the removers empty it -/
theorem write_read_list (T : Tables) {k : Str} (hk : lower k = classK) (v : Option Str) (e : El) :
    (setClassName v e).cls = words (v.getD []) ∧
    (setAttribute T k v e).2.cls = words (v.getD []) ∧ (setAttribute T k v e).1 = .ok ∧
    (mapSet T k v e).2.cls = words (v.getD []) ∧
    (removeAttribute k e).cls = [] ∧ (mapDel k e).cls = [] := by
  have hv := validName_of_class hk
  refine ⟨rfl, ?_, setAttribute_valid T hv v e, ?_, ?_, ?_⟩
  · rw [setAttribute_eq_mapSet T hv, mapSet_class T hk]
  · rw [mapSet_class T hk]
  · unfold removeAttribute
    rw [mapDel_class (by rw [lower_idem]; exact hk)]
  · rw [mapDel_class hk]

/-- `tag.className = value` through `__setattr__` (a string, or `None`) -/
theorem write_read_dot (T : Tables) (v : DotVal) (e : El) :
    (dotSet T classNameK v e).2.cls = words ((match v with | .none => Option.none | v => some v.tostr).getD []) := by
  unfold dotSet
  rw [if_pos rfl]
  rfl

/-- WRITE → READ, every view: in a state whose list is `words s` — the state each of the writers above leaves —
    `classList`, `className`, `hasClass`, `attributes['class']`, `getAttribute('class')`, the presence tests and the
    one list of C08 read `words s` / its rendering back -/
theorem write_read_views (T : Tables) (s : Str) {e' : El} (h : e'.cls = words s) (d : PyVal) :
    classList e' = words s ∧ e'.className = joinWith [' '] (words s) ∧ (∀ n, hasClass n e' = true ↔ n ∈ words s) ∧
    getitem T classK e' = .str (joinWith [' '] (words s)) ∧
    (T.binary.contains classK = false → (getAttribute T classK d e').1 = .str (joinWith [' '] (words s))) ∧
    hasAttribute classK e' = !(words s).isEmpty ∧ contains classK e' = !(words s).isEmpty ∧
    aget classK (viewList e') = (if (words s).isEmpty then none else some (some (joinWith [' '] (words s)))) := by
  have hcn : e'.className = joinWith [' '] (words s) := by unfold El.className; rw [h]
  refine ⟨h, hcn, ?_, ?_, ?_, ?_, ?_, ?_⟩
  · intro n; rw [view_hasClass, h]
  · rw [view_getitem T lower_classK, hcn]
  · intro hb; rw [view_getAttribute T lower_classK hb, hcn]
  · rw [presence_hasAttribute lower_classK, h]
  · rw [presence_contains lower_classK, h]
  · rw [viewList_class, h, hcn]

/-- e.g. `className = v` then every view: the composite -/
theorem write_read_className (T : Tables) (v : Option Str) (e : El) (d : PyVal) :
    classList (setClassName v e) = words (v.getD []) ∧
    (setClassName v e).className = joinWith [' '] (words (v.getD [])) ∧
    hasAttribute classK (setClassName v e) = !(words (v.getD [])).isEmpty :=
  have h := write_read_views T (v.getD []) (e' := setClassName v e) rfl d
  ⟨h.1, h.2.1, h.2.2.2.2.2.1⟩

/-- FRAME: a class writer (any of the seven) leaves every other key of the mapping — `style` included — listed as it
    was, and the style map untouched.  `op` ranges over the operations that address `class` only. -/
theorem write_frame_other_keys (T : Tables) (op : Op) (hop : addresses T op = [classK]) {e : El} (h : DictInv e)
    {k : Str} (hk : k ≠ classK) :
    aget k (viewList (step T e op).2) = aget k (viewList e) ∧ (step T e op).2.sty = e.sty := by
  refine ⟨frame_lookup T op h (by rw [hop]; simpa using hk), step_sty_of_addresses T op e ?_⟩
  rw [hop]
  simpa using styleK_ne_classK

/-- the seven class writers are such operations (any spelling of the key); eight conjuncts, because `tag.className = v` is an
    operation of its own (`.className`) and also the dot assignment of the name `className` (`.dot classNameK`) -/
theorem class_writers_address_class (T : Tables) {k : Str} (hk : lower k = classK) (s : Str) (v : Option Str) (dv : DotVal) :
    addresses T (.addClass s) = [classK] ∧ addresses T (.rmClass s) = [classK] ∧ addresses T (.className v) = [classK] ∧
    addresses T (.setAttr k v) = [classK] ∧ addresses T (.rmAttr k) = [classK] ∧ addresses T (.mapSet k v) = [classK] ∧
    addresses T (.mapDel k) = [classK] ∧ addresses T (.dot classNameK dv) = [classK] := by
  simp [addresses, hk]

/-- **The list as a LIST.**  Replacing the class list by `c` (what every class writer does, `addClass` / `removeClass`
    included) is `d['class'] = ' '.join(c)` — `del d['class']` for an empty `c` — on the one list: the entry keeps
    its place when `class` was listed, goes last when it was not, every other entry stays where it is.  Hypothesis
    `ClassSynced`: the state any list-shaped reader leaves (C08 `write_list_set_after_read`). -/
theorem write_list_class {e : El} (h : DictInv e) (hs : ClassSynced e) (c : List Str) :
    viewList { e with cls := c } =
      if c.isEmpty then adel classK (viewList e) else aset classK (some (joinWith [' '] c)) (viewList e) :=
  viewList_set_cls h hs c

/-- in every state: the list without its `class` entry does not change at all -/
theorem write_list_class_general (e : El) (c : List Str) :
    adel classK (viewList { e with cls := c }) = adel classK (viewList e) := by
  rw [adel_class_viewList, adel_class_viewList]

/-! ### non-vacuity -/

def T0 : Tables := { binary := [['c', 'h', 'e', 'c', 'k', 'e', 'd']], binStr := [], links := [] }

example : ClassPlain T0 := ⟨by decide +kernel, by decide +kernel⟩

/-- a reachable, clean state with two names: `className = "b  a"`, then `addClass("a c")` -/
example : (run T0 (mk T0 ['d', 'i', 'v'] false []) [.className (some ['b', ' ', ' ', 'a']), .addClass ['a', ' ', 'c']]).cls
    = [['b'], ['a'], ['c']] := by decide +kernel

example : GoodOp (.addClass ['a', ' ', 'c']) := by
  intro c hc
  simp at hc
  rcases hc with h | h | h <;> subst h <;> decide +kernel

/-- the value-less class attribute of the pinned tree (`<div class>`) gives no names -/
example : (mk T0 ['d', 'i', 'v'] false [(classK, none)]).cls = [] := by decide +kernel

/-- `setAttribute('CLASS', ' x  y ')` on an element with classes: the list is replaced, every view follows -/
example : ((setAttribute T0 "CLASS".toList (some " x  y ".toList)
      (run T0 (mk T0 ['d', 'i', 'v'] false []) [.className (some ['a'])])).2).cls = [['x'], ['y']] := by decide +kernel
example : lower "CLASS".toList = classK := by decide +kernel
/-- a `ClassSynced` state with a style and an attribute: `className = 'p q'` rewrites the entry in place, `removeAttribute`
    deletes it, nothing else moves -/
def eS : El := run T0 (mk T0 ['d', 'i', 'v'] false [(classK, some ['a']), ("id".toList, some ['i'])])
  [.sync, .styAssign (some "top: 1px".toList)]
example : DictInv eS ∧ ClassSynced eS := ⟨(reach_inv ⟨_, _, _, _, rfl⟩).2, by unfold ClassSynced; decide +kernel⟩
example : viewList eS = [("id".toList, some ['i']), (classK, some ['a']), (styleK, some "top: 1px".toList)] := by decide +kernel
example : viewList (setClassName (some "p q".toList) eS)
    = [("id".toList, some ['i']), (classK, some "p q".toList), (styleK, some "top: 1px".toList)] := by decide +kernel
example : viewList (removeAttribute classK eS) = [("id".toList, some ['i']), (styleK, some "top: 1px".toList)] := by decide +kernel

end AHP.C09
