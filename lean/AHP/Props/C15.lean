/-
  C15 — XPath results do not depend on evaluation history, caching or threads.

  Model: AHP/Model/Cache.lean (`_cache.py`, `XPathExpression.__init__`, the
  per-thread quantum machine, the lock-level machine with one step per statement of a critical section, whole
  threads on it), AHP/Model/CacheHeap.lean (the sharing of compiled objects).  Helper lemmas and the cache-free
  specification `specStep`/`specRun`: AHP/Lemmas/Cache.lean, AHP/Lemmas/CacheHist.lean; lock level:
  AHP/Lemmas/CacheLock.lean (uninterrupted runs, what a section computes), CacheLockSys.lean (`LockBits`,
  `LockInv`), CacheLockThreads.lean (`Sim`: lock level ⇒ quantum level); heap: AHP/Lemmas/CacheHeap.lean.

  Parameters everywhere: `compile : E → Option V` (the XPath compiler; `none` = raises), `key : E → K`
  (sha1 of the text — injective by assumption), `eval : V → T → R` (evaluation; `R` includes run-time
  errors).  What `eval ∘ compile` *is* is C14; here only that nothing else enters a result.

  Honest scope of "a compiled expression object reused any number of times on any trees": in `Model/Cache.lean`
  a compiled form is a *value* `V` and `eval` a pure function, so `Event.evalSlot` is `eval v t` in the model and
  in the specification alike — reuse-independence holds there BY CONSTRUCTION.  What C15b PROVES is cache
  coherence: whatever is handed out under `key e` — fresh, cached, evicted and re-entered — is `compile e`
  (needs `key` injective, the sha1 assumption).  The object sharing the code really has (the cache stores the
  live object; a hit hands out a shallow copy of its operation list, i.e. the same operation objects) is modelled
  separately in `Model/CacheHeap.lean`; `heap_results_independent_of_history` below shows that this level
  behaves like the value level under the explicit hypothesis `EvalReadsOnly` ("`evaluate` writes neither the
  expression object nor its operations") — an ASSUMPTION on the code of `evaluate`/`applyFunction`, watched by
  the tie (reuse events), not proved — and `writing_evaluation_breaks_independence` that it cannot be dropped.
-/
import AHP.Lemmas.CacheLockThreads
import AHP.Lemmas.CacheHeap
import AHP.Gen.Tables
namespace AHP.C15
open AHP AHP.Cache

section
variable {E K V T R : Type} [DecidableEq K]
variable (compile : E → Option V) (key : E → K) (eval : V → T → R)

/-! #### C15a — the cache invariant, for every bound `MAX > CLEAR` and every history -/

/-- C15a: after every event of every history (compile, evaluate, reuse; valid, invalid and failing
    expressions in any order) the recency list is duplicate-free, the map's keys are exactly the
    recency list, and there are at most `MAX` of them. -/
theorem inv_at_every_point (MAX CLEAR : Nat) (hb : CLEAR < MAX) (evs : List (Event E T)) :
    ∀ p ∈ run compile key eval MAX CLEAR World.empty evs, Inv MAX p.2 :=
  run_inv hb evs World.empty (Inv.empty MAX)

/-- C15a (size bound as the property words it): the map never holds more than `MAX` entries. -/
theorem size_bound (MAX CLEAR : Nat) (hb : CLEAR < MAX) (evs : List (Event E T)) :
    ∀ p ∈ run compile key eval MAX CLEAR World.empty evs,
      (dictKeys p.2.map).length ≤ MAX ∧ p.2.recent.length ≤ MAX := by
  intro p hp
  have h := inv_at_every_point compile key eval MAX CLEAR hb evs p hp
  exact ⟨h.keys_length ▸ h.bound, h.bound⟩

/-- C15a (coherence): whatever the map holds under a key is the compiled form of that expression —
    for every bound, even a broken one. -/
theorem coherent_at_every_point (hinj : Function.Injective key) (MAX CLEAR : Nat) (evs : List (Event E T)) :
    ∀ p ∈ run compile key eval MAX CLEAR World.empty evs, Coh compile key p.2 :=
  run_coh hinj evs World.empty (Coh.empty compile key)

/-- C15a (table obligation): the shipped constants, regenerated from `_cache.py` on every run,
    satisfy the hypothesis of the theorems above (`CLEAR < MAX`; `1 ≤ CLEAR` — an eviction frees at least one place — is
    checked with it and needed by no theorem). -/
theorem shipped_bound_ok : 1 ≤ Gen.clearAtOneTime ∧ Gen.clearAtOneTime < Gen.maxCachedExpressions := by
  decide

/-- C15a instantiated for the shipped constants. -/
theorem shipped_inv (evs : List (Event E T)) :
    ∀ p ∈ run compile key eval Gen.maxCachedExpressions Gen.clearAtOneTime World.empty evs,
      Inv Gen.maxCachedExpressions p.2 :=
  inv_at_every_point compile key eval _ _ shipped_bound_ok.2 evs

/-- C15a instantiated for the bound the exhaustive correspondence run patches in (3 / evict 1). -/
theorem small_inv (evs : List (Event E T)) :
    ∀ p ∈ run compile key eval 3 1 World.empty evs, Inv 3 p.2 :=
  inv_at_every_point compile key eval 3 1 (by decide) evs

/-! #### C15b — results depend on the expression text and the tree only -/

/-- C15b: in every history, from the empty cache, the observations are those of the cache-free
    specification: a query shows `eval (compile e) t`, a reused object shows `eval` of the form it was
    compiled to, a failing compile shows the failure — whether the compiled form was fresh, taken from
    the cache, evicted and re-entered, and whatever failed in between.  Holds for *every* bound. -/
theorem results_independent_of_history (hinj : Function.Injective key) (MAX CLEAR : Nat)
    (evs : List (Event E T)) :
    (run compile key eval MAX CLEAR World.empty evs).map (·.1) = specRun compile eval [] evs :=
  run_obs_eq_spec hinj evs World.empty (Coh.empty compile key)

/-- C15b, pointwise: after *any* history `h` a query of `e` on `t` shows exactly what it shows on an
    empty cache. -/
theorem query_after_any_history (hinj : Function.Injective key) (MAX CLEAR : Nat)
    (h : List (Event E T)) (e : E) (t : T) :
    (step compile key eval MAX CLEAR (exec compile key eval MAX CLEAR World.empty h) (.query e t)).2
      = (step compile key eval MAX CLEAR World.empty (.query e t)).2 := by
  have hc := exec_coh (eval := eval) (MAX := MAX) (CLEAR := CLEAR) hinj h World.empty (Coh.empty compile key)
  have h1 := (step_spec (eval := eval) (MAX := MAX) (CLEAR := CLEAR) hinj hc (.query e t)).2
  have h2 := (step_spec (eval := eval) (MAX := MAX) (CLEAR := CLEAR) (w := World.empty) hinj (Coh.empty compile key) (.query e t)).2
  have a := congrArg Prod.snd h1
  have b := congrArg Prod.snd h2
  simp only [specStep] at a b
  rw [a, b]
  cases compile e <;> rfl

theorem query_same_in_any_two_histories (hinj : Function.Injective key) (MAX CLEAR : Nat)
    (h₁ h₂ : List (Event E T)) (e : E) (t : T) :
    (step compile key eval MAX CLEAR (exec compile key eval MAX CLEAR World.empty h₁) (.query e t)).2
      = (step compile key eval MAX CLEAR (exec compile key eval MAX CLEAR World.empty h₂) (.query e t)).2 := by
  rw [query_after_any_history compile key eval hinj, query_after_any_history compile key eval hinj]

/-! #### C15c — schedules -/

/-- The invariant of a system of threads: cache invariant and coherence, and every thread is on track
    for its solo specification. -/
structure SysOK (MAX : Nat) (evss : List (List (Event E T))) (s : Sys E K V T R) : Prop where
  inv : Inv MAX s.cache
  coh : Coh compile key s.cache
  len : s.threads.length = evss.length
  thr : ∀ i th, s.threads[i]? = some th → ThreadOK compile eval th (specRun compile eval [] (evss.getD i []))

theorem sysOK_init (MAX : Nat) (evss : List (List (Event E T))) :
    SysOK compile key eval MAX evss (Sys.init evss : Sys E K V T R) := by
  refine ⟨Inv.empty MAX, Coh.empty compile key, by simp [Sys.init], ?_⟩
  intro i th h
  obtain ⟨evs, hi, rfl⟩ := Option.map_eq_some_iff.mp (List.getElem?_map.symm.trans h)
  rw [show evss.getD i [] = evs by simp [List.getD, hi]]
  exact ThreadOK.init evs

theorem sysOK_step (hinj : Function.Injective key) (MAX CLEAR : Nat) (hb : CLEAR < MAX)
    (evss : List (List (Event E T))) (s : Sys E K V T R) (h : SysOK compile key eval MAX evss s) (i : Nat) :
    SysOK compile key eval MAX evss (sysStep compile key eval MAX CLEAR s i) := by
  cases hth : s.threads[i]? with
  | none => unfold sysStep; rw [hth]; exact h
  | some th =>
    rw [sysStep_eq hth]
    have ⟨h1, h2⟩ := tstep_ok (MAX := MAX) (CLEAR := CLEAR) hinj h.coh (h.thr i th hth)
    exact ⟨tstep_inv hb th h.inv, h1, by simp [h.len],
      forall_getElem?_set hth (P := fun j t => ThreadOK compile eval t (specRun compile eval [] (evss.getD j []))) h2
        (fun j t _ hj => h.thr j t hj)⟩

/-- C15c: for every number of threads, every event list per thread and every schedule, at every
    point of the schedule: the cache invariant and coherence hold, and every thread has observed
    exactly a prefix of its solo specification — with `query_after_any_history`, what it gets alone. -/
theorem every_schedule (hinj : Function.Injective key) (MAX CLEAR : Nat) (hb : CLEAR < MAX)
    (evss : List (List (Event E T))) (sched : List Nat) :
    SysOK compile key eval MAX evss (sysRun compile key eval MAX CLEAR (Sys.init evss) sched) :=
  foldl_keeps (fun s i h => sysOK_step compile key eval hinj MAX CLEAR hb evss s h i) sched _
    (sysOK_init compile key eval MAX evss)

/-- C15c (results): a thread that has finished under any schedule has observed exactly its solo results. -/
theorem finished_thread_solo_results (hinj : Function.Injective key) (MAX CLEAR : Nat) (hb : CLEAR < MAX)
    (evss : List (List (Event E T))) (sched : List Nat) (i : Nat) (th : Thread E V T R)
    (hth : (sysRun compile key eval MAX CLEAR (Sys.init evss) sched).threads[i]? = some th)
    (hdone : th.todo = []) :
    th.obs = specRun compile eval [] (evss.getD i []) := by
  have h := (every_schedule compile key eval hinj MAX CLEAR hb evss sched).thr i th hth
  have := h.obs
  rw [hdone] at this
  simpa [specRun] using this

/-- C15c (no step blocks, every schedule runs to completion): an unfinished thread can always take its
    quantum, and the quantum strictly decreases what it has left (at most two quanta per event). -/
theorem unfinished_thread_progresses (hinj : Function.Injective key) (MAX CLEAR : Nat) (hb : CLEAR < MAX)
    (evss : List (List (Event E T))) (sched : List Nat) (i : Nat) (th : Thread E V T R)
    (hth : (sysRun compile key eval MAX CLEAR (Sys.init evss) sched).threads[i]? = some th)
    (hne : th.todo ≠ []) (c : State K V) :
    (tstep compile key eval MAX CLEAR c th).2.measure < th.measure :=
  tstep_measure ((every_schedule compile key eval hinj MAX CLEAR hb evss sched).thr i th hth) hne

end

/-! #### C15b on shared objects — what "reused any number of times" needs -/

section Heap
variable {E K O T R : Type} [DecidableEq K]
variable (compile : E → Option (List O)) (key : E → K)

/-- C15b on the heap of shared objects (cache holds the live object, hits hand out shallow copies sharing
    the operation objects, held objects are evaluated again and again): **if evaluation only reads**
    (`EvalReadsOnly`), every history shows exactly what the value model shows … -/
theorem heap_run_is_value_run (evalH : Heap O → Nat → T → Heap O × R) (eval : List O → T → R)
    (hro : EvalReadsOnly evalH eval) (MAX CLEAR : Nat) (evs : List (Event E T)) :
    hrun compile key evalH MAX CLEAR HWorld.empty evs
      = (run compile key eval MAX CLEAR World.empty evs).map (·.1) :=
  hrun_eq_run compile key MAX CLEAR evalH eval hro evs HWorld.empty HWorld.OK.empty

/-- … hence the cache-free specification: results depend on the expression text and the tree only, also
    for objects reused any number of times on any trees and for copies sharing operations with the cached
    object.  The hypothesis `hro` is the assumption on `evaluate`; it enters in `hstep_spec`, evaluation cases. -/
theorem heap_results_independent_of_history (evalH : Heap O → Nat → T → Heap O × R) (eval : List O → T → R)
    (hro : EvalReadsOnly evalH eval) (hinj : Function.Injective key) (MAX CLEAR : Nat) (evs : List (Event E T)) :
    hrun compile key evalH MAX CLEAR HWorld.empty evs = specRun compile eval [] evs := by
  rw [heap_run_is_value_run compile key evalH eval hro]
  exact results_independent_of_history compile key eval hinj MAX CLEAR evs

end Heap

/-- An evaluation that writes: it returns the sum of the object's operations and bumps the first of them
    (think of an operation object keeping a counter, or a memo, in itself). -/
def writingEval (h : Heap Nat) (x : Nat) (_t : Nat) : Heap Nat × Nat :=
  let addrs := h.exprs.getD x []
  (⟨match addrs with
     | a :: _ => h.ops.set a (h.ops.getD a 0 + 1)
     | [] => h.ops, h.exprs⟩,
   (h.deref x).foldl (· + ·) 0)

/-- Why `EvalReadsOnly` cannot be dropped: with `writingEval` the object held in slot 0 shows `1` when
    evaluated right away and `2` when, in between, the *same text* was queried once — the query got a
    shallow copy of the cached live object (= the held one), evaluated it, and wrote through the shared
    operation object.  A result then depends on the history, not only on text and tree. -/
theorem writing_evaluation_breaks_independence :
    let compile : Nat → Option (List Nat) := fun e => some [e, 1]
    hrun compile id writingEval 3 1 HWorld.empty [.new 0, .evalSlot 0 0] = [.compiled, .result 1] ∧
    hrun compile id writingEval 3 1 HWorld.empty [.new 0, .query 0 0, .evalSlot 0 0]
      = [.compiled, .result 1, .result 2] := by
  decide +kernel

/-- Non-vacuity of `EvalReadsOnly`: the reading evaluation (sum of the operations, heap untouched). -/
example : EvalReadsOnly (fun (h : Heap Nat) x (_ : Nat) => (h, (h.deref x).foldl (· + ·) 0))
    (fun v _ => v.foldl (· + ·) 0) := ⟨fun _ _ _ => rfl, fun _ _ _ => rfl⟩

/-- … and a heap history with a miss, a hit (shallow copy), reuse and a compile error under it. -/
example :
    let compile : Nat → Option (List Nat) := fun e => if e = 9 then none else some [e, 1]
    hrun compile id (fun (h : Heap Nat) x (_ : Nat) => (h, (h.deref x).foldl (· + ·) 0)) 3 1 HWorld.empty
      [.new 0, .query 0 0, .evalSlot 0 0, .query 9 0, .new 0, .evalSlot 1 5, .evalSlot 7 0]
      = [.compiled, .result 1, .result 1, .compileError, .compiled, .result 1, .noSlot] := by
  decide +kernel

/-! #### C15c, lock level — the critical sections, statement by statement

  Machine: `lstep` (`Model/Cache.lean`), one step per statement between `acquire` and `release`, all of them
  reading and writing the *shared* cache.  `LSys`/`lsysStep`: threads each performing one cache operation
  (incl. a failing store).  `LTSys`/`ltStep`: whole threads working through their event lists.
  Invariants and the simulation: `Lemmas/CacheLockSys.lean`, `Lemmas/CacheLockThreads.lean`. -/

section Lock
variable {K V : Type} [DecidableEq K]

/-- C15c (lock): every step of every thread keeps mutual exclusion, the meaning of the lock bit, the cache
    invariant *whenever the lock is free*, and "the thread inside will, by its own statements alone, restore
    the invariant and free the lock".  (Inside a section the cache invariant is broken in general —
    `mid_section_breaks_inv` — which is what the lock is for.) -/
theorem lock_inv_step (MAX CLEAR : Nat) (hb : CLEAR < MAX) (s s' : LSys K V) (i : Nat)
    (h : LockInv MAX CLEAR s) (hs : lsysStep MAX CLEAR s i = some s') : LockInv MAX CLEAR s' :=
  lockInv_step hb h hs

/-- C15c (lock, initial configurations): any number of threads about to call `getCachedExpression` /
    `setCachedExpression` (or already returned), lock free, cache in order. -/
theorem lock_inv_initial (MAX CLEAR : Nat) (s : LSys K V) (hfree : s.sh.held = false) (hi : Inv MAX s.sh.cache)
    (hout : ∀ pc ∈ s.pcs, pc.holds = false) : LockInv MAX CLEAR s :=
  lockInv_init hfree hi hout

/-- C15c (lock, every reachable configuration of cache operations): `LockInv` — mutual exclusion included —
    holds after every schedule (picks of blocked threads are wasted quanta). -/
theorem lock_inv_every_run (MAX CLEAR : Nat) (hb : CLEAR < MAX) (s : LSys K V) (hfree : s.sh.held = false)
    (hi : Inv MAX s.sh.cache) (hout : ∀ pc ∈ s.pcs, pc.holds = false) (sched : List Nat) :
    LockInv MAX CLEAR (lsysRun MAX CLEAR s sched) :=
  lockInv_run hb sched s (lockInv_init hfree hi hout)

/-- C15c (the lock bit is checked, and the check never fails): a thread inside a section on a configuration
    satisfying the invariant always finds the lock held — it is never blocked. -/
theorem holder_never_blocked (MAX CLEAR : Nat) (s : LSys K V) (h : LockInv MAX CLEAR s) (i : Nat) (pc : Pc K V)
    (hpc : s.pcs[i]? = some pc) (hh : pc.holds = true) : (lsysStep MAX CLEAR s i).isSome = true := by
  rw [lsysStep_isSome hpc, lstep_isSome, hh, h.held.mpr ⟨i, pc, hpc, hh⟩]
  exact Bool.or_true _

/-- C15c (`acquire` blocks): a thread about to acquire cannot move while another one is inside. -/
theorem acquire_blocks_while_held (MAX CLEAR : Nat) (s : LSys K V) (i : Nat) (pc : Pc K V)
    (hpc : s.pcs[i]? = some pc) (hh : pc.holds = false) (hd : pc.isDone = false) (hheld : s.sh.held = true) :
    lsysStep MAX CLEAR s i = none := by
  have := lstep_blocked MAX CLEAR hh hd hheld
  unfold lsysStep lsysStepG
  unfold lstep at this
  simp only [hpc, this]

/-- C15c (no deadlock): in every configuration satisfying the lock invariant in which some thread is
    not finished, some unfinished thread can move. -/
theorem no_deadlock (MAX CLEAR : Nat) (s : LSys K V) (h : LockInv MAX CLEAR s)
    (hun : ∃ (i : Nat) (pc : Pc K V), s.pcs[i]? = some pc ∧ pc.isDone = false) :
    ∃ (i : Nat) (pc : Pc K V), s.pcs[i]? = some pc ∧ pc.isDone = false ∧ (lsysStep MAX CLEAR s i).isSome = true := by
  obtain ⟨i, pc, hi, hu, hh⟩ := exists_unfinished_agreeing Pc.holds (·.isDone = false) h.held
    (fun _ => Pc.not_done_of_holds) hun
  exact ⟨i, pc, hi, hu, by rw [lsysStep_isSome hi, lstep_isSome, hh]; simp⟩

/-- C15c (no deadlock, unconditionally): after every schedule from an initial configuration. -/
theorem no_deadlock_every_run (MAX CLEAR : Nat) (hb : CLEAR < MAX) (s : LSys K V) (hfree : s.sh.held = false)
    (hi : Inv MAX s.sh.cache) (hout : ∀ pc ∈ s.pcs, pc.holds = false) (sched : List Nat)
    (hun : ∃ (i : Nat) (pc : Pc K V), (lsysRun MAX CLEAR s sched).pcs[i]? = some pc ∧ pc.isDone = false) :
    ∃ (i : Nat) (pc : Pc K V), (lsysRun MAX CLEAR s sched).pcs[i]? = some pc ∧ pc.isDone = false ∧
      (lsysStep MAX CLEAR (lsysRun MAX CLEAR s sched) i).isSome = true :=
  no_deadlock MAX CLEAR _ (lock_inv_every_run MAX CLEAR hb s hfree hi hout sched) hun

/-- C15c (all exits release): from *any* program point inside a critical section and *any* state of the
    shared data, the thread's own next statements (never blocked while the lock is held) reach the return
    of the method with the lock released — through the loops, both return paths of `getCachedExpression`
    and the normal and the exception exit of `setCachedExpression`.  (The number of statements
    depends on the data, so the statement is "finitely many".) -/
theorem releases_on_all_paths (MAX CLEAR : Nat) (sh : Shared K V) (hheld : sh.held = true) (pc : Pc K V)
    (hp : pc.holds = true) :
    ∃ n sh' r x, lsteps MAX CLEAR n sh pc = some (sh', .done r x) ∧ sh'.held = false := by
  obtain ⟨c', r, x, hruns⟩ := exits_of_holds MAX CLEAR sh.cache hp
  have hsh : sh = ⟨true, sh.cache⟩ := by cases sh; simp_all
  rw [← hsh] at hruns
  obtain ⟨n, hn⟩ := runs_iff_lsteps.mp hruns
  exact ⟨n, _, r, x, hn, rfl⟩

/-- C15c (the exception path): a store whose body raises releases the lock, re-raises and leaves the cache
    as it was. -/
theorem failing_store_releases (MAX CLEAR : Nat) (c : State K V) (k : K) (v : V) :
    lsteps MAX CLEAR 3 ⟨false, c⟩ (.setAcquire k v true) = some (⟨false, c⟩, .done none true) := by
  rfl

/-- C15c (atomicity, derived): one whole critical section of `getCachedExpression`, run statement by
    statement without interruption from any cache `c`, is exactly the model's `get` — and likewise `set`.
    With `lock_level_refines_quantum` below: *every* section of *every* interleaved run is uninterrupted
    in this sense, because nobody else can write in between. -/
theorem get_section_is_get (MAX CLEAR : Nat) (c : State K V) (k : K) :
    ∃ n, lsteps MAX CLEAR n ⟨false, c⟩ (.getAcquire k) = some (⟨false, (get c k).1⟩, .done (get c k).2 false) :=
  runs_iff_lsteps.mp (get_section_runs MAX CLEAR c k)

theorem set_section_is_set (MAX CLEAR : Nat) (c : State K V) (k : K) (v : V) :
    ∃ n, lsteps MAX CLEAR n ⟨false, c⟩ (.setAcquire k v false) = some (⟨false, set MAX CLEAR c k v⟩, .done none false) :=
  runs_iff_lsteps.mp (set_section_runs MAX CLEAR c k v)

end Lock

/-! #### C15c, lock level — whole threads: the lock-level machine refines the quantum machine -/

section LockThreads
variable {E K V T R : Type} [DecidableEq K]
variable (compile : E → Option V) (key : E → K) (eval : V → T → R)

/-- C15c (refinement): for every number of threads, every event list per thread and every lock-level
    schedule (one *statement* per pick; picks of blocked threads are wasted), the configuration reached is
    the configuration the quantum machine reaches under the schedule projected at the release points
    (`ltProject`: the picks that were a `release` or a thread-local evaluation), seen through `Sim`:
    the threads are the quantum machine's threads, the cache is the quantum machine's cache whenever the
    lock is free, and the thread inside a section is, by its own remaining statements, about to turn the
    shared cache into exactly `tstep` of the cache as it was when it acquired — each completed critical
    section = exactly `get` / `set` on the state at its `acquire`, because nobody else can write in
    between (`LockBits.other_outside` is where mutual exclusion enters the proof). -/
theorem lock_level_refines_quantum (MAX CLEAR : Nat) (evss : List (List (Event E T))) (sched : List Nat) :
    Sim compile key eval MAX CLEAR
      (ltRun compile key eval MAX CLEAR (LTSys.init evss) sched)
      (sysRun compile key eval MAX CLEAR (Sys.init evss)
        (ltProject compile key eval MAX CLEAR (LTSys.init evss : LTSys E K V T R) sched)) :=
  (sim_run compile key eval MAX CLEAR sched _ _ (bits_init evss) (sim_init compile key eval MAX CLEAR evss)).2

theorem lock_level_threads_and_cache (MAX CLEAR : Nat) (evss : List (List (Event E T))) (sched : List Nat) :
    let s := ltRun compile key eval MAX CLEAR (LTSys.init evss : LTSys E K V T R) sched
    let q := sysRun compile key eval MAX CLEAR (Sys.init evss)
      (ltProject compile key eval MAX CLEAR (LTSys.init evss : LTSys E K V T R) sched)
    q.threads = s.threads.map (LThread.abs compile eval) ∧ (s.sh.held = false → s.sh.cache = q.cache) :=
  let h := lock_level_refines_quantum compile key eval MAX CLEAR evss sched
  ⟨h.threads, h.free⟩

/-- C15c (lock): mutual exclusion and the meaning of the lock bit in every reachable configuration of
    whole threads. -/
theorem mutual_exclusion_reachable (MAX CLEAR : Nat) (evss : List (List (Event E T))) (sched : List Nat) :
    let s := ltRun compile key eval MAX CLEAR (LTSys.init evss : LTSys E K V T R) sched
    LockBits s.sh.held s.pcs :=
  (sim_run compile key eval MAX CLEAR sched _ _ (bits_init evss) (sim_init compile key eval MAX CLEAR evss)).1

/-- C15c (lock): `LockInv` holds initially and in every reachable configuration — mutual exclusion, the
    lock bit, the cache invariant at every release point, and the thread inside restores it. -/
theorem lock_inv_reachable (MAX CLEAR : Nat) (hb : CLEAR < MAX) (evss : List (List (Event E T))) (sched : List Nat) :
    LockInv MAX CLEAR (ltRun compile key eval MAX CLEAR (LTSys.init evss : LTSys E K V T R) sched).toLSys := by
  have hbits := mutual_exclusion_reachable compile key eval MAX CLEAR evss sched
  have hsim := lock_level_refines_quantum compile key eval MAX CLEAR evss sched
  have hinv := sysRun_inv (compile := compile) (key := key) (eval := eval) (CLEAR := CLEAR) hb
    (ltProject compile key eval MAX CLEAR (LTSys.init evss : LTSys E K V T R) sched) (Sys.init evss) (Inv.empty MAX)
  generalize ltRun compile key eval MAX CLEAR (LTSys.init evss : LTSys E K V T R) sched = s at *
  generalize sysRun compile key eval MAX CLEAR (Sys.init evss) _ = q at *
  refine ⟨hbits.excl, hbits.held, ?_, ?_⟩
  · intro hfree
    show Inv MAX s.sh.cache
    rw [hsim.free hfree]; exact hinv
  · intro i pc hpc hh
    obtain ⟨th, hlt⟩ := pcs_holder (s := s) hpc hh
    obtain ⟨r, x, hruns, _⟩ := hsim.mid i _ pc hlt rfl hh
    exact ⟨_, r, x, tstep_inv hb th hinv, hruns⟩

/-- C15a at the lock level: the cache bound (and the whole invariant) holds at every release point of
    every run — i.e. whenever the lock is free. -/
theorem bound_at_release_points (MAX CLEAR : Nat) (hb : CLEAR < MAX) (evss : List (List (Event E T))) (sched : List Nat) :
    let s := ltRun compile key eval MAX CLEAR (LTSys.init evss : LTSys E K V T R) sched
    s.sh.held = false →
      Inv MAX s.sh.cache ∧ (dictKeys s.sh.cache.map).length ≤ MAX ∧ s.sh.cache.recent.length ≤ MAX := by
  intro s hfree
  have h := (lock_inv_reachable compile key eval MAX CLEAR hb evss sched).free hfree
  exact ⟨h, h.keys_length ▸ h.bound, h.bound⟩

/-- C15c (results at the lock level): under every statement-level schedule, at every point, what a thread
    has observed so far is a prefix of its solo results (`ThreadOK` of its quantum-level view). -/
theorem lock_level_every_point (hinj : Function.Injective key) (MAX CLEAR : Nat) (hb : CLEAR < MAX)
    (evss : List (List (Event E T))) (sched : List Nat) (i : Nat) (lt : LThread E K V T R)
    (hlt : (ltRun compile key eval MAX CLEAR (LTSys.init evss) sched).threads[i]? = some lt) :
    ThreadOK compile eval (lt.abs compile eval) (specRun compile eval [] (evss.getD i [])) := by
  have hsim := lock_level_refines_quantum compile key eval MAX CLEAR evss sched
  have hok := every_schedule compile key eval hinj MAX CLEAR hb evss
    (ltProject compile key eval MAX CLEAR (LTSys.init evss : LTSys E K V T R) sched)
  apply hok.thr i
  rw [hsim.threads]
  simp [List.getElem?_map, hlt]

/-- C15c (results at the lock level): a lock-level thread that has finished under any statement-level
    schedule has observed exactly its solo results.  Composes `lock_level_refines_quantum` with
    `finished_thread_solo_results`. -/
theorem lock_level_solo_results (hinj : Function.Injective key) (MAX CLEAR : Nat) (hb : CLEAR < MAX)
    (evss : List (List (Event E T))) (sched : List Nat) (i : Nat) (lt : LThread E K V T R)
    (hlt : (ltRun compile key eval MAX CLEAR (LTSys.init evss) sched).threads[i]? = some lt)
    (hpc : lt.pc = none) (hdone : lt.th.todo = []) :
    lt.th.obs = specRun compile eval [] (evss.getD i []) := by
  have hsim := lock_level_refines_quantum compile key eval MAX CLEAR evss sched
  have habs : lt.abs compile eval = lt.th := by unfold LThread.abs; rw [hpc]
  apply finished_thread_solo_results compile key eval hinj MAX CLEAR hb evss
    (ltProject compile key eval MAX CLEAR (LTSys.init evss : LTSys E K V T R) sched) i lt.th _ hdone
  rw [hsim.threads]
  simp [List.getElem?_map, hlt, habs]

/-- C15c (no deadlock, unconditionally, whole threads): in every reachable configuration in which some
    thread is not finished, some unfinished thread can take its next statement. -/
theorem no_deadlock_reachable (MAX CLEAR : Nat) (evss : List (List (Event E T))) (sched : List Nat)
    (hun : ∃ (i : Nat) (lt : LThread E K V T R),
      (ltRun compile key eval MAX CLEAR (LTSys.init evss) sched).threads[i]? = some lt ∧ lt.finished = false) :
    ∃ (i : Nat) (lt : LThread E K V T R),
      (ltRun compile key eval MAX CLEAR (LTSys.init evss) sched).threads[i]? = some lt ∧ lt.finished = false ∧
      (ltStep compile key eval MAX CLEAR (ltRun compile key eval MAX CLEAR (LTSys.init evss) sched) i).isSome = true := by
  have hbits := mutual_exclusion_reachable compile key eval MAX CLEAR evss sched
  generalize ltRun compile key eval MAX CLEAR (LTSys.init evss : LTSys E K V T R) sched = s at *
  obtain ⟨i, ⟨th, pc⟩, hlt, hfin, hh⟩ := exists_unfinished_agreeing
    (fun lt : LThread E K V T R => (lt.pc.getD (.done none false)).holds) (·.finished = false) hbits.held_threads
    (fun lt hh => by cases hp : lt.pc <;> first | (rw [hp] at hh; cases hh) | simp [LThread.finished, hp]) hun
  exact ⟨i, _, hlt, hfin, ltStep_isSome compile key eval MAX CLEAR hlt fun p hp _ => by
    cases hp; rw [lstep_isSome, show p.holds = _ from hh]; simp⟩

end LockThreads

/-! #### The lock has content in the model -/

/-- Inside a section the cache invariant is broken: after the `remove` of a hit and before the `append`,
    the map holds a key the recency list does not.  Nobody else may look — that is what the lock is for. -/
theorem mid_section_breaks_inv :
    let s0 : LSys Nat Nat := ⟨⟨false, ⟨[(7, 1)], [7]⟩⟩, [.getAcquire 7]⟩
    let s := lsysRun 3 1 s0 [0, 0, 0]
    s.pcs = [.getRemove 7 1] ∧ s.sh.held = true ∧ s.sh.cache.recent = [] ∧ dictKeys s.sh.cache.map = [7] := by
  decide +kernel

/-- Counter-model: the *same* machine without the tests of `held` (`lstepG false`: `acquire` never blocks).
    Two threads store the same expression; interleaved so that both finish their remove loop before either
    appends, they leave the key twice in the recency list — the invariant is broken at a point where both
    have returned and the "lock" is free.  With the lock (`lsysRun`), the same picks give `[7]`. -/
theorem without_lock_invariant_breaks :
    let s0 : LSys Nat Nat := ⟨⟨false, State.empty⟩, [.setAcquire 7 1 false, .setAcquire 7 1 false]⟩
    let sched := [0, 0, 0, 1, 1, 1, 0, 1, 0, 1, 0, 1, 1, 1, 1, 1, 1, 1]
    let bad := lsysRunG false 3 1 s0 sched
    let good := lsysRun 3 1 s0 sched
    (bad.pcs = [.done none false, .done none false] ∧ bad.sh.held = false ∧ bad.sh.cache.recent = [7, 7]
      ∧ ¬ bad.sh.cache.recent.Nodup) ∧
    (good.pcs = [.done none false, .done none false] ∧ good.sh.held = false ∧ good.sh.cache.recent = [7]) := by
  decide +kernel

/-! #### The same statements about the one-step machine `lstepA`

  In `lstepA` a whole `get`/`set` is one step taken whatever `held` is, so these theorems say nothing about what
  the lock protects: the ones that do are those of the section above, about `lstep`. -/

namespace Atomic
section Lock
variable {K V : Type} [DecidableEq K]

structure LSysA (K V : Type) where
  sh : Shared K V
  pcs : List (PcA K V)

def lsysStepA (MAX CLEAR : Nat) (s : LSysA K V) (i : Nat) : Option (LSysA K V) :=
  match s.pcs[i]? with
  | none => none
  | some pc =>
    match lstepA MAX CLEAR s.sh pc with
    | none => none
    | some (sh', pc') => some ⟨sh', s.pcs.set i pc'⟩

/-- Mutual exclusion + the lock bit says whether somebody is inside + the data invariant. -/
structure LockInvA (MAX : Nat) (s : LSysA K V) : Prop where
  excl : ∀ (i j : Nat) (pi pj : PcA K V), s.pcs[i]? = some pi → s.pcs[j]? = some pj → pi.holds = true → pj.holds = true → i = j
  held : s.sh.held = true ↔ ∃ (i : Nat) (pc : PcA K V), s.pcs[i]? = some pc ∧ pc.holds = true
  inv : Inv MAX s.sh.cache

/-- One step of `lstepA` meets the three premises `k1 k2 k3` of `lockBits_update` and keeps `Inv`. -/
theorem lstep_facts (MAX CLEAR : Nat) (hb : CLEAR < MAX) (sh sh' : Shared K V) (pc pc' : PcA K V)
    (hinv : Inv MAX sh.cache) (hheld : pc.holds = true → sh.held = true)
    (hl : lstepA MAX CLEAR sh pc = some (sh', pc')) :
    (pc'.holds = true → (pc.holds = true ∨ sh.held = false)) ∧
    ((pc.holds = true ∨ pc'.holds = true) → sh'.held = pc'.holds) ∧
    (pc.holds = false → pc'.holds = false → sh'.held = sh.held) ∧
    Inv MAX sh'.cache := by
  cases pc with
  | getBody k =>
    simp only [lstepA, Option.some.injEq, Prod.mk.injEq] at hl
    obtain ⟨rfl, rfl⟩ := hl
    simp [PcA.holds, get_inv hinv, hheld rfl]
  | setBody k v f =>
    cases f <;> cases hl <;> simp [PcA.holds, hinv, set_inv hb hinv, hheld rfl]
  | getAcquire k | setAcquire k v f =>
    simp only [lstepA] at hl
    split at hl
    · cases hl
    · rename_i hh
      cases hl
      simp only [Bool.not_eq_true] at hh
      simp [PcA.holds, hinv, hh]
  | _ => cases hl; simp [PcA.holds, hinv]

/-- C15c (lock): every step of every thread keeps mutual exclusion, the meaning of the lock bit, and
    the cache invariant — the data is only ever touched by the unique lock holder, one whole
    `get`/`set` at a time. -/
theorem lock_inv_step (MAX CLEAR : Nat) (hb : CLEAR < MAX) (s s' : LSysA K V) (i : Nat)
    (h : LockInvA MAX s) (hs : lsysStepA MAX CLEAR s i = some s') : LockInvA MAX s' := by
  unfold lsysStepA at hs
  cases hpc : s.pcs[i]? with
  | none => simp [hpc] at hs
  | some pc =>
    simp only [hpc] at hs
    cases hl : lstepA MAX CLEAR s.sh pc with
    | none => simp [hl] at hs
    | some q =>
      obtain ⟨sh', pc'⟩ := q
      simp only [hl, Option.some.injEq] at hs
      subst hs
      obtain ⟨k1, k2, k3, k4⟩ := lstep_facts MAX CLEAR hb s.sh sh' pc pc' h.inv
        (fun hx => h.held.mpr ⟨i, pc, hpc, hx⟩) hl
      obtain ⟨e1, e2⟩ := lockBits_update PcA.holds h.excl h.held hpc k1 k2 k3
      exact ⟨e1, e2, k4⟩

theorem no_deadlock (MAX CLEAR : Nat) (s : LSysA K V) (h : LockInvA MAX s)
    (hun : ∃ (i : Nat) (pc : PcA K V), s.pcs[i]? = some pc ∧ pc.isDone = false) :
    ∃ (i : Nat) (pc : PcA K V), s.pcs[i]? = some pc ∧ pc.isDone = false ∧ (lsysStepA MAX CLEAR s i).isSome = true := by
  obtain ⟨i, pc, hi, hu, hh⟩ := exists_unfinished_agreeing PcA.holds (·.isDone = false) h.held
    (fun pc hp => by cases pc <;> first | rfl | cases hp) hun
  refine ⟨i, pc, hi, hu, ?_⟩
  have hl : (lstepA MAX CLEAR s.sh pc).isSome = true := by rw [lstepA_isSome, hh]; cases s.sh.held <;> simp
  unfold lsysStepA
  rw [hi]
  cases hq : lstepA MAX CLEAR s.sh pc with
  | none => rw [hq] at hl; cases hl
  | some q => simp only [hq]; rfl

/-- C15c (all exits release): from any program point inside a critical section, the thread's own next
    steps (never blocked) reach `done` with the lock released within two steps — including the
    exception path of `setCachedExpression` and both return paths of `getCachedExpression`. -/
theorem releases_on_all_paths (MAX CLEAR : Nat) (sh : Shared K V) (pc : PcA K V) (hp : pc.holds = true) :
    ∃ sh1 pc1, lstepA MAX CLEAR sh pc = some (sh1, pc1) ∧
      ((pc1.isDone = true ∧ sh1.held = false) ∨
       ∃ sh2 pc2, lstepA MAX CLEAR sh1 pc1 = some (sh2, pc2) ∧ pc2.isDone = true ∧ sh2.held = false) := by
  cases pc <;> simp [PcA.holds] at hp
  · exact ⟨_, _, rfl, Or.inr ⟨_, _, rfl, rfl, rfl⟩⟩
  · exact ⟨_, _, rfl, Or.inl ⟨rfl, rfl⟩⟩
  · rename_i k v f
    cases f
    · exact ⟨_, _, rfl, Or.inr ⟨_, _, rfl, rfl, rfl⟩⟩
    · exact ⟨_, _, rfl, Or.inr ⟨_, _, rfl, rfl, rfl⟩⟩
  · exact ⟨_, _, rfl, Or.inl ⟨rfl, rfl⟩⟩
  · exact ⟨_, _, rfl, Or.inl ⟨rfl, rfl⟩⟩

/-- C15c (atomicity): one whole critical section of `getCachedExpression`, run without interruption,
    is exactly the model's `get` — and likewise `set`; so "each cache operation is one atomic step"
    is what the lock-level programs implement. -/
theorem get_section_is_get (MAX CLEAR : Nat) (c : State K V) (k : K) :
    ∃ sh1 pc1 sh2 pc2 sh3,
      lstepA MAX CLEAR ⟨false, c⟩ (.getAcquire k) = some (sh1, pc1) ∧
      lstepA MAX CLEAR sh1 pc1 = some (sh2, pc2) ∧
      lstepA MAX CLEAR sh2 pc2 = some (sh3, .done (get c k).2 false) ∧
      sh3.cache = (get c k).1 ∧ sh3.held = false :=
  ⟨_, _, _, _, _, rfl, rfl, rfl, rfl, rfl⟩

theorem set_section_is_set (MAX CLEAR : Nat) (c : State K V) (k : K) (v : V) :
    ∃ sh1 pc1 sh2 pc2 sh3,
      lstepA MAX CLEAR ⟨false, c⟩ (.setAcquire k v false) = some (sh1, pc1) ∧
      lstepA MAX CLEAR sh1 pc1 = some (sh2, pc2) ∧
      lstepA MAX CLEAR sh2 pc2 = some (sh3, .done none false) ∧
      sh3.cache = set MAX CLEAR c k v ∧ sh3.held = false :=
  ⟨_, _, _, _, _, rfl, rfl, rfl, rfl, rfl⟩

end Lock
end Atomic

/-! #### Why the obligation is strict: `CLEAR = MAX` breaks bound and key agreement -/

/-- With `CLEAR = MAX` (here 2/2) `recent[-0:]` is the whole list: three stores leave a recency
    list of length 3 over an empty map — `Inv` fails on both counts.  (Reproduced on the real cache
    with the constants patched; this is why `shipped_bound_ok` demands `CLEAR < MAX`.) -/
theorem clear_eq_max_breaks :
    let s : State Nat Nat := set 2 2 (set 2 2 (set 2 2 State.empty 0 0) 1 1) 2 2
    s.recent = [0, 1, 2] ∧ s.map = [] := by decide +kernel

/-- A history with hits, a compile error, an eviction and a re-entry under the bound 3/1:
    the final cache state and all observations, computed by the model. -/
example :
    let compile : Nat → Option Nat := fun e => if e = 9 then none else some e
    let evs : List (Event Nat Nat) := [.query 0 0, .query 1 0, .query 0 0, .query 9 0, .query 2 0, .query 3 0, .query 0 0]
    (run compile id (fun v t => v * 10 + t) 3 1 World.empty evs).map (fun p => (p.1, p.2.recent))
      = [(.result 0, [0]), (.result 10, [0, 1]), (.result 0, [1, 0]), (.compileError, [1, 0]),
         (.result 20, [1, 0, 2]), (.result 30, [2, 3]), (.result 0, [2, 3, 0])] := by decide +kernel

example : Function.Injective (id : Nat → Nat) := fun _ _ h => h

/-! Lock level: a concrete two-thread schedule, statement by statement, run to completion. -/

def exCompile : Nat → Option Nat := fun e => if e = 9 then none else some e
def exEval : Nat → Nat → Nat := fun v t => v * 10 + t
/-- Thread 0: `q e0 t0; q e1 t0`; thread 1: `q e0 t1; q e9 t0` (`e9` does not compile); bound 3/1. -/
def exThreads : List (List (Event Nat Nat)) := [[.query 0 0, .query 1 0], [.query 0 1, .query 9 0]]
/-- One statement per pick; the 5th and the 11th–12th pick find their thread blocked on `acquire`. -/
def exSched : List Nat :=
  [0,0,1,0,1,0,0,0,1,1,0,0,1,1,1,1,1,0,1,1,1,1,1,1,1,1,1,1,0,0,0,0,0,0,0,0,0,0,0,0,0,0,0,0,0,0,0,0,0]

/-- The run completes: both threads finished with their solo results, lock free, cache in order; and the
    schedule of the quantum machine it projects to (`lock_level_refines_quantum`). -/
example :
    let s := ltRun exCompile id exEval 3 1 (LTSys.init exThreads : LTSys Nat Nat Nat Nat Nat) exSched
    s.threads.map (fun lt => (lt.pc, lt.th.todo.length, lt.th.obs)) =
      [(none, 0, [.result 0, .result 10]), (none, 0, [.result 1, .compileError])] ∧
    s.sh.held = false ∧ s.sh.cache.recent = [0, 1] ∧ dictKeys s.sh.cache.map = [0, 1] ∧
    ltProject exCompile id exEval 3 1 (LTSys.init exThreads : LTSys Nat Nat Nat Nat Nat) exSched = [0, 1, 1, 1, 0, 0, 0] := by
  decide +kernel

/-- The same results from the specification, as `lock_level_solo_results` says. -/
example : exThreads.map (specRun exCompile exEval []) = [[.result 0, .result 10], [.result 1, .compileError]] := by
  decide +kernel

/-- In the middle of that run (after 12 picks): thread 1 is inside `getCachedExpression` about to release,
    thread 0 — having missed and compiled — is blocked on the `acquire` of its store. -/
example :
    let s := ltRun exCompile id exEval 3 1 (LTSys.init exThreads : LTSys Nat Nat Nat Nat Nat) (exSched.take 12)
    s.threads.map (fun lt => lt.pc) = [some (.setAcquire 0 0 false), some (.getRelease none)] ∧ s.sh.held = true ∧
    (ltStep exCompile id exEval 3 1 s 0).isNone = true ∧ (ltStep exCompile id exEval 3 1 s 1).isSome = true := by
  decide +kernel

/-- … and `LockInv` holds there (an instance with somebody inside), as in every reachable configuration. -/
example : LockInv 3 1
    (ltRun exCompile id exEval 3 1 (LTSys.init exThreads : LTSys Nat Nat Nat Nat Nat) (exSched.take 12)).toLSys :=
  lock_inv_reachable exCompile id exEval 3 1 (by decide) exThreads (exSched.take 12)

/-- A `LockInv` instance of cache operations: a lookup, a store and a failing store about to start. -/
example : LockInv 3 1 (⟨⟨false, State.empty⟩, [.getAcquire 0, .setAcquire 1 1 false, .setAcquire 2 2 true]⟩ : LSys Nat Nat) :=
  lock_inv_initial 3 1 _ rfl (Inv.empty 3) (by decide)

/-- The eviction path statement by statement: a store into a full cache (3/1) takes 10 steps and is `set`;
    after 4 of them the shared recency list is longer than `MAX` (the bound is broken inside the section). -/
example :
    let c : State Nat Nat := ⟨[(0, 0), (1, 1), (2, 2)], [0, 1, 2]⟩
    (lsteps 3 1 10 ⟨false, c⟩ (.setAcquire 3 3 false)).map (fun p => (p.1.held, p.1.cache.map, p.1.cache.recent, p.2))
      = some (false, (set 3 1 c 3 3).map, (set 3 1 c 3 3).recent, .done none false) ∧
    (set 3 1 c 3 3).recent = [2, 3] ∧ (set 3 1 c 3 3).map = [(2, 2), (3, 3)] ∧
    (lsteps 3 1 9 ⟨false, c⟩ (.setAcquire 3 3 false)).map (fun p => (p.1.held, p.2)) = some (true, .setRelease) ∧
    (lsteps 3 1 4 ⟨false, c⟩ (.setAcquire 3 3 false)).map (fun p => (p.1.cache.recent, p.2)) = some ([0, 1, 2, 3], .setCheck) := by
  decide +kernel

end AHP.C15
