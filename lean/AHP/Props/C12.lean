/-
  C12 — Formatter layout guarantees: indentation, minification, slim tags, stability.

  Property theorems only (model: AHP/Model/Format.lean; lemmas: AHP/Lemmas/Format.lean, Squeeze.lean).
  Quantification as in C11: every token sequence, every configuration; hypothesis: no element is named like the
  invisible wrapper.

  Text level (through the character-level lexer `lexStrict` of C01 and the lexer bridge of C11,
  `Lemmas/FormatLex*.lean`; lemmas in `Lemmas/FormatLexPretty.lean`, `FormatLexPrettyLayout.lean`,
  `FormatLexMiniText.lean`):
  `mini_output_fixed_point_text` (mini² = mini), `pretty_text_stable` (pretty³ = pretty²), `pretty_text_layout…` (the
  layout law read off the output text; any token sequence whose tree is strict, unclosed tails included),
  `mini_output_text_runs` (the mini clause on the data tokens / text runs of the lexed output), for strict single-root
  documents, and their `…_multi` counterparts for multi-root documents.
-/
import AHP.Lemmas.FormatLexPrettyLayout
import AHP.Lemmas.FormatLexMiniText
namespace AHP.C12
open AHP AHP.Fmt
-- the lexer's side (namespace `AHP`) has declarations with the same short names as the formatter model
-- (`AHP.Fmt`); inside this file the short names keep meaning the formatter model's (as in Props/C11.lean)
export AHP.Fmt (Node docHTML endTag startTag)

/-! #### C12a — indentation -/

/-- **C12a (tree level).**  In the tree the formatter serialises, every element outside pre/code carries
    `_indent = "\n" ++ indent^depth`, `depth` being its number of proper ancestors other than the invisible wrapper
    *recomputed from the finished tree* (`LayoutOK`), every element below pre/code carries none, and the mini classes
    give none at all — whatever pushes, explicit pops and implicit pops the token sequence caused. -/
theorem indentation_law (cfg : Cfg) (toks : List Tok) (h : NoWrapperStart toks) (s : St) (r : Node)
    (hs : feed cfg toks = .ok s) (hr : s.root = some r) : LayoutOK cfg 0 false r := by
  rw [feed_dec cfg toks h] at hs
  cases hp : Plain.feed toks with
  | error e => simp [hp, mapOk] at hs
  | ok ps =>
    simp only [hp, mapOk, Except.ok.injEq] at hs
    rw [← hs, root_dec] at hr
    cases hpr : ps.root with
    | none => simp [hpr] at hr
    | some r0 =>
      simp only [hpr, Option.map_some, Option.some.injEq] at hr
      rw [← hr]
      exact layout_decorate cfg ⟨0, 0⟩ [] r0

/-- the counters the formatter is left with are those of the elements still open: `currentIndentLevel` = number
    of open elements other than the wrapper, `inPreformatted` = number of open pre/code elements -/
theorem counters_are_stack_functions (cfg : Cfg) (toks : List Tok) (h : NoWrapperStart toks) (s : St)
    (hs : feed cfg toks = .ok s) :
    ∃ ps, Plain.feed toks = .ok ps ∧ s.level = ((ctxOf ps.stack).level : Int) ∧ s.inPre = ((ctxOf ps.stack).inPre : Int)
      ∧ s.stack.length = ps.stack.length := by
  rw [feed_dec cfg toks h] at hs
  cases hp : Plain.feed toks with
  | error e => simp [hp, mapOk] at hs
  | ok ps =>
    simp only [hp, mapOk, Except.ok.injEq] at hs
    exact ⟨ps, rfl, by rw [← hs]; rfl, by rw [← hs]; rfl, by rw [← hs]; simp [decSt]⟩

/-- In the output text the `_indent` is what precedes the start tag … -/
theorem start_tag_after_indent (k : Kind) (n : Str) (st : AStore) (sc : Bool) (ind : Str) :
    ∃ rest, startTag k n st sc ind = ind ++ rest ∧ rest.head? = some '<' := startTag_prefix k n st sc ind

/-- … and the end tag of an element that is not self-closing, unless the element is pre/code or is script/style whose
    content already ends with exactly that line break and indentation. -/
theorem end_tag_after_indent (n ind : Str) (kids : List Node) (hpre : isPre n = false)
    (hraw : isPreserve n = true → lastTextEndsWith ind kids = false) :
    endTag n false ind kids = ind ++ str "</" ++ n ++ str ">" := by
  rcases endTag_cases n ind kids with h | ⟨_, h | h⟩
  · exact h
  · rw [hpre] at h; cases h
  · rw [hraw h.1] at h; cases h.2

/-- C12a read off the output text: the start tag of an element that obeys the law outside pre/code, pretty classes, is
    written as a line break, exactly `depth` copies of the indent unit, then `<` — the tag is the first thing on its line
    (when the unit itself contains no line break). -/
theorem start_tag_text_pretty (cfg : Cfg) (hm : cfg.mini = false) (depth : Nat) (k : Kind) (n : Str) (st : AStore)
    (sc : Bool) (ind : Str) (kids : List Node) (h : LayoutOK cfg depth false (.elem k n st sc ind kids)) :
    ∃ rest, startTag k n st sc ind = '\n' :: rep depth cfg.indent ++ '<' :: rest := by
  have hind : ind = '\n' :: rep depth cfg.indent := by
    have := h.1
    simpa [hm] using this
  obtain ⟨rest, h1, h2⟩ := startTag_prefix k n st sc ind
  cases rest with
  | nil => simp at h2
  | cons c r =>
    simp only [List.head?_cons, Option.some.injEq] at h2
    subst h2
    exact ⟨r, by rw [h1, hind]⟩

/-! #### C12c — slim output = normal output without the space before `>` -/

theorem slim_start_tag (ssc : Bool) (n : Str) (st : AStore) (sc : Bool) (ind : Str) :
    startTag .normal n st sc ind = ind ++ ('<' :: n ++ attrString st) ++ (if sc then str " />" else str " >")
    ∧ startTag (.slim ssc) n st sc ind
        = ind ++ ('<' :: n ++ attrString st) ++ (if sc then (if ssc then str "/>" else str " />") else str ">") :=
  ⟨startTag_normal n st sc ind, startTag_slim ssc n st sc ind⟩

/-- **C12c (document level).**  For the same tokens, indent unit and mini flag, the slim class fails exactly when the
    normal class fails, and otherwise its output is the normal output piece by piece: text blocks, end tags and doctype
    line identical, every start-tag piece with the space before `>` removed (before `/>` only with slimSelfClosing) —
    in start tags only. -/
theorem slim_output (cfg : Cfg) (hk : cfg.kind = .normal) (ssc : Bool) (toks : List Tok) (h : NoWrapperStart toks) :
    (match feed cfg toks with
     | .ok fn => ∃ fs, feed { cfg with kind := .slim ssc } toks = .ok fs ∧ fs.doctype = fn.doctype
          ∧ (fn.root = none → fs.root = none)
          ∧ ∀ r, fn.root = some r → ∃ r', fs.root = some r'
              ∧ docHTML fn.doctype fn.root = .ok (flat (docPieces fn.doctype r))
              ∧ docHTML fs.doctype fs.root = .ok (flat ((docPieces fn.doctype r).map (slimPiece ssc)))
     | .error e => feed { cfg with kind := .slim ssc } toks = .error e) := by
  rw [feed_dec cfg toks h, feed_dec { cfg with kind := .slim ssc } toks h]
  cases hp : Plain.feed toks with
  | error e => simp [mapOk]
  | ok ps =>
    simp only [mapOk]
    refine ⟨_, rfl, rfl, ?_, ?_⟩
    · intro hn
      rw [root_dec] at hn ⊢
      cases hr : ps.root with
      | none => rfl
      | some r0 => simp [hr] at hn
    · intro r hr
      rw [root_dec] at hr
      cases hpr : ps.root with
      | none => simp [hpr] at hr
      | some r0 =>
        simp only [hpr, Option.map_some, Option.some.injEq] at hr
        have hcfg : cfg = { cfg with kind := .normal } := by cases cfg; simp_all
        have e1 : r = setKind .normal (dec0 cfg r0) := by
          rw [← hr]; unfold dec0
          conv => lhs; rw [hcfg]
          exact decorate_setKind cfg .normal _ _ r0
        have e2 : dec0 { cfg with kind := .slim ssc } r0 = setKind (.slim ssc) (dec0 cfg r0) :=
          decorate_setKind cfg (.slim ssc) _ _ r0
        refine ⟨setKind (.slim ssc) (dec0 cfg r0), by rw [root_dec, hpr, Option.map_some, e2], ?_, ?_⟩
        · rw [root_dec, hpr, Option.map_some, hr]; exact docHTML_eq_flat _ _
        · rw [root_dec, hpr, Option.map_some, e2, docHTML_eq_flat, e1]
          show Except.ok (flat (docPieces ps.doctype _)) = _
          rw [docPieces_slim]
          rfl

/-- the slim classes are the normal classes with the other element class: with the same explicit indent argument,
    `AdvancedHTMLSlimTagFormatter` / `…SlimTagMiniFormatter` are configured like `AdvancedHTMLFormatter` /
    `…MiniFormatter` except for `kind` (so `slim_output` applies to the four shipped classes) -/
theorem slim_classes (ind : IndentArg) (hi : ind ≠ .dflt) (ssc : Bool) :
    mkCfg .slim ind ssc = { mkCfg .pretty ind ssc with kind := .slim ssc } ∧ (mkCfg .pretty ind ssc).kind = .normal
    ∧ mkCfg .slimMini ind ssc = { mkCfg .mini ind ssc with kind := .slim ssc } ∧ (mkCfg .mini ind ssc).kind = .normal := by
  cases ind with
  | dflt => exact absurd rfl hi
  | str s => simp [mkCfg, indentOf]
  | int i => simp [mkCfg, indentOf]

/-- what the surgery does to the two shapes a start tag can have -/
theorem slim_surgery (ssc : Bool) (x : Str) :
    slimSurgery ssc (x ++ str " >") = x ++ str ">"
    ∧ slimSurgery ssc (x ++ str " />") = x ++ (if ssc then str "/>" else str " />") :=
  ⟨slimSurgery_open ssc x, slimSurgery_selfclosed ssc x⟩

/-! #### C12b — mini output carries no indentation -/

/-- the mini classes give no element an `_indent` (special case of the indentation law, spelled out) -/
theorem mini_no_indent (cfg : Cfg) (hm : cfg.mini = true) (c : Ctx) : indentAt cfg c = [] := indentAt_mini cfg hm c

/-- C12b: a data piece outside preserved content comes out without a tab … -/
theorem squeezed_has_no_tab (s : Str) : ∀ c ∈ squeeze s, c ≠ '\t' := squeeze_noTab s

/-- … and neither begins nor ends with a line break (CR or LF). -/
theorem squeezed_has_no_outer_line_break (s : Str) :
    (∀ c, (squeeze s).head? = some c → isCRLF c = false) ∧ (∀ c, (squeeze s).getLast? = some c → isCRLF c = false) :=
  squeeze_ends s

/-- C12b/C12d core: the data rule is idempotent. -/
theorem squeeze_idempotent (s : Str) : squeeze (squeeze s) = squeeze s := squeeze_idem s

/-- **C12b / C12d (tree level).**  Decorating an already decorated tree changes nothing — for every class, context and
    tree: the same elements get the same `_indent` (a function of the ancestors' names only) and every squeezed data block
    is a fixed point of the data rule.  With `formatter_tree_is_decorated` (C11) this is "formatting the formatter's own
    tree again gives the same tree"; for the mini classes, whose output adds no text, it is the fixed-point statement up to
    re-tokenisation of the output (text level: `mini_output_fixed_point_text` below). -/
theorem reformat_tree_fixed_point (cfg : Cfg) (c : Ctx) (p : Str) (t : Node) :
    decorate cfg c p (decorate cfg c p t) = decorate cfg c p t := decorate_idem cfg c p t

/-! #### C12b at text level — the mini clause read off the OUTPUT text -/

/-- **C12b on the output text.**  Mini class (normal or slim elements); any token sequence whose plain-parser tree is a
    strict document, single- or multi-root (`WrapperOK`), **adjacent data blocks allowed (no `Glued`)**.  The output text
    lexes (`lexStrict`) to the doctype declaration followed by `glueDt (dtText dt) body`: `body` are the tokens of the
    document's blocks, and the line break `getHTML` writes after the doctype line is a data token of its own or glued in
    front of `body`'s leading data token (it is not text of the document).  Then, with the stack of open elements
    recomputed from the tokens alone (`tagStack`) and `miniCare st` = "no pre/code element open and the innermost open
    element is not script/style":

    * every data or reference token `t` of `body` at a position where `miniCare` holds is a `GoodText`: it neither
      begins nor ends with CR/LF and contains no tab — a data token of the output is several squeezed pieces glued;
    * every **text run** of `body` (`textRuns`: maximal sequence of consecutive data and reference tokens, rendered and
      glued) at such a position is a `GoodText`.

    The known finding `C12-mini-dropped-markup` does not limit this clause (it concerns `mini² = mini`): two pieces that
    touch because markup between them was dropped are each squeezed, and a concatenation of good texts is good.  What
    limits it is the strict sub-language (the hypotheses `Strict`, `DtOK`); outside it: tree level
    (`squeezed_has_no_tab`, `squeezed_has_no_outer_line_break` per piece) + the oracle `mini_text_violation`. -/
theorem mini_output_text_runs (cfg : Cfg) (hm : cfg.mini = true) (hi : IndentWS cfg) (toks : List Tok)
    (h : NoWrapperStart toks) (ps : St) (hp : Plain.feed toks = .ok ps)
    (n : Str) (st : AStore) (sc : Bool) (kids : List FNode)
    (hroot : ps.root = some (FNode.elem n st sc kids).toNode) (hw : WrapperOK n st sc kids)
    (hs : (FNode.elem n st sc kids).Strict) (hdt : DtOK ps.doctype) :
    ∃ out body, format cfg toks = .ok out ∧
      lexStrict out = some (dtToks ps.doctype ++ glueDt (dtText ps.doctype) body) ∧
      (∀ pre t post, body = pre ++ t :: post → isRunTok t = true → miniCare (tagStack [] pre) = true →
        GoodText (renderTok t)) ∧
      (∀ p ∈ textRuns body, miniCare p.1 = true → GoodText p.2) := by
  obtain ⟨out, body, h1, h2, h3⟩ := mini_text_core cfg hm hi toks h ps hp n st sc kids hroot hw hs hdt
  refine ⟨out, body, h1, h2, ?_, ?_⟩
  · intro pre t post e hr hc
    exact dscan_split pre [] t post (e ▸ h3) hr hc
  · exact dscan_runs body [] [] h3 (fun _ => goodText_nil)

theorem goodText_iff (s : Str) :
    GoodText s ↔ (∀ c, s.head? = some c → isCRLF c = false) ∧ (∀ c, s.getLast? = some c → isCRLF c = false)
      ∧ ∀ c ∈ s, c ≠ '\t' := Iff.rfl

/-! #### C12d — stability from the second pass on -/

/-- **C12d key lemma** (DESIGN §5).  In pass k+1 a text region is the pieces pass k wrote followed by the indent `I`
    (a line break, then spaces/tabs) pass k put before the next tag; only the last data piece `d` (possibly empty) meets
    `I`, the tokenizer hands the formatter `d ++ I` as one piece.  From the second pass on that piece is stable:
    `sq (sq (d ++ I) ++ I) = sq (d ++ I)`, for every `d` and every such `I`.  (Pass 1 → 2 is not covered and not stable:
    pass 1 sees `d`, pass 2 sees `sq d ++ I` — which is why the property says "from the second pass on".) -/
theorem indent_piece_stable (d i : Str) (hi : IsIndent i) : squeeze (squeeze (d ++ i) ++ i) = squeeze (d ++ i) :=
  squeeze_indent_stable d i hi

/-- every `_indent` the pretty classes produce with a spaces/tabs indent unit is such an `I` -/
theorem getIndent_isIndent (cfg : Cfg) (hm : cfg.mini = false) (hu : ∀ c ∈ cfg.indent, c = ' ' ∨ c = '\t') (level : Int) :
    IsIndent (getIndent cfg level) := by
  unfold getIndent
  simp only [hm, Bool.false_eq_true, if_false]
  exact ⟨_, rfl, rep_unit _ _ hu⟩

/-! #### C12b/C12d at text level — through the real pipeline text → `lexStrict` → formatter → text -/

/-- **C12b on text: mini² = mini.**  Mini class (normal or slim elements), any doctype, any strict single-root
    document `u` — any size and depth — without adjacent data blocks (`Glued`) and without the reserved name: feed the
    formatter the tokens of `u`; its output text lexes (`lexStrict`), and feeding the formatter those tokens gives the
    identical text.  (`AHP.Fmt.mini_text_fixed_point`; also stated as `C11.mini_output_is_fixed_point_text`.  With
    adjacent data blocks it fails: `mini_dropped_markup_counterexample`, the known finding.) -/
theorem mini_output_fixed_point_text (cfg : Cfg) (hm : cfg.mini = true) (hi : IndentWS cfg) (dt : Option Str)
    (hdt : DtOK dt) (n : Str) (st : AStore) (sc : Bool) (kids : List FNode)
    (hs : (FNode.elem n st sc kids).Strict) (hg : (FNode.elem n st sc kids).Glued)
    (hnw : (FNode.elem n st sc kids).NoWrapper) :
    ∃ out toks2, format cfg (strictToks dt (.elem n st sc kids)) = .ok out ∧ lexStrict out = some toks2 ∧
      format cfg (toks2.map Tok.ofToken) = .ok out :=
  mini_text_fixed_point cfg hm hi dt hdt n st sc kids hs hg hnw

/-- **C12d on text: pretty³ = pretty².**  Pretty class — normal or slim element class, `cfg.mini = false`, indent unit
    made of spaces/tabs (`IndentWS`) —, any doctype (`DtOK`), any strict single-root document `u` (`FNode.Strict`; any
    size, any depth) without the reserved name.  Pass 1: the formatter fed the tokens of `u` writes `out1`; the strict
    lexer reads `out1` back as `toks2`; pass 2: the formatter fed `toks2` writes `out2`; the lexer reads `out2` back as
    `toks3`; pass 3: the formatter fed `toks3` writes **`out2` again**.

    Unlike the mini case **no `Glued` hypothesis is needed**: whatever adjacent data blocks the input has, pass 1's
    output re-tokenises without adjacent data blocks, every data block that precedes a tag written with an `_indent` `I`
    has the form `d ++ I`, pass 2 makes it `sq (d ++ I) ++ I`, and pass 3 `sq (sq (d ++ I) ++ I) ++ I`, the same by
    `indent_piece_stable`; data blocks before a reference or comment are fixed by `squeeze_idempotent`; below pre/code
    nothing is rewritten; script/style content ends with the `_indent` after pass 1 and `getEndTag` then adds nothing.
    What *is* needed is the blank indent unit: `stability_needs_blank_indent_unit`.  Pass 2 = pass 1 does not hold:
    `second_pass_differs_from_first`. -/
theorem pretty_text_stable (cfg : Cfg) (hm : cfg.mini = false) (hi : IndentWS cfg) (dt : Option Str)
    (hdt : DtOK dt) (n : Str) (st : AStore) (sc : Bool) (kids : List FNode)
    (hs : (FNode.elem n st sc kids).Strict) (hnw : (FNode.elem n st sc kids).NoWrapper) :
    ∃ out1 toks2 out2 toks3 out3,
      format cfg (strictToks dt (.elem n st sc kids)) = .ok out1 ∧ lexStrict out1 = some toks2 ∧
      format cfg (toks2.map Tok.ofToken) = .ok out2 ∧ lexStrict out2 = some toks3 ∧
      format cfg (toks3.map Tok.ofToken) = .ok out3 ∧ out3 = out2 := by
  obtain ⟨out1, toks2, out2, toks3, h1, h2, h3, h4, h5⟩ :=
    pretty_text_stable_core cfg hm hi dt hdt n st sc kids hs hnw
  exact ⟨out1, toks2, out2, toks3, out2, h1, h2, h3, h4, h5, rfl⟩

/-- the two shipped pretty classes with an indent argument made of spaces/tabs (the default, an integer, or such a
    string) meet the hypotheses `cfg.mini = false` and `IndentWS cfg` of `pretty_text_stable` / `pretty_text_layout` -/
theorem pretty_classes_cfg (ind : IndentArg) (ssc : Bool)
    (hind : ∀ s, ind = .str s → ∀ c ∈ s, c = ' ' ∨ c = '\t') :
    (mkCfg .pretty ind ssc).mini = false ∧ IndentWS (mkCfg .pretty ind ssc)
    ∧ (mkCfg .slim ind ssc).mini = false ∧ IndentWS (mkCfg .slim ind ssc) := by
  cases ind with
  | dflt =>
    have h2 : ∀ c ∈ str "  ", c = ' ' ∨ c = '\t' := by decide
    have h4 : ∀ c ∈ str "    ", c = ' ' ∨ c = '\t' := by decide
    exact ⟨rfl, h2, rfl, h4⟩
  | str s => exact ⟨rfl, hind s rfl, rfl, hind s rfl⟩
  | int i =>
    have : ∀ c ∈ List.replicate i.toNat ' ', c = ' ' ∨ c = '\t' := by
      intro c hc
      exact Or.inl (List.eq_of_mem_replicate hc)
    exact ⟨rfl, this, rfl, this⟩

/-- **Why "from the second pass on".**  Pass 1 sees the document's own data pieces, pass 2 sees them glued to the
    `_indent` pass 1 wrote after them: `<div>a<p></p></div>` → `a` + LF + 2 spaces + `<p >` → the piece `a\n  ` is
    squeezed to `a ` and the indent written again: the second output differs from the first (a space before the line
    break), the third equals the second (`pretty_text_stable`). -/
theorem second_pass_differs_from_first :
    okIs (format (mkCfg .pretty (.str (str "  ")) false)
      (strictToks none (.elem (str "div") {} false [.tok (.data (str "a")), .elem (str "p") {} false []])))
      "\n<div >a\n  <p >\n  </p>\n</div>" = true
    ∧ lexStrict (str "\n<div >a\n  <p >\n  </p>\n</div>")
        = some [.data (str "\n"), .start (str "div") [], .data (str "a\n  "), .start (str "p") [],
                .data (str "\n  "), .end_ (str "p"), .data (str "\n"), .end_ (str "div")]
    ∧ okIs (format (mkCfg .pretty (.str (str "  ")) false)
        ([Token.data (str "\n"), .start (str "div") [], .data (str "a\n  "), .start (str "p") [],
          .data (str "\n  "), .end_ (str "p"), .data (str "\n"), .end_ (str "div")].map Tok.ofToken))
        "\n<div >a \n  <p > \n  </p>\n</div>" = true := by
  -- the kernel decodes a string literal in quadratic time; as `String.ofList` of its characters it is a list already
  unfold okIs str; char_lits
  decide +kernel

/-- **The hypothesis `IndentWS` is needed.**  With an indent unit that is not white space (`indent = "x"`) every pass
    adds a copy of the indent to the text in front of each tag, for ever: the same document, passes 1, 2, 3 (each fed
    the tokens `lexStrict` reads from the previous output). -/
theorem stability_needs_blank_indent_unit :
    okIs (format ⟨.normal, str "x", false⟩
      (strictToks none (.elem (str "div") {} false [.tok (.data (str "a")), .elem (str "p") {} false []])))
      "\n<div >a\nx<p >\nx</p>\n</div>" = true
    ∧ lexStrict (str "\n<div >a\nx<p >\nx</p>\n</div>")
        = some [.data (str "\n"), .start (str "div") [], .data (str "a\nx"), .start (str "p") [],
                .data (str "\nx"), .end_ (str "p"), .data (str "\n"), .end_ (str "div")]
    ∧ okIs (format ⟨.normal, str "x", false⟩
        ([Token.data (str "\n"), .start (str "div") [], .data (str "a\nx"), .start (str "p") [],
          .data (str "\nx"), .end_ (str "p"), .data (str "\n"), .end_ (str "div")].map Tok.ofToken))
        "\n<div >a\nx\nx<p >x\nx</p>\n</div>" = true
    ∧ lexStrict (str "\n<div >a\nx\nx<p >x\nx</p>\n</div>")
        = some [.data (str "\n"), .start (str "div") [], .data (str "a\nx\nx"), .start (str "p") [],
                .data (str "x\nx"), .end_ (str "p"), .data (str "\n"), .end_ (str "div")]
    ∧ okIs (format ⟨.normal, str "x", false⟩
        ([Token.data (str "\n"), .start (str "div") [], .data (str "a\nx\nx"), .start (str "p") [],
          .data (str "x\nx"), .end_ (str "p"), .data (str "\n"), .end_ (str "div")].map Tok.ofToken))
        "\n<div >a\nx\nx\nx<p >x\nx\nx</p>\n</div>" = true := by
  unfold okIs str; char_lits
  decide +kernel

/-- **pretty³ = pretty² from any token sequence** (`pretty_text_stable` starts from the tokens of the tree): pass
    1 may be fed ANY token sequence whose plain-parser tree is a strict single-root document (implicit closes, elements
    left open at the end of the input), or (`…_multi`) a strict multi-root document. -/
theorem pretty_text_stable_tokens (cfg : Cfg) (hm : cfg.mini = false) (hi : IndentWS cfg)
    (n : Str) (st : AStore) (sc : Bool) (kids : List FNode)
    (hs : (FNode.elem n st sc kids).Strict) (hnw : (FNode.elem n st sc kids).NoWrapper)
    (toks : List Tok) (hnws : NoWrapperStart toks) (ps : St) (hp : Plain.feed toks = .ok ps)
    (hroot : ps.root = some (FNode.elem n st sc kids).toNode) (hdt : DtOK ps.doctype) :
    ∃ out1 toks2 out2 toks3 out3, format cfg toks = .ok out1 ∧ lexStrict out1 = some toks2 ∧
      format cfg (toks2.map Tok.ofToken) = .ok out2 ∧ lexStrict out2 = some toks3 ∧
      format cfg (toks3.map Tok.ofToken) = .ok out3 ∧ out3 = out2 := by
  obtain ⟨out1, toks2, out2, toks3, h1, h2, h3, h4, h5⟩ :=
    pretty_text_stable_core_open cfg hm hi n st sc kids hs hnw toks hnws ps hp hroot hdt
  exact ⟨out1, toks2, out2, toks3, out2, h1, h2, h3, h4, h5, rfl⟩

/-! #### C12a at text level — the layout law read off the output text -/

/-- `Scan` read position by position (shared by the single- and multi-root layout statements) -/
theorem scan_positions (cfg : Cfg) (out : Str) (toks2 : List Token)
    (h3 : out = renderToksY (styleOf cfg.kind) toks2) (h4 : Scan (styleOf cfg.kind) cfg.indent [] [] toks2) :
    ∀ pre t post, toks2 = pre ++ t :: post →
        out = renderToksY (styleOf cfg.kind) pre ++ renderTokY (styleOf cfg.kind) t
                ++ renderToksY (styleOf cfg.kind) post
        ∧ (∀ m a, t = .start m a ∨ t = .startend m a → noPre (tagStack [] pre) = true →
            ∃ x, renderToksY (styleOf cfg.kind) pre = x ++ '\n' :: rep (tagStack [] pre).length cfg.indent)
        ∧ (∀ m, t = .end_ m → (tagStack [] pre).head? = some m ∧
            (isPre m = false → noPre (tagStack [] pre).tail = true →
              ∃ x, renderToksY (styleOf cfg.kind) pre = x ++ '\n' :: rep ((tagStack [] pre).length - 1) cfg.indent)) := by
  intro pre t post hsplit
  have hat := scan_split (styleOf cfg.kind) cfg.indent pre [] [] t post (hsplit ▸ h4)
  simp only [List.nil_append] at hat
  refine ⟨?_, ?_, ?_⟩
  · rw [h3, hsplit, renderToksY_append]
    simp [renderToksY]
  · intro m a ht hpre
    rcases ht with rfl | rfl
    · obtain ⟨x, hx⟩ := hat hpre
      exact ⟨x, hx.symm⟩
    · obtain ⟨x, hx⟩ := hat hpre
      exact ⟨x, hx.symm⟩
  · intro m ht
    subst ht
    refine ⟨hat.1, ?_⟩
    intro h1 h2
    obtain ⟨x, hx⟩ := hat.2 h1 h2
    exact ⟨x, hx.symm⟩

/-- **C12a on the output text.**  Pretty class (normal or slim elements, indent unit of spaces/tabs), any token
    sequence `toks` whose plain-parser tree — `ps.root`, **elements still open at the end of the input included**: the
    final state `ps` may have a non-empty stack, `getHTML` serialises the tree with them closed — is a strict single-root
    document `u` without the reserved name (doctype `ps.doctype`).  (Implicit closes inside `toks` are allowed as long as
    the resulting tree is strict; stray end tags leave no trace in the tree.)  The output text `out` lexes
    (`lexStrict out = some toks2`), is the rendering of `toks2`
    (`renderToksY`, start tags in the class's style), the tags of `toks2` are balanced (`tagStack [] toks2 = []`, every
    end tag closes the innermost open element), and for **every position**: split `toks2 = pre ++ t :: post`, so that
    `out = before ++ (text of t) ++ …` with `before = renderToksY … pre` the text in front of the tag, and let
    `open_ = tagStack [] pre` be the names of the elements open at that point, recomputed from the tokens `pre` alone
    (a start tag pushes, an end tag pops).  Then

    * `t` a start tag or a self-closing tag, no pre/code element open: `before` ends with a line break followed by
      exactly `open_.length` copies of the indent unit — the tag is preceded on its line by depth × indent and nothing
      else (text may FOLLOW a tag on the same line: "on its own line" is proved as "preceded by LF + depth × unit");
    * `t` the end tag `</n>`: `n` is the innermost open element; and if `n` is not pre/code and no pre/code element
      encloses it, `before` ends with a line break followed by exactly `(depth of that element)` copies of the unit —
      the end tag is preceded on its line by the indentation of its start tag.  No exception is needed for script/style:
      `getEndTag` omits the indent only when the content already ends with it.

    (`layout_reads_as_line`: since the unit has no line break, "ends with LF + d units" = "the last line of `before` is
    exactly d units".)  `pretty_text_layout` is the instance for the tokens of a strict document,
    `pretty_text_layout_second_pass` the one for the re-tokenised output of pass 1, `pretty_text_layout_multi` the
    multi-root counterpart. -/
theorem pretty_text_layout_tokens (cfg : Cfg) (hm : cfg.mini = false) (hi : IndentWS cfg)
    (n : Str) (st : AStore) (sc : Bool) (kids : List FNode)
    (hs : (FNode.elem n st sc kids).Strict) (hnw : (FNode.elem n st sc kids).NoWrapper)
    (toks : List Tok) (hnws : NoWrapperStart toks) (ps : St)
    (hp : Plain.feed toks = .ok ps) (hroot : ps.root = some (FNode.elem n st sc kids).toNode)
    (hdt : DtOK ps.doctype) :
    ∃ out toks2, format cfg toks = .ok out ∧ lexStrict out = some toks2 ∧ tagStack [] toks2 = [] ∧
      ∀ pre t post, toks2 = pre ++ t :: post →
        out = renderToksY (styleOf cfg.kind) pre ++ renderTokY (styleOf cfg.kind) t
                ++ renderToksY (styleOf cfg.kind) post
        ∧ (∀ m a, t = .start m a ∨ t = .startend m a → noPre (tagStack [] pre) = true →
            ∃ x, renderToksY (styleOf cfg.kind) pre = x ++ '\n' :: rep (tagStack [] pre).length cfg.indent)
        ∧ (∀ m, t = .end_ m → (tagStack [] pre).head? = some m ∧
            (isPre m = false → noPre (tagStack [] pre).tail = true →
              ∃ x, renderToksY (styleOf cfg.kind) pre = x ++ '\n' :: rep ((tagStack [] pre).length - 1) cfg.indent)) := by
  obtain ⟨out, toks2, h1, h2, h3, h4⟩ :=
    pretty_layout_core_open cfg hm hi ps.doctype hdt n st sc kids hs hnw toks hnws ps hp hroot rfl
  exact ⟨out, toks2, h1, h2, scan_balanced _ _ _ _ _ h4, scan_positions cfg out toks2 h3 h4⟩

/-- `pretty_text_layout_tokens` for the token sequence of a strict single-root document (what `lexStrict` returns on
    any serialisation of it, C01): the output of the first pretty pass obeys the layout law. -/
theorem pretty_text_layout (cfg : Cfg) (hm : cfg.mini = false) (hi : IndentWS cfg) (dt : Option Str)
    (hdt : DtOK dt) (n : Str) (st : AStore) (sc : Bool) (kids : List FNode)
    (hs : (FNode.elem n st sc kids).Strict) (hnw : (FNode.elem n st sc kids).NoWrapper) :
    ∃ out toks2, format cfg (strictToks dt (.elem n st sc kids)) = .ok out ∧ lexStrict out = some toks2 ∧
      tagStack [] toks2 = [] ∧
      ∀ pre t post, toks2 = pre ++ t :: post →
        out = renderToksY (styleOf cfg.kind) pre ++ renderTokY (styleOf cfg.kind) t
                ++ renderToksY (styleOf cfg.kind) post
        ∧ (∀ m a, t = .start m a ∨ t = .startend m a → noPre (tagStack [] pre) = true →
            ∃ x, renderToksY (styleOf cfg.kind) pre = x ++ '\n' :: rep (tagStack [] pre).length cfg.indent)
        ∧ (∀ m, t = .end_ m → (tagStack [] pre).head? = some m ∧
            (isPre m = false → noPre (tagStack [] pre).tail = true →
              ∃ x, renderToksY (styleOf cfg.kind) pre = x ++ '\n' :: rep ((tagStack [] pre).length - 1) cfg.indent)) :=
  pretty_text_layout_tokens cfg hm hi n st sc kids hs hnw _ (noWrapperStart_strictToks dt _ hs hnw) _
    (plain_feed_strictToks dt hdt n st sc kids hs) rfl hdt

/-- … and so does the output of the second pass (the formatter fed the tokens the lexer reads from pass 1's output) —
    hence, with `pretty_text_stable`, of every later pass. -/
theorem pretty_text_layout_second_pass (cfg : Cfg) (hm : cfg.mini = false) (hi : IndentWS cfg) (dt : Option Str)
    (hdt : DtOK dt) (n : Str) (st : AStore) (sc : Bool) (kids : List FNode)
    (hs : (FNode.elem n st sc kids).Strict) (hnw : (FNode.elem n st sc kids).NoWrapper) :
    ∃ out1 toks2 out2 toks3, format cfg (strictToks dt (.elem n st sc kids)) = .ok out1 ∧ lexStrict out1 = some toks2 ∧
      format cfg (toks2.map Tok.ofToken) = .ok out2 ∧ lexStrict out2 = some toks3 ∧ tagStack [] toks3 = [] ∧
      ∀ pre t post, toks3 = pre ++ t :: post →
        out2 = renderToksY (styleOf cfg.kind) pre ++ renderTokY (styleOf cfg.kind) t
                ++ renderToksY (styleOf cfg.kind) post
        ∧ (∀ m a, t = .start m a ∨ t = .startend m a → noPre (tagStack [] pre) = true →
            ∃ x, renderToksY (styleOf cfg.kind) pre = x ++ '\n' :: rep (tagStack [] pre).length cfg.indent)
        ∧ (∀ m, t = .end_ m → (tagStack [] pre).head? = some m ∧
            (isPre m = false → noPre (tagStack [] pre).tail = true →
              ∃ x, renderToksY (styleOf cfg.kind) pre = x ++ '\n' :: rep ((tagStack [] pre).length - 1) cfg.indent)) := by
  obtain ⟨f1, l1, w1, p1, s1, n1⟩ := pass_step cfg hi dt hdt n st sc kids hs hnw _
    (noWrapperStart_strictToks dt _ hs hnw) (plain_feed_strictToks dt hdt n st sc kids hs)
  obtain ⟨out2, toks3, g1, g2, g3, g4⟩ := pretty_text_layout_tokens cfg hm hi n st sc _ s1 n1 _ w1 _ p1 rfl hdt
  exact ⟨_, _, out2, toks3, f1, l1, g1, g2, g3, g4⟩

/-- **The hypothesis `NoWrapper` is needed for the layout law** (the property excludes the reserved name): in the strict
    document `<div><xxxblank><p></p></xxxblank></div>` the element carrying the wrapper's name does not count as a level,
    so `<p >` — two elements open — is written after one unit instead of two. -/
theorem layout_needs_no_reserved_name :
    okIs (format (mkCfg .pretty (.str (str "  ")) false)
      (strictToks none (.elem (str "div") {} false [.elem (str "xxxblank") {} false [.elem (str "p") {} false []]])))
      "\n<div >\n  <xxxblank >\n  <p >\n  </p>\n  </xxxblank>\n</div>" = true
    ∧ (FNode.elem (str "div") {} false [.elem (str "xxxblank") {} false [.elem (str "p") {} false []]]).Strict := by
  refine ⟨by unfold okIs; char_lits; decide +kernel, ?_⟩
  simp only [FNode.Strict, StrictL]
  decide +kernel

/-- "ends with a line break and `d` copies of the unit", read as a statement about the line the tag is on: when the unit
    has no line break (`IndentWS`), the text between the last line break of `before` and the tag is exactly `d` copies
    of the unit, and there is such a line break. -/
theorem layout_reads_as_line (cfg : Cfg) (hi : IndentWS cfg) (d : Nat) (before x : Str)
    (h : before = x ++ '\n' :: rep d cfg.indent) : lastLine before = rep d cfg.indent ∧ '\n' ∈ before := by
  apply lastLine_indText cfg.indent _ d before ⟨x, h.symm⟩
  intro c hc
  rcases hi c hc with rfl | rfl <;> decide

/-! #### the text-level statements for MULTI-ROOT documents (the invisible wrapper) -/

/-- **C12d on text, multi-root: pretty³ = pretty².**  As `pretty_text_stable`, for a strict multi-root document: `kids`
    are the top-level blocks (text, references, comments, elements — `topScan false kids = none` says a first parser pass
    rejects them, so the parser wraps them in the invisible root), `strictToksM dt kids` their tokens after the doctype
    declaration.  `getHTML` prints the doctype line, a line break and the blocks; on re-parsing that line break is text
    of the wrapper, and the next pass strips it again (`squeeze_dtText`) — which is why the proof goes through. -/
theorem pretty_text_stable_multi (cfg : Cfg) (hm : cfg.mini = false) (hi : IndentWS cfg) (dt : Option Str)
    (hdt : DtOK dt) (kids : List FNode) (hs : StrictL kids) (hnw : NoWrapperL kids)
    (hmulti : topScan false kids = none) :
    ∃ out1 toks2 out2 toks3 out3,
      format cfg (strictToksM dt kids) = .ok out1 ∧ lexStrict out1 = some toks2 ∧
      format cfg (toks2.map Tok.ofToken) = .ok out2 ∧ lexStrict out2 = some toks3 ∧
      format cfg (toks3.map Tok.ofToken) = .ok out3 ∧ out3 = out2 := by
  obtain ⟨out1, toks2, out2, toks3, h1, h2, h3, h4, h5⟩ :=
    pretty_text_stable_multi_core cfg hm hi dt hdt kids hs hnw hmulti
  exact ⟨out1, toks2, out2, toks3, out2, h1, h2, h3, h4, h5, rfl⟩

theorem pretty_text_stable_tokens_multi (cfg : Cfg) (hm : cfg.mini = false) (hi : IndentWS cfg)
    (kids : List FNode) (hs : StrictL kids) (hnw : NoWrapperL kids) (hmulti : topScan false kids = none)
    (toks : List Tok) (hnws : NoWrapperStart toks) (ps : St) (hp : Plain.feed toks = .ok ps)
    (hroot : ps.root = some (FNode.elem wrapper {} false kids).toNode) (hdt : DtOK ps.doctype) :
    ∃ out1 toks2 out2 toks3 out3, format cfg toks = .ok out1 ∧ lexStrict out1 = some toks2 ∧
      format cfg (toks2.map Tok.ofToken) = .ok out2 ∧ lexStrict out2 = some toks3 ∧
      format cfg (toks3.map Tok.ofToken) = .ok out3 ∧ out3 = out2 := by
  obtain ⟨out1, toks2, out2, toks3, h1, h2, h3, h4, h5⟩ :=
    pretty_text_stable_multi_core_open cfg hm hi kids hs hnw hmulti toks hnws ps hp hroot hdt
  exact ⟨out1, toks2, out2, toks3, out2, h1, h2, h3, h4, h5, rfl⟩

/-- **C12a on the output text, multi-root.**  As `pretty_text_layout_tokens`, for any token sequence whose plain-parser
    tree is the invisible wrapper around the strict top-level blocks `kids`: the output lexes, the tags are balanced, and
    at every position the layout law holds with depth recomputed from the tokens alone — top-level elements at depth 0
    (preceded by a line break and nothing else), the wrapper does not count. -/
theorem pretty_text_layout_multi (cfg : Cfg) (hm : cfg.mini = false) (hi : IndentWS cfg)
    (kids : List FNode) (hs : StrictL kids) (hnw : NoWrapperL kids) (hmulti : topScan false kids = none)
    (toks : List Tok) (hnws : NoWrapperStart toks) (ps : St)
    (hp : Plain.feed toks = .ok ps) (hroot : ps.root = some (FNode.elem wrapper {} false kids).toNode)
    (hdt : DtOK ps.doctype) :
    ∃ out toks2, format cfg toks = .ok out ∧ lexStrict out = some toks2 ∧ tagStack [] toks2 = [] ∧
      ∀ pre t post, toks2 = pre ++ t :: post →
        out = renderToksY (styleOf cfg.kind) pre ++ renderTokY (styleOf cfg.kind) t
                ++ renderToksY (styleOf cfg.kind) post
        ∧ (∀ m a, t = .start m a ∨ t = .startend m a → noPre (tagStack [] pre) = true →
            ∃ x, renderToksY (styleOf cfg.kind) pre = x ++ '\n' :: rep (tagStack [] pre).length cfg.indent)
        ∧ (∀ m, t = .end_ m → (tagStack [] pre).head? = some m ∧
            (isPre m = false → noPre (tagStack [] pre).tail = true →
              ∃ x, renderToksY (styleOf cfg.kind) pre = x ++ '\n' :: rep ((tagStack [] pre).length - 1) cfg.indent)) := by
  obtain ⟨out, toks2, h1, h2, h3, h4⟩ :=
    pretty_layout_core_multi cfg hm hi ps.doctype hdt kids hs hnw hmulti toks hnws ps hp hroot rfl
  exact ⟨out, toks2, h1, h2, scan_balanced _ _ _ _ _ h4, scan_positions cfg out toks2 h3 h4⟩

/-- … and so does the output of the second pass (hence, with `pretty_text_stable_multi`, of every later pass) -/
theorem pretty_text_layout_multi_second_pass (cfg : Cfg) (hm : cfg.mini = false) (hi : IndentWS cfg) (dt : Option Str)
    (hdt : DtOK dt) (kids : List FNode) (hs : StrictL kids) (hnw : NoWrapperL kids)
    (hmulti : topScan false kids = none) :
    ∃ out1 toks2 out2 toks3, format cfg (strictToksM dt kids) = .ok out1 ∧ lexStrict out1 = some toks2 ∧
      format cfg (toks2.map Tok.ofToken) = .ok out2 ∧ lexStrict out2 = some toks3 ∧ tagStack [] toks3 = [] ∧
      ∀ pre t post, toks3 = pre ++ t :: post →
        out2 = renderToksY (styleOf cfg.kind) pre ++ renderTokY (styleOf cfg.kind) t
                ++ renderToksY (styleOf cfg.kind) post
        ∧ (∀ m a, t = .start m a ∨ t = .startend m a → noPre (tagStack [] pre) = true →
            ∃ x, renderToksY (styleOf cfg.kind) pre = x ++ '\n' :: rep (tagStack [] pre).length cfg.indent)
        ∧ (∀ m, t = .end_ m → (tagStack [] pre).head? = some m ∧
            (isPre m = false → noPre (tagStack [] pre).tail = true →
              ∃ x, renderToksY (styleOf cfg.kind) pre = x ++ '\n' :: rep ((tagStack [] pre).length - 1) cfg.indent)) := by
  obtain ⟨f1, l1, w1, p1, s1, n1, m1⟩ := pass_step_multi cfg hi dt hdt kids hs hnw hmulti _
    (noWrapperStart_toksM dt kids hs hnw) _ (plain_feed_strictToksM dt hdt kids hs hmulti) rfl rfl
  obtain ⟨out2, toks3, g1, g2, g3, g4⟩ := pretty_text_layout_multi cfg hm hi _ s1 n1 m1 _ w1 _ p1 rfl hdt
  exact ⟨_, _, out2, toks3, f1, l1, g1, g2, g3, g4⟩

/-- **mini² = mini on text, multi-root** (mini classes, strict multi-root document without adjacent data blocks) -/
theorem mini_output_fixed_point_text_multi (cfg : Cfg) (hm : cfg.mini = true) (hi : IndentWS cfg) (dt : Option Str)
    (hdt : DtOK dt) (kids : List FNode) (hs : StrictL kids) (hg : GluedL kids) (ha : FNoAdjL kids)
    (hnw : NoWrapperL kids) (hmulti : topScan false kids = none) :
    ∃ out toks2, format cfg (strictToksM dt kids) = .ok out ∧ lexStrict out = some toks2 ∧
      format cfg (toks2.map Tok.ofToken) = .ok out :=
  mini_text_fixed_point_multi cfg hm hi dt hdt kids hs hg ha hnw hmulti

/-!
  #### What is partial

  * The text-level theorems (`mini_output_fixed_point_text`, `pretty_text_stable`, `pretty_text_layout…`, and their
    `…_multi` counterparts for multi-root documents) are stated for the strict sub-language the lexer bridge of C11
    covers: documents whose plain-parser tree is `FNode.Strict` (well-formed names and attribute items, text blocks that
    are data runs / references / comments other than the singletons `<` `&`, raw-text content free of its closing
    expression, attribute stores re-read unchanged), doctype absent or a `doctype …` declaration, reserved name absent,
    indent unit of spaces/tabs.  The layout statements `pretty_text_layout_tokens` / `pretty_text_layout_multi` take ANY
    token sequence whose tree is of that kind — implicit closes and elements left open at the end of the input included;
    the three-pass statements come for the tokens of the tree (`strictToks`, `strictToksM`) and, as
    `pretty_text_stable_tokens(_multi)`, for any token sequence with such a tree.  Token sequences whose
    tree is not strict (data singletons, ill-formed names, …) are covered by the tree-level statements above
    (`indentation_law`, `reformat_tree_fixed_point`) and by the tie: passes 1–3 of every case run through model and
    library, the oracles check the layout on passes 1 and 2, `pass 3 = pass 2` and `mini² = mini` on the real code.
  * `mini² = mini` needs `Glued` (no two adjacent data blocks) — without it: the known finding below.
-/

/-- Known finding `C12-mini-dropped-markup`, the instance: two data pieces that are adjacent in the *output* because the
    markup between them was dropped (stray end tag, PI) are squeezed separately; together they are not a fixed point.
    (`'<div> </zzz> b</div>'` → `<div >  b</div>` → `<div > b</div>`: the blank first piece becomes the leading white
    space of the merged piece.) -/
theorem mini_dropped_markup_counterexample :
    squeeze (squeeze (str " ") ++ squeeze (str " b")) ≠ squeeze (str " ") ++ squeeze (str " b") := by decide

/-- Why the hypothesis `NoWrapperStart`: an element that carries the reserved wrapper name in the *input* is not counted
    when opened but is counted when closed implicitly, so what follows is indented one level too little (`<u>` below
    `<div>` at column 0).  The property excludes the reserved name (DESIGN §5 C11). -/
theorem reserved_name_breaks_the_law :
    okIs (format (mkCfg .pretty (.str (str "  ")) false)
      [.start (str "div") [], .start (str "b") [], .start (str "xxxblank") [], .end_ (str "b"), .start (str "u") []])
      "\n<div >\n  <b >\n    <xxxblank >\n    </xxxblank>\n  </b>\n<u >\n</u>\n</div>" = true := by
  unfold okIs; char_lits; decide +kernel

/-! #### non-vacuity -/

def sampleToks : List Tok :=
  [.start (str "ul") [], .start (str "li") [], .data (str "a"), .start (str "li") [], .data (str "b\n"),
   .startend (str "pre") [], .start (str "br") [], .end_ (str "ul"), .data (str "\n")]

example : NoWrapperStart sampleToks := by decide +kernel
/-- implicit closes (`li`, `li`) are dedented, the self-closed `pre` does not switch indentation off -/
example : okIs (format (mkCfg .pretty (.str (str "  ")) false) sampleToks)
    "\n<ul >\n  <li >a\n    <li >b\n      <pre />\n      <br />\n    </li>\n  </li>\n</ul>" = true := by
  unfold okIs; char_lits; decide +kernel
example : okIs (format (mkCfg .slim (.str (str "  ")) true) sampleToks)
    "\n<ul>\n  <li>a\n    <li>b\n      <pre/>\n      <br/>\n    </li>\n  </li>\n</ul>" = true := by
  unfold okIs; char_lits; decide +kernel
example : okIs (format (mkCfg .mini .dflt false) sampleToks) "<ul ><li >a<li >b<pre /><br /></li></li></ul>" = true := by
  unfold okIs; char_lits; decide +kernel

/-! #### non-vacuity of the text-level theorems -/

/-- a document with two *adjacent* data blocks (not `Glued`), nested elements, a void element, a `pre` with a nested
    element, a reference and a `script` -/
def stableTree : FNode :=
  .elem (str "div") {} false
    [.tok (.data (str "a")), .tok (.data (str " b\n")),
     .elem (str "p") {} false [.tok (.data (str "x")), .elem (str "br") {} true []],
     .elem (str "pre") {} false [.elem (str "span") {} false [.tok (.data (str "  y  "))]],
     .tok (.entity (str "amp")),
     .elem (str "script") {} false [.tok (.data (str "if (a < b) { s = 1; }"))]]

set_option synthInstance.maxSize 1024 in
theorem stableTree_strict : stableTree.Strict := by simp only [stableTree, FNode.Strict, StrictL]; decide +kernel
theorem stableTree_noWrapper : stableTree.NoWrapper := by
  simp only [stableTree, FNode.NoWrapper, NoWrapperL]; decide +kernel
private theorem dtOK_DOCTYPE_html : DtOK (some (str "DOCTYPE html")) := by decide +kernel
private theorem dtOK_doctype_html : DtOK (some (str "doctype html")) := by decide +kernel
example : ¬ stableTree.Glued := by simp only [stableTree, FNode.Glued, GluedL, FNoAdjL, fisDataTok]; decide +kernel

/-- `pretty_text_stable` applies to it (slim class, tab indent, with a doctype) … -/
example : ∃ out1 toks2 out2 toks3 out3,
    format (mkCfg .slim (.str (str "\t")) true) (strictToks (some (str "DOCTYPE html")) stableTree) = .ok out1 ∧
    lexStrict out1 = some toks2 ∧ format (mkCfg .slim (.str (str "\t")) true) (toks2.map Tok.ofToken) = .ok out2 ∧
    lexStrict out2 = some toks3 ∧ format (mkCfg .slim (.str (str "\t")) true) (toks3.map Tok.ofToken) = .ok out3 ∧
    out3 = out2 :=
  pretty_text_stable (mkCfg .slim (.str (str "\t")) true) rfl (by decide +kernel) _ dtOK_DOCTYPE_html _ _ _ _
    stableTree_strict stableTree_noWrapper

/-- … and so does `pretty_text_layout` (pretty class, default indent) -/
example : ∃ out toks2, format (mkCfg .pretty .dflt false) (strictToks none stableTree) = .ok out ∧
    lexStrict out = some toks2 ∧ tagStack [] toks2 = [] :=
  let ⟨out, toks2, h1, h2, h3, _⟩ := pretty_text_layout (mkCfg .pretty .dflt false) rfl (by decide +kernel) none trivial
    _ _ _ _ stableTree_strict stableTree_noWrapper
  ⟨out, toks2, h1, h2, h3⟩

/-- a token sequence with an implicit close (`<li>` closed by `</ul>`) that **ends with two elements still open** -/
def openTailToks : List Tok :=
  [.start (str "div") [], .start (str "ul") [], .start (str "li") [], .data (str "a"), .end_ (str "ul"),
   .start (str "p") [], .data (str "b")]

def openTailTree : FNode :=
  .elem (str "div") {} false
    [.elem (str "ul") {} false [.elem (str "li") {} false [.tok (.data (str "a"))]],
     .elem (str "p") {} false [.tok (.data (str "b"))]]

private theorem openTail_feed : ∃ ps, Plain.feed openTailToks = .ok ps ∧ ps.stack.length = 2
    ∧ ps.root = some openTailTree.toNode ∧ ps.doctype = none := by
  refine ⟨_, rfl, ?_, ?_, rfl⟩
  · decide +kernel
  · rfl
private theorem openTail_nws : NoWrapperStart openTailToks := by decide +kernel
private theorem openTail_strict : openTailTree.Strict := by simp only [openTailTree, FNode.Strict, StrictL]; decide +kernel
private theorem openTail_nw : openTailTree.NoWrapper := by
  simp only [openTailTree, FNode.NoWrapper, NoWrapperL]; decide +kernel

/-- `pretty_text_layout_tokens` applies to it: the final stack is not empty (`p`, `div` open) -/
example : ∃ ps, Plain.feed openTailToks = .ok ps ∧ ps.stack.length = 2 ∧ ps.root = some openTailTree.toNode :=
  let ⟨ps, h1, h2, h3, _⟩ := openTail_feed
  ⟨ps, h1, h2, h3⟩
example : ∃ out toks2, format (mkCfg .pretty .dflt false) openTailToks = .ok out ∧ lexStrict out = some toks2 ∧
    tagStack [] toks2 = [] :=
  let ⟨ps, hp, _, hr, hd⟩ := openTail_feed
  let ⟨out, toks2, h1, h2, h3, _⟩ := pretty_text_layout_tokens (mkCfg .pretty .dflt false) rfl (by decide +kernel)
    _ _ _ _ openTail_strict openTail_nw openTailToks openTail_nws ps hp hr (hd ▸ trivial)
  ⟨out, toks2, h1, h2, h3⟩
example : okIs (format (mkCfg .pretty .dflt false) openTailToks)
    "\n<div >\n  <ul >\n    <li >a\n    </li>\n  </ul>\n  <p >b\n  </p>\n</div>" = true := by
  unfold okIs; char_lits; decide +kernel
/-- a multi-root document: text, two elements (one nested), a reference, a void element, trailing line break -/
def multiKids : List FNode :=
  [.tok (.data (str "a ")), .elem (str "b") {} false [.tok (.data (str "x")), .elem (str "i") {} false []],
   .tok (.entity (str "amp")), .elem (str "br") {} true [], .elem (str "p") {} false [.tok (.data (str "y\n"))],
   .tok (.data (str "\n"))]

theorem multiKids_strict : StrictL multiKids := by simp only [multiKids, FNode.Strict, StrictL]; decide +kernel
theorem multiKids_noWrapper : NoWrapperL multiKids := by simp only [multiKids, FNode.NoWrapper, NoWrapperL]; decide +kernel
theorem multiKids_multi : topScan false multiKids = none := by decide +kernel

/-- `pretty_text_stable_multi` applies to it (with a doctype, tab indent) … -/
example : ∃ out1 toks2 out2 toks3 out3,
    format (mkCfg .pretty (.str (str "\t")) false) (strictToksM (some (str "doctype html")) multiKids) = .ok out1 ∧
    lexStrict out1 = some toks2 ∧ format (mkCfg .pretty (.str (str "\t")) false) (toks2.map Tok.ofToken) = .ok out2 ∧
    lexStrict out2 = some toks3 ∧ format (mkCfg .pretty (.str (str "\t")) false) (toks3.map Tok.ofToken) = .ok out3 ∧
    out3 = out2 :=
  pretty_text_stable_multi _ rfl (by decide +kernel) _ dtOK_doctype_html _ multiKids_strict multiKids_noWrapper
    multiKids_multi

/-- … and so does the layout law (slim class) -/
example : ∃ out1 toks2 out2 toks3, format (mkCfg .slim .dflt true) (strictToksM none multiKids) = .ok out1 ∧
    lexStrict out1 = some toks2 ∧ format (mkCfg .slim .dflt true) (toks2.map Tok.ofToken) = .ok out2 ∧
    lexStrict out2 = some toks3 ∧ tagStack [] toks3 = [] :=
  let ⟨o1, t2, o2, t3, h1, h2, h3, h4, h5, _⟩ := pretty_text_layout_multi_second_pass (mkCfg .slim .dflt true) rfl
    (by decide +kernel) none trivial _ multiKids_strict multiKids_noWrapper multiKids_multi
  ⟨o1, t2, o2, t3, h1, h2, h3, h4, h5⟩

/-- the text of pass 1 of the multi-root document -/
example : okIs (format (mkCfg .pretty (.str (str "\t")) false) (strictToksM (some (str "doctype html")) multiKids))
    "<!doctype html>\na \n<b >x\n\t<i >\n\t</i>\n</b>&amp;\n<br />\n<p >y\n</p>" = true := by
  unfold okIs; char_lits; decide +kernel
/-- `mini_output_fixed_point_text_multi` applies to it -/
example : ∃ out toks2, format (mkCfg .mini .dflt false) (strictToksM (some (str "doctype html")) multiKids) = .ok out ∧
    lexStrict out = some toks2 ∧ format (mkCfg .mini .dflt false) (toks2.map Tok.ofToken) = .ok out :=
  mini_output_fixed_point_text_multi _ rfl (by decide +kernel) _ dtOK_doctype_html _ multiKids_strict
    (by simp only [multiKids, FNode.Glued, GluedL, FNoAdjL, fisDataTok]; decide +kernel)
    (by simp only [multiKids, FNoAdjL, fisDataTok]; decide +kernel) multiKids_noWrapper multiKids_multi

/-- `mini_output_text_runs` applies to `stableTree` (adjacent data blocks `a`, ` b\n`; a `pre`; a `script`), slim-mini
    class, with a doctype -/
example : ∃ out body, format (mkCfg .slimMini .dflt true) (strictToks (some (str "DOCTYPE html")) stableTree) = .ok out ∧
    lexStrict out = some (dtToks (some (str "DOCTYPE html")) ++ glueDt (str "\n") body) ∧
    (∀ p ∈ textRuns body, miniCare p.1 = true → GoodText p.2) :=
  let ⟨out, body, h1, h2, _, h4⟩ := mini_output_text_runs (mkCfg .slimMini .dflt true) rfl (by decide +kernel) _
    (noWrapperStart_strictToks _ _ stableTree_strict stableTree_noWrapper) _
    (plain_feed_strictToks (some (str "DOCTYPE html")) dtOK_DOCTYPE_html _ _ _ _ stableTree_strict) _ _ _ _ rfl
    (by decide +kernel) stableTree_strict dtOK_DOCTYPE_html
  ⟨out, body, h1, h2, h4⟩

/-- the text and its runs: `a` and ` b\n` were squeezed separately and touch; the run inside `pre` keeps its blanks and
    the `script` content its text (`miniCare` false there) -/
example : okIs (format (mkCfg .mini .dflt false) (strictToks (some (str "DOCTYPE html")) stableTree))
    "<!DOCTYPE html>\n<div >a b<p >x<br /></p><pre ><span >  y  </span></pre>&amp;<script >if (a < b) { s = 1; }</script></div>"
    = true := by
  unfold okIs; char_lits; decide +kernel
example : (textRuns [Token.start (str "div") [], .data (str "a b"), .start (str "p") [], .data (str "x"),
      .startend (str "br") [], .end_ (str "p"), .start (str "pre") [], .start (str "span") [], .data (str "  y  "),
      .end_ (str "span"), .end_ (str "pre"), .entity (str "amp"), .start (str "script") [],
      .data (str "if (a < b) { s = 1; }"), .end_ (str "script"), .end_ (str "div")]).map (fun p => (miniCare p.1, p.2))
    = [(true, str "a b"), (true, str "x"), (false, str "  y  "), (true, str "&amp;"),
       (false, str "if (a < b) { s = 1; }")] := by decide +kernel

/-- `mini_output_text_runs` on the multi-root document -/
example : ∃ out body, format (mkCfg .mini .dflt false) (strictToksM (some (str "doctype html")) multiKids) = .ok out ∧
    lexStrict out = some (dtToks (some (str "doctype html")) ++ glueDt (str "\n") body) ∧
    (∀ p ∈ textRuns body, miniCare p.1 = true → GoodText p.2) :=
  let ⟨out, body, h1, h2, _, h4⟩ := mini_output_text_runs (mkCfg .mini .dflt false) rfl (by decide +kernel) _
    (noWrapperStart_toksM _ _ multiKids_strict multiKids_noWrapper) _
    (plain_feed_strictToksM (some (str "doctype html")) dtOK_doctype_html _ multiKids_strict multiKids_multi) _ _ _ _ rfl
    (fun _ => ⟨rfl, rfl, multiKids_multi⟩) (strict_wrapperElem _ multiKids_strict) dtOK_doctype_html
  ⟨out, body, h1, h2, h4⟩

/-- `pretty_text_stable_tokens` applies to `openTailToks` (implicit close, two elements left open) -/
example : ∃ out1 toks2 out2 toks3 out3, format (mkCfg .pretty .dflt false) openTailToks = .ok out1 ∧
    lexStrict out1 = some toks2 ∧ format (mkCfg .pretty .dflt false) (toks2.map Tok.ofToken) = .ok out2 ∧
    lexStrict out2 = some toks3 ∧ format (mkCfg .pretty .dflt false) (toks3.map Tok.ofToken) = .ok out3 ∧ out3 = out2 :=
  let ⟨ps, hp, _, hr, hd⟩ := openTail_feed
  pretty_text_stable_tokens (mkCfg .pretty .dflt false) rfl (by decide +kernel)
    _ _ _ _ openTail_strict openTail_nw openTailToks openTail_nws ps hp hr (hd ▸ trivial)
/-- a multi-root token sequence with an implicit close and an unclosed element: `a<ul><li>x</ul><p>y` -/
def multiOpenToks : List Tok :=
  [.data (str "a"), .start (str "ul") [], .start (str "li") [], .data (str "x"), .end_ (str "ul"), .start (str "p") [],
   .data (str "y")]
def multiOpenKids : List FNode :=
  [.tok (.data (str "a")), .elem (str "ul") {} false [.elem (str "li") {} false [.tok (.data (str "x"))]],
   .elem (str "p") {} false [.tok (.data (str "y"))]]
example : ∃ out1 toks2 out2 toks3 out3, format (mkCfg .pretty .dflt false) multiOpenToks = .ok out1 ∧
    lexStrict out1 = some toks2 ∧ format (mkCfg .pretty .dflt false) (toks2.map Tok.ofToken) = .ok out2 ∧
    lexStrict out2 = some toks3 ∧ format (mkCfg .pretty .dflt false) (toks3.map Tok.ofToken) = .ok out3 ∧ out3 = out2 :=
  pretty_text_stable_tokens_multi (mkCfg .pretty .dflt false) rfl (by decide +kernel) multiOpenKids
    (by simp only [multiOpenKids, FNode.Strict, StrictL]; decide +kernel)
    (by simp only [multiOpenKids, FNode.NoWrapper, NoWrapperL]; decide +kernel) (by decide +kernel) multiOpenToks
    (by decide +kernel) _ rfl
    (show _ = some (FNode.elem wrapper {} false multiOpenKids).toNode from rfl) trivial
example : okIs (format (mkCfg .pretty .dflt false) multiOpenToks)
    "a\n<ul >\n  <li >x\n  </li>\n</ul>\n<p >y\n</p>" = true := by
  unfold okIs; char_lits; decide +kernel

/-- the text of pass 1 (what the model's formatter computes) -/
example : okIs (format (mkCfg .pretty .dflt false) (strictToks (some (str "DOCTYPE html")) stableTree))
    ("<!DOCTYPE html>\n\n<div >a b\n  <p >x\n    <br />\n  </p>\n  <pre ><span >  y  </span></pre>&amp;\n" ++
     "  <script >if (a < b) { s = 1; }\n  </script>\n</div>") = true := by
  -- the expected text is two literals joined by `++`: `String.toList_append` first, then what `char_lits` does
  unfold okIs; rw [String.toList_append, String.toList_ofList, String.toList_ofList]; decide +kernel

/-- the law at one position of that text: the tokens before `<br />` leave `div`, `p` open (depth 2), and the text
    before it ends with a line break and 2 × 2 spaces -/
example : tagStack [] [Token.decl (str "DOCTYPE html"), .data (str "\n\n"), .start (str "div") [],
      .data (str "a b\n  "), .start (str "p") [], .data (str "x\n    ")] = [str "p", str "div"]
    ∧ renderToksY TagStyle.normal [Token.decl (str "DOCTYPE html"), .data (str "\n\n"), .start (str "div") [],
        .data (str "a b\n  "), .start (str "p") [], .data (str "x\n    ")]
      = str "<!DOCTYPE html>\n\n<div >a b\n  <p >x" ++ '\n' :: rep 2 (str "  ") := by decide +kernel

end AHP.C12
