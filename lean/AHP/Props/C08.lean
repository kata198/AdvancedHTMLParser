/-
  C08 — All views of an element's attributes agree after any sequence of attribute edits.

  Property theorems only (two lookups about the views, `items_ordinary` and `readBack_lookup`, stand where C08d needs them).
  Model: AHP/Model/Attrs.lean (executed by the native driver); lemmas: AHP/Lemmas/Attrs*.lean, and for the string level and
  the token model AHP/Lemmas/AttrStores*.lean through Props/AttrStores.lean.

  `viewList e` = `getAttributesList()` = the association list the dict shows after the lazy synchronisation.
  C08a says: every other view — computed by the model function of *its own* read path, with its own
  synchronisation calls — is a projection of `viewList e`, in the same order.  C08b: the invariant over all
  histories.  C08c: invalid names.  C08d: the rendered start tag read back.  C08e: copies.
  C08f (`write_read_*`, `write_frame*`, `write_list_*`): what the WRITERS do to that mapping — the written key reads
  back the written value through every reader, every other key reads what it read before (for every operation of
  the store: `write_frame`), and the list changes as a Python dict does (an existing key keeps its place, a new key
  goes last).  Without them C08a–e would hold of a store whose writers do nothing.
  `T : Tables` (constants.py) is universally quantified.  "Ordinary key" = neither `class` nor `style`
  (C09 / C10 treat those) and not a boolean-*string* attribute (`spellcheck`, whose value is normalised to
  "true"/"false" by the store).
-/
import AHP.Lemmas.AttrsCreate
import AHP.Lemmas.AttrsLex
import AHP.Props.AttrStores
namespace AHP.C08
open AHP AHP.Attrs
/- Name resolution: this file also imports the token model (for `lexStrict`, C08d at string level), whose namespace
   `AHP` encloses this one, so `AHP.escQ`, `AHP.boolString`, `AHP.styleToDict`, `AHP.startTag`, `AHP.isAlpha` … would win over
   the opened `AHP.Attrs.*`.  Every such name is written qualified (`Attrs.boolString`, `Attrs.escQ`, `Attrs.startTag`). -/

def Reach (T : Tables) (e : El) : Prop :=
  ∃ tag sc attrs ops, e = run T (mk T tag sc attrs) ops

/-- an ordinary key, in any spelling (every field lower-cases it) -/
structure Ordinary (T : Tables) (k : Str) : Prop where
  notClass : lower k ≠ classK
  notStyle : lower k ≠ styleK
  notBinStr : T.binStr.contains (lower k) = false

/-! ### C08b — the invariant over all histories -/

theorem reach_inv {T : Tables} {e : El} (h : Reach T e) : DictInv e := by
  obtain ⟨tag, sc, attrs, ops, rfl⟩ := h
  exact dictInv_run T ops (dictInv_mk T tag sc attrs)

theorem inv_step (T : Tables) (op : Op) {e : El} (h : DictInv e) : DictInv (step T e op).2 := dictInv_step T op h

/-- C08b: in every reachable state the names every view lists are pairwise distinct, valid and lower-case. -/
theorem stored_names {T : Tables} {e : El} (h : Reach T e) :
    (akeys (viewList e)).Nodup ∧ ∀ k ∈ akeys (viewList e), validName k = true ∧ lower k = k := by
  have hg := goodKeys_of_sync (reach_inv h) (akeys_viewList e)
  refine ⟨hg.1, fun k hk => ?_⟩
  obtain ⟨p, hp, rfl⟩ := List.mem_map.mp hk
  exact hg.2 p hp

/-- C08b: in every reachable state the stored values are normalised: what is kept under a boolean-string key
    (`spellcheck`) is `convertToBooleanString` of itself (invariant `BinStrInv` per operation, induction over
    histories) -/
theorem reach_normalised {T : Tables} {e : El} (h : Reach T e) : BinStrInv T e := by
  obtain ⟨tag, sc, attrs, ops, rfl⟩ := h
  exact binStrInv_run T ops (binStrInv_mk T tag sc attrs)

/-- C08b: names are matched case-insensitively: every accessor lower-cases the key first (writers and readers) -/
theorem case_insensitive (T : Tables) (k : Str) (v : Option Str) (d : PyVal) (e : El) :
    mapSet T (lower k) v e = mapSet T k v e ∧ mapDel (lower k) e = mapDel k e ∧
    contains (lower k) e = contains k e ∧ getitem T (lower k) e = getitem T k e ∧
    mapGet T (lower k) d e = mapGet T k d e ∧ hasAttribute (lower k) e = hasAttribute k e ∧
    removeAttribute (lower k) e = removeAttribute k e := by
  refine ⟨?_, ?_, ?_, ?_, ?_, ?_, ?_⟩
  · unfold mapSet; rw [lower_idem]
  · unfold mapDel; rw [lower_idem]
  · unfold contains; rw [lower_idem]
  · unfold getitem; rw [lower_idem]
  · unfold mapGet; rw [lower_idem]
  · unfold hasAttribute; rw [lower_idem]
  · unfold removeAttribute; rw [lower_idem]

/-! ### C08c — an invalid name is rejected with KeyError and changes nothing -/

theorem invalid_setAttribute (T : Tables) {k : Str} (h : validName k = false) (v : Option Str) (e : El) :
    setAttribute T k v e = (.keyError, e) := setAttribute_invalid T h v e

theorem invalid_mapSet (T : Tables) {k : Str} (h : validName k = false) (v : Option Str) (e : El) :
    mapSet T k v e = (.keyError, e) := mapSet_invalid T h v e

theorem invalid_mapDel {T : Tables} {k : Str} (h : validName k = false) {e : El} (hr : Reach T e) :
    mapDel k e = e ∧ removeAttribute k e = e := by
  refine ⟨mapDel_invalid h (reach_inv hr), ?_⟩
  unfold removeAttribute
  exact mapDel_invalid (by rw [validName_lower]; exact h) (reach_inv hr)

/-- `setAttributes`: the first invalid name raises; the names before it were set, it and the rest change nothing -/
theorem invalid_setAttributes (T : Tables) : ∀ (l1 : List (Str × Option Str)) {k : Str} (v : Option Str)
    (l2 : List (Str × Option Str)) (e : El), (∀ p ∈ l1, validName p.1 = true) → validName k = false →
    setAttributes T (l1 ++ (k, v) :: l2) e = (.keyError, (setAttributes T l1 e).2)
  | [], k, v, l2, e, _, hk => by
    simp only [List.nil_append, setAttributes]
    rw [setAttribute_invalid T hk]
  | (n, w) :: l1, k, v, l2, e, h1, hk => by
    have hn := h1 (n, w) (by simp)
    rw [List.cons_append, setAttributes_cons_valid T hn, setAttributes_cons_valid T hn]
    exact invalid_setAttributes T l1 v l2 _ (fun p hp => h1 p (List.mem_cons_of_mem _ hp)) hk

theorem valid_accepted (T : Tables) {k : Str} (h : validName k = true) (v : Option Str) (e : El) :
    (setAttribute T k v e).1 = .ok := setAttribute_valid T h v e

/-! ### C08a — every view is a projection of the one list, in one order -/

/-- `attributes.items()` -/
theorem items_proj (e : El) : (items e).1.map (fun p => (p.1, p.2.tostrOpt)) = viewList e := rfl

/-- `attributes.keys()`, iteration -/
theorem keys_proj (e : El) : (keys e).1 = akeys (viewList e) := by
  rw [keys_fst, akeys_viewList]

/-- the DOM node map lists the same names in the same order -/
theorem domKeys_proj {e : El} (h : DictInv e) : (domKeys e).1 = akeys (viewList e) := by
  unfold domKeys
  simp only
  rw [keys_proj]
  apply List.filter_eq_self.mpr
  intro k hk
  have hi := dictInv_handleClassAttr h
  show contains k (handleClassAttr e) = true
  rw [contains_eq_viewList hi]
  have hl : lower k = k := by
    rw [akeys_viewList] at hk
    obtain ⟨p, hp, rfl⟩ := List.mem_map.mp hk
    exact (hi.slots p hp).2.1
  rw [hl, aget_viewList_sync]
  exact ahas_iff_mem.mpr hk

/-- the rendered start tag lists the names of the one list, in the same order -/
theorem startTag_names (T : Tables) (e : El) : (startTagItems T e).1.map RItem.name = akeys (viewList e) := by
  rw [startTagItems_fst, List.map_map, akeys_viewList, ← akeys_items]
  unfold akeys
  apply List.map_congr_left
  intro p _
  exact renderItem_name T p

/-- the attribute list read back from the rendered start tag lists the names of the one list, in the same order -/
theorem readBack_names (T : Tables) (e : El) : akeys (readBack (startTagItems T e).1) = akeys (viewList e) := by
  rw [akeys_readBack, akeys_viewList]

/-- `in`, for every key (class and style included) -/
theorem contains_proj {e : El} (h : DictInv e) (k : Str) : contains k e = (aget (lower k) (viewList e)).isSome :=
  contains_eq_viewList h k

/-- `hasAttribute` -/
theorem hasAttribute_proj {e : El} (h : DictInv e) (k : Str) : hasAttribute k e = (aget (lower k) (viewList e)).isSome := by
  unfold hasAttribute
  rw [contains_eq_viewList h, lower_idem]

/-- `attributes[k]` -/
theorem getitem_proj (T : Tables) {e : El} (h : DictInv e) {k : Str} (ho : Ordinary T k) :
    getitem T k e = pyOfOpt ((aget (lower k) (viewList e)).join) :=
  getitem_of_not_binStr T h ho.notClass ho.notStyle ho.notBinStr

/-- `attributes.get(k, default)` -/
theorem mapGet_proj (T : Tables) {e : El} (h : DictInv e) {k : Str} (ho : Ordinary T k) (d : PyVal) :
    (mapGet T k d e).1 = match aget (lower k) (viewList e) with
      | none => d
      | some v => pyOfOpt v :=
  mapGet_of_not_binStr T h ho.notClass ho.notStyle ho.notBinStr d

/-- `getAttribute(k, default)` for a name that is not a boolean attribute -/
theorem getAttribute_proj (T : Tables) {e : El} (h : DictInv e) {k : Str} (ho : Ordinary T k)
    (hb : T.binary.contains k = false) (d : PyVal) :
    (getAttribute T k d e).1 = match aget (lower k) (viewList e) with
      | none => d
      | some v => pyOfOpt v := by
  unfold getAttribute
  rw [hb]
  exact mapGet_proj T h ho d

/-- `getAttribute(k)` for a boolean attribute: False when absent, True when present without a (non-empty) value -/
theorem getAttribute_boolean (T : Tables) {e : El} (h : DictInv e) {k : Str} (ho : Ordinary T k)
    (hb : T.binary.contains k = true) (d : PyVal) :
    (getAttribute T k d e).1 = match aget (lower k) (viewList e) with
      | none => .bool false
      | some v => if (pyOfOpt v).falsy then .bool true else pyOfOpt v := by
  unfold getAttribute
  rw [hb]
  simp only [if_true]
  rw [contains_proj h, getitem_proj T h ho]
  rcases aget (lower k) (viewList e) with _ | v
  · rfl
  · cases v <;> rfl

/-- the DOM node under a name: its name is the stored (lower-case) one, its value the listed one -/
theorem domItem_proj (T : Tables) {e : El} (h : DictInv e) {k : Str} (ho : Ordinary T k) :
    domItem T k e = (aget (lower k) (viewList e)).map (fun v => (lower k, pyOfOpt v)) := by
  rw [domItem_eq T h, getitem_proj T h ho]
  rcases aget (lower k) (viewList e) with _ | v
  · rfl
  · cases v <;> rfl

private theorem readers_listed (T : Tables) {e : El} (h : DictInv e) {k : Str} (ho : Ordinary T k) (d : PyVal) :
    getitem T k e = pyOfOpt (aget (lower k) (viewList e)).join ∧
    (mapGet T k d e).1 = (match aget (lower k) (viewList e) with | none => d | some v => pyOfOpt v) ∧
    hasAttribute k e = (aget (lower k) (viewList e)).isSome ∧ contains k e = (aget (lower k) (viewList e)).isSome ∧
    domItem T k e = (aget (lower k) (viewList e)).map (fun v => (lower k, pyOfOpt v)) ∧
    (getAttribute T k d e).1 = (if T.binary.contains k then
      (match aget (lower k) (viewList e) with
       | none => .bool false
       | some v => if (pyOfOpt v).falsy then .bool true else pyOfOpt v)
      else (match aget (lower k) (viewList e) with | none => d | some v => pyOfOpt v)) := by
  refine ⟨getitem_proj T h ho, mapGet_proj T h ho d, hasAttribute_proj h k, contains_proj h k, domItem_proj T h ho, ?_⟩
  cases hb : T.binary.contains k with
  | true => exact getAttribute_boolean T h ho hb d
  | false => exact getAttribute_proj T h ho hb d

/-- dot access of a linked name without a special rule: the listed value of its html attribute, else the default
    (`''`, or `None` for event attributes) -/
theorem dotGet_plain (T : Tables) {e : El} (h : DictInv e) {n : Str} {L : Link} (hn : n ≠ classNameK)
    (hl : aget n T.links = some L) (hs : L.special = false) (hbs : L.binStr = false) (hb : L.bin = false)
    (ho : Ordinary T L.attr) (hnb : T.binary.contains L.attr = false) :
    (dotGet T n e).1 = some (match aget (lower L.attr) (viewList e) with
      | none => if L.event then .none else .str []
      | some v => pyOfOpt v) := by
  unfold dotGet
  simp only [hn, if_false, hl, hs, hbs, hb, Bool.false_eq_true]
  congr 1
  exact getAttribute_proj T h ho hnb _

/-- dot access of a boolean linked name: True exactly when the attribute is listed -/
theorem dotGet_boolean (T : Tables) {e : El} (h : DictInv e) {n : Str} {L : Link} (hn : n ≠ classNameK)
    (hl : aget n T.links = some L) (hs : L.special = false) (hbs : L.binStr = false) (hb : L.bin = true)
    (ho : Ordinary T L.attr) (hnb : T.binary.contains L.attr = true) :
    (dotGet T n e).1 = some (.bool (aget (lower L.attr) (viewList e)).isSome) := by
  unfold dotGet
  simp only [hn, if_false, hl, hs, hbs, hb, Bool.false_eq_true, if_true]
  congr 2
  rw [getAttribute_boolean T h ho hnb]
  rcases aget (lower L.attr) (viewList e) with _ | _ | s
  · rfl
  · rfl
  · cases hs0 : s.isEmpty <;> simp [pyOfOpt, PyVal.falsy, hs0]

/-! ### C08d — the rendered start tag, read back -/

theorem items_ordinary {e : El} (h : DictInv e) {k : Str} (hc : k ≠ classK) (hs : k ≠ styleK) :
    aget k (items e).1 = (aget k (viewList e)).map pyOfOpt := by
  rw [viewList_ordinary h hc hs, aget_items, aget_other_sync e hc hs]
  unfold rawLookup
  rcases hg : aget k e.dict with _ | s
  · rfl
  · obtain ⟨v, rfl⟩ := slot_of_ordinary h hc hs hg
    cases v <;> rfl

theorem readBack_lookup (T : Tables) {e : El} (h : DictInv e) {k : Str} (hc : k ≠ classK) (hs : k ≠ styleK) :
    aget k (readBack (startTagItems T e).1) = (aget k (viewList e)).map (fun v => readBackVal T k (pyOfOpt v)) := by
  rw [aget_readBack, items_ordinary h hc hs]
  rcases aget k (viewList e) with _ | v <;> rfl

/-- a value-less attribute renders as a bare name and reads back value-less -/
theorem rendered_valueless (T : Tables) {e : El} (h : DictInv e) {k : Str} (hc : k ≠ classK) (hs : k ≠ styleK)
    (hv : aget k (viewList e) = some none) : aget k (readBack (startTagItems T e).1) = some none := by
  rw [readBack_lookup T h hc hs, hv]
  rfl

/-- a boolean attribute with an empty value renders as a bare name (and reads back present, without a value) -/
theorem rendered_boolean_empty (T : Tables) {e : El} (h : DictInv e) {k : Str} (hc : k ≠ classK) (hs : k ≠ styleK)
    (hb : T.binary.contains k = true) (hv : aget k (viewList e) = some (some [])) :
    aget k (readBack (startTagItems T e).1) = some none := by
  rw [readBack_lookup T h hc hs, hv]
  have hb' : k ∈ T.binary := List.contains_iff_mem.mp hb
  simp [readBackVal, renderItem, pyOfOpt, PyVal.falsy, hb']

theorem no_amp_is_valueOK {s : Str} (h : '&' ∉ s) : ValueOK s := AttrStores.valueOK_of_no_amp h

/-- the general form of `rendered_value` below: for every value the lexer reads back unchanged (`ValueOK`, the lexical side
    condition of C01) -/
theorem rendered_value_ok (T : Tables) {e : El} (h : DictInv e) {k : Str} (hc : k ≠ classK) (hs : k ≠ styleK) {s : Str}
    (hne : s ≠ [] ∨ T.binary.contains k = false) (hok : ValueOK s) (hv : aget k (viewList e) = some (some s)) :
    aget k (readBack (startTagItems T e).1) = some (some s) := by
  rw [readBack_lookup T h hc hs, hv]
  exact congrArg some ((readBackVal_str T k hne).trans (congrArg some (AttrStores.unescQ_escQ_ok hok)))

/-- every other value is rendered between quotes with `"` escaped and reads back unchanged -/
theorem rendered_value (T : Tables) {e : El} (h : DictInv e) {k : Str} (hc : k ≠ classK) (hs : k ≠ styleK) {s : Str}
    (hne : s ≠ [] ∨ T.binary.contains k = false) (hamp : '&' ∉ s) (hv : aget k (viewList e) = some (some s)) :
    aget k (readBack (startTagItems T e).1) = some (some s) :=
  rendered_value_ok T h hc hs hne (no_amp_is_valueOK hamp) hv

/-- C08d: the element obtained by re-parsing the start tag holds, under every ordinary key, what was read back -/
theorem reparse_lookup (T : Tables) {e : El} (h : DictInv e) {k : Str} (hc : k ≠ classK) (hs : k ≠ styleK)
    (hb : T.binStr.contains k = false) :
    aget k (viewList (reparse T e).1) = aget k (readBack (startTagItems T e).1) := by
  rw [reparse_lookup_norm T h hc hs]
  rcases aget k (readBack (startTagItems T e).1) with _ | v
  · rfl
  · exact congrArg some (normVal_of_not_binStr T hb v)

/-- C08d: "reads back as present": presence of every ordinary key survives the re-parse -/
theorem reparse_presence (T : Tables) {e : El} (h : DictInv e) {k : Str} (ho : Ordinary T k) :
    hasAttribute k (reparse T e).1 = hasAttribute k e := by
  have hi : DictInv (reparse T e).1 := dictInv_mk T _ _ _
  rw [hasAttribute_proj hi, hasAttribute_proj h, reparse_lookup T h ho.notClass ho.notStyle ho.notBinStr,
      readBack_lookup T h ho.notClass ho.notStyle]
  rcases aget (lower k) (viewList e) with _ | v <;> rfl

/-- C08d: a boolean attribute with an empty value reads back as present: `getAttribute` is `True` on the re-parsed element -/
theorem reparse_boolean_true (T : Tables) {e : El} (h : DictInv e) {k : Str} (ho : Ordinary T k) (hl : lower k = k)
    (hb : T.binary.contains k = true) (hv : aget k (viewList e) = some (some [])) (d : PyVal) :
    (getAttribute T k d (reparse T e).1).1 = .bool true := by
  have hi : DictInv (reparse T e).1 := dictInv_mk T _ _ _
  have hc : k ≠ classK := by rw [← hl]; exact ho.notClass
  have hs : k ≠ styleK := by rw [← hl]; exact ho.notStyle
  rw [getAttribute_boolean T hi ho hb, hl, reparse_lookup T h hc hs (by rw [← hl]; exact ho.notBinStr),
      rendered_boolean_empty T h hc hs hb hv]
  rfl

/-! ### C08d at STRING level — the rendered start tag through the tokenizer model

  `readBack` above works on the structured item list.  The theorem below ties it to the string: the strict lexer of C01
  (`lexStrict`, Model/Lexer.lean — compared with the real `html.parser` on every generated string by C01 / C02's
  correspondence) reads `getStartTag()` (+ the end tag the serialiser writes, none for a self-closing element) as one
  tag token whose attribute list is EXACTLY `readBack (startTagItems e)`.  Hypotheses: the tables handed to this model
  are the generated ones (`BinaryOK`, as in Props/AttrStores.lean), the tag name is a tag name (`TagNameOK`), and the
  lexical side condition of C01 on attribute values, `ValueOK` (every `&` is followed by a character that cannot start a
  reference), which `'&' ∉ s` implies (`no_amp_is_valueOK`). -/

theorem startTag_lexed (T : Tables) (hB : AttrStores.BinaryOK T) {e : El} (h : DictInv e) (htag : TagNameOK e.tag)
    (hv : ∀ p ∈ viewList e, ∀ s, p.2 = some s → ValueOK s) :
    lexStrict ((Attrs.startTag T e).1 ++ endTag e.tag e.sc) =
      some (if e.sc then [Token.startend e.tag (readBack (startTagItems T e).1)]
            else [Token.start e.tag (readBack (startTagItems T e).1), Token.end_ e.tag]) :=
  AttrStores.lexStrict_startTag hB h htag hv

/-- the same for the element a constructor / the parser builds from ANY raw attribute list: its start tag is also the
    start tag of the token model of C01–C03 (`startTag_eq_attrs`), and lexes to `readBack` of its items -/
theorem created_startTag_lexed (T : Tables) (hT : AttrStores.TablesOK T) (hB : AttrStores.BinaryOK T) (tag : Str) (sc : Bool)
    (l : List (Str × Option Str)) (htag : TagNameOK (lower tag))
    (hv : ∀ p ∈ viewList (mk T tag sc l), ∀ s, p.2 = some s → ValueOK s) :
    (Attrs.startTag T (mk T tag sc l)).1 = AHP.startTag (lower tag) (intake l AttrState.empty) sc ∧
    lexStrict ((Attrs.startTag T (mk T tag sc l)).1 ++ endTag (lower tag) sc) =
      some (if sc then [Token.startend (lower tag) (readBack (startTagItems T (mk T tag sc l)).1)]
            else [Token.start (lower tag) (readBack (startTagItems T (mk T tag sc l)).1), Token.end_ (lower tag)]) := by
  refine ⟨AttrStores.startTag_eq_attrs hT hB tag sc l, ?_⟩
  have ht : (mk T tag sc l).tag = lower tag := by rw [AttrStores.mk_eq_intake hT]; rfl
  have hs : (mk T tag sc l).sc = sc := by rw [AttrStores.mk_eq_intake hT]; rfl
  have := startTag_lexed T hB (dictInv_mk T tag sc l) (by rw [ht]; exact htag) hv
  rw [ht, hs] at this
  exact this

/-! ### C08e, per key — cloneNode, copy, repr, unpickling reproduce the mapping -/

/-- under every ordinary key the copy lists exactly the value of the original (`None` stays `None`) -/
theorem clone_lookup (T : Tables) {e : El} (h : DictInv e) {k : Str} (hc : k ≠ classK) (hs : k ≠ styleK)
    (hb : T.binStr.contains k = false) :
    aget k (viewList (clone T e).1) = aget k (viewList e) := by
  rw [clone_lookup_norm T h hc hs]
  rcases aget k (viewList e) with _ | v
  · rfl
  · exact congrArg some (normVal_of_not_binStr T hb v)

/-- taking the copy reads `getAttributesList()` of the original: it synchronises it and changes nothing else -/
theorem clone_reads_only (T : Tables) (e : El) : (clone T e).2 = handleClassAttr e := rfl

/-! ### C08e, list level — the list of a constructed element and of a copy, as LISTS (and, per key, for every raw list / every key) -/

/-- Creation: the list of `AdvancedTag(tag, l)` for valid, lower-case, pairwise distinct names, entry by entry:
    the entries of `l` in order — boolean-string values normalised, the style value re-rendered through the
    style object (an empty style dropped) — except that `class` is listed last (its key is only materialised
    by the first synchronising read). -/
theorem created_list (T : Tables) (tag : Str) (sc : Bool) (l : List (Str × Option Str)) (hg : GoodKeys l) :
    viewList (mk T tag sc l) = l.filterMap (mkView T) ++
      (match aget classK l with
       | some v => if (words (v.getD [])).isEmpty then [] else [(classK, some (joinWith [' '] (words (v.getD []))))]
       | none => []) :=
  viewList_mk T tag sc l hg

/-- C08e, list level. The list of a copy (`cloneNode`, `copy.copy`, `copy.deepcopy`, unpickling,
    `eval(repr(tag))`) is the original's list with the `class` entry moved to the end — every other entry,
    `style` included, keeps its position and its value. The hypotheses on the class names (no white space: C09's
    domain, `clean_run`) and on the style map (round-trippable: C10's `reach_roundtrippable`) are what makes the
    *values* under `class` / `style` survive the constructor. -/
theorem clone_list (T : Tables) {e : El} (hr : Reach T e) (hc : ∀ w ∈ e.cls, CleanName w) (hs : StyRT e.sty) :
    viewList (clone T e).1 = moveLast classK (viewList e) :=
  viewList_clone T (reach_inv hr) (reach_normalised hr) hc hs

/-- the `class` key is listed exactly when there is a class name -/
theorem class_listed_iff (e : El) : classK ∈ akeys (viewList e) ↔ e.cls ≠ [] := by
  rw [akeys_viewList]
  exact class_mem_sync e

/-- C08e, list level, the precise condition: the copy's list equals the original's list AS A LIST exactly when
    the original has no class name or lists `class` last. (With a `class` key materialised earlier — a reader
    synchronised, then another attribute was added — the copy lists the same pairs in another order:
    per-key equality `clone_lookup` still holds, list equality does not.) -/
theorem clone_list_eq_iff (T : Tables) {e : El} (hr : Reach T e) (hc : ∀ w ∈ e.cls, CleanName w) (hs : StyRT e.sty) :
    viewList (clone T e).1 = viewList e ↔ (e.cls = [] ∨ (akeys (viewList e)).getLast? = some classK) := by
  rw [clone_list T hr hc hs]
  have hn : (akeys (viewList e)).Nodup := (stored_names hr).1
  rw [moveLast_eq_self_iff hn classK, class_listed_iff, Classical.not_not]

/-- **C08e, creation, EVERY raw attribute list** — upper-case spellings, invalid names, repeated names, `class` and
    `style` anywhere.  `getAttributesList()` of `AdvancedTag(tag, l)` (and of the element the parser builds for a start
    tag with attributes `l`) is `createdList T l` (Lemmas/AttrsCreate.lean, written from the property text, not from
    the constructor's loop): the names lower-cased, the entries with an invalid name dropped, every name ONCE — at the
    position of its first occurrence, with the value of its LAST occurrence ("the last duplicate wins") — values
    shown as the views show them (boolean-string normalised, `style` re-rendered), `class` last.  The one quirk that
    shows in the order: a `style` entry without any declaration deletes the attribute, a later non-empty one is
    listed where that later entry stands (`effective`; the library does the same — design.d/C08.md). -/
theorem created_list_all (T : Tables) (tag : Str) (sc : Bool) (l : List (Str × Option Str)) :
    viewList (mk T tag sc l) = createdList T l := viewList_mk_all T tag sc l

/-- the same specification for the token model of C01–C03 / C13 (`intake`, `AttrState.view`, Model/Token.lean) — through
    `mk_eq_intake` of Props/AttrStores.lean: the attribute clause of C02 ("attribute names are lower-cased with invalid names
    dropped and the last duplicate winning") against `createdList`, a function that shares nothing with `intake` -/
theorem intake_view_is_createdList (T : Tables) (hT : AttrStores.TablesOK T) (l : List (Str × Option Str)) :
    (intake l AttrState.empty).view = createdList T l := by
  rw [← AttrStores.intake_view_eq_attrs hT [] false l]
  exact created_list_all T [] false l

/-- "the last duplicate wins", per key, for every raw list: the value listed under a name other than class / style is
    the (normalised) value of the LAST entry whose lower-cased name it is -/
theorem created_last_wins (T : Tables) (tag : Str) (sc : Bool) (l : List (Str × Option Str)) {k : Str}
    (hc : k ≠ classK) (hs : k ≠ styleK) :
    aget k (viewList (mk T tag sc l)) = (lastValue k (normNames l)).map (normVal T k) :=
  mk_lookup_lastValue T tag sc l hc hs

/-- per key, every key other than class / style (boolean-string keys included): the copy lists the value of the
    original -/
theorem clone_lookup_all (T : Tables) {e : El} (hr : Reach T e) {k : Str} (hc : k ≠ classK) (hs : k ≠ styleK) :
    aget k (viewList (clone T e).1) = aget k (viewList e) := by
  rw [clone_lookup_norm T (reach_inv hr) hc hs]
  cases hv : aget k (viewList e) with
  | none => rfl
  | some v => exact congrArg some (listed_normalised (reach_inv hr) (reach_normalised hr) hc hs hv)

/-! ### C08a/d for boolean-string keys (`spellcheck`): the stored value is `convertToBooleanString` of the input -/

/-- a boolean-string key (`TAG_ITEM_BINARY_ATTRIBUTES_STRING_ATTR`), any spelling -/
structure BoolStr (T : Tables) (k : Str) : Prop where
  notClass : lower k ≠ classK
  notStyle : lower k ≠ styleK
  isBinStr : T.binStr.contains (lower k) = true

/-- the writers store `convertToBooleanString(value)` — `'true'` / `'false'` — under the lower-cased name, and
    that is what every list-shaped view shows -/
theorem boolstr_stored (T : Tables) {e : El} (h : DictInv e) {k : Str} (hv : validName k = true) (hk : BoolStr T k)
    (v : Option Str) :
    aget (lower k) (viewList (mapSet T k v e).2) = some (some (Attrs.boolString v)) ∧
    aget (lower k) (viewList (setAttribute T k v e).2) = some (some (Attrs.boolString v)) := by
  have h1 := mapSet_listed T h hv hk.notClass hk.notStyle v
  unfold normVal at h1
  rw [hk.isBinStr] at h1
  exact ⟨h1, by rw [setAttribute_eq_mapSet T hv]; exact h1⟩

/-- in every reachable state the value listed under a boolean-string key is `'true'` or `'false'` -/
theorem boolstr_listed {T : Tables} {e : El} (hr : Reach T e) {k : Str} (hk : BoolStr T k) {v : Option Str}
    (hv : aget (lower k) (viewList e) = some v) : v = some strTrue ∨ v = some strFalse := by
  have := binStr_listed (reach_inv hr) (reach_normalised hr) hk.notClass hk.notStyle hk.isBinStr hv
  rcases boolString_cases v with h | h <;> rw [h] at this
  · exact Or.inl this
  · exact Or.inr this

/-- `attributes[k]`: the listed value — and `'false'`, not `None`, when the key is not listed (the one view that
    answers for an absent key; `in`, `get`, `getAttribute`, `hasAttribute` and the node map report it absent) -/
theorem boolstr_getitem (T : Tables) {e : El} (hr : Reach T e) {k : Str} (hk : BoolStr T k) :
    getitem T k e = match aget (lower k) (viewList e) with
      | none => .str strFalse
      | some v => pyOfOpt v := by
  cases hg : aget (lower k) (viewList e) with
  | none => rw [getitem_look T (reach_inv hr) hk.notClass hk.notStyle, hk.isBinStr, hg]; rfl
  | some v => exact getitem_listed T (reach_inv hr) (reach_normalised hr) hk.notClass hk.notStyle hg

/-- `attributes.get(k, default)` -/
theorem boolstr_mapGet (T : Tables) {e : El} (hr : Reach T e) {k : Str} (hk : BoolStr T k) (d : PyVal) :
    (mapGet T k d e).1 = match aget (lower k) (viewList e) with
      | none => d
      | some v => pyOfOpt v :=
  mapGet_listed T (reach_inv hr) (reach_normalised hr) hk.notClass hk.notStyle d

/-- `getAttribute(k, default)` -/
theorem boolstr_getAttribute (T : Tables) {e : El} (hr : Reach T e) {k : Str} (hk : BoolStr T k)
    (hb : T.binary.contains k = false) (d : PyVal) :
    (getAttribute T k d e).1 = match aget (lower k) (viewList e) with
      | none => d
      | some v => pyOfOpt v := by
  unfold getAttribute
  rw [hb]
  exact boolstr_mapGet T hr hk d

/-- the DOM node under the name -/
theorem boolstr_domItem (T : Tables) {e : El} (hr : Reach T e) {k : Str} (hk : BoolStr T k) :
    domItem T k e = (aget (lower k) (viewList e)).map (fun v => (lower k, pyOfOpt v)) := by
  rw [domItem_eq T (reach_inv hr), boolstr_getitem T hr hk]
  rcases aget (lower k) (viewList e) with _ | v <;> rfl

/-- dot access of a boolean-string linked name (`tag.spellcheck`): True exactly when `'true'` is listed -/
theorem boolstr_dotGet (T : Tables) {e : El} (hr : Reach T e) {n : Str} {L : Link} (hn : n ≠ classNameK)
    (hl : aget n T.links = some L) (hs : L.special = false) (hbs : L.binStr = true)
    (hk : BoolStr T L.attr) (hnb : T.binary.contains L.attr = false) :
    (dotGet T n e).1 = some (.bool (decide (aget (lower L.attr) (viewList e) = some (some strTrue)))) := by
  unfold dotGet
  simp only [hn, if_false, hl, hs, hbs, Bool.false_eq_true, if_true]
  congr 2
  rw [boolstr_getAttribute T hr hk hnb]
  cases hg : aget (lower L.attr) (viewList e) with
  | none => rfl
  | some v =>
    rcases boolstr_listed hr hk hg with h | h <;> subst h
    · simp [pyOfOpt, boolOfString_true]
    · simp [pyOfOpt, boolOfString_false, show strFalse ≠ strTrue by decide]

/-- the rendered start tag carries `k="true"` / `k="false"` and reads back unchanged -/
theorem boolstr_rendered (T : Tables) {e : El} (hr : Reach T e) {k : Str} (hk : BoolStr T k) :
    aget (lower k) (readBack (startTagItems T e).1) = aget (lower k) (viewList e) := by
  cases hg : aget (lower k) (viewList e) with
  | none =>
    rw [readBack_lookup T (reach_inv hr) hk.notClass hk.notStyle, hg]; rfl
  | some v =>
    rcases boolstr_listed hr hk hg with h | h <;> subst h <;>
      exact rendered_value T (reach_inv hr) hk.notClass hk.notStyle (Or.inl (by decide)) (by decide) hg

/-- the element obtained by re-parsing the start tag lists, under a boolean-string key, the value the original lists
    (for a copy: `clone_lookup_all`) -/
theorem boolstr_reparse (T : Tables) {e : El} (hr : Reach T e) {k : Str} (hk : BoolStr T k) :
    aget (lower k) (viewList (reparse T e).1) = aget (lower k) (viewList e) := by
  rw [reparse_lookup_norm T (reach_inv hr) hk.notClass hk.notStyle, boolstr_rendered T hr hk]
  cases hv : aget (lower k) (viewList e) with
  | none => rfl
  | some v => exact congrArg some (listed_normalised (reach_inv hr) (reach_normalised hr) hk.notClass hk.notStyle hv)

/-! ### dot access of names with a special-value rule: never fails in the store, and is the rule on the listed value -/

/-- `dotGet` declines (`none`: "see the rule") exactly for the linked names that have a special-value rule;
    every other linked name is answered by `dotGet_plain` / `dotGet_boolean` / `boolstr_dotGet` -/
theorem dotGet_declines_iff (T : Tables) (e : El) {n : Str} {L : Link} (hn : n ≠ classNameK)
    (hl : aget n T.links = some L) : (dotGet T n e).1 = none ↔ L.special = true := by
  unfold dotGet
  simp only [hn, if_false, hl]
  cases L.special with
  | true => simp
  | false =>
    simp only [Bool.false_eq_true, if_false]
    split
    · simp
    · split <;> simp

/-- For a name with a special-value rule `R` (`tabIndex`, `span`, `colSpan`, `rowSpan`, `hspace`, `vspace`,
    `maxLength`, `size`, `cols`, `rows`, `crossOrigin`, `autocomplete`, `method`, `sandbox`, `kind`), reading an
    attribute that is neither class / style nor boolean: the dot read is the rule's conversion applied to the
    listed value; when the attribute is not listed it is the guard's answer (`maxLength`: −1) or the converted
    default. The conversion itself (`R.conv`, `R.onDefault`) is C19's. `dotGetSpecial` is a total function: the
    store never raises on such a read. -/
theorem dotGet_special (T : Tables) {ρ : Type} {e : El} (hr : Reach T e) (R : SpecialRule ρ)
    (hc : lower R.attr ≠ classK) (hs : lower R.attr ≠ styleK) (hnb : T.binary.contains R.attr = false) :
    (dotGetSpecial T R e).1 = match aget (lower R.attr) (viewList e) with
      | none => R.guard.getD R.onDefault
      | some v => R.conv (pyOfOpt v) := by
  have h := reach_inv hr
  have hb := reach_normalised hr
  have hread : (getAttributeOpt T R.attr e).1 = (aget (lower R.attr) (viewList e)).map pyOfOpt := by
    unfold getAttributeOpt
    rw [hnb]
    exact mapGetOpt_listed T h hb hc hs
  unfold dotGetSpecial
  cases hg : R.guard with
  | none =>
    simp only [hread]
    rcases aget (lower R.attr) (viewList e) with _ | v <;> rfl
  | some g =>
    simp only [hread, hasAttribute_proj h]
    rcases aget (lower R.attr) (viewList e) with _ | v <;> rfl

/-- such a read only synchronises: the state afterwards is the state itself or the state after `_handleClassAttr` -/
theorem dotGet_special_reads_only (T : Tables) {ρ : Type} (R : SpecialRule ρ) (e : El) :
    (dotGetSpecial T R e).2 = e ∨ (dotGetSpecial T R e).2 = handleClassAttr e := by
  unfold dotGetSpecial
  cases R.guard with
  | none => exact getAttributeOpt_snd T R.attr e
  | some g =>
    simp only
    split
    · exact getAttributeOpt_snd T R.attr e
    · exact Or.inl rfl

/-- the reader with a symbolic default used by the rules is the reader of the views: `getAttribute(k, d)` is
    its answer with `d` filled in, and leaves the same state -/
theorem getAttribute_symbolic_default (T : Tables) (k : Str) (d : PyVal) (e : El) :
    getAttribute T k d e = (((getAttributeOpt T k e).1).getD d, (getAttributeOpt T k e).2) :=
  getAttribute_eq_opt T k d e

/-! ### C08f — WRITE → READ and FRAME: what the writers do to the one mapping

  Keys other than `class` / `style` (those two: C09 `write_read_*`, C10 `write_read_*`).  The writers of the property:
  `setAttribute`, `attributes[k] = v` (`mapSet`), `removeAttribute`, `del attributes[k]` (`mapDel`), `setAttributes`,
  dot-assignment of a linked name (`dotSet`).  Readers: the one list (`viewList` — hence `items()`, `keys()`,
  `getAttributesList()`, the rendered start tag and the DOM node map by C08a), `attributes[k]`, `attributes.get`,
  `getAttribute`, `hasAttribute`, `in`, the DOM node. -/

theorem reach_step {T : Tables} {e : El} (h : Reach T e) (op : Op) : Reach T (step T e op).2 := by
  obtain ⟨tag, sc, attrs, ops, rfl⟩ := h
  exact ⟨tag, sc, attrs, ops ++ [op], (run_snoc T _ ops op).symm⟩

/-- `setAttribute` with a valid name is `attributes[name] = value` -/
theorem setAttribute_is_mapSet (T : Tables) {k : Str} (hv : validName k = true) (v : Option Str) (e : El) :
    setAttribute T k v e = mapSet T k v e := setAttribute_eq_mapSet T hv v e

/-- `removeAttribute` is `del attributes[name]` -/
theorem removeAttribute_is_mapDel (k : Str) (e : El) : removeAttribute k e = mapDel k e := by
  unfold removeAttribute mapDel
  rw [lower_idem]

/-- WRITE → READ, the list: after `setAttribute(k, v)` / `attributes[k] = v` the one list holds, under the lower-cased
    name, the written value (`None` = value-less) — for a boolean-string key `convertToBooleanString(v)`
    (`normVal`; `boolstr_stored`) -/
theorem write_read_listed (T : Tables) {e : El} (h : DictInv e) {k : Str} (hv : validName k = true)
    (hc : lower k ≠ classK) (hs : lower k ≠ styleK) (v : Option Str) :
    aget (lower k) (viewList (setAttribute T k v e).2) = some (normVal T (lower k) v) ∧
    aget (lower k) (viewList (mapSet T k v e).2) = some (normVal T (lower k) v) := by
  rw [setAttribute_eq_mapSet T hv]
  exact ⟨mapSet_listed T h hv hc hs v, mapSet_listed T h hv hc hs v⟩

/-- WRITE → READ, every per-key reader, ordinary key: after `setAttribute(k, v)` (any spelling of `k`)
    `attributes[k]`, `attributes.get(k, d)` and the DOM node give `v` back, `hasAttribute` / `in` say present, and
    `getAttribute(k, d)` gives `v` — for a boolean attribute name (`TAG_ITEM_BINARY_ATTRIBUTES`): `True` when `v` is
    `None` or `''` (presence), else `v`. -/
theorem write_read_readers (T : Tables) {e : El} (hr : Reach T e) {k : Str} (hv : validName k = true)
    (ho : Ordinary T k) (v : Option Str) (d : PyVal) :
    getitem T k (setAttribute T k v e).2 = pyOfOpt v ∧
    (mapGet T k d (setAttribute T k v e).2).1 = pyOfOpt v ∧
    hasAttribute k (setAttribute T k v e).2 = true ∧ contains k (setAttribute T k v e).2 = true ∧
    domItem T k (setAttribute T k v e).2 = some (lower k, pyOfOpt v) ∧
    (getAttribute T k d (setAttribute T k v e).2).1 =
      (if T.binary.contains k then (if (pyOfOpt v).falsy then .bool true else pyOfOpt v) else pyOfOpt v) := by
  have h := reach_inv hr
  have := readers_listed T (dictInv_setAttribute T k v h) ho d
  rw [(write_read_listed T h hv ho.notClass ho.notStyle v).1, normVal_of_not_binStr T ho.notBinStr] at this
  exact this

/-- WRITE → READ for a boolean-string key (`spellcheck`): every reader gives `convertToBooleanString(v)` — `'true'` /
    `'false'` — back -/
theorem write_read_boolstr (T : Tables) {e : El} (hr : Reach T e) {k : Str} (hv : validName k = true)
    (hk : BoolStr T k) (hb : T.binary.contains k = false) (v : Option Str) (d : PyVal) :
    getitem T k (setAttribute T k v e).2 = .str (Attrs.boolString v) ∧
    (getAttribute T k d (setAttribute T k v e).2).1 = .str (Attrs.boolString v) ∧
    hasAttribute k (setAttribute T k v e).2 = true := by
  have hr' : Reach T (setAttribute T k v e).2 := reach_step hr (.setAttr k v)
  have hl := (boolstr_stored T (reach_inv hr) hv hk v).2
  refine ⟨?_, ?_, ?_⟩
  · rw [boolstr_getitem T hr' hk, hl]; rfl
  · rw [boolstr_getAttribute T hr' hk hb, hl]; rfl
  · rw [hasAttribute_proj (reach_inv hr'), hl]; rfl

/-- WRITE → READ for the removers: after `removeAttribute(k)` / `del attributes[k]` the name is not listed -/
theorem remove_read_listed {e : El} (h : DictInv e) {k : Str} (hc : lower k ≠ classK) (hs : lower k ≠ styleK) :
    aget (lower k) (viewList (removeAttribute k e)) = none ∧ aget (lower k) (viewList (mapDel k e)) = none := by
  rw [removeAttribute_is_mapDel]
  exact ⟨mapDel_listed h hc hs, mapDel_listed h hc hs⟩

/-- after `removeAttribute(k)` every per-key reader reports the key absent: `attributes[k]` is `None`, `get` / `getAttribute` hand back the
    default (`getAttribute` of a boolean attribute name: `False`), `hasAttribute` / `in` say no, there is no DOM node -/
theorem remove_read_readers (T : Tables) {e : El} (hr : Reach T e) {k : Str} (ho : Ordinary T k) (d : PyVal) :
    getitem T k (removeAttribute k e) = .none ∧ (mapGet T k d (removeAttribute k e)).1 = d ∧
    hasAttribute k (removeAttribute k e) = false ∧ contains k (removeAttribute k e) = false ∧
    domItem T k (removeAttribute k e) = none ∧
    (getAttribute T k d (removeAttribute k e)).1 = (if T.binary.contains k then .bool false else d) := by
  have h := reach_inv hr
  have := readers_listed T (e := removeAttribute k e) (removeAttribute_is_mapDel k e ▸ dictInv_mapDel k h) ho d
  rw [(remove_read_listed h ho.notClass ho.notStyle).1] at this
  exact this

/-- **FRAME, the list.** For EVERY operation of the store (the six attribute writers, the class writers, the style
    writers, the synchronising readers) and every key it does not address (`addresses T op`: the lower-cased name(s)
    written; `class` for the class writers, `style` for the style writers; nothing for a reader): the key is listed
    afterwards exactly as before — present or absent, same value; `class` and `style` included. -/
theorem write_frame (T : Tables) (op : Op) {e : El} (h : DictInv e) {k : Str} (hk : k ∉ addresses T op) :
    aget k (viewList (step T e op).2) = aget k (viewList e) := frame_lookup T op h hk

/-- FRAME, every per-key reader: a key the operation does not address reads, through `attributes[k]`, `get`,
    `getAttribute`, `hasAttribute`, `in` and the DOM node, what it read before (any spelling of the key) -/
theorem write_frame_readers (T : Tables) (op : Op) {e : El} (hr : Reach T e) {k : Str}
    (hc : lower k ≠ classK) (hs : lower k ≠ styleK) (hk : lower k ∉ addresses T op) (d : PyVal) :
    getitem T k (step T e op).2 = getitem T k e ∧ (mapGet T k d (step T e op).2).1 = (mapGet T k d e).1 ∧
    (getAttribute T k d (step T e op).2).1 = (getAttribute T k d e).1 ∧
    hasAttribute k (step T e op).2 = hasAttribute k e ∧ contains k (step T e op).2 = contains k e ∧
    domItem T k (step T e op).2 = domItem T k e :=
  readers_congr T (reach_inv hr) (reach_inv (reach_step hr op)) hc hs (frame_lookup T op (reach_inv hr) hk) d

/-- FRAME for the two special keys, state level: an operation that does not address `class` leaves the class list —
    hence every class view of C09 — alone; one that does not address `style` leaves the style map (C10) alone -/
theorem write_frame_class_style (T : Tables) (op : Op) (e : El) :
    (classK ∉ addresses T op → (step T e op).2.cls = e.cls) ∧ (styleK ∉ addresses T op → (step T e op).2.sty = e.sty) :=
  ⟨step_cls_of_addresses T op e, step_sty_of_addresses T op e⟩

/-- **The list as a LIST after a write.**  `setAttribute(k, v)` / `attributes[k] = v` is `d[k] = v` on the one list:
    an existing key keeps its place (`listed_existing_keeps_place`), a new key goes last (`listed_new_goes_last`).
    Hypothesis `ClassSynced e`: the `class` key of the dict is in step with the class list — the state any
    list-shaped reader leaves (`write_list_set_after_read`); the list before a write can only have been observed in
    such a state.  (`ePending` below: what happens otherwise.) -/
theorem write_list_set (T : Tables) {e : El} (h : DictInv e) (hp : ClassSynced e) {k : Str} (hv : validName k = true)
    (hc : lower k ≠ classK) (hs : lower k ≠ styleK) (v : Option Str) :
    viewList (setAttribute T k v e).2 = aset (lower k) (normVal T (lower k) v) (viewList e) ∧
    viewList (mapSet T k v e).2 = aset (lower k) (normVal T (lower k) v) (viewList e) := by
  rw [setAttribute_eq_mapSet T hv]
  exact ⟨viewList_mapSet T h hp.noPending hv hc hs v, viewList_mapSet T h hp.noPending hv hc hs v⟩

/-- every list-shaped reader (`items()`, `keys()`, `getAttributesList()`, `getStartTag()`, the DOM node map) leaves
    such a state, and leaves the list as it is -/
theorem write_list_set_after_read (T : Tables) {e : El} (h : DictInv e) {k : Str} (hv : validName k = true)
    (hc : lower k ≠ classK) (hs : lower k ≠ styleK) (v : Option Str) :
    ClassSynced (handleClassAttr e) ∧ viewList (handleClassAttr e) = viewList e ∧
    viewList (setAttribute T k v (handleClassAttr e)).2 = aset (lower k) (normVal T (lower k) v) (viewList e) := by
  refine ⟨classSynced_sync e, viewList_sync h, ?_⟩
  rw [(write_list_set T (dictInv_handleClassAttr h) (classSynced_sync e) hv hc hs v).1, viewList_sync h]

/-- in EVERY state `setAttribute(k, v)` is `d[k] = v` on the list without its `class` entry -/
theorem write_list_set_general (T : Tables) {e : El} (h : DictInv e) {k : Str} (hv : validName k = true)
    (hc : lower k ≠ classK) (hs : lower k ≠ styleK) (v : Option Str) :
    adel classK (viewList (setAttribute T k v e).2) = aset (lower k) (normVal T (lower k) v) (adel classK (viewList e)) := by
  rw [setAttribute_eq_mapSet T hv]
  exact viewList_mapSet_sans_class T h hv hc hs v

theorem listed_existing_keeps_place {k : Str} (v : Option Str) {l : List (Str × Option Str)} (hk : k ∈ akeys l) :
    akeys (aset k v l) = akeys l := by rw [aset_eq]; exact Dict.keys_set_of_mem v hk

theorem listed_new_goes_last {k : Str} (v : Option Str) {l : List (Str × Option Str)} (hk : k ∉ akeys l) :
    aset k v l = l ++ [(k, v)] := by rw [aset_eq]; exact Dict.set_of_not_mem v hk

/-- `removeAttribute(k)` / `del attributes[k]` is `del d[k]` on the one list — every other entry keeps its place —
    in every state -/
theorem write_list_remove (e : El) {k : Str} (hc : lower k ≠ classK) (hs : lower k ≠ styleK) :
    viewList (removeAttribute k e) = adel (lower k) (viewList e) ∧ viewList (mapDel k e) = adel (lower k) (viewList e) := by
  rw [removeAttribute_is_mapDel]
  exact ⟨viewList_mapDel hc hs, viewList_mapDel hc hs⟩

/-- `setAttributes(dict)` with valid names is the sequence of `setAttribute` calls in the order of the dict (with an
    invalid name: `invalid_setAttributes`), so every law about `setAttribute` applies call by call -/
theorem setAttributes_is_fold (T : Tables) (l : List (Str × Option Str)) (e : El) (hl : ∀ p ∈ l, validName p.1 = true) :
    setAttributes T l e = (.ok, l.foldl (fun e p => (setAttribute T p.1 p.2 e).2) e) := setAttributes_fold T l e hl

/-- after `setAttributes(dict)` with valid names every key other than class / style holds what the LAST entry naming it
    (case-insensitively) assigned, and a key no entry names holds what it held -/
theorem write_read_setAttributes (T : Tables) {e : El} (h : DictInv e) (l : List (Str × Option Str))
    (hl : ∀ p ∈ l, validName p.1 = true) {k : Str} (hc : k ≠ classK) (hs : k ≠ styleK) :
    aget k (viewList (setAttributes T l e).2) =
      match lastAssigned k l with
      | some v => some (normVal T k v)
      | none => aget k (viewList e) := by
  rw [setAttributes_fold T l e hl]
  exact foldl_setAttribute_listed T hc hs l h hl

/-! dot-assignment of a linked name (`tag.<name> = value`, name in `TAG_ITEM_ATTRIBUTE_LINKS` for the tag, without a
    validation rule — those are C19's): which writer it is, and what the dot read gives back -/

/-- a plain linked name: `setAttribute(attr, tostr(value))` -/
theorem dot_write_plain (T : Tables) {n : Str} {L : Link} (hn : n ≠ classNameK) (hl : aget n T.links = some L)
    (hval : L.validated = false) (hbs : L.binStr = false) (hb : L.bin = false) (v : DotVal) (e : El) :
    dotSet T n v e = setAttribute T L.attr (some v.tostr) e := by
  unfold dotSet
  simp only [hn, if_false, hl, hval, hbs, hb, Bool.false_eq_true]

/-- a boolean linked name: truthy → `setAttribute(attr, '')`, falsy → `removeAttribute(attr)` -/
theorem dot_write_boolean (T : Tables) {n : Str} {L : Link} (hn : n ≠ classNameK) (hl : aget n T.links = some L)
    (hval : L.validated = false) (hbs : L.binStr = false) (hb : L.bin = true) (v : DotVal) (e : El) :
    dotSet T n v e = if v.truthy then setAttribute T L.attr (some []) e else (.ok, removeAttribute L.attr e) := by
  unfold dotSet
  simp only [hn, if_false, hl, hval, hbs, hb, Bool.false_eq_true, if_true]

/-- WRITE → READ through the dot, plain linked name: `tag.<name> = v; tag.<name>` gives `tostr(v)` -/
theorem dot_write_read_plain (T : Tables) {e : El} (hr : Reach T e) {n : Str} {L : Link} (hn : n ≠ classNameK)
    (hl : aget n T.links = some L) (hval : L.validated = false) (hsp : L.special = false) (hbs : L.binStr = false)
    (hb : L.bin = false) (hv : validName L.attr = true) (ho : Ordinary T L.attr)
    (hnb : T.binary.contains L.attr = false) (v : DotVal) :
    (dotSet T n v e).1 = .ok ∧ (dotGet T n (dotSet T n v e).2).1 = some (.str v.tostr) := by
  rw [dot_write_plain T hn hl hval hbs hb]
  refine ⟨setAttribute_valid T hv _ e, ?_⟩
  have h' : DictInv (setAttribute T L.attr (some v.tostr) e).2 := dictInv_setAttribute T _ _ (reach_inv hr)
  rw [dotGet_plain T h' hn hl hsp hbs hb ho hnb, (write_read_listed T (reach_inv hr) hv ho.notClass ho.notStyle _).1,
      normVal_of_not_binStr T ho.notBinStr]
  rfl

/-- WRITE → READ through the dot, boolean linked name (`tag.hidden = v; tag.hidden`): `bool(v)` — presence -/
theorem dot_write_read_boolean (T : Tables) {e : El} (hr : Reach T e) {n : Str} {L : Link} (hn : n ≠ classNameK)
    (hl : aget n T.links = some L) (hval : L.validated = false) (hsp : L.special = false) (hbs : L.binStr = false)
    (hb : L.bin = true) (hv : validName L.attr = true) (ho : Ordinary T L.attr)
    (hnb : T.binary.contains L.attr = true) (v : DotVal) :
    (dotSet T n v e).1 = .ok ∧ (dotGet T n (dotSet T n v e).2).1 = some (.bool v.truthy) := by
  rw [dot_write_boolean T hn hl hval hbs hb]
  cases hvt : v.truthy with
  | true =>
    simp only [if_true]
    refine ⟨setAttribute_valid T hv _ e, ?_⟩
    have h' : DictInv (setAttribute T L.attr (some []) e).2 := dictInv_setAttribute T _ _ (reach_inv hr)
    rw [dotGet_boolean T h' hn hl hsp hbs hb ho hnb, (write_read_listed T (reach_inv hr) hv ho.notClass ho.notStyle _).1]
    rfl
  | false =>
    simp only [Bool.false_eq_true, if_false]
    refine ⟨trivial, ?_⟩
    have h' : DictInv (removeAttribute L.attr e) := by
      rw [removeAttribute_is_mapDel]; exact dictInv_mapDel _ (reach_inv hr)
    rw [dotGet_boolean T h' hn hl hsp hbs hb ho hnb, (remove_read_listed (reach_inv hr) ho.notClass ho.notStyle).1]
    rfl

/-- a boolean-string linked name (`tag.spellcheck = v`): `setAttribute(attr, convertToBooleanString(v))` followed by a
    read that may synchronise — the outcome is ok and the list is the list after that `setAttribute` -/
theorem dot_write_boolstr (T : Tables) {e : El} (h : DictInv e) {n : Str} {L : Link} (hn : n ≠ classNameK)
    (hl : aget n T.links = some L) (hval : L.validated = false) (hbs : L.binStr = true)
    (hv : validName L.attr = true) (v : DotVal) :
    (dotSet T n v e).1 = .ok ∧
    viewList (dotSet T n v e).2 = viewList (setAttribute T L.attr (some v.boolString) e).2 := by
  have ho := setAttribute_valid T hv (some v.boolString) e
  have h1 : DictInv (setAttribute T L.attr (some v.boolString) e).2 := dictInv_setAttribute T _ _ h
  unfold dotSet
  simp only [hn, if_false, hl, hval, hbs, Bool.false_eq_true, if_true]
  rcases hs : setAttribute T L.attr (some v.boolString) e with ⟨o, e'⟩
  rw [hs] at ho h1
  simp only at ho h1
  subst ho
  simp only
  refine ⟨trivial, ?_⟩
  rcases getAttribute_snd T L.attr PyVal.none e' with hg | hg <;> rw [hg]
  exact viewList_sync h1

/-- WRITE → READ through the dot, boolean-string linked name: `tag.spellcheck = v; tag.spellcheck` is `True` exactly
    when `convertToBooleanString(v)` is `'true'` -/
theorem dot_write_read_boolstr (T : Tables) {e : El} (hr : Reach T e) {n : Str} {L : Link} (hn : n ≠ classNameK)
    (hl : aget n T.links = some L) (hval : L.validated = false) (hsp : L.special = false) (hbs : L.binStr = true)
    (hv : validName L.attr = true) (hk : BoolStr T L.attr) (hnb : T.binary.contains L.attr = false) (v : DotVal) :
    (dotGet T n (dotSet T n v e).2).1 = some (.bool (decide (v.boolString = strTrue))) := by
  have hr' : Reach T (dotSet T n v e).2 := reach_step hr (.dot n v)
  rw [boolstr_dotGet T hr' hn hl hsp hbs hk hnb, (dot_write_boolstr T (reach_inv hr) hn hl hval hbs hv v).2,
      (boolstr_stored T (reach_inv hr) hv hk (some v.boolString)).2]
  have hid : Attrs.boolString (some v.boolString) = v.boolString := by
    cases v with
    | none => decide
    | str s => exact boolString_idem (some s)
    | bool b => cases b <;> decide
  simp only [hid, Option.some.injEq]

/-! ### non-vacuity -/

def T0 : Tables := { binary := [['c', 'h', 'e', 'c', 'k', 'e', 'd']], binStr := [], links := [] }
def kFoo : Str := ['f', 'o', 'o']
def kChecked : Str := ['c', 'h', 'e', 'c', 'k', 'e', 'd']

example : Ordinary T0 kFoo := ⟨by decide +kernel, by decide +kernel, by decide +kernel⟩

/-- `setAttribute('FOO', 'v')`, `attributes['checked'] = ''`, then a rejected `attributes['a b'] = 'x'` -/
example : viewList (run T0 (mk T0 ['d', 'i', 'v'] false [])
      [.setAttr ['F', 'O', 'O'] (some ['v']), .mapSet kChecked (some []), .mapSet ['a', ' ', 'b'] (some ['x'])])
    = [(kFoo, some ['v']), (kChecked, some [])] := by decide +kernel

example : (step T0 (mk T0 ['d', 'i', 'v'] false []) (.mapSet ['a', ' ', 'b'] (some ['x']))).1 = .keyError := by decide +kernel

def T1 : Tables :=
  { binary := [kChecked], binStr := ["spellcheck".toList],
    links := [("spellcheck".toList, { attr := "spellcheck".toList, special := false, validated := false, binStr := true, bin := false, event := false }),
              ("tabIndex".toList, { attr := "tabindex".toList, special := true, validated := false, binStr := false, bin := false, event := false })] }

/-- `className = 'a'`, a synchronising read, then `setAttribute('foo', 'v')`: `class` is materialised first -/
def eClassFirst : El := run T1 (mk T1 "div".toList false []) [.className (some "a".toList), .sync, .setAttr kFoo (some ['v'])]
/-- the same without the read in between: `class` is materialised last -/
def eClassLast : El := run T1 (mk T1 "div".toList false []) [.className (some "a".toList), .setAttr kFoo (some ['v'])]

example : viewList eClassFirst = [(classK, some "a".toList), (kFoo, some ['v'])] := by decide +kernel
/-- the hypotheses of `clone_list` / `clone_list_eq_iff` hold for `eClassFirst` (for `eClassLast`: inside the last example of
    this group) -/
example : Reach T1 eClassFirst ∧ (∀ w ∈ eClassFirst.cls, CleanName w) ∧ StyRT eClassFirst.sty := by
  refine ⟨⟨_, _, _, _, rfl⟩, ?_, styRT_nil⟩
  have h : eClassFirst.cls = ["a".toList] := by decide +kernel
  intro w hw
  rw [h] at hw
  simp only [List.mem_singleton] at hw
  subst hw
  exact ⟨by decide +kernel, by decide +kernel⟩
/-- the counter-example of the complementary case: `class` listed first — the copy lists it last -/
example : viewList (clone T1 eClassFirst).1 = [(kFoo, some ['v']), (classK, some "a".toList)] := by decide +kernel
example : viewList (clone T1 eClassFirst).1 ≠ viewList eClassFirst := by decide +kernel
example : ¬ (eClassFirst.cls = [] ∨ (akeys (viewList eClassFirst)).getLast? = some classK) := by decide +kernel
/-- `class` listed last: the lists agree -/
example : viewList (clone T1 eClassLast).1 = viewList eClassLast := by
  have hr : Reach T1 eClassLast := ⟨_, _, _, _, rfl⟩
  have hs : StyRT eClassLast.sty := styRT_nil
  have h : eClassLast.cls = ["a".toList] := by decide +kernel
  have hc : ∀ w ∈ eClassLast.cls, CleanName w := by
    intro w hw
    rw [h] at hw
    simp only [List.mem_singleton] at hw
    subst hw
    exact ⟨by decide +kernel, by decide +kernel⟩
  exact (clone_list_eq_iff T1 hr hc hs).mpr (Or.inr (by decide +kernel))

/-- `created_list` on a concrete list: `class` given first is listed last, `spellcheck` is normalised -/
example : GoodKeys [(classK, some "a  b".toList), ("spellcheck".toList, some "No".toList), (kFoo, none)] := ⟨by decide +kernel, by decide +kernel⟩
example : viewList (mk T1 "div".toList false [(classK, some "a  b".toList), ("spellcheck".toList, some "No".toList), (kFoo, none)])
    = [("spellcheck".toList, some strTrue), (kFoo, none), (classK, some "a b".toList)] := by decide +kernel

example : BoolStr T1 "SpellCheck".toList := ⟨by decide +kernel, by decide +kernel, by decide +kernel⟩
/-- `setAttribute('spellcheck', 'YES')` stores `'true'`, `'0'` stores `'false'` -/
example : viewList (setAttribute T1 "spellcheck".toList (some "YES".toList) (mk T1 "div".toList false [])).2
    = [("spellcheck".toList, some strTrue)] := by decide +kernel
example : viewList (setAttribute T1 "spellcheck".toList (some "0".toList) (mk T1 "div".toList false [])).2
    = [("spellcheck".toList, some strFalse)] := by decide +kernel
/-- `attributes['spellcheck']` on an element without the attribute: `'false'` -/
example : getitem T1 "spellcheck".toList (mk T1 "div".toList false []) = .str strFalse := by decide +kernel

/-- a rule in the shape of `tabIndex` (`convertToIntOrNegativeOneIfUnset(getAttribute('tabindex', None))`), with a
    toy conversion standing for C19's: the value's length, −1 when unset -/
def rTab : SpecialRule Int :=
  { attr := "tabindex".toList, guard := none, onDefault := -1,
    conv := fun v => match v with | .str s => s.length | _ => -1 }
example : (dotGet T1 "tabIndex".toList (mk T1 "div".toList false [])).1 = none := by decide +kernel
example : (dotGetSpecial T1 rTab (mk T1 "div".toList false [("tabindex".toList, some "12".toList)])).1 = 2 := by decide +kernel
example : (dotGetSpecial T1 rTab (mk T1 "div".toList false [])).1 = -1 := by decide +kernel

/-- a reachable element with a class name, a style and two attributes, read once (so `ClassSynced`) -/
def eW : El := run T1 (mk T1 "div".toList false [("id".toList, some "x".toList)])
  [.className (some "a b".toList), .styAssign (some "top: 1px".toList), .setAttr "title".toList (some "t".toList), .sync]
example : viewList eW = [("id".toList, some "x".toList), ("style".toList, some "top: 1px".toList),
    ("title".toList, some "t".toList), (classK, some "a b".toList)] := by decide +kernel
example : Reach T1 eW ∧ ClassSynced eW := ⟨⟨_, _, _, _, rfl⟩, by unfold ClassSynced; decide +kernel⟩
example : Ordinary T1 "Title".toList ∧ validName "Title".toList = true := ⟨⟨by decide +kernel, by decide +kernel, by decide +kernel⟩, by decide +kernel⟩
/-- `setAttribute('TITLE', 'new')`: the existing key keeps its place, `setAttribute('lang', 'en')`: the new key goes last -/
example : viewList (setAttribute T1 "TITLE".toList (some "new".toList) eW).2 = [("id".toList, some "x".toList),
    ("style".toList, some "top: 1px".toList), ("title".toList, some "new".toList), (classK, some "a b".toList)] := by decide +kernel
example : viewList (setAttribute T1 "lang".toList (some "en".toList) eW).2 = viewList eW ++ [("lang".toList, some "en".toList)] := by
  decide +kernel
/-- the operations a key is outside of: `title` is not addressed by a class writer, a style writer, `setAttribute('id', …)` -/
example : "title".toList ∉ addresses T1 (.addClass "c".toList) ∧ "title".toList ∉ addresses T1 (.styProp "top".toList none)
    ∧ "title".toList ∉ addresses T1 (.setAttr "ID".toList none) := by decide +kernel
/-- `ePending`: WITHOUT the hypothesis `ClassSynced` the list law fails in the order — `className = 'a'`
    (no reader in between), then `setAttribute('lang', 'en')`: the pending `class` key is materialised after `lang`.
    Per key (`write_frame`, `write_read_listed`) and on the list without `class` (`write_list_set_general`) nothing is lost. -/
def ePending : El := run T1 (mk T1 "div".toList false [("id".toList, some "x".toList)]) [.className (some "a".toList)]
example : ¬ ClassSynced ePending := by unfold ClassSynced; decide +kernel
example : viewList ePending = [("id".toList, some "x".toList), (classK, some "a".toList)] := by decide +kernel
example : viewList (setAttribute T1 "lang".toList (some "en".toList) ePending).2
    = [("id".toList, some "x".toList), ("lang".toList, some "en".toList), (classK, some "a".toList)] := by decide +kernel
example : viewList (setAttribute T1 "lang".toList (some "en".toList) ePending).2
    ≠ aset "lang".toList (some "en".toList) (viewList ePending) := by decide +kernel

/-- `created_list_all` on a raw list with upper-case names, an invalid name, repeated names (`id` three times: first
    position, last value), `class` twice, `style` emptied and set again (listed where the LAST entry stands) -/
def rawL : List (Str × Option Str) :=
  [("style".toList, some "a:b".toList), ("ID".toList, some "1".toList), ("a b".toList, some "x".toList),
   ("class".toList, some " p  q ".toList), ("Id".toList, some "2".toList), ("style".toList, some "junk".toList),
   ("checked".toList, none), ("STYLE".toList, some "Color : red".toList), ("id".toList, some "3".toList),
   ("CLASS".toList, some "r".toList), ("spellcheck".toList, some "No".toList)]
example : createdList T1 rawL = [("id".toList, some "3".toList), ("checked".toList, none),
    ("style".toList, some "color: red".toList), ("spellcheck".toList, some strTrue), (classK, some "r".toList)] := by decide +kernel
example : viewList (mk T1 "div".toList false rawL) = createdList T1 rawL := created_list_all T1 _ _ _
example : (intake rawL AttrState.empty).view = createdList AttrStores.sampleTables rawL :=
  intake_view_is_createdList _ AttrStores.sampleTables_ok.1 rawL

/-- the string-level re-parse on a concrete element: hypotheses satisfiable, both sides computed -/
def Tgen : Tables := AttrStores.sampleTables
def eLex : El := mk Tgen "DIV".toList false
  [("ID".toList, some "a".toList), ("checked".toList, some []), ("data-q".toList, some "say \"hi\" & go".toList),
   ("class".toList, some "x  y".toList)]
example : AttrStores.BinaryOK Tgen := AttrStores.sampleTables_ok.2
example : TagNameOK eLex.tag := by decide +kernel
example : ∀ p ∈ viewList eLex, ∀ s, p.2 = some s → ValueOK s := by decide +kernel
example : (Attrs.startTag Tgen eLex).1 = "<div id=\"a\" checked data-q=\"say &quot;hi&quot; & go\" class=\"x y\" >".toList := by
  char_lits
  decide +kernel
example : readBack (startTagItems Tgen eLex).1 = [("id".toList, some "a".toList), ("checked".toList, none),
    ("data-q".toList, some "say \"hi\" & go".toList), (classK, some "x y".toList)] := by decide +kernel
example : lexStrict ((Attrs.startTag Tgen eLex).1 ++ endTag eLex.tag eLex.sc)
    = some [Token.start "div".toList (readBack (startTagItems Tgen eLex).1), Token.end_ "div".toList] := by
  -- `eLex.sc`, `eLex.tag` are evaluated once, by the kernel, instead of being unfolded by the unifier
  have hs : eLex.sc = false := by decide +kernel
  have ht : eLex.tag = "div".toList := by decide +kernel
  have h := startTag_lexed Tgen AttrStores.sampleTables_ok.2 (e := eLex) (dictInv_mk _ _ _ _) (by decide +kernel)
    (by decide +kernel)
  rw [hs, ht] at h ⊢
  exact h

end AHP.C08
