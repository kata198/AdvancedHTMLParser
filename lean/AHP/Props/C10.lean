/-
  C10 — The style attribute and the style object are one state seen three ways.

  Property theorems only.  Model: AHP/Model/Attrs.lean (executed by the native driver); lemmas:
  AHP/Lemmas/AttrsStyle.lean (parse ∘ render), AttrsPrim.lean / AttrsFrame.lean / AttrsInv.lean (writers, frame, invariants),
  Attrs*.lean.

  The one state is `e.sty`, the ordered name → value map of the element's style object.  C10a: every read path
  (`style.<camelCase>`, `getStyle`, `str(style)`, `getAttribute('style')`, the mapping, `items()`,
  `getAttributesList()`, the rendered start tag read back) is a projection of it; camelCase and dash names address
  one key.  C10b: an empty value removes; the attribute is present / rendered iff the map is non-empty — in every
  reachable state and through every presence test.  C10c: `styleToDict ∘ asStr = id` on the maps the element can
  hold, hence re-parse and copies reproduce the map; a style string parses to what its rendering parses to.
  C10d: equality ignores order.  C10e: assigning another element's style copies the map.  C10f (`write_read_*`, `write_frame*`,
  `write_list_*`): what each style writer does to the map, to every view of it and to the one list of C08.
-/
import AHP.Lemmas.AttrsCreate
namespace AHP.C10
open AHP AHP.Attrs

def Reach (T : Tables) (e : El) : Prop :=
  ∃ tag sc attrs ops, e = run T (mk T tag sc attrs) ops

/-- `style` is not in `TAG_ITEM_BINARY_ATTRIBUTES` (checked on constants.py by the harness on every run) -/
def StylePlain (T : Tables) : Prop := T.binary.contains styleK = false

theorem reach_inv {T : Tables} {e : El} (h : Reach T e) : DictInv e := by
  obtain ⟨tag, sc, attrs, ops, rfl⟩ := h
  exact dictInv_run T ops (dictInv_mk T tag sc attrs)

/-! ### C10a — one ordered map, seen through every read path -/

/-- `str(element.style)` -/
theorem view_str (e : El) : styleStr e = asStr e.sty := rfl

/-- `element.style.<name>`: the value under `camelCaseToDashName(name)`, `''` when unset -/
theorem view_dot (n : Str) (e : El) : styleDotGet n e = (aget (camelToDash n) e.sty).getD [] := styleDotGet_eq n e

/-- `getStyle(name)`: the value under `name.lower()` -/
theorem view_getStyle (n : Str) (e : El) : getStyle n e = (aget (lower n) e.sty).getD [] := getStyle_eq n e

/-- camelCase and dash names address the same property: writing `style.<camel>` (or `setStyle(camel, …)`) is
    writing `setProperty(dash, …)`, and what `style.<camel>` reads is what `getStyle(dash)` reads -/
theorem camel_dash_one_key (n : Str) (v : Option Str) (e : El) :
    styleDotSet n v e = setProperty (camelToDash n) v e ∧ setStyle n v e = setProperty (camelToDash n) v e ∧
    styleDotGet n e = getStyle (camelToDash n) e := by
  refine ⟨rfl, rfl, ?_⟩
  rw [view_dot, view_getStyle, lower_of_noUpper (camelToDash_noUpper n)]

example : camelToDash ['p', 'a', 'd', 'd', 'i', 'n', 'g', 'T', 'o', 'p'] = ['p', 'a', 'd', 'd', 'i', 'n', 'g', '-', 't', 'o', 'p'] := by
  decide

/-- names written in a style string are lower-cased (and trimmed, and pairwise distinct) -/
theorem string_names_lowercase (s : Str) : ∀ k ∈ akeys (styleToDict s), lower k = k ∧ strip k = k := by
  intro k hk
  obtain ⟨p, hp, rfl⟩ := List.mem_map.mp hk
  have := (styRT_styleToDict s).2 p hp
  exact ⟨this.nameLower, this.nameTrim⟩

/-- `attributes['style']`, `attributes.get('style')`, `getAttribute('style')` (any spelling): the style object itself -/
theorem view_getitem (T : Tables) {k : Str} (hk : lower k = styleK) (e : El) : getitem T k e = .style (asStr e.sty) := by
  unfold getitem
  simp only [hk, if_true]

theorem view_mapGet (T : Tables) {k : Str} (hk : lower k = styleK) (d : PyVal) (e : El) :
    mapGet T k d e = (.style (asStr e.sty), e) := by
  unfold mapGet
  simp only [hk]
  simp [view_getitem T lower_styleK, styleK_ne_classK]

theorem view_getAttribute (T : Tables) {k : Str} (hk : lower k = styleK) (hb : T.binary.contains k = false)
    (d : PyVal) (e : El) : getAttribute T k d e = (.style (asStr e.sty), e) := by
  unfold getAttribute
  rw [hb]
  exact view_mapGet T hk d e

/-- `attributes.items()` -/
theorem view_items (e : El) :
    aget styleK (items e).1 = if e.sty.isEmpty then none else some (.style (asStr e.sty)) := by
  rw [aget_items, aget_style_sync]
  split <;> rfl

/-- `getAttributesList()` / `getAttributesDict()` -/
theorem view_attrsList (e : El) :
    aget styleK (viewList e) = if e.sty.isEmpty then none else some (some (asStr e.sty)) := viewList_style e

/-- the rendered start tag, read back: `style="…"` carries `escapeQuotes(str(style))` -/
theorem view_startTag (T : Tables) (e : El) :
    aget styleK (readBack (startTagItems T e).1)
      = if e.sty.isEmpty then none else some (some (unescQ (escQ (asStr e.sty)))) := by
  rw [aget_readBack, view_items]
  split
  · rfl
  · next hne => exact congrArg some (readBackVal_style T styleK (asStr_ne_nil (by simpa using hne)))

/-! ### C10b — empty value removes; rendered / present iff a property remains -/

/-- writing an empty value (`''` or `None`) through any of the three property writers removes the property -/
theorem write_empty_removes (n : Str) {v : Option Str} (hv : emptyVal v = true) (e : El) :
    aget (camelToDash n) (styleDotSet n v e).sty = none ∧ aget (camelToDash n) (setStyle n v e).sty = none ∧
    aget n (setProperty n v e).sty = none := by
  refine ⟨?_, ?_, ?_⟩
  · rw [styleDotSet_sty, hv]; exact aget_adel_same _ _
  · show aget (camelToDash n) (styleDotSet n v e).sty = none
    rw [styleDotSet_sty, hv]; exact aget_adel_same _ _
  · rw [setProperty_sty, hv]; exact aget_adel_same _ _

/-- … a non-empty value is what is read back under that property, and no writer touches any other property -/
theorem write_sets (n : Str) {s : Str} (hs : s ≠ []) (e : El) :
    aget (camelToDash n) (styleDotSet n (some s) e).sty = some s ∧ aget n (setProperty n (some s) e).sty = some s := by
  have hv : emptyVal (some s) = false := by simpa [emptyVal] using hs
  refine ⟨?_, ?_⟩
  · rw [styleDotSet_sty, hv]; exact aget_aset_same _ _ _
  · rw [setProperty_sty, hv]; exact aget_aset_same _ _ _

theorem write_frame (n : Str) (v : Option Str) (e : El) {k : Str} (hk : k ≠ n) :
    aget k (setProperty n v e).sty = aget k e.sty := by
  rw [setProperty_sty]
  exact aget_delOrSet_ne hk _ _ _

/-- in every reachable state the `style` key of the dict is present iff the map is non-empty — seen through `in` -/
theorem presence_contains {T : Tables} {e : El} (h : Reach T e) {k : Str} (hk : lower k = styleK) :
    contains k e = !e.sty.isEmpty := by
  unfold contains
  simp only [hk]
  rw [if_neg styleK_ne_classK]
  exact (reach_inv h).style

/-- `hasAttribute('style')`, any spelling, says present iff the map is non-empty (every reachable state) -/
theorem presence_hasAttribute {T : Tables} {e : El} (h : Reach T e) {k : Str} (hk : lower k = styleK) :
    hasAttribute k e = !e.sty.isEmpty := by
  unfold hasAttribute
  exact presence_contains h (by rw [lower_idem, hk])

/-- `keys()` lists `style` iff the map is non-empty (likewise the rendered start tag and the DOM node: `presence_startTag`,
    `presence_domItem`) -/
theorem presence_keys (e : El) : styleK ∈ (keys e).1 ↔ e.sty ≠ [] := by
  rw [keys_fst]
  exact style_mem_sync e

theorem presence_startTag (T : Tables) (e : El) : styleK ∈ akeys (readBack (startTagItems T e).1) ↔ e.sty ≠ [] := by
  rw [akeys_readBack]
  exact presence_keys e

theorem presence_domItem (T : Tables) {e : El} (h : Reach T e) :
    domItem T styleK e = if e.sty.isEmpty then none else some (styleK, .style (asStr e.sty)) := by
  unfold domItem
  simp only [lower_styleK, presence_contains h lower_styleK, view_getitem T lower_styleK]
  cases e.sty.isEmpty <;> rfl

/-! ### C10c — parse ∘ render -/

/-- `styleToDict (asStr m) = m` on maps with distinct, trimmed, lower-case, `:`/`;`-free names and trimmed `;`-free values -/
theorem parse_render {m : AL Str} (h : StyRT m) : styleToDict (asStr m) = m := styleToDict_asStr h

/-- every style string parses to a map of that kind (`StyRT`) -/
theorem parse_is_roundtrippable (s : Str) : StyRT (styleToDict s) := styRT_styleToDict s

/-- a style string parses to the same mapping that its rendering parses to -/
theorem parse_render_parse (s : Str) : styleToDict (asStr (styleToDict s)) = styleToDict s := styleToDict_render_idem s

/-- in every state reached by the writers of the property (names and values of its domain: trimmed, `;`-free;
    whole-style strings arbitrary) the element's map is round-trippable -/
theorem reach_roundtrippable (T : Tables) (tag : Str) (sc : Bool) (attrs : List (Str × Option Str)) (ops : List Op)
    (ho : ∀ op ∈ ops, GoodStyOp op) : StyRT (run T (mk T tag sc attrs) ops).sty :=
  styRT_run T ops ho (styRT_mk T tag sc attrs)

/-- re-parsing the rendered start tag yields the same map (the rendered value must be free of `&`) -/
theorem view_reparse (T : Tables) {e : El} (hr : Reach T e) (h : StyRT e.sty) (hamp : '&' ∉ asStr e.sty) :
    (reparse T e).1.sty = e.sty :=
  mk_sty_eq T _ _ (goodKeys_of_sync (reach_inv hr) (akeys_readBack T e)) h (by rw [view_startTag, unescQ_escQ hamp])

/-- `NoAmp` (no property name and no value contains `&`) is an invariant of all histories whose operands are free
    of `&` (`AmpFreeAttrs`: the `style` value in the constructor's list; `AmpFreeOp`: names, values and whole-style
    strings handed to the style writers, and the value written to a `style` attribute through any attribute
    writer; operations that do not address `style` are unrestricted) -/
theorem reach_amp_free (T : Tables) (tag : Str) (sc : Bool) (attrs : List (Str × Option Str)) (ops : List Op)
    (ha : AmpFreeAttrs attrs) (ho : ∀ op ∈ ops, AmpFreeOp T op) : NoAmp (run T (mk T tag sc attrs) ops).sty :=
  noAmp_run T ops ho (noAmp_mk T tag sc attrs ha)

/-- `NoAmp` is kept by every single operation whose operands are free of `&` (`AmpFreeOp`) -/
theorem amp_free_step (T : Tables) (op : Op) (hop : AmpFreeOp T op) {e : El} (h : NoAmp e.sty) : NoAmp (step T e op).2.sty :=
  noAmp_step T op hop h

/-- the rendering of a map without `&` (`NoAmp`) contains no `&` -/
theorem rendering_amp_free {m : AL Str} (h : NoAmp m) : '&' ∉ asStr m := amp_not_mem_asStr h

/-- `view_reparse` with the hypotheses on the operands only: after any history whose style operands are inside
    the property's domain (`GoodStyOp`: trimmed, `;`-free names and values) and free of `&` (`AmpFreeOp`,
    `AmpFreeAttrs`), re-parsing the rendered start tag yields the same style map. -/
theorem view_reparse_history (T : Tables) (tag : Str) (sc : Bool) (attrs : List (Str × Option Str)) (ops : List Op)
    (hg : ∀ op ∈ ops, GoodStyOp op) (ha : AmpFreeAttrs attrs) (ho : ∀ op ∈ ops, AmpFreeOp T op) :
    (reparse T (run T (mk T tag sc attrs) ops)).1.sty = (run T (mk T tag sc attrs) ops).sty :=
  view_reparse T ⟨tag, sc, attrs, ops, rfl⟩ (reach_roundtrippable T tag sc attrs ops hg)
    (rendering_amp_free (reach_amp_free T tag sc attrs ops ha ho))

/-- cloneNode, copy, unpickling, `eval(repr(tag))` reproduce the map -/
theorem view_clone (T : Tables) {e : El} (hr : Reach T e) (h : StyRT e.sty) : (clone T e).1.sty = e.sty :=
  mk_sty_eq T _ _ (goodKeys_of_sync (reach_inv hr) (akeys_attrsList e)) h (view_attrsList e)

/-- the seven whole-style strings of the property: what they parse to -/
example : styleToDict [] = [] := by decide +kernel
example : styleToDict "display: block".toList = [("display".toList, "block".toList)] := by decide +kernel
example : styleToDict "color:red;float:left".toList = [("color".toList, "red".toList), ("float".toList, "left".toList)] := by decide +kernel
example : styleToDict " padding-top : 5px ; ".toList = [("padding-top".toList, "5px".toList)] := by decide +kernel
example : styleToDict "a:b;a:c".toList = [("a".toList, "c".toList)] := by decide +kernel
example : styleToDict "Color: RED".toList = [("color".toList, "RED".toList)] := by decide +kernel
example : styleToDict "display: none;;".toList = [("display".toList, "none".toList)] := by decide +kernel

/-! ### C10d — equality ignores order -/

/-- `==` on two style objects is extensional equality of the two maps -/
theorem eq_iff_same_mapping (a b : AL Str) : styleEq a b = true ↔ ∀ k, aget k a = aget k b := styleEq_iff_ext a b

/-- `==` on two style objects is blind to the order of the properties -/
theorem eq_ignores_order {a b : AL Str} (hp : a.Perm b) (hn : (akeys a).Nodup) : styleEq a b = true :=
  styleEq_of_perm hp hn

/-! ### C10e — assigning another element's style copies it -/

/-- `b.style = a.style` gives `b` a map equal to `a`'s (a copy through `str()` and `styleToDict`), attached to `b` -/
theorem assign_copies {m : AL Str} (h : StyRT m) (b : El) :
    (assignStyleFrom m b).sty = m ∧ (ahas styleK (assignStyleFrom m b).dict = !m.isEmpty) := by
  have h1 : (assignStyleFrom m b).sty = m := by rw [assignStyleFrom_sty, parse_render h]
  exact ⟨h1, (ahas_style_ensureStyle _).trans (congrArg (fun x => !List.isEmpty x) (parse_render h))⟩

/- C10e, "copying a style between elements never aliases them": NOT a theorem here.  The clause is about Python
   object identity (after `b.style = a.style` the two elements do not share one `StyleAttribute` object).  The model's
   elements are values: "an operation on `a` leaves `b` alone" is `x = x` for two variables.  What IS proved: the
   assignment copies the map (`assign_copies`,
   `write_read_map` below).  The clause itself is checked on the real code only: oracle
   `harness/ahpcheck/props/c10.py`, failure kind `aliased` (five kinds of receiving element — new, clone, deepcopy,
   unpickled, unpickled through setAttribute — write to the copy / to the source, read the other), every history. -/

/-- interleavings: every operation that does not address the style attribute (other attributes, class writers,
    readers) leaves the style map exactly as it was -/
theorem other_operations_keep_style (T : Tables) (op : Op) (h : KeepsStyle T op) (e : El) : (step T e op).2.sty = e.sty :=
  step_sty_frame T op h e

/-! ### C10f — WRITE → READ and FRAME for the style writers

  Property writers: `style.<camel> = v`, `setStyle`, `setStyles`, `style.setProperty`.  Whole-style writers:
  `style = <string>`, `style = other.style`, `setAttribute('style', v)`, `attributes['style'] = v`,
  `removeAttribute('style')`, `del attributes['style']` (any spelling of the key). -/

theorem validName_of_style {k : Str} (hk : lower k = styleK) : validName k = true := by
  rw [← validName_lower, hk]; decide

/-- one property write on a map: an empty value (`''`, `None`) removes, any other value sets (existing property keeps
    its place, a new one goes last) -/
def writeProp (m : AL Str) (n : Str) (v : Option Str) : AL Str :=
  if emptyVal v then adel n m else aset n (v.getD []) m

/-- WRITE → READ, the map, property writers: `style.<camel> = v` and `setStyle(camel, v)` write the dash name,
    `setProperty(name, v)` the name as given; `setStyles` is the sequence of `setStyle` calls -/
theorem write_read_property (n : Str) (v : Option Str) (l : List (Str × Option Str)) (e : El) :
    (styleDotSet n v e).sty = writeProp e.sty (camelToDash n) v ∧ (setStyle n v e).sty = writeProp e.sty (camelToDash n) v ∧
    (setProperty n v e).sty = writeProp e.sty n v ∧
    (setStyles l e).sty = l.foldl (fun m p => writeProp m (camelToDash p.1) p.2) e.sty := by
  refine ⟨styleDotSet_sty n v e, styleDotSet_sty n v e, setProperty_sty n v e, ?_⟩
  induction l generalizing e with
  | nil => rfl
  | cons p l ih =>
    unfold setStyles
    simp only [List.foldl_cons]
    have := ih (setStyle p.1 p.2 e)
    unfold setStyles at this
    rw [this]
    show List.foldl _ (styleDotSet p.1 p.2 e).sty l = _
    rw [styleDotSet_sty]
    rfl

/-- reading the written property back, and every other property unchanged -/
theorem writeProp_read (m : AL Str) (n : Str) (v : Option Str) (k : Str) :
    aget k (writeProp m n v) = if k = n then (if emptyVal v then none else some (v.getD [])) else aget k m := by
  by_cases hk : k = n
  · subst hk
    rw [if_pos rfl]
    exact aget_delOrSet_same _ _ _ _
  · rw [if_neg hk]
    exact aget_delOrSet_ne hk _ _ _

/-- WRITE → READ through the property readers: after `setStyle(n, s)` (`s` non-empty) `style.<n>` and
    `getStyle(dash name)` give `s`; after an empty value they give `''`; any other property reads as before -/
theorem write_read_setStyle (n : Str) (v : Option Str) (e : El) :
    styleDotGet n (setStyle n v e) = (if emptyVal v then [] else v.getD []) ∧
    getStyle (camelToDash n) (setStyle n v e) = (if emptyVal v then [] else v.getD []) ∧
    (∀ n', camelToDash n' ≠ camelToDash n → styleDotGet n' (setStyle n v e) = styleDotGet n' e) := by
  have hs := (write_read_property n v [] e).2.1
  refine ⟨?_, ?_, ?_⟩
  · rw [view_dot, hs, writeProp_read, if_pos rfl]
    split <;> rfl
  · rw [view_getStyle, lower_of_noUpper (camelToDash_noUpper n), hs, writeProp_read, if_pos rfl]
    split <;> rfl
  · intro n' hne
    rw [view_dot, view_dot, hs, writeProp_read, if_neg hne]

/-- WRITE → READ, the map, whole-style writers: the map becomes `styleToDict` of the assigned string (`None`: the empty
    map) — through `setAttribute` / the mapping as well, although those copy the parsed style once more through its
    text (`styleToDict_render_idem`); assigning another element's style (`src` = what was assigned to it) likewise;
    the removers empty it -/
theorem write_read_map (T : Tables) {k : Str} (hk : lower k = styleK) (v : Option Str) (src : Str) (e : El) :
    (assignStyle v e).sty = styleToDict (v.getD []) ∧
    (setAttribute T k v e).2.sty = styleToDict (v.getD []) ∧ (setAttribute T k v e).1 = .ok ∧
    (mapSet T k v e).2.sty = styleToDict (v.getD []) ∧
    (assignStyleFrom (styleToDict src) e).sty = styleToDict src ∧
    (removeAttribute k e).sty = [] ∧ (mapDel k e).sty = [] := by
  have hv := validName_of_style hk
  refine ⟨assignStyle_sty v e, ?_, setAttribute_valid T hv v e, ?_, ?_, ?_, ?_⟩
  · rw [setAttribute_eq_mapSet T hv, mapSet_style T hk]; exact ensureStyle_sty _
  · rw [mapSet_style T hk]; exact ensureStyle_sty _
  · rw [assignStyleFrom_eq]; exact ensureStyle_sty _
  · unfold removeAttribute
    rw [mapDel_style (by rw [lower_idem]; exact hk)]; exact ensureStyle_sty _
  · rw [mapDel_style hk]; exact ensureStyle_sty _

/-- WRITE → READ, every view: in a reachable state whose map is `m` — the state each writer above leaves —
    `str(style)`, `attributes['style']`, `getAttribute('style')`, the presence tests and the one list of C08 read
    `m` / its rendering back -/
theorem write_read_views (T : Tables) (hT : StylePlain T) (m : AL Str) {e' : El} (hr : Reach T e') (h : e'.sty = m)
    (d : PyVal) :
    styleStr e' = asStr m ∧ getitem T styleK e' = .style (asStr m) ∧
    (getAttribute T styleK d e').1 = .style (asStr m) ∧
    hasAttribute styleK e' = !m.isEmpty ∧ contains styleK e' = !m.isEmpty ∧
    aget styleK (viewList e') = (if m.isEmpty then none else some (some (asStr m))) := by
  refine ⟨?_, ?_, ?_, ?_, ?_, ?_⟩
  · rw [view_str, h]
  · rw [view_getitem T lower_styleK, h]
  · rw [view_getAttribute T lower_styleK hT, h]
  · rw [presence_hasAttribute hr lower_styleK, h]
  · rw [presence_contains hr lower_styleK, h]
  · rw [view_attrsList, h]

theorem reach_step {T : Tables} {e : El} (h : Reach T e) (op : Op) : Reach T (step T e op).2 := by
  obtain ⟨tag, sc, attrs, ops, rfl⟩ := h
  exact ⟨tag, sc, attrs, ops ++ [op], (run_snoc T _ ops op).symm⟩

/-- e.g. `setAttribute('style', s)` then the views: the composite -/
theorem write_read_setAttribute (T : Tables) (hT : StylePlain T) {e : El} (hr : Reach T e) (s : Str) (d : PyVal) :
    styleStr (setAttribute T styleK (some s) e).2 = asStr (styleToDict s) ∧
    (getAttribute T styleK d (setAttribute T styleK (some s) e).2).1 = .style (asStr (styleToDict s)) ∧
    hasAttribute styleK (setAttribute T styleK (some s) e).2 = !(styleToDict s).isEmpty :=
  have h := write_read_views T hT (styleToDict s) (reach_step hr (.setAttr styleK (some s)))
    ((write_read_map T lower_styleK (some s) [] e).2.1) d
  ⟨h.1, h.2.2.1, h.2.2.2.1⟩

/-- FRAME: a style writer leaves every other key of the mapping — `class` included — listed as it was, and the class
    list untouched.  `op` ranges over the operations that address `style` only. -/
theorem write_frame_other_keys (T : Tables) (op : Op) (hop : addresses T op = [styleK]) {e : El} (h : DictInv e)
    {k : Str} (hk : k ≠ styleK) :
    aget k (viewList (step T e op).2) = aget k (viewList e) ∧ (step T e op).2.cls = e.cls := by
  refine ⟨frame_lookup T op h (by rw [hop]; simpa using hk), step_cls_of_addresses T op e ?_⟩
  rw [hop]
  simpa using classK_ne_styleK

/-- the style writers are such operations (any spelling of the key) -/
theorem style_writers_address_style (T : Tables) {k : Str} (hk : lower k = styleK) (n src : Str) (v : Option Str)
    (l : List (Str × Option Str)) :
    addresses T (.styDot n v) = [styleK] ∧ addresses T (.styProp n v) = [styleK] ∧ addresses T (.setStyle n v) = [styleK] ∧
    addresses T (.setStyles l) = [styleK] ∧ addresses T (.styAssign v) = [styleK] ∧ addresses T (.styCopy src) = [styleK] ∧
    addresses T (.setAttr k v) = [styleK] ∧ addresses T (.rmAttr k) = [styleK] ∧ addresses T (.mapSet k v) = [styleK] ∧
    addresses T (.mapDel k) = [styleK] := by
  simp [addresses, hk]

/-- every style writer is "replace the map, then `_ensureHtmlAttribute`" -/
theorem writers_shape (T : Tables) {k : Str} (hk : lower k = styleK) (n src : Str) (v : Option Str) (e : El) :
    styleDotSet n v e = ensureStyle { e with sty := writeProp e.sty (camelToDash n) v } ∧
    setProperty n v e = ensureStyle { e with sty := writeProp e.sty n v } ∧
    assignStyle v e = ensureStyle { e with sty := styleToDict (v.getD []) } ∧
    assignStyleFrom (styleToDict src) e = ensureStyle { e with sty := styleToDict src } ∧
    (mapSet T k v e).2 = ensureStyle { e with sty := styleToDict (v.getD []) } ∧
    mapDel k e = ensureStyle { e with sty := [] } :=
  ⟨rfl, rfl, rfl, assignStyleFrom_eq src e, by rw [mapSet_style T hk], mapDel_style hk e⟩

/-- **The list as a LIST.**  Replacing the style map by `m` and running `_ensureHtmlAttribute` (`writers_shape`) is
    `d['style'] = str(style)` — `del d['style']` for an empty `m` — on the one list: the entry keeps its place when
    `style` was listed, goes last when it was not, every other entry stays where it is.  Hypothesis `ClassSynced`:
    the state any list-shaped reader leaves (C08 `write_list_set_after_read`). -/
theorem write_list_style {e : El} (h : DictInv e) (hs : ClassSynced e) (m : AL Str) :
    viewList (ensureStyle { e with sty := m }) =
      if m.isEmpty then adel styleK (viewList e) else aset styleK (some (asStr m)) (viewList e) :=
  viewList_set_sty h hs.noPending m

/-- in every state: the same on the list without its `class` entry -/
theorem write_list_style_general {e : El} (h : DictInv e) (m : AL Str) :
    adel classK (viewList (ensureStyle { e with sty := m })) =
      if m.isEmpty then adel styleK (adel classK (viewList e))
      else aset styleK (some (asStr m)) (adel classK (viewList e)) := viewList_style_sans_class h m

/-! ### non-vacuity -/

def T0 : Tables := { binary := [], binStr := [], links := [] }

example : StylePlain T0 := rfl

/-- `style.paddingTop = '5px'`, `setStyle('display', 'block')`, `style.setProperty('padding-top', '')` -/
example : (run T0 (mk T0 ['d', 'i', 'v'] false [])
      [.styDot "paddingTop".toList (some "5px".toList), .setStyle "display".toList (some "block".toList),
       .styProp "padding-top".toList (some [])]).sty = [("display".toList, "block".toList)] := by decide +kernel

example : GoodStyName "padding-top".toList := ⟨by decide +kernel, by decide +kernel, by decide +kernel, by decide +kernel⟩

/-- the operand conditions are satisfiable: the history above is inside `GoodStyOp` and `AmpFreeOp`, and re-parsing
    reproduces its map -/
def exOps : List Op :=
  [.styDot "paddingTop".toList (some "5px".toList), .setStyle "display".toList (some "block".toList),
   .styProp "padding-top".toList (some []), .setAttr "title".toList (some "a&b".toList),
   .styAssign (some "color: red; float:left".toList)]

example : ∀ op ∈ exOps, AmpFreeOp T0 op := by
  intro op h
  simp only [exOps, List.mem_cons, List.not_mem_nil, or_false] at h
  rcases h with rfl | rfl | rfl | rfl | rfl
  · exact ⟨by decide +kernel, fun s hs => by cases hs; decide +kernel⟩
  · exact ⟨by decide +kernel, fun s hs => by cases hs; decide +kernel⟩
  · exact ⟨by decide +kernel, fun s hs => by cases hs; decide +kernel⟩
  · exact fun hk => absurd hk (by decide +kernel)
  · exact fun s hs => by cases hs; decide +kernel

example : AmpFreeAttrs [("style".toList, some "top: 1px".toList), ("title".toList, some "a&b".toList)] := by
  intro p hp
  simp only [List.mem_cons, List.not_mem_nil, or_false] at hp
  rcases hp with rfl | rfl
  · exact fun _ s hs => by cases hs; decide +kernel
  · exact fun hk => absurd hk (by decide +kernel)

example : (run T0 (mk T0 ['d', 'i', 'v'] false [("style".toList, some "top: 1px".toList)]) exOps).sty
    = [("color".toList, "red".toList), ("float".toList, "left".toList)] := by decide +kernel

/-- outside the operand condition the re-parse does change the map: `&quot;` in a value is read back as `"` -/
example : (reparse T0 (run T0 (mk T0 ['d', 'i', 'v'] false []) [.styProp "content".toList (some "&quot;".toList)])).1.sty
    ≠ (run T0 (mk T0 ['d', 'i', 'v'] false []) [.styProp "content".toList (some "&quot;".toList)]).sty := by decide +kernel

/-- `setAttribute('STYLE', 'Color: RED; junk; top : 1px')` replaces the map by what the string parses to -/
example : ((setAttribute T0 "STYLE".toList (some "Color: RED; junk; top : 1px".toList)
      (run T0 (mk T0 ['d', 'i', 'v'] false []) [.styProp "float".toList (some "left".toList)])).2).sty
    = [("color".toList, "RED".toList), ("top".toList, "1px".toList)] := by decide +kernel
/-- `setStyles` is the sequence of `setStyle` calls; an empty value removes -/
example : (setStyles [("paddingTop".toList, some "5px".toList), ("float".toList, none), ("color".toList, some "red".toList)]
      (run T0 (mk T0 ['d', 'i', 'v'] false []) [.styProp "float".toList (some "left".toList)])).sty
    = [("padding-top".toList, "5px".toList), ("color".toList, "red".toList)] := by decide +kernel
/-- a `ClassSynced` state with a class and an attribute: a style write puts `style` last, a second one rewrites it in
    place, emptying the style deletes the entry; nothing else moves -/
def eS : El := run T0 (mk T0 ['d', 'i', 'v'] false [(classK, some ['a']), ("id".toList, some ['i'])]) [.sync]
example : DictInv eS ∧ ClassSynced eS := ⟨reach_inv ⟨_, _, _, _, rfl⟩, by unfold ClassSynced; decide +kernel⟩
example : viewList (setStyle "top".toList (some "1px".toList) eS)
    = [("id".toList, some ['i']), (classK, some ['a']), (styleK, some "top: 1px".toList)] := by decide +kernel
example : viewList (setAttribute T0 "title".toList (some ['t']) (setStyle "top".toList (some "1px".toList) eS)).2
    = [("id".toList, some ['i']), (classK, some ['a']), (styleK, some "top: 1px".toList), ("title".toList, some ['t'])] := by decide +kernel
example : viewList (assignStyle (some "top: 2px; left: 0".toList)
      (setAttribute T0 "title".toList (some ['t']) (setStyle "top".toList (some "1px".toList) eS)).2)
    = [("id".toList, some ['i']), (classK, some ['a']), (styleK, some "top: 2px; left: 0".toList), ("title".toList, some ['t'])] := by
  decide +kernel
example : viewList (removeAttribute styleK (setStyle "top".toList (some "1px".toList) eS))
    = [("id".toList, some ['i']), (classK, some ['a'])] := by decide +kernel

end AHP.C10
