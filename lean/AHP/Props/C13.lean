/-
  C13 — the validating parser raises exactly on nesting / attribute-name errors, else builds the same tree.

  Model: `vStepT`/`vRun`/`vFeedTokens` in AHP/Model/Builder.lean (Validator.py).  Specification:
  AHP/Spec/Validate.lean (`classify`: a scan over names only; `Bal`: the grammar of balanced documents).
-/
import AHP.Lemmas.ValidateTree
import AHP.Lemmas.ValidateDoc
import AHP.Props.C01
namespace AHP.C13
open AHP AHP.Spec

def vRunT (s : TState) : List Token → Outcome TState
  | [] => .ok s
  | t :: ts => match vStepT s t with
    | .ok s' => vRunT s' ts
    | .multipleRoot => .multipleRoot
    | .invalidClose => .invalidClose
    | .missedClose => .missedClose
    | .invalidAttr => .invalidAttr

def outClass {σ : Type} : Outcome σ → Option Exc
  | .ok _ => none
  | .multipleRoot => some .multipleRoot
  | .invalidClose => some .invalidClose
  | .missedClose => some .missedClose
  | .invalidAttr => some .invalidAttr

theorem vRun_eq (ts : List Token) : ∀ s : BState,
    vRun s ts = (vRunT s.tree ts).map (fun tr => ⟨tr, ts.foldl stepD s.doctype⟩) := by
  induction ts with
  | nil => intro s; rfl
  | cons t ts ih =>
    intro s
    simp only [vRun, vRunT, vStep]
    cases h : vStepT s.tree t <;> simp [Outcome.map, ih]

/-- **C13a.** Which exception the validating parser raises — if any — is what the names-only scan says:
    the first stray close, skipped close or illegal attribute name, whichever comes first (or the
    several-top-level-nodes condition that triggers the wrapper retry). -/
theorem vRunT_classify (ts : List Token) : ∀ s : TState,
    outClass (vRunT s ts) = classify (names s) s.hasRoot ts := by
  induction ts with
  | nil => intro s; rfl
  | cons t ts ih =>
    intro s
    obtain ⟨h1, h2⟩ := vStepT_errAt s t
    rw [classify_cons, ← h1]
    simp only [vRunT]
    cases hv : vStepT s t with
    | ok s' =>
      obtain ⟨hn, hr⟩ := h2 s' hv
      simp only [Outcome.err]
      rw [← hn, ← hr]
      exact ih s'
    | _ => rfl

theorem vStepT_ok_stepT (s s1 : TState) (t : Token) (hv : vStepT s t = .ok s1) : stepT s t = .ok s1 := by
  rcases vStepT_eq_or_validator s t with e | e | e | e <;> rw [e] at hv <;> first | exact hv | cases hv

theorem vStepT_multipleRoot_stepT (s : TState) (t : Token) (hv : vStepT s t = .multipleRoot) :
    stepT s t = .multipleRoot := by
  rcases vStepT_eq_or_validator s t with e | e | e | e <;> rw [e] at hv <;> first | exact hv | cases hv

/-- **C13c.** When the validating parser does not raise it has built exactly what the plain parser builds. -/
theorem vRunT_ok_same_tree (ts : List Token) : ∀ s s' : TState, vRunT s ts = .ok s' → runT s ts = .ok s' := by
  induction ts with
  | nil => intro s s' h; exact h
  | cons t ts ih =>
    intro s s' h
    simp only [vRunT] at h
    rcases vStepT_eq_or_validator s t with e | e | e | e <;> rw [e] at h <;> try cases h
    simp only [runT]
    cases hs : stepT s t <;> rw [hs] at h <;> first | exact ih _ _ h | cases h

theorem vRunT_append (l1 : List Token) : ∀ (l2 : List Token) (sa sb : TState),
    vRunT sa l1 = .ok sb → vRunT sa (l1 ++ l2) = vRunT sb l2 := by
  induction l1 with
  | nil => intro l2 sa sb h; simp [vRunT] at h; rw [h]; rfl
  | cons x l1 ihl =>
    intro l2 sa sb h
    simp only [vRunT, List.cons_append] at h ⊢
    cases hx : vStepT sa x <;> rw [hx] at h <;> simp at h ⊢
    exact ihl l2 _ sb h

/-- **C13b (inside an open element).** A balanced sequence with legal attribute names is accepted and
    leaves the open elements as they were — proved from the grammar, not from the scan. -/
theorem bal_accepted_inside {ts : List Token} (hb : Bal ts) : ∀ s : TState, s.stack ≠ [] →
    ∃ s', vRunT s ts = .ok s' ∧ names s' = names s := by
  have next : ∀ {s s1 : TState} {t : Token} {ts : List Token}, vStepT s t = .ok s1 → names s1 = names s →
      (∃ s', vRunT s1 ts = .ok s' ∧ names s' = names s1) → ∃ s', vRunT s (t :: ts) = .ok s' ∧ names s' = names s :=
    fun h1 h2 ⟨s', h3, h4⟩ => ⟨s', by simp only [vRunT, h1]; exact h3, h4.trans h2⟩
  induction hb with
  | nil => intro s _; exact ⟨s, rfl, rfl⟩
  | inert t ts hi _ ih =>
    intro s hne
    -- an inert token is no tag: it appends its block, if it has one
    have hv : vStepT s t = stepT s t := by cases t <;> first | rfl | cases hi
    rw [stepT_text_inside hne (t := t) (fun _ e => by rw [e] at hi; cases hi)
      (fun _ _ e => by rw [e] at hi; cases hi) (fun _ _ e => by rw [e] at hi; cases hi)] at hv
    cases hx : textOf t <;> rw [hx] at hv
    · exact next hv rfl (ih s hne)
    · exact next hv (names_addNode _ _) (ih _ (addNode_stack_ne_nil hne _))
  | void n a ts hl hv _ ih =>
    intro s hne
    have h1 := (vStepT_legal hl s n).1
    rw [handleStart_inside s hne, hv] at h1
    exact next h1 (names_addNode _ _) (ih _ (addNode_stack_ne_nil hne _))
  | selfClosed n a ts hl _ ih =>
    intro s hne
    have h1 := (vStepT_legal hl s n).2
    rw [handleStart_inside s hne] at h1
    exact next h1 (names_addNode _ _) (ih _ (addNode_stack_ne_nil hne _))
  | elem n a inner ts hl hv _ _ ihi iht =>
    intro s hne
    have h1 := (vStepT_legal hl s n).1
    rw [handleStart_inside s hne, hv, if_neg (by decide)] at h1
    -- the content leaves this element innermost; its end tag closes exactly it
    obtain ⟨s2, h2, hn2⟩ := ihi { s with stack := ⟨lower n, intake a AttrState.empty, []⟩ :: s.stack }
      (List.cons_ne_nil _ _)
    obtain ⟨h3, hn3⟩ := vStepT_close (s := s2) (m := lower n) (o := names s) hn2
    obtain ⟨s', h4, h5⟩ := iht (pop1 s2) (names_ne_nil.mp (by rw [hn3]; exact names_ne_nil.mpr hne))
    refine ⟨s', ?_, h5.trans hn3⟩
    simp only [List.cons_append, vRunT, h1]
    rw [vRunT_append inner _ _ s2 h2]
    simp only [vRunT, h3]
    exact h4

/-- **C13b / C13d.** A balanced document placed inside the wrapper — which is how every multi-root
    serialisation is parsed, and how a single-root one is parsed after its root opens — validates. -/
theorem bal_wrapped_validates {ts : List Token} (hb : Bal ts) :
    ∃ s', vRunT TState.init (.start wrapperName [] :: ts ++ [.end_ wrapperName]) = .ok s' := by
  have hs := (vStepT_legal (a := []) rfl TState.init wrapperName).1
  rw [handleStart_init, wrapper_lower, ← isVoid_eq, wrapper_not_void, if_neg (by decide)] at hs
  obtain ⟨s2, h2, hn2⟩ := bal_accepted_inside hb ⟨[⟨wrapperName, intake [] AttrState.empty, []⟩], none⟩
    (List.cons_ne_nil _ _)
  refine ⟨pop1 s2, ?_⟩
  simp only [List.cons_append, vRunT, hs]
  rw [vRunT_append ts _ _ s2 h2]
  simp only [vRunT, (vStepT_close (s := s2) (m := wrapperName) (o := []) hn2).1]

/-! ### C13d — the serialisation of any tree produced by this library validates

  Trees are taken as the serialiser's token rendering sees them (`LNode`, `LNode.toks`, `toksL` of
  Lemmas/RoundTrip.lean; `C01.html_eq_render`: `getHTML` writes `renderToks` of these tokens).  `LNode.WF` is the
  serialiser's image (lower-case names, void ⇒ self-closing, self-closing ⇒ empty); `LNode.Legal` says every
  stored attribute name is legal — which holds for every tree the builder builds (`built_trees_legal`), because
  the constructor loop drops illegal names (`stored_names_legal`). -/

/-- **the intake drops illegal names.** Whatever attribute list the tokenizer delivers, the store built from
    it holds legal names only; so does any store after further intake. -/
theorem stored_names_legal (xs : List Attr) :
    (intake xs AttrState.empty).Legal ∧ ∀ st : AttrState, st.Legal → (intake xs st).Legal :=
  ⟨intake_empty_legal xs, intake_legal xs⟩

theorem written_names_legal (a : AttrState) (h : a.Legal) : legalAttrs a.view = true := view_legal a h

/-- every tree the plain parser builds — any token sequence, first or second pass — has legal stores -/
theorem built_trees_legal (toks : List Token) (d : Doc) (second : Bool) (h : feedTokens toks = .doc d second) :
    ∀ r, d.root = some r → r.LegalN :=
  feedTokens_inv legal_inv toks d second h

/-- every tree the plain parser builds has the element shape of the serialiser's image: lower-case names,
    void ⇒ self-closing, self-closing ⇒ no blocks -/
theorem built_trees_wf (toks : List Token) (d : Doc) (second : Bool) (h : feedTokens toks = .doc d second) :
    ∀ r, d.root = some r → r.WFN :=
  feedTokens_inv wfs_inv toks d second h

/-- … and so does the tree the round trip of C01 lands in (`reintake`), whatever the original stores held -/
theorem reparsed_tree_legal (t : LNode) : t.toNode.reintake.LegalN := reintake_legalN _

/-- **C13d (tokens of a tree are balanced).** For every tree in the serialiser's image with legal stored names,
    any size and depth, the token list of its serialisation is in the grammar `Bal`: text-like tokens are inert,
    a self-closing element (void or written `<x />`) is a single `startend` leaf, every other element is its
    start tag, the balanced tokens of its blocks, and its own end tag; all attribute names legal. -/
theorem tokens_of_tree_balanced (t : LNode) (h : t.WF) (hl : t.Legal) : Bal t.toks := toks_bal t h hl

theorem tokens_of_forest_balanced (ks : List LNode) (h : WFLL ks) (hl : LegalLL ks) : Bal (toksL ks) :=
  toksL_bal ks h hl

/-- **C13b/c (whole-run form).** On a balanced token list with legal attribute names the validating parser and
    the plain parser do the same thing in every state: same tree, or the same `MultipleRootNodeException`. -/
theorem bal_vRunT_eq_runT {ts : List Token} (hb : Bal ts) : ∀ s : TState, vRunT s ts = runT s ts := by
  have next : ∀ {s : TState} {t : Token} {ts : List Token}, vStepT s t = stepT s t →
      (∀ s, vRunT s ts = runT s ts) → vRunT s (t :: ts) = runT s (t :: ts) := by
    intro s t ts h ih
    simp only [vRunT, runT, h]
    cases stepT s t <;> first | exact ih _ | rfl
  induction hb with
  | nil => intro s; rfl
  | inert t ts hi _ ih => intro s; exact next (by cases t <;> first | rfl | cases hi) ih
  | void n a ts hl _ _ ih => intro s; exact next (vStepT_legal hl s n).1 ih
  | selfClosed n a ts hl _ ih => intro s; exact next (vStepT_legal hl s n).2 ih
  | elem n a inner ts hl hv hin _ _ iht =>
    intro s
    simp only [List.cons_append, vRunT, runT, stepT, (vStepT_legal hl s n).1]
    cases hs1 : handleStart s n a false with
    | ok s1 =>
      have hopen : s1.stack = ⟨lower n, intake a AttrState.empty, []⟩ :: s.stack := by
        rw [handleStart_eq, hv] at hs1
        split at hs1
        · cases hs1
        · cases hs1; rfl
      obtain ⟨s2, h2, hn2⟩ := bal_accepted_inside hin s1 (by rw [hopen]; exact List.cons_ne_nil _ _)
      obtain ⟨h3, _⟩ := vStepT_close (s := s2) (m := lower n) (o := names s) (by rw [hn2]; simp [names, hopen])
      simp only
      rw [vRunT_append inner _ s1 s2 h2, runT_append_ok inner _ s1 s2 (vRunT_ok_same_tree _ _ _ h2)]
      simp only [vRunT, runT, h3, vStepT_ok_stepT _ _ _ h3]
      exact iht (pop1 s2)
    | _ => rfl

theorem bal_vRun_eq_run {ts : List Token} (hb : Bal ts) (s : BState) : vRun s ts = run s ts := by
  rw [vRun_eq, run_eq, bal_vRunT_eq_runT hb]

/-- **C13b/c/d (documents).** A balanced token list with legal attribute names is treated by the validating
    parser exactly as by the plain parser — both passes: same document, same pass, never one of the three
    validator exceptions. -/
theorem bal_vFeed_eq_feed {ts : List Token} (hb : Bal ts) : vFeedTokens ts = feedTokens ts := by
  unfold vFeedTokens feedTokens
  rw [bal_vRun_eq_run hb, bal_vRun_eq_run (bal_wrapToks hb)]

theorem doctypeToks_bal (dt : Option Str) {ts : List Token} (h : Bal ts) : Bal (C01.doctypeToks dt ++ ts) := by
  unfold C01.doctypeToks
  cases dt with
  | none => exact h
  | some d =>
    by_cases hd : d.isEmpty = true
    · simpa [hd] using h
    · simp only [hd, Bool.false_eq_true, if_false, List.cons_append, List.nil_append]
      exact Bal.inert _ _ rfl (Bal.inert _ _ rfl h)

private theorem runT_doctypeToks (dt : Option Str) : runT TState.init (C01.doctypeToks dt) = .ok TState.init := by
  cases dt with
  | none => rfl
  | some d => simp only [C01.doctypeToks]; split <;> rfl

/-- the tokens `getHTML` writes for a single-root document: the doctype line, then the root's tokens -/
def docToks (dt : Option Str) (root : LNode) : List Token := C01.doctypeToks dt ++ root.toks

/-- **C13d (single root, tokens).** For every single-root document in the serialiser's image with legal stored
    names — any size, depth, doctype — the validating parser accepts the tokens of `getHTML` in its first pass and
    builds the document the plain parser builds from them: the tree with its stores re-read (C01a). -/
theorem serialisation_validates (dt : Option Str) (n : Str) (a : AttrState) (sc : Bool) (kids : List LNode)
    (hwf : (LNode.elem n a sc kids).WF) (hleg : (LNode.elem n a sc kids).Legal) :
    vFeedTokens (docToks dt (.elem n a sc kids)) = feedTokens (docToks dt (.elem n a sc kids)) ∧
    vFeedTokens (docToks dt (.elem n a sc kids))
      = .doc ⟨(C01.doctypeToks dt).foldl stepD none, some (LNode.elem n a sc kids).toNode.reintake⟩ false := by
  have heq := bal_vFeed_eq_feed (doctypeToks_bal dt (tokens_of_tree_balanced _ hwf hleg))
  exact ⟨heq, heq.trans (feedTokens_root _ (runT_doctypeToks dt) n a sc kids hwf)⟩

/-- **C13d (several top-level nodes, tokens).** A multi-root document (the plain first pass meets a second
    top-level node) with legal stored names: the validating parser raises the same `MultipleRootNodeException`
    in its first pass, accepts the tokens inside the wrapper, and builds the plain parser's document. -/
theorem serialisation_validates_multi (ks : List LNode) (hwf : WFLL ks) (hleg : LegalLL ks)
    (hmulti : run BState.init (toksL ks) = .multipleRoot) :
    vFeedTokens (toksL ks) = feedTokens (toksL ks) ∧
    vFeedTokens (toksL ks)
      = .doc ⟨none, some (.elem wrapperName AttrState.empty false (reintakeL (toNodeL ks)))⟩ true := by
  have heq := bal_vFeed_eq_feed (tokens_of_forest_balanced ks hwf hleg)
  exact ⟨heq, heq.trans (feedTokens_forest ks hwf hmulti)⟩

/-- **C13d, closing sentence of the property, for parsed documents.** Take ANY token sequence `toks0`, however
    badly nested; let the plain parser build its document in the first pass; present its root in lexical normal
    form (`root.toNode`, every text block one text-like token).  Then the tokens `getHTML` writes for it are
    accepted by the validating parser, which builds the same document as the plain parser: `WF` and `Legal` are
    not assumed but derived from the builder (`built_trees_wf`, `built_trees_legal`). -/
theorem serialisation_of_parsed_validates (toks0 : List Token) (d : Doc) (second : Bool)
    (h : feedTokens toks0 = .doc d second)
    (n : Str) (a : AttrState) (sc : Bool) (kids : List LNode)
    (hroot : d.root = some (LNode.elem n a sc kids).toNode) (htl : (LNode.elem n a sc kids).TextLike) :
    vFeedTokens (docToks d.doctype (.elem n a sc kids)) = feedTokens (docToks d.doctype (.elem n a sc kids)) ∧
    vFeedTokens (docToks d.doctype (.elem n a sc kids))
      = .doc ⟨(C01.doctypeToks d.doctype).foldl stepD none, some (LNode.elem n a sc kids).toNode.reintake⟩ false :=
  serialisation_validates d.doctype n a sc kids
    (wf_of_toNode _ htl (built_trees_wf toks0 d second h _ hroot))
    (legal_of_toNode _ (built_trees_legal toks0 d second h _ hroot))

/-- **C13d (text level, single root).** With the side condition of the lexer round trip (`ListOK`: every token
    in the serialiser's image and followed by something that keeps it a token of its own), the TEXT `getHTML`
    writes lexes to those tokens, and the validating parser accepts them and builds the plain parser's document. -/
theorem serialisation_validates_text (dt : Option Str) (n : Str) (a : AttrState) (sc : Bool) (kids : List LNode)
    (hwf : (LNode.elem n a sc kids).WF) (hleg : (LNode.elem n a sc kids).Legal) (hw : n ≠ wrapperName)
    (hok : ListOK (docToks dt (.elem n a sc kids))) :
    ∃ toks, lexStrict (docHTML dt (LNode.elem n a sc kids).toNode) = some toks ∧
      vFeedTokens toks = feedTokens toks ∧
      vFeedTokens toks
        = .doc ⟨(C01.doctypeToks dt).foldl stepD none, some (LNode.elem n a sc kids).toNode.reintake⟩ false := by
  refine ⟨docToks dt (.elem n a sc kids), ?_, serialisation_validates dt n a sc kids hwf hleg⟩
  rw [C01.docHTML_single dt n a sc kids hwf hw]
  exact lexStrict_renderToks _ hok

/-- **C13d (text level, several top-level nodes).** -/
theorem serialisation_validates_text_multi (ks : List LNode) (hwf : WFLL ks) (hleg : LegalLL ks)
    (hok : ListOK (toksL ks)) (hmulti : run BState.init (toksL ks) = .multipleRoot) :
    ∃ toks, lexStrict (docHTML none (.elem wrapperName AttrState.empty false (toNodeL ks))) = some toks ∧
      vFeedTokens toks = feedTokens toks ∧
      vFeedTokens toks
        = .doc ⟨none, some (.elem wrapperName AttrState.empty false (reintakeL (toNodeL ks)))⟩ true := by
  refine ⟨toksL ks, ?_, serialisation_validates_multi ks hwf hleg hmulti⟩
  have : docHTML none (.elem wrapperName AttrState.empty false (toNodeL ks)) = renderToks (toksL ks) := by
    simp [docHTML, Node.innerHTML, C01.htmlL_eq_render ks hwf]
  rw [this]
  exact lexStrict_renderToks _ hok

/-- **closing the loop**: what the validating parser built from a serialisation is itself a tree with legal
    stores (`reparsed_tree_legal`), so — being again in the serialiser's image — its own serialisation
    validates again. -/
theorem validated_tree_legal (n : Str) (a : AttrState) (sc : Bool) (kids : List LNode) :
    (LNode.elem n a sc kids).toNode.reintake.LegalN := reparsed_tree_legal _

example : Bal [.start "div".toList [("id".toList, some "a".toList)], .data "x".toList, .start "br".toList [],
    .end_ "div".toList] :=
  Bal.elem "div".toList _ [.data "x".toList, .start "br".toList []] [] (by decide +kernel) (by decide +kernel)
    (Bal.inert _ _ (by decide) (Bal.void _ _ _ (by decide) (by decide +kernel) Bal.nil)) Bal.nil

example : classify [] false [.start "a".toList [], .end_ "b".toList] = some .invalidClose := by decide +kernel

/-! non-vacuity of C13d: a nested document with a doctype, an attribute, a void element, a self-closed non-void
    element, text and a reference meets every hypothesis (`WF`, `Legal`, `ListOK`), its serialisation is the
    expected text, and the validating parser accepts it -/
def sampleTree : LNode :=
  .elem "div".toList ⟨[("id".toList, some "a".toList)], [], []⟩ false
    [.tok (.data "x".toList),
     .elem "br".toList AttrState.empty true [],
     .elem "span".toList AttrState.empty true [],
     .elem "p".toList AttrState.empty false [.tok (.entity "amp".toList)]]

theorem sampleTree_wf : sampleTree.WF := by
  simp only [sampleTree, LNode.WF, WFLL, and_true]
  refine ⟨by decide +kernel, by decide +kernel, by simp, by decide +kernel, ⟨by decide +kernel, by simp⟩, ⟨by decide +kernel, by simp⟩,
    by decide +kernel, by decide +kernel, by simp, by decide +kernel⟩

theorem sampleTree_legal : sampleTree.Legal := by
  simp only [sampleTree, LNode.Legal, LegalLL, and_true, true_and]
  refine ⟨?_, AttrState.empty_legal, AttrState.empty_legal, AttrState.empty_legal⟩
  intro p hp
  simp at hp
  subst hp
  decide

example : docToks (some "DOCTYPE html".toList) sampleTree =
    [.decl "DOCTYPE html".toList, .data "\n".toList,
     .start "div".toList [("id".toList, some "a".toList)], .data "x".toList, .startend "br".toList [],
     .startend "span".toList [], .start "p".toList [], .entity "amp".toList, .end_ "p".toList,
     .end_ "div".toList] := by decide +kernel

example : docHTML (some "DOCTYPE html".toList) sampleTree.toNode
    = "<!DOCTYPE html>\n<div id=\"a\" >x<br /><span /><p >&amp;</p></div>".toList := by
  char_lits; decide +kernel

example : Bal sampleTree.toks := tokens_of_tree_balanced _ sampleTree_wf sampleTree_legal

theorem sampleTree_listOK : ListOK (docToks (some "DOCTYPE html".toList) sampleTree) := by
  have e : docToks (some "DOCTYPE html".toList) sampleTree =
    [.decl "DOCTYPE html".toList, .data "\n".toList,
     .start "div".toList [("id".toList, some "a".toList)], .data "x".toList, .startend "br".toList [],
     .startend "span".toList [], .start "p".toList [], .entity "amp".toList, .end_ "p".toList,
     .end_ "div".toList] := by decide +kernel
  rw [e]
  exact listOK_of_noAdjData _ (by decide +kernel) (by decide +kernel) (by simp [NoAdjData, isData])

/-- the sample document's text validates: lexed, accepted in the first pass, same document as the plain parser -/
example : ∃ toks, lexStrict "<!DOCTYPE html>\n<div id=\"a\" >x<br /><span /><p >&amp;</p></div>".toList = some toks ∧
    vFeedTokens toks = feedTokens toks ∧
    vFeedTokens toks = .doc ⟨some "DOCTYPE html".toList, some sampleTree.toNode.reintake⟩ false := by
  have h := serialisation_validates_text (some "DOCTYPE html".toList) _ _ _ _ sampleTree_wf sampleTree_legal
    (by decide +kernel) sampleTree_listOK
  have e : docHTML (some "DOCTYPE html".toList) sampleTree.toNode
    = "<!DOCTYPE html>\n<div id=\"a\" >x<br /><span /><p >&amp;</p></div>".toList := by char_lits; decide +kernel
  have hd : (C01.doctypeToks (some "DOCTYPE html".toList)).foldl stepD none = some "DOCTYPE html".toList := by
    decide +kernel
  rw [← e, ← hd]
  exact h

/-- a badly nested, unclosed token sequence: its parsed document (implicit closes made explicit) validates -/
example : ∃ d, feedTokens [.start "DIV".toList [("ID".toList, some "a".toList), ("1bad".toList, none)],
      .start "b".toList [], .data "x".toList, .start "br".toList [], .end_ "div".toList, .end_ "p".toList] = .doc d false ∧
    d.root = some (LNode.elem "div".toList ⟨[("id".toList, some "a".toList)], [], []⟩ false
      [.elem "b".toList AttrState.empty false [.tok (.data "x".toList), .elem "br".toList AttrState.empty true []]]).toNode :=
  ⟨⟨none, some _⟩, FeedResult.eq_of_beq (by decide +kernel), rfl⟩

/-- a two-root forest (element, text, void element) takes the wrapper pass in both parsers -/
def sampleForest : List LNode :=
  [.elem "a".toList AttrState.empty false [], .tok (.data "x".toList), .elem "br".toList AttrState.empty true []]

example : vFeedTokens (toksL sampleForest)
    = .doc ⟨none, some (.elem wrapperName AttrState.empty false (reintakeL (toNodeL sampleForest)))⟩ true :=
  (serialisation_validates_multi sampleForest
    (by simp only [sampleForest, WFLL, LNode.WF, and_true]
        exact ⟨⟨by decide +kernel, by decide +kernel, by simp⟩, by decide +kernel, by decide +kernel, by decide +kernel, by simp⟩)
    (by simp only [sampleForest, LegalLL, LNode.Legal, and_true, true_and]
        exact ⟨AttrState.empty_legal, AttrState.empty_legal⟩)
    (Outcome.multipleRoot_of_err (by decide +kernel))).2

/-- the hypothesis `Legal` is needed: a store holding an illegal name (which the constructor would never let in)
    serialises to a text the validating parser rejects -/
example : vFeedTokens (LNode.elem "a".toList ⟨[("1x".toList, none)], [], []⟩ false []).toks
    = .raised .invalidAttr := FeedResult.eq_of_beq (by decide +kernel)

example : classify [] false [.start "a".toList [], .start "b".toList [], .end_ "a".toList] = some .missedClose := by
  decide +kernel

/-! ### Document level for ARBITRARY token sequences: the two-pass `vFeedTokens`

`vRunT_classify` and `vRunT_ok_same_tree` are about one pass on a tree state.  The parser of the property is
`vFeedTokens`: first pass; on MultipleRootNodeException the wrapped second pass.  Below: (i) the transfer of
MultipleRootNodeException to the plain parser, (ii) "when it does not raise it builds the same tree" for every
token sequence (multi-root, unclosed tails included), (iii) which exception `vFeedTokens` raises, by `classify`
over the pass that raises, (iv) the plain parser never raises one of the three validator exceptions. -/

/-- **(i) transfer.**  A validating pass that ends in MultipleRootNodeException: the plain pass ends there too
    (so both parsers take the retry together). -/
theorem vRunT_multipleRoot_transfer (ts : List Token) : ∀ s : TState,
    vRunT s ts = .multipleRoot → runT s ts = .multipleRoot := by
  induction ts with
  | nil => intro s h; cases h
  | cons t ts ih =>
    intro s h
    simp only [vRunT] at h
    cases hv : vStepT s t with
    | ok s1 =>
      rw [hv] at h
      simp only [runT, vStepT_ok_stepT s s1 t hv]
      exact ih s1 h
    | multipleRoot => simp only [runT, vStepT_multipleRoot_stepT s t hv]
    | _ => rw [hv] at h; cases h

private theorem vFeedTokens_eq (ts : List Token) : vFeedTokens ts = twoPass (vRunT TState.init) ts := by
  rw [← twoPass_of_map]; unfold vFeedTokens; rw [vRun_eq, vRun_eq]; rfl

/-- **(ii) C13c at document level.**  For EVERY token sequence — multi-root, fragments, unclosed tails —: when the
    validating parser does not raise, the plain parser returns the same document, in the same pass. -/
theorem vFeed_doc_same (ts : List Token) (d : Doc) (b : Bool) (h : vFeedTokens ts = .doc d b) :
    feedTokens ts = .doc d b := by
  rw [vFeedTokens_eq] at h
  rw [feedTokens_eq]
  unfold twoPass at h ⊢
  cases h1 : vRunT TState.init ts <;> rw [h1] at h <;> try cases h
  · rw [vRunT_ok_same_tree _ _ _ h1]
  · rw [vRunT_multipleRoot_transfer _ _ h1]
    simp only at h ⊢
    cases h2 : vRunT TState.init (wrapToks ts) <;> rw [h2] at h <;> try cases h
    rw [vRunT_ok_same_tree _ _ _ h2]

/-- the class of a whole `feed`: the first pass's; when that is "several top-level nodes", the wrapped pass's -/
def feedClass (ts : List Token) : Option Exc :=
  match classify [] false ts with
  | some .multipleRoot => classify [] false (wrapToks ts)
  | c => c

private theorem classify_init (ts : List Token) : classify [] false ts = outClass (vRunT TState.init ts) :=
  (vRunT_classify ts TState.init).symm

/-- **(iii) which exception, at document level.**  `vFeedTokens` raises `e` exactly when the names-only scan
    reports `e` for the pass that raises: the first pass — or, when the first pass stops at a second top-level
    node, the wrapped second pass (e.g. a stray close AFTER a second root surfaces in pass 2). -/
theorem vFeed_raises_iff (ts : List Token) (e : Exc) : vFeedTokens ts = .raised e ↔ feedClass ts = some e := by
  rw [vFeedTokens_eq]
  unfold feedClass twoPass
  rw [classify_init ts, classify_init (wrapToks ts)]
  cases vRunT TState.init ts <;> try simp [outClass, Outcome.exc, eq_comm]
  cases vRunT TState.init (wrapToks ts) <;> simp [outClass, Outcome.exc, eq_comm]

/-- … and it returns a document exactly when the scan accepts; the pass flag says whether the first pass met a
    second top-level node -/
theorem vFeed_doc_iff (ts : List Token) : (∃ d b, vFeedTokens ts = .doc d b) ↔ feedClass ts = none := by
  constructor
  · rintro ⟨d, b, h⟩
    cases hc : feedClass ts with
    | none => rfl
    | some e => rw [(vFeed_raises_iff ts e).mpr hc] at h; cases h
  · intro hc
    cases h : vFeedTokens ts with
    | doc d b => exact ⟨d, b, rfl⟩
    | raised e => rw [(vFeed_raises_iff ts e).mp h] at hc; cases hc

theorem vFeed_second_pass_iff (ts : List Token) (d : Doc) (b : Bool) (h : vFeedTokens ts = .doc d b) :
    b = true ↔ classify [] false ts = some .multipleRoot := by
  rw [vFeedTokens_eq] at h
  unfold twoPass at h
  rw [classify_init ts]
  cases h1 : vRunT TState.init ts <;> rw [h1] at h <;> try cases h
  · simp [outClass]
  · cases h2 : vRunT TState.init (wrapToks ts) <;> rw [h2] at h <;> cases h
    simp [outClass]

/-- (iii) in the declarative reading (`Spec.FirstError`: the first token in error, context by the names-only
    fold): one pass -/
theorem vRunT_firstError (ts : List Token) (s : TState) (e : Exc) :
    outClass (vRunT s ts) = some e ↔ FirstError (names s) s.hasRoot ts e := by
  rw [vRunT_classify]; exact classify_some_iff ts _ _ e

/-- … and acceptance: no token in error -/
theorem vRunT_accepts_iff_clean (ts : List Token) (s : TState) :
    (∃ s', vRunT s ts = .ok s') ↔ Clean (names s) s.hasRoot ts := by
  rw [← classify_none_iff, ← vRunT_classify]
  cases vRunT s ts <;> simp [outClass]

/-- **(iv)** the plain parser never ends in one of the three validator exceptions — so "never one of the three
    validator exceptions" for a document on which both parsers agree is a statement about the validating parser -/
theorem feedTokens_never_validator_exception (ts : List Token) :
    feedTokens ts ≠ .raised .invalidClose ∧ feedTokens ts ≠ .raised .missedClose ∧
    feedTokens ts ≠ .raised .invalidAttr := by
  have key : ∀ e, feedTokens ts = .raised e → e = .multipleRoot := by
    intro e h
    rcases feedTokens_cases ts with ⟨s, _, hf⟩ | ⟨_, ⟨s, _, hf⟩ | ⟨_, hf⟩⟩ <;> rw [hf] at h <;> cases h
    rfl
  refine ⟨?_, ?_, ?_⟩ <;> intro h <;> have := key _ h <;> cases this

/-- when the validating parser raises MultipleRootNodeException (the wrapped pass met a further top-level node:
    the input closes the wrapper itself), so does the plain parser -/
theorem vFeed_multipleRoot_same (ts : List Token) (h : vFeedTokens ts = .raised .multipleRoot) :
    feedTokens ts = .raised .multipleRoot := by
  rw [vFeedTokens_eq] at h
  rw [feedTokens_eq]
  unfold twoPass at h ⊢
  cases h1 : vRunT TState.init ts <;> rw [h1] at h <;> try cases h
  rw [vRunT_multipleRoot_transfer _ _ h1]
  simp only at h ⊢
  cases h2 : vRunT TState.init (wrapToks ts) <;> rw [h2] at h <;> try cases h
  rw [vRunT_multipleRoot_transfer _ _ h2]
  rfl

/-- a non-balanced multi-root input whose error is in the SECOND pass: `<a></a><b></c>` — the first pass stops
    at the second root `<b>` (MultipleRootNodeException), the wrapped pass meets the stray `</c>` -/
def twoRootsStray : List Token :=
  [.start "a".toList [], .end_ "a".toList, .start "b".toList [], .end_ "c".toList]

example : vRunT TState.init twoRootsStray = .multipleRoot := Outcome.multipleRoot_of_err (by decide +kernel)
example : vFeedTokens twoRootsStray = .raised .invalidClose := (vFeed_raises_iff _ _).mpr (by decide +kernel)
example : classify [] false twoRootsStray = some .multipleRoot := by decide +kernel
example : feedClass twoRootsStray = some .invalidClose := by decide +kernel
/-- the plain parser accepts it (wrapper pass, `b` closed at end of input, `</c>` ignored) -/
example : ∃ d, feedTokens twoRootsStray = .doc d true := FeedResult.doc_of_pass? (by decide +kernel)

/-- an unclosed tail in a multi-root input: in pass 2 the wrapper's own end tag meets `b` still open — a skipped
    close (MissedCloseException); the plain parser accepts the same input (`vFeed_doc_same` is not vacuous the
    other way round: see the next example) -/
example : vFeedTokens [.start "a".toList [], .end_ "a".toList, .start "b".toList []] = .raised .missedClose :=
  (vFeed_raises_iff _ _).mpr (by decide +kernel)

/-- … while a multi-root input with every element closed is accepted in pass 2 with the plain parser's document -/
example : ∃ d, vFeedTokens [.start "a".toList [], .end_ "a".toList, .data "x".toList, .start "b".toList [], .end_ "b".toList]
      = .doc d true ∧
    feedTokens [.start "a".toList [], .end_ "a".toList, .data "x".toList, .start "b".toList [], .end_ "b".toList]
      = .doc d true :=
  let ⟨d, h⟩ := FeedResult.doc_of_pass? (x := vFeedTokens _) (by decide +kernel)
  ⟨d, h, vFeed_doc_same _ d true h⟩

/-- the declarative reading on the same input: the first token in error is the third (`<b>`), in the context `[]` -/
example : FirstError [] false twoRootsStray .multipleRoot :=
  (classify_some_iff _ _ _ _).mp (by decide +kernel)

end AHP.C13
