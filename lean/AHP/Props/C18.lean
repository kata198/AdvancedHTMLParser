/-
  C18 — Identity is by uid; TagCollection is an ordered set closed under its operators.

  Model: AHP/Model/Coll.lean.  Specification and helper lemmas: AHP/Lemmas/Coll.lean (`firstOcc`, `Coll.Inv`),
  AHP/Lemmas/CollIdent.lean (`natIndex`, `SameTag`, `IsDict`, `UTree.Has`, `Forest.Below`).
  `firstOcc seen xs` is the specification of "the operands not yet present, first occurrence wins,
  order kept" — characterised by `mem_firstOcc`, `nodup_firstOcc`, `firstOcc_sublist`.
-/
import AHP.Lemmas.CollIdent
namespace AHP.C18
open AHP AHP.Coll AHP.Ident

/-! #### Identity

  `Elem`, `Elem.eq`, `Elem.ne`, `Elem.hash`, `Elem.isTagEqual` and the Python list primitives on elements (`pyIn`, `pyIndex`,
  `pyRemove`) live in the MODEL (AHP/Model/Coll.lean, namespace `Ident`).  What a model can say about identity:

  * `==` / `!=` / `hash` are *defined* on the uid (that is the code: `self.uid == other.uid`, `hash(self.uid)`), so
    `eq_iff_uid`, `ne_iff_not_eq`, `hash_of_eq` unfold the model — they record the reading, the harness's identity oracle
    (originals, clones, copies, unpickled copies, look-alikes) decides it on the library;
  * the content lies in what identity is *used for*: the collection model stores uids, and
    `list_primitives_by_uid` proves that the list primitives a `TagCollection` relies on, run on ELEMENTS
    with `Elem.eq`, are the `Nat` primitives on the uid lists, whatever names, attributes and contents the elements
    carry;
  * "hash alike exactly when they are the same element": the direction equal ⇒ same hash holds for any hash function;
    the converse is injectivity of Python's `hash` on uid values — an ASSUMPTION (`hinj` below; a 64-bit hash of a
    128-bit uuid cannot be injective, the harness treats a collision as not a realistic event). -/

/-- C18a: equality is identity of uid, whatever the name, attributes or content. -/
theorem eq_iff_uid (a b : Elem) : a.eq b = true ↔ a.uid = b.uid := by simp [Elem.eq]
/-- C18a: `!=` is the negation of `==`. -/
theorem ne_iff_not_eq (a b : Elem) : a.ne b = !(a.eq b) := by simp [Elem.ne, Elem.eq, bne]
/-- C18a: equal elements hash alike. -/
theorem hash_of_eq (h : Nat → Nat) (a b : Elem) (e : a.eq b = true) : a.hash h = b.hash h := by
  simp [Elem.eq] at e; simp [Elem.hash, e]

/-- C18a: "regardless of name, attributes or content" — elements that share the uid are equal and hash alike whatever
    else they carry; elements with different uids are unequal although everything else is the same. -/
theorem eq_regardless (u : Nat) (n1 n2 : Str) (a1 a2 : List (Str × Option Str)) (c1 c2 : List Nat) (h : Nat → Nat) :
    (Elem.mk u n1 a1 c1).eq (Elem.mk u n2 a2 c2) = true ∧ (Elem.mk u n1 a1 c1).ne (Elem.mk u n2 a2 c2) = false ∧
    (Elem.mk u n1 a1 c1).hash h = (Elem.mk u n2 a2 c2).hash h := by
  simp [Elem.eq, Elem.ne, Elem.hash]

theorem ne_of_uid_ne (u1 u2 : Nat) (n : Str) (a : List (Str × Option Str)) (c : List Nat) (hu : u1 ≠ u2) :
    (Elem.mk u1 n a c).eq (Elem.mk u2 n a c) = false ∧ (Elem.mk u1 n a c).ne (Elem.mk u2 n a c) = true := by
  simp [Elem.eq, Elem.ne, hu]

/-- C18a, both directions of "hash alike exactly when the same element": ⇐ for every hash function; ⇒ under the
    assumption that the hash function is injective on uids (see the header). -/
theorem hash_eq_iff (h : Nat → Nat) (hinj : ∀ x y, h x = h y → x = y) (a b : Elem) :
    a.hash h = b.hash h ↔ a.eq b = true := by
  constructor
  · intro e
    exact (eq_iff_uid a b).2 (hinj _ _ e)
  · exact hash_of_eq h a b

/-- the converse really is an assumption: a constant hash function equates all elements -/
example : (Elem.mk 1 [] [] []).hash (fun _ => 0) = (Elem.mk 2 [] [] []).hash (fun _ => 0) ∧
    (Elem.mk 1 [] [] []).eq (Elem.mk 2 [] [] []) = false := by decide +kernel

/-- C18a: the list primitives of a `TagCollection` (`x in c`, `c.index(x)`, `c.remove(x)` — they compare with `==`),
    run on elements, are the primitives of the collection model run on the uids: `list.__contains__` is `contains`,
    `list.index` the first position of the uid, `list.remove` is `erase` (ValueError exactly when the uid is absent). -/
theorem list_primitives_by_uid (l : List Elem) (x : Elem) :
    pyIn l x = (l.map (·.uid)).contains x.uid ∧
    pyIndex l x = natIndex (l.map (·.uid)) x.uid ∧
    (pyRemove l x).map (List.map (·.uid)) =
      (if (l.map (·.uid)).contains x.uid then some ((l.map (·.uid)).erase x.uid) else none) := by
  refine ⟨?_, ?_, ?_⟩
  · simp only [pyIn, Elem.eq_swap, List.contains_eq_any_beq, List.any_map]
    rfl
  · induction l with
    | nil => rfl
    | cons y ys ih =>
      simp only [pyIndex, natIndex, List.map_cons, Elem.eq, ih]
      by_cases h : y.uid = x.uid <;> simp [h]
  · induction l with
    | nil => rfl
    | cons y ys ih =>
      simp only [pyRemove, List.map_cons, List.contains_cons, List.erase_cons, Elem.eq_swap y x]
      by_cases h : x.uid = y.uid
      · simp [h]
      · have hb : (x.uid == y.uid) = false := by simpa using h
        have hb' : (y.uid == x.uid) = false := by simpa using Ne.symm h
        have hm : ∀ o : Option (List Elem),
            o.map (List.map (·.uid) ∘ (y :: ·)) = (o.map (List.map (·.uid))).map (y.uid :: ·) :=
          fun o => by cases o <;> rfl
        simp only [hb, hb', Bool.false_eq_true, if_false, Bool.false_or, Option.map_map]
        rw [hm, ih]
        split <;> rfl

/-- a look-alike (same name, attributes, content; other uid) is not found, a renamed element with the uid is -/
example : pyIn [⟨1, "a".toList, [], []⟩, ⟨2, "b".toList, [], []⟩] ⟨3, "a".toList, [], []⟩ = false ∧
    pyIn [⟨1, "a".toList, [], []⟩, ⟨2, "b".toList, [], []⟩] ⟨2, "zzz".toList, [("k".toList, none)], [7]⟩ = true ∧
    (pyRemove [⟨1, "a".toList, [], []⟩, ⟨2, "b".toList, [], []⟩] ⟨1, "q".toList, [], []⟩).map (List.map (·.uid)) = some [2] := by
  decide +kernel

/-! #### isTagEqual -/

/-- C18a **"isTagEqual compares name and attributes only"**: on attribute dictionaries (pairwise distinct names — the
    store is a `dict`) `isTagEqual` is true exactly when the tag names are equal and the two elements carry the same
    set of (attribute name, value) pairs (the right-hand side is `SameTag` of AHP/Lemmas/CollIdent.lean written out; a
    value-less attribute is the pair with value `none`, different from a missing one). -/
theorem isTagEqual_iff_same (n1 n2 : Str) (a1 a2 : List (Str × Option Str)) (h1 : IsDict a1) (h2 : IsDict a2) :
    isTagEqual n1 a1 n2 a2 = true ↔ (n1 = n2 ∧ ∀ k v, (k, v) ∈ a1 ↔ (k, v) ∈ a2) := by
  simp only [isTagEqual, Bool.and_eq_true, beq_iff_eq, List.all_eq_true, List.contains_iff_mem]
  constructor
  · rintro ⟨⟨hn, hk12, hk21⟩, hv⟩
    refine ⟨hn, ?_⟩
    have fwd : ∀ k v, (k, v) ∈ a1 → (k, v) ∈ a2 := by
      intro k v hm
      obtain ⟨v', hm'⟩ := Dict.mem_keys_iff.1 (hk12 (k, v) hm)
      have e := hv (k, v) hm
      simp only at e
      rw [pyGet_of_mem h1 hm, pyGet_of_mem h2 hm'] at e
      rw [e]; exact hm'
    intro k v
    refine ⟨fwd k v, ?_⟩
    intro hm
    obtain ⟨v', hm'⟩ := Dict.mem_keys_iff.1 (hk21 (k, v) hm)
    have := fwd k v' hm'
    have e1 := pyGet_of_mem h2 hm
    have e2 := pyGet_of_mem h2 this
    rw [e1] at e2
    rw [e2]; exact hm'
  · rintro ⟨hn, hp⟩
    refine ⟨⟨hn, ?_, ?_⟩, ?_⟩
    · rintro ⟨k, v⟩ hm
      exact Dict.mem_keys_iff.2 ⟨v, (hp k v).1 hm⟩
    · rintro ⟨k, v⟩ hm
      exact Dict.mem_keys_iff.2 ⟨v, (hp k v).2 hm⟩
    · rintro ⟨k, v⟩ hm
      simp only
      rw [pyGet_of_mem h1 hm, pyGet_of_mem h2 ((hp k v).1 hm)]

/-- … hence neither the order of the attributes, nor the uid, nor the content matters, and it is symmetric. -/
theorem isTagEqual_invariant (a b a' b' : Elem) (ha : IsDict a.attrs) (hb : IsDict b.attrs)
    (ha' : IsDict a'.attrs) (hb' : IsDict b'.attrs)
    (hna : a'.name = a.name) (hnb : b'.name = b.name)
    (hpa : ∀ k v, (k, v) ∈ a'.attrs ↔ (k, v) ∈ a.attrs) (hpb : ∀ k v, (k, v) ∈ b'.attrs ↔ (k, v) ∈ b.attrs) :
    a'.isTagEqual b' = a.isTagEqual b ∧ a.isTagEqual b = b.isTagEqual a := by
  have key : ∀ (x y : Elem), IsDict x.attrs → IsDict y.attrs →
      (x.isTagEqual y = true ↔ SameTag x.name x.attrs y.name y.attrs) :=
    fun x y hx hy => isTagEqual_iff_same _ _ _ _ hx hy
  constructor
  · rw [Bool.eq_iff_iff, key a' b' ha' hb', key a b ha hb]
    simp only [SameTag, hna, hnb, hpa, hpb]
  · rw [Bool.eq_iff_iff, key a b ha hb, key b a hb ha]
    exact ⟨SameTag.symm, SameTag.symm⟩

/-- reordered attributes, another uid and other children: still tag-equal; a value-less attribute against a missing
    one, or against the empty string: not -/
example :
    (Elem.mk 1 "a".toList [("k".toList, some "v".toList), ("b".toList, none)] [5]).isTagEqual
      (Elem.mk 2 "a".toList [("b".toList, none), ("k".toList, some "v".toList)] []) = true ∧
    (Elem.mk 1 "a".toList [("b".toList, none)] []).isTagEqual (Elem.mk 1 "a".toList [] []) = false ∧
    (Elem.mk 1 "a".toList [("b".toList, none)] []).isTagEqual (Elem.mk 1 "a".toList [("b".toList, some [])] []) = false ∧
    IsDict [("k".toList, some "v".toList), ("b".toList, (none : Option Str))] := by
  refine ⟨by decide +kernel, by decide +kernel, by decide +kernel, ?_⟩
  unfold IsDict
  decide +kernel

/-! #### The collection is an ordered set closed under its operators -/

inductive Op where
  | ctor (xs : List Nat)      -- `c = TagCollection(xs)`
  | add (xs : List Nat)       -- `c = c + xs`
  | iadd (xs : List Nat)      -- `c += xs`
  | sub (xs : List Nat)       -- `c = c - xs`
  | isub (xs : List Nat)      -- `c -= xs`
  | append1 (x : Nat)         -- `c += [x]` through `append` when absent (the library's own use of `append`)
  deriving Repr

/-- One operator; `none` = the call raises. -/
def step (c : Coll) : Op → Option Coll
  | .ctor xs => some (ofList xs)
  | .add xs => some (c.add xs)
  | .iadd xs => some (c.iadd xs)
  | .sub xs => c.sub xs
  | .isub xs => c.isub xs
  | .append1 x => some (if c.hasTag x then c else c.append x)

def run : Coll → List Op → Option Coll
  | c, [] => some c
  | c, op :: ops => (step c op).bind (fun c' => run c' ops)

/-- C18b (constructor): any operand list gives a duplicate-free collection in first-occurrence order. -/
theorem ctor_spec (xs : List Nat) : Inv (ofList xs) ∧ (ofList xs).items = firstOcc [] xs :=
  ofList_spec xs

/-- C18b (`+=`): invariant kept; result = old items followed by the new operands, first occurrence wins
    (`Coll.iadd_spec` under the property's name; the prime keeps the two apart, `AHP.Coll` being open here). -/
theorem iadd_spec' {c : Coll} (h : Inv c) (xs : List Nat) :
    Inv (c.iadd xs) ∧ (c.iadd xs).items = c.items ++ firstOcc c.items xs := iadd_spec h xs

/-- C18b (`+`): same law for the fresh collection `a + xs`, for operands with duplicates, overlaps … -/
theorem add_spec {c : Coll} (h : Inv c) (xs : List Nat) :
    Inv (c.add xs) ∧ (c.add xs).items = c.items ++ firstOcc c.items xs := by
  have := iadd_spec (ofList_spec c.items).1 xs
  rwa [ofList_of_nodup h.nodup] at this

/-- C18b (`-=`): never raises (repeated or absent operands included), keeps the invariant and
    removes exactly the named elements, order of the rest unchanged (`Coll.isub_spec` under the property's name). -/
theorem isub_spec' {c : Coll} (h : Inv c) (xs : List Nat) :
    ∃ r, c.isub xs = some r ∧ Inv r ∧ r.items = c.items.filter (fun y => !xs.contains y) := isub_spec h xs

/-- C18b (`-`). -/
theorem sub_spec {c : Coll} (h : Inv c) (xs : List Nat) :
    ∃ r, c.sub xs = some r ∧ Inv r ∧ r.items = c.items.filter (fun y => !xs.contains y) := by
  have := isub_spec (ofList_spec c.items).1 xs
  rwa [ofList_of_nodup h.nodup] at this

/-- C18b (histories): no sequence of operators, with any operands, raises or breaks the invariant. -/
theorem run_inv (ops : List Op) : ∀ {c : Coll}, Inv c → ∃ r, run c ops = some r ∧ Inv r := by
  induction ops with
  | nil => intro c h; exact ⟨c, rfl, h⟩
  | cons op ops ih =>
    intro c h
    have hstep : ∃ c', step c op = some c' ∧ Inv c' := by
      cases op with
      | ctor xs => exact ⟨_, rfl, (ofList_spec xs).1⟩
      | add xs => exact ⟨_, rfl, (add_spec h xs).1⟩
      | iadd xs => exact ⟨_, rfl, (iadd_spec h xs).1⟩
      | sub xs => obtain ⟨r, hr, hi, _⟩ := sub_spec h xs; exact ⟨r, hr, hi⟩
      | isub xs => obtain ⟨r, hr, hi, _⟩ := isub_spec h xs; exact ⟨r, hr, hi⟩
      | append1 x => exact ⟨_, rfl, (iadd_spec h [x]).1⟩
    obtain ⟨c', hc', hinv'⟩ := hstep
    obtain ⟨r, hr, hinvr⟩ := ih hinv'
    exact ⟨r, by simp [run, hc', hr], hinvr⟩

theorem run_from_empty (ops : List Op) : ∃ r, run Coll.empty ops = some r ∧ Inv r := run_inv ops inv_empty

/-- C18c: the membership test and the uid bookkeeping agree with the actual contents. -/
theorem mem_iff (c : Coll) (x : Nat) : c.mem x = true ↔ x ∈ c.items := by simp [mem]
theorem hasTag_iff_mem {c : Coll} (h : Inv c) (x : Nat) : c.hasTag x = c.mem x := by
  rw [hasTag_eq h, mem, List.contains_eq_mem]

/-- C18c: `getAllNodes` lists each member and each descendant exactly once, in order of discovery. -/
theorem getAllNodes_spec (f : Forest) (c : Coll) :
    Inv (c.getAllNodes f) ∧ (c.getAllNodes f).items = firstOcc [] (c.items.flatMap f.selfAndDesc) := by
  rw [getAllNodes, foldl_iadd]
  exact ofList_spec _

/-- C18c: `getAllNodeUids` is the same set as `getAllNodes`. -/
theorem getAllNodeUids_same (f : Forest) (c : Coll) (y : Nat) :
    y ∈ c.getAllNodeUids f ↔ y ∈ (c.getAllNodes f).items := by
  rw [(getAllNodes_spec f c).2, mem_firstOcc]
  simp [getAllNodeUids]

/-- C18c: element-level `contains`/`containsUid` is membership in "itself and its descendants". -/
theorem elem_containsUid_iff (t : UTree) (y : Nat) : t.containsUid y = true ↔ y ∈ t.selfAndDesc :=
  UTree.containsUid_iff t y

/-- C18c **`contains` / `containsUid` of a collection** are consistent with the trees below its members: true exactly
    when some member has the element at or below it (`Forest.Below`: the inductive "itself, or below one of its
    element children, at any depth" on the tree the member names) — equivalently when the uid is listed by
    `getAllNodeUids`, equivalently when the element is in `getAllNodes`; `contains(em)` is `containsUid(em.uid)` and
    looks at nothing else of `em`. -/
theorem coll_containsUid_iff (f : Forest) (c : Coll) (y : Nat) :
    (c.containsUid f y = true ↔ ∃ x ∈ c.items, f.Below x y) ∧
    (c.containsUid f y = true ↔ y ∈ c.getAllNodeUids f) ∧
    (c.containsUid f y = true ↔ y ∈ (c.getAllNodes f).items) ∧
    (∀ em : Elem, c.contains f em = c.containsUid f em.uid) := by
  have h1 := Coll.containsUid_iff f c y
  have h2 : c.containsUid f y = true ↔ y ∈ c.getAllNodeUids f := by
    rw [h1]
    simp only [getAllNodeUids, List.mem_flatMap, Forest.mem_selfAndDesc_iff_below]
  exact ⟨h1, h2, h2.trans (getAllNodeUids_same f c y), fun _ => rfl⟩

/-- C18c: "below" for one tree is the relation one expects — the element-level `containsUid` decides it. -/
theorem elem_containsUid_iff_has (t : UTree) (y : Nat) : t.containsUid y = true ↔ t.Has y :=
  UTree.containsUid_iff_has t y

/-- C18c: `uniqueTags` returns the distinct elements in order. -/
theorem uniqueTags_spec (xs : List Nat) :
    (uniqueTags xs).items = firstOcc [] xs ∧ (uniqueTags xs).items.Nodup :=
  ⟨(ofList_spec xs).2, (ofList_spec xs).1.nodup⟩

/-- What `firstOcc` means (so the statements above can be read without the helper file). -/
theorem firstOcc_meaning (seen xs : List Nat) :
    (firstOcc seen xs).Nodup ∧ (firstOcc seen xs).Sublist xs ∧
    ∀ y, y ∈ firstOcc seen xs ↔ (y ∈ xs ∧ y ∉ seen) :=
  ⟨nodup_firstOcc seen xs, firstOcc_sublist seen xs, fun _ => mem_firstOcc⟩

/-! #### Non-vacuity: concrete non-trivial states meet the hypotheses -/
example : Inv (ofList [3, 1, 3, 2, 1]) ∧ (ofList [3, 1, 3, 2, 1]).items = [3, 1, 2] := by
  refine ⟨(ofList_spec _).1, by decide +kernel⟩
example : (ofList [3, 1, 2]).sub [1, 1, 7] = some ⟨[3, 2], [3, 2]⟩ := by decide +kernel
example : ((ofList [0, 2]).getAllNodes [.node 0 [.node 1 [.node 2 []]], .node 3 []]).items = [0, 1, 2] := by decide +kernel
/-- a member's grandchild is contained, a sibling tree's root is not -/
example : (ofList [0]).containsUid [.node 0 [.node 1 [.node 2 []]], .node 3 []] 2 = true ∧
    (ofList [0]).containsUid [.node 0 [.node 1 [.node 2 []]], .node 3 []] 3 = false ∧
    Forest.Below [.node 0 [.node 1 [.node 2 []]], .node 3 []] 0 2 :=
  ⟨by decide +kernel, by decide +kernel, (Forest.containsUid_iff_below _ 0 2).1 (by decide +kernel)⟩

end AHP.C18
