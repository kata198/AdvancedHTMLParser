/-
  C19 — the code tie: the Python functions of conversions.py THEMSELVES (dumped node by node into `Gen.Code` by
  harness/ahpcheck/translate_code.py on every run, interpreted by `AHP.PyAst`) compute what the hand-written model
  `Model/Conv.lean` computes — for every argument value, every `parseInt`.  Per converter: `…_code_eq_model` for the call with all
  arguments, `…_code_default` for the call that leaves out the last one.  Then the `_special_value_*` helpers of constants.py against
  the generated rules (`Conv.evalRule`), and `escapeQuotes` / `unescapeQuotes` of utils.py.

  An edit of a function changes the dump and breaks the theorem of that function, for ALL inputs (the differential
  correspondence check of the C19 stream only sees the generated cases).
-/
import AHP.Lemmas.PyAst
import AHP.Lemmas.PyAstUtils
namespace AHP.C19Code
open AHP AHP.Gen AHP.Conv AHP.PyAst AHP.Gen.Code

theorem convertToIntOrNegativeOneIfUnset_code_eq_model (parseInt : Str → Except PyErr Int) (v : PyV) :
    runModule parseInt conversions "convertToIntOrNegativeOneIfUnset" [.py v]
      = .ok (.py (Conv.convertToIntOrNegativeOneIfUnset parseInt v)) := by
  rw [link_1, run_pos rfl]
  exact intOrNeg_body (cxAt_builtin parseInt 0 "int" (Or.inl rfl)) rfl

theorem convertToIntOrNegativeOneIfUnset_code_default (parseInt : Str → Except PyErr Int) :
    runModule parseInt conversions "convertToIntOrNegativeOneIfUnset" []
      = .ok (.py (Conv.convertToIntOrNegativeOneIfUnset parseInt .none)) := by
  rw [link_1, run_default "val" (.const .none) rfl rfl rfl, ← link_1]
  exact convertToIntOrNegativeOneIfUnset_code_eq_model parseInt .none

theorem convertToBooleanString_code_eq_model (parseInt : Str → Except PyErr Int) (v : PyV) :
    runModule parseInt conversions "convertToBooleanString" [.py v]
      = .ok (.py (.str (Conv.convertToBooleanString v))) := by
  rw [link_2, run_pos rfl]
  exact boolString_body (cxAt_builtin parseInt 1 "hasattr" (by simp)) (cxAt_builtin parseInt 1 "bool" (by simp)) rfl

theorem convertToBooleanString_code_default (parseInt : Str → Except PyErr Int) :
    runModule parseInt conversions "convertToBooleanString" []
      = .ok (.py (.str (Conv.convertToBooleanString .none))) := by
  rw [link_2, run_default "val" (.const .none) rfl rfl rfl, ← link_2]
  exact convertToBooleanString_code_eq_model parseInt .none

theorem convertBooleanStringToBoolean_code_eq_model (parseInt : Str → Except PyErr Int) (v : PyV) :
    runModule parseInt conversions "convertBooleanStringToBoolean" [.py v]
      = .ok (.py (.bool (Conv.convertBooleanStringToBoolean v))) := by
  rw [link_3, run_pos rfl]
  exact boolOfString_body (cxAt_builtin parseInt 2 "hasattr" (by simp)) rfl

/-- `convertToPositiveInt(v, d)` for every value `d` of the default (returned as is, never raised). -/
theorem convertToPositiveInt_code_eq_model (parseInt : Str → Except PyErr Int) (v : PyV) (invalid : Lit) :
    runModule parseInt conversions "convertToPositiveInt" [.py v, .py invalid.toPy]
      = .ok (.py (Conv.convertToPositiveInt parseInt v invalid)) := by
  rw [link_4, run_pos rfl]
  exact positiveInt_body (cxAt_builtin parseInt 3 "int" (Or.inl rfl)) rfl rfl

/-- `convertToPositiveInt(v)` — the default `invalidDefault=0`. -/
theorem convertToPositiveInt_code_default (parseInt : Str → Except PyErr Int) (v : PyV) :
    runModule parseInt conversions "convertToPositiveInt" [.py v]
      = .ok (.py (Conv.convertToPositiveInt parseInt v (.int 0))) := by
  rw [link_4, run_default "invalidDefault" (.const (.int 0)) rfl rfl rfl, ← link_4]
  exact convertToPositiveInt_code_eq_model parseInt v (.int 0)

/-- `_handleInvalid(x)` for every argument: an exception instance or class is raised, anything else returned. -/
theorem handleInvalid_code (parseInt : Str → Except PyErr Int) (x : Val) :
    runModule parseInt conversions "_handleInvalid" [x] = handleInvalidV x := by
  rw [link_5, run, handleInvalid_run]

/-- `_handleInvalid(invalidDefault)` is the hand model's `handleInvalid`. -/
theorem handleInvalid_code_eq_model (parseInt : Str → Except PyErr Int) (inv : Inv) :
    runModule parseInt conversions "_handleInvalid" [ofInv inv] = liftPy (Conv.handleInvalid inv) := by
  rw [handleInvalid_code, handleInvalidV_ofInv]

theorem convertPossibleValues_code_eq_model (parseInt : Str → Except PyErr Int) (v : PyV) (ms : List String) (inv : Inv)
    (emp : Emp) :
    runModule parseInt conversions "convertPossibleValues" [.py v, ofMembers ms, ofInv inv, ofEmp emp]
      = liftPy (Conv.convertPossibleValues v ms inv emp) := by
  rw [link_6, run_pos rfl]
  exact possible_body ⟨cxAt_handleInvalid_5 parseInt, cxAt_builtin parseInt 5 "int" (Or.inl rfl)⟩
    (cxAt_builtin parseInt 5 "tostr" (by simp)) rfl rfl rfl rfl

/-- `convertToIntRange(v, minValue, maxValue, invalidDefault, emptyValue)` — bounds `None` or an integer. -/
theorem convertToIntRange_code_eq_model (parseInt : Str → Except PyErr Int) (hpi : ValueErrorOnly parseInt) (v : PyV)
    (lo hi : Option Int) (inv : Inv) (emp : Emp) :
    runModule parseInt conversions "convertToIntRange" [.py v, ofOptInt lo, ofOptInt hi, ofInv inv, ofEmp emp]
      = liftPy (Conv.convertToIntRange parseInt v lo hi inv emp) := by
  rw [link_7, run_pos rfl]
  exact intRange_body ⟨cxAt_handleInvalid_6 parseInt, cxAt_builtin parseInt 6 "int" (Or.inl rfl)⟩ hpi
    rfl rfl rfl rfl rfl

/-- `convertToIntRangeCapped(v, minValue, maxValue, invalidDefault, emptyValue)` — bounds `None` or an integer. -/
theorem convertToIntRangeCapped_code_eq_model (parseInt : Str → Except PyErr Int) (hpi : ValueErrorOnly parseInt) (v : PyV)
    (lo hi : Option Int) (inv : Inv) (emp : Emp) :
    runModule parseInt conversions "convertToIntRangeCapped" [.py v, ofOptInt lo, ofOptInt hi, ofInv inv, ofEmp emp]
      = liftPy (Conv.convertToIntRangeCapped parseInt v lo hi inv emp) := by
  rw [link_8, run_pos rfl]
  exact intRangeCapped_body ⟨cxAt_handleInvalid_7 parseInt, cxAt_builtin parseInt 7 "int" (Or.inl rfl)⟩ hpi
    rfl rfl rfl rfl rfl

/-! ### the default `emptyValue=''` of the three converters -/

theorem convertPossibleValues_code_default (parseInt : Str → Except PyErr Int) (v : PyV) (ms : List String) (inv : Inv) :
    runModule parseInt conversions "convertPossibleValues" [.py v, ofMembers ms, ofInv inv]
      = liftPy (Conv.convertPossibleValues v ms inv (.val (.str ""))) := by
  rw [link_6, run_default "emptyValue" (.const (.str "")) rfl rfl rfl, ← link_6]
  exact convertPossibleValues_code_eq_model parseInt v ms inv (.val (.str ""))

theorem convertToIntRange_code_default (parseInt : Str → Except PyErr Int) (hpi : ValueErrorOnly parseInt) (v : PyV)
    (lo hi : Option Int) (inv : Inv) :
    runModule parseInt conversions "convertToIntRange" [.py v, ofOptInt lo, ofOptInt hi, ofInv inv]
      = liftPy (Conv.convertToIntRange parseInt v lo hi inv (.val (.str ""))) := by
  rw [link_7, run_default "emptyValue" (.const (.str "")) rfl rfl rfl, ← link_7]
  exact convertToIntRange_code_eq_model parseInt hpi v lo hi inv (.val (.str ""))

theorem convertToIntRangeCapped_code_default (parseInt : Str → Except PyErr Int) (hpi : ValueErrorOnly parseInt) (v : PyV)
    (lo hi : Option Int) (inv : Inv) :
    runModule parseInt conversions "convertToIntRangeCapped" [.py v, ofOptInt lo, ofOptInt hi, ofInv inv]
      = liftPy (Conv.convertToIntRangeCapped parseInt v lo hi inv (.val (.str ""))) := by
  rw [link_8, run_default "emptyValue" (.const (.str "")) rfl rfl rfl, ← link_8]
  exact convertToIntRangeCapped_code_eq_model parseInt hpi v lo hi inv (.val (.str ""))

/-- A call with too few arguments is a `TypeError`, not a value (the interpreter does not totalise). -/
example (parseInt : Str → Except PyErr Int) :
    runModule parseInt conversions "convertToIntRange" [.py (.int 1)] = .error .typeError := by
  simp [link_7, run, runKw, convertToIntRange_ast, bindArgs]

/-! ### non-vacuity: concrete runs of the dumped code through the interpreter (with the driver's `int()`), values
off the trivial path; `pyIntOfStr` meets the hypothesis of the two range theorems.  (`link_k` first: finding the name among the
functions of the module is settled there for all arguments, the kernel then runs the body only.) -/

theorem pyIntOfStr_valueErrorOnly : ValueErrorOnly pyIntOfStr := by
  intro s err h
  unfold pyIntOfStr at h
  simp only at h
  split at h
  · cases h; rfl
  · split at h
    · cases h
    · cases h; rfl

example : runModule pyIntOfStr conversions "convertToIntOrNegativeOneIfUnset" [.py (.str " 12 ".toList)] = .ok (.py (.int 12)) := by
  rw [link_1]; decide +kernel
example : runModule pyIntOfStr conversions "convertToIntOrNegativeOneIfUnset" [.py (.str "x".toList)] = .ok (.py (.int 0)) := by
  rw [link_1]; decide +kernel
example : runModule pyIntOfStr conversions "convertToBooleanString" [.py (.str "FALSE".toList)]
    = .ok (.py (.str "false".toList)) := by
  rw [link_2]; decide +kernel
example : runModule pyIntOfStr conversions "convertBooleanStringToBoolean" [.py (.str "False".toList)]
    = .ok (.py (.bool false)) := by
  rw [link_3]; decide +kernel
example : runModule pyIntOfStr conversions "convertToPositiveInt" [.py (.str "-3".toList), .py (Lit.int 20).toPy]
    = .ok (.py (.int 20)) := by
  rw [link_4]; decide +kernel
example : runModule pyIntOfStr conversions "_handleInvalid" [ofInv (.raise "IndexSizeErrorException")]
    = .error .indexSizeError := by
  rw [link_5]; decide +kernel
example : runModule pyIntOfStr conversions "_handleInvalid" [.excInst "ValueError"] = .error .valueError := by
  rw [link_5]; decide +kernel
example : runModule pyIntOfStr conversions "convertPossibleValues"
    [.py (.str "POST".toList), ofMembers ["get", "post"], ofInv (.val (.str "get")), ofEmp .invalid]
    = .ok (.py (.str "post".toList)) := by
  rw [link_6]; decide +kernel
example : runModule pyIntOfStr conversions "convertToIntRange"
    [.py (.str "-1".toList), ofOptInt (some 0), ofOptInt none, ofInv (.raise "IndexSizeErrorException"), ofEmp (.val (.int 0))]
    = .error .indexSizeError := by
  rw [link_7]; decide +kernel
example : runModule pyIntOfStr conversions "convertToIntRange"
    [.py (.tokens []), ofOptInt (some 0), ofOptInt none, ofInv (.val (.int 7)), ofEmp (.val (.int 0))]
    = .error .typeError := by
  rw [link_7]; decide +kernel
-- (a failing `decide +kernel` explains itself with the elaborator's evaluator, which is very slow here: the small budget
-- makes a broken example fail at once; the kernel check of a correct one does not consume it)
set_option maxHeartbeats 2000 in
example : runModule pyIntOfStr conversions "convertToIntRangeCapped"
    [.py (.str "70000".toList), ofOptInt (some 1), ofOptInt (some 1000), ofInv (.val (.int 1)), ofEmp .invalid]
    = .ok (.py (.int 1000)) := by
  rw [link_8]; decide +kernel

/-! ## constants.py: the `_special_value_*` helpers (the dump `Gen.Code.constants`, run after conversions.py)

The hand model does not model these functions one by one: `translate_props.py` recognises their SHAPE and turns each into a
`Gen.Rule`, which `Conv.evalRule` interprets.  The theorems say that the code itself, run on an element, gives what
`evalRule` gives for the generated rule of that dot name — for every element (the element's own methods `tagName`,
`getAttribute`, `hasAttribute` being the hand model's).  They check the shape recognition of the table translator against
the code, for all elements.  The proofs name the literal arguments of today's source: an edit of a literal in the source
changes table and dump alike and breaks them (as it breaks the C19c table obligations). -/

theorem special_value_rows_code_eq_model (parseInt : Str → Except PyErr Int) (hpi : ValueErrorOnly parseInt) (e : Elem)
    (r : Rule) (hr : Gen.specialRules.lookup "rows" = some r) :
    runModule parseInt constants_scope "_special_value_rows" [.elem e] = liftPy (evalRule genTables parseInt e r) := by
  obtain rfl := Option.some.inj (hr.symm.trans (rfl : _ = some (Rule.byTag "textarea"
    (.conv (.intRange (some 1) none (.val (.int 2)) .invalid) "rows" (.int 2)) (.conv .raw "rows" (.str "")))))
  rw [linkC_1, run_pos rfl]
  exact textareaInt_body (cxC_intRange parseInt 0) hpi rfl

theorem special_value_cols_code_eq_model (parseInt : Str → Except PyErr Int) (hpi : ValueErrorOnly parseInt) (e : Elem)
    (r : Rule) (hr : Gen.specialRules.lookup "cols" = some r) :
    runModule parseInt constants_scope "_special_value_cols" [.elem e] = liftPy (evalRule genTables parseInt e r) := by
  obtain rfl := Option.some.inj (hr.symm.trans (rfl : _ = some (Rule.byTag "textarea"
    (.conv (.intRange (some 1) none (.val (.int 20)) .invalid) "cols" (.int 20)) (.conv .raw "cols" (.str "")))))
  rw [linkC_2, run_pos rfl]
  exact textareaInt_body (cxC_intRange parseInt 1) hpi rfl

theorem special_value_autocomplete_code_eq_model (parseInt : Str → Except PyErr Int) (e : Elem)
    (r : Rule) (hr : Gen.specialRules.lookup "autocomplete" = some r) :
    runModule parseInt constants_scope "_special_value_autocomplete" [.elem e]
      = liftPy (evalRule genTables parseInt e r) := by
  obtain rfl := Option.some.inj (hr.symm.trans (rfl : _ = some (Rule.byTag "form"
    (.conv (.possible ["on", "off"] (.val (.str "on")) .invalid) "autocomplete" (.str "on"))
    (.conv (.possible ["on", "off"] (.val (.str "")) (.val (.str ""))) "autocomplete" (.str "")))))
  rw [linkC_3, run_pos rfl]
  generalize hcx : cxC parseInt 2 = cx
  have hem : List.lookup "em" [("em", Val.elem e)] = some (.elem e) := rfl
  have hcall : ∀ (d : Lit) (ie ee : Expr) (inv : Inv) (emp : Emp),
      evalList cx [("em", .elem e)] [ie, ee] = .ok [ofInv inv, ofEmp emp] →
      eval cx [("em", .elem e)] (.callk "convertPossibleValues"
        [.meth (.var "em") "getAttribute" [.const (.str "autocomplete"), .const d],
         .tuple [.const (.str "on"), .const (.str "off")]]
        ["invalidDefault", "emptyValue"] [ie, ee])
      = liftPy (Conv.convertPossibleValues (e.getAttribute genTables "autocomplete" d.toPy) ["on", "off"] inv emp) := by
    intro d ie ee inv emp hk
    rw [eval_callk (evalList_cons (eval_getAttribute hem) rfl) hk rfl
      (hcx ▸ cxC_possible parseInt 2), runKw]
    -- the keyword call bound: `bindArgs` evaluated on the callee's parameter list gives the environment of its body
    simp only [convertPossibleValues_ast, List.zip, List.zipWith, bindArgs, List.lookup, List.filter, Option.isSome, String.reduceBEq,
      String.reduceBNe, Bool.false_eq_true, if_false, List.isEmpty, if_true]
    exact possible_body ⟨cxAt_handleInvalid_5 parseInt, cxAt_builtin parseInt 5 "int" (Or.inl rfl)⟩
      (cxAt_builtin parseInt 5 "tostr" (by simp)) rfl rfl rfl rfl
  simp only [_special_value_autocomplete_ast, List.map, List.zip, List.zipWith, evalRule, evalConv]
  rw [execL_guard (eval_tagIs hem) (execL_ret ..), truthy_bool, execL_ret,
    hcall (.str "on") _ _ (.val (.str "on")) .invalid rfl, hcall (.str "") _ _ (.val (.str "")) (.val (.str "")) rfl]
  by_cases ht : e.tag = "form"
  · rw [if_pos (by simpa using ht), if_pos ht]; rw [resultOf_snd_retOf]
  · rw [if_neg (by simpa using ht), if_neg ht]; rw [resultOf_snd_retOf]

theorem special_value_size_code_eq_model (parseInt : Str → Except PyErr Int) (e : Elem)
    (r : Rule) (hr : Gen.specialRules.lookup "size" = some r) :
    runModule parseInt constants_scope "_special_value_size" [.elem e] = liftPy (evalRule genTables parseInt e r) := by
  obtain rfl := Option.some.inj (hr.symm.trans (rfl : _ = some (Rule.byTag "input"
    (.conv (.positiveInt (.int 20)) "size" (.int 20)) (.conv .raw "size" (.str "")))))
  rw [linkC_4, run_pos rfl]
  generalize hcx : cxC parseInt 3 = cx
  have hem : List.lookup "em" [("em", Val.elem e)] = some (.elem e) := rfl
  have hcall : eval cx [("em", .elem e)] (.callk "convertToPositiveInt"
        [.meth (.var "em") "getAttribute" [.const (.str "size"), .const (.int 20)]] ["invalidDefault"] [.const (.int 20)])
      = .ok (.py (Conv.convertToPositiveInt parseInt (e.getAttribute genTables "size" (Lit.int 20).toPy) (.int 20))) := by
    rw [eval_callk (evalList_cons (eval_getAttribute hem) rfl) rfl rfl
      (hcx ▸ cxC_positiveInt parseInt 3), runKw]
    simp only [convertToPositiveInt_ast, List.zip, List.zipWith, bindArgs, List.lookup, List.filter, Option.isSome, String.reduceBEq,
      String.reduceBNe, Bool.false_eq_true, if_false, List.isEmpty, if_true]
    exact positiveInt_body (cxAt_builtin parseInt 3 "int" (Or.inl rfl)) (d := .int 20) rfl rfl
  simp only [_special_value_size_ast, List.map, List.zip, List.zipWith, evalRule, evalConv]
  rw [execL_guard (eval_tagIs hem) (execL_ret ..), truthy_bool, execL_ret, eval_getAttribute hem, hcall]
  by_cases ht : e.tag = "input"
  · rw [if_pos (by simpa using ht), if_pos ht]; rfl
  · rw [if_neg (by simpa using ht), if_neg ht]; rfl

/-- `_special_value_maxLength(em)` — reading. -/
theorem special_value_maxLength_code_eq_model (parseInt : Str → Except PyErr Int) (hpi : ValueErrorOnly parseInt) (e : Elem)
    (r : Rule) (hr : Gen.specialRules.lookup "maxLength" = some r) :
    runModule parseInt constants_scope "_special_value_maxLength" [.elem e] = liftPy (evalRule genTables parseInt e r) := by
  obtain rfl := Option.some.inj (hr.symm.trans (rfl : _ = some (Rule.maxLength "maxlength" (.int (-1)) (.str "-1") (some 0) none
    (.val (.int 0)) (.val (.int (-1))) (.raise "IndexSizeErrorException"))))
  have hf := cxC_intRange parseInt 4
  rw [linkC_5, run_default "newValue" (.singleton "NOT_PROVIDED") rfl rfl rfl, run_pos rfl]
  have hem : List.lookup "em" [("em", Val.elem e), ("newValue", .singleton "NOT_PROVIDED")] = some (.elem e) := rfl
  have hc : eval (cxC parseInt 4) [("em", .elem e), ("newValue", .singleton "NOT_PROVIDED")]
      (.cmp .is (.var "newValue") (.singleton "NOT_PROVIDED")) = .ok (.py (.bool true)) := by
    simp [eval, List.lookup, pyCompare, compareB, pyIs, Val.unique]
  have hnot : eval (cxC parseInt 4) [("em", .elem e), ("newValue", .singleton "NOT_PROVIDED")]
      (.not (.meth (.var "em") "hasAttribute" [.const (.str "maxlength")])) = .ok (.py (.bool (!e.hasAttribute "maxlength"))) := by
    simp [eval, evalList, List.lookup, Lit.toPy, callMethod_hasAttribute, Val.truthy, truthy]
  simp only [_special_value_maxLength_ast, List.map, List.zip, List.zipWith, List.cons_append, List.nil_append, evalRule]
  rw [execL, execS_ifS hc, if_pos rfl, execL_guard hnot (execL_ret ..), truthy_bool]
  by_cases ha : e.hasAttribute "maxlength" = true
  · rw [ha, execL_assign (eval_getAttribute hem), execL_assign rfl,
      execL_nil]
    simp only [Bool.not_true, Bool.false_eq_true, if_false]
    rw [maxLength_tail hf hpi (.val (.int (-1))) rfl rfl, resultOf_snd_retOf]
    rfl
  · rw [Bool.not_eq_true] at ha
    rw [ha]; rfl

/-- `_special_value_maxLength(em, newValue)` — the validation run before an assignment. -/
theorem special_value_maxLength_validate_code_eq_model (parseInt : Str → Except PyErr Int) (hpi : ValueErrorOnly parseInt)
    (e : Elem) (v : PyV) (r : Rule) (hr : Gen.validatedProps.lookup "maxLength" = some r) :
    (match runModule parseInt constants_scope "_special_value_maxLength" [.elem e, .py v] with
      | .ok _ => .ok () | .error err => .error err) = validateRule parseInt v r := by
  obtain rfl := Option.some.inj (hr.symm.trans (rfl : _ = some (Rule.maxLength "maxlength" (.int (-1)) (.str "-1") (some 0) none
    (.val (.int 0)) (.val (.int (-1))) (.raise "IndexSizeErrorException"))))
  have hf := cxC_intRange parseInt 4
  rw [linkC_5, run_pos rfl]
  have hc : eval (cxC parseInt 4) [("em", .elem e), ("newValue", .py v)]
      (.cmp .is (.var "newValue") (.singleton "NOT_PROVIDED")) = .ok (.py (.bool false)) := by
    simp [eval, List.lookup, pyCompare, compareB, pyIs, Val.unique]
  simp only [_special_value_maxLength_ast, List.map, List.zip, List.zipWith, validateRule]
  rw [execL, execS_ifS hc, if_neg Bool.false_ne_true, execL_assign (eval_var rfl),
    execL_assignV rfl rfl, execL_nil]
  simp only
  rw [maxLength_tail hf hpi (.raise "IndexSizeErrorException") rfl rfl, resultOf_snd_retOf, cxC_parseInt]
  generalize convertToIntRange _ _ _ _ _ _ = res
  cases res <;> rfl

/-! non-vacuity: the generated rules exist, and concrete elements run through the dumped helpers -/

example : (∃ r, Gen.specialRules.lookup "rows" = some r) ∧ (∃ r, Gen.specialRules.lookup "cols" = some r)
    ∧ (∃ r, Gen.specialRules.lookup "autocomplete" = some r) ∧ (∃ r, Gen.specialRules.lookup "size" = some r)
    ∧ (∃ r, Gen.specialRules.lookup "maxLength" = some r) ∧ (∃ r, Gen.validatedProps.lookup "maxLength" = some r) :=
  ⟨⟨_, rfl⟩, ⟨_, rfl⟩, ⟨_, rfl⟩, ⟨_, rfl⟩, ⟨_, rfl⟩, ⟨_, rfl⟩⟩

private def ta : Elem := { Elem.new "textarea" with attrs := [("rows", some "7".toList)] }
example : runModule pyIntOfStr constants_scope "_special_value_rows" [.elem ta] = .ok (.py (.int 7)) := by rw [linkC_1]; decide +kernel
example : runModule pyIntOfStr constants_scope "_special_value_rows"
    [.elem { ta with attrs := [("rows", some "0".toList)] }] = .ok (.py (.int 2)) := by rw [linkC_1]; decide +kernel
example : runModule pyIntOfStr constants_scope "_special_value_rows" [.elem { ta with tag := "frameset" }]
    = .ok (.py (.str "7".toList)) := by rw [linkC_1]; decide +kernel
example : runModule pyIntOfStr constants_scope "_special_value_autocomplete"
    [.elem { Elem.new "form" with attrs := [("autocomplete", some "OFF".toList)] }] = .ok (.py (.str "off".toList)) := by rw [linkC_3]; decide +kernel
example : runModule pyIntOfStr constants_scope "_special_value_size"
    [.elem { Elem.new "input" with attrs := [("size", some "-4".toList)] }] = .ok (.py (.int 20)) := by rw [linkC_4]; decide +kernel
example : runModule pyIntOfStr constants_scope "_special_value_maxLength" [.elem (Elem.new "input")]
    = .ok (.py (.int (-1))) := by rw [linkC_5]; decide +kernel
example : runModule pyIntOfStr constants_scope "_special_value_maxLength"
    [.elem { Elem.new "input" with attrs := [("maxlength", some "12".toList)] }] = .ok (.py (.int 12)) := by rw [linkC_5]; decide +kernel
example : runModule pyIntOfStr constants_scope "_special_value_maxLength" [.elem (Elem.new "input"), .py (.str "-1".toList)]
    = .error .indexSizeError := by rw [linkC_5]; decide +kernel

/-! ## utils.escapeQuotes / unescapeQuotes (the dump `Gen.Code.utils`) -/

/-- `escapeQuotes(s)` on a text is the hand model of the serialisers (`Fmt.escapeQuotes`, the formatter's copy). -/
theorem escapeQuotes_code_eq_model (parseInt : Str → Except PyErr Int) (s : Str) :
    runModule parseInt utils "escapeQuotes" [.py (.str s)] = .ok (.py (.str (Fmt.escapeQuotes s))) := by
  have h : runModule parseInt utils "escapeQuotes" [.py (.str s)]
      = run { parseInt := parseInt, funs := callIn parseInt [] } escapeQuotes_ast [.py (.str s)] := rfl
  rw [h]
  simp [run, runKw, escapeQuotes_ast, bindArgs, execS, callMethod_replace, replaceAll_quote, fmt_escapeQuotes, py_straight]

/-- The five hand-written copies of `escapeQuotes` (formatter, DOM view, tree serialiser, pickle, attribute stores)
are the same function, so the theorem above ties all of them to the code. -/
theorem escapeQuotes_models_agree (s : Str) :
    Dom.escapeQuotes s = Fmt.escapeQuotes s ∧ AHP.escQ s = Fmt.escapeQuotes s ∧ Pk.escQ s = Fmt.escapeQuotes s
      ∧ Attrs.escQ s = Fmt.escapeQuotes s := by
  simp only [fmt_escapeQuotes, dom_escapeQuotes, tree_escQ, pk_escQ, attrs_escQ, and_self]

/-- `escapeQuotes(v)` on anything that is not a text raises `AttributeError` (no `replace`). -/
theorem escapeQuotes_code_nontext (parseInt : Str → Except PyErr Int) (v : PyV) (hv : ∀ s, v ≠ .str s) :
    runModule parseInt utils "escapeQuotes" [.py v] = .error (.other "AttributeError") := by
  have h : runModule parseInt utils "escapeQuotes" [.py v]
      = run { parseInt := parseInt, funs := callIn parseInt [] } escapeQuotes_ast [.py v] := rfl
  rw [h]
  cases v <;> first
    | exact absurd rfl (hv _)
    | simp [run, runKw, escapeQuotes_ast, bindArgs, execS, callMethod_nontext, py_straight]

/-- `unescapeQuotes(s)` on a text: every `&quot;`, left to right, becomes `"` (no hand model uses it; the library does
not call it either). -/
theorem unescapeQuotes_code (parseInt : Str → Except PyErr Int) (s : Str) :
    runModule parseInt utils "unescapeQuotes" [.py (.str s)]
      = .ok (.py (.str (replaceAll "&quot;".toList ['"'] s))) := by
  have h : runModule parseInt utils "unescapeQuotes" [.py (.str s)]
      = run { parseInt := parseInt, funs := callIn parseInt [escapeQuotes_ast] } unescapeQuotes_ast [.py (.str s)] := rfl
  rw [h]
  simp [run, runKw, unescapeQuotes_ast, bindArgs, execS, callMethod_replace, py_straight]

example : runModule pyIntOfStr utils "escapeQuotes" [.py (.str "a\"b".toList)] = .ok (.py (.str "a&quot;b".toList)) := by
  char_lits; decide +kernel
example : runModule pyIntOfStr utils "unescapeQuotes" [.py (.str "a&quot;b&quot".toList)] = .ok (.py (.str "a\"b&quot".toList)) := by
  char_lits; decide +kernel

end AHP.C19Code
