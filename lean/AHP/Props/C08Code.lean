/-
  C08 — the code tie of `Tags.isValidAttributeName`: the Python function ITSELF (dumped node by node into
  `Gen.Code.tags` by harness/ahpcheck/translate_code.py on every run, interpreted by `AHP.PyAst`: first-character rule, then
  the `for` loop over the characters with its `continue`s and the early `return False`) computes the hand-written predicate
  `validAttrName` (Model/Token.lean) — and therefore each of its three other copies (`Attrs.validName`, `Pk.validAttrName`,
  `Fmt.validAttrName`: `AttrStores.validAttrName_agree`) — for every text.

  `str.isalpha()` / `str.isalnum()` are ASCII-exact in the interpreter (`PyAst.asciiAlpha/asciiAlnum`), exactly as in the four
  hand models; Python's are Unicode-aware, so code and models agree with the LIBRARY on ASCII names only (the C08 stream
  and `design.d/C08.md` say what happens to other names).

  Second part: the two static methods of `SpecialAttributes.StyleAttribute` that work on texts, `camelCaseToDashName` and
  `styleToDict` (dumped into `Gen.Code.special_attributes`), against `Attrs.camelToDash` and `Attrs.styleToDict` and the copies of the
  latter in the other attribute-store models; `embAL` is the style map inside the interpreter's dict (used by `C10Code` too).
-/
import AHP.Gen.Code
import AHP.Lemmas.PyAstExec
import AHP.Lemmas.Cache
import AHP.Props.AttrStores
namespace AHP.C08Code
open AHP AHP.Gen AHP.Conv AHP.PyAst AHP.Gen.Code

/-- the character test of the loop, as the hand model writes it -/
def okChar (d : Char) : Bool := isAlnum d || d = '-' || d = '_'

theorem asciiAlpha_eq (c : Char) : asciiAlpha c = isAlpha c := rfl
theorem asciiAlnum_eq (c : Char) : asciiAlnum c = isAlnum c := rfl

def loopBody : List Stmt :=
  [.ifS (.meth (.var "thisCh") "isalnum" []) [.cont]
     [.ifS (.cmp .isIn (.var "thisCh") (.tuple [(.const (.str "-")), (.const (.str "_"))])) [.cont] []],
   .ret (.const (.bool false))]

theorem loopBody_run (cx : Ctx) (env : Env) (d : Char) :
    (execL cx (assocSet env "thisCh" (.py (.str [d]))) loopBody).2
      = if okChar d then .cont else .ret (.py (.bool false)) := by
  have hv := lookup_assocSet_eq env "thisCh" (.py (.str [d]))
  have h1 : eval cx (assocSet env "thisCh" (.py (.str [d]))) (.meth (.var "thisCh") "isalnum" [])
      = .ok (.py (.bool (isAlnum d))) := by
    simp [eval, evalList, hv, callMethod_isalnum, asciiAlnum_eq]
  have h2 : eval cx (assocSet env "thisCh" (.py (.str [d])))
      (.cmp .isIn (.var "thisCh") (.tuple [.const (.str "-"), .const (.str "_")]))
      = .ok (.py (.bool (decide (d = '-') || decide (d = '_')))) := by
    simp [eval, evalList, hv, toTuple, pyCompare, compareB, pyIn_py_tuple, pyEqV, Lit.toPy]
  rw [loopBody, execL, execS_ifS h1, execL_single, execL_single, execS_ifS h2, okChar, Bool.or_assoc]
  cases isAlnum d <;> cases (decide (d = '-') || decide (d = '_')) <;> rfl

theorem loop_run (cx : Ctx) : ∀ (l : Str) (env : Env),
    (forLoop (fun env v => assocSet env "thisCh" v) (fun env => execL cx env loopBody) (fun _ => true)
      (l.map (fun c => .py (.str [c]))) env).2
      = if l.all okChar then .next else .ret (.py (.bool false))
  | [], env => by simp [forLoop]
  | d :: r, env => by
    have h := loopBody_run cx env d
    have ih := loop_run cx r
    simp only [List.map_cons, forLoop, List.all_cons]
    generalize hb : execL cx (assocSet env "thisCh" (.py (.str [d]))) loopBody = p at h
    obtain ⟨env', res⟩ := p
    simp only at h
    by_cases hd : okChar d = true
    · simp only [hd, if_true] at h
      subst h
      simp only [hd, Bool.true_and, if_true]
      exact ih env'
    · simp only [hd, Bool.false_eq_true, if_false] at h
      subst h
      simp [hd]

theorem for_stmt (cx : Ctx) (env : Env) (n : Str) (hn : env.lookup "attrName" = some (.py (.str n))) :
    (execS cx env (.forS "thisCh" (.var "attrName")
      [.ifS (.meth (.var "thisCh") "isalnum" []) [.cont]
         [.ifS (.cmp .isIn (.var "thisCh") (.tuple [(.const (.str "-")), (.const (.str "_"))])) [.cont] []],
       .ret (.const (.bool false))])).2
      = if n.all okChar then .next else .ret (.py (.bool false)) := by
  rw [execS]
  simp only [eval, hn, iterItems, Val.mutable, Bool.not_false, Bool.true_or, if_true]
  exact loop_run cx n env

/-- `isValidAttributeName(attrName)` on every text is the hand model `validAttrName`: the first character is a letter or
`_`, every character is a letter, a digit, `-` or `_` (ASCII classes on both sides). -/
theorem isValidAttributeName_code_eq_model (parseInt : Str → Except PyErr Int) (n : Str) :
    runModule parseInt tags "isValidAttributeName" [.py (.str n)] = .ok (.py (.bool (validAttrName n))) := by
  rw [show runModule parseInt tags "isValidAttributeName" [.py (.str n)]
      = run { parseInt := parseInt, funs := callIn parseInt [] } isValidAttributeName_ast [.py (.str n)] from rfl, run_pos rfl]
  generalize ({ parseInt := parseInt, funs := callIn parseInt [] } : Ctx) = cx
  have hc : eval cx [("attrName", .py (.str n))] (.or (.not (.var "attrName"))
      (.and (.not (.meth (.index (.var "attrName") (.const (.int 0))) "isalpha" []))
        (.cmp .ne (.index (.var "attrName") (.const (.int 0))) (.const (.str "_")))))
      = .ok (.py (.bool (match n with | [] => true | c :: _ => !(isAlpha c || decide (c = '_'))))) := by
    rcases n with _ | ⟨c, r⟩
    · simp [eval, List.lookup, Val.truthy, truthy]
    · by_cases h1 : isAlpha c = true <;> by_cases h2 : c = '_' <;>
        simp [eval, evalList, List.lookup, Val.truthy, truthy, Lit.toPy, pyIndex_str, seqItem, callMethod_isalpha,
          asciiAlpha_eq, pyCompare, compareB, bnot, pyEq_py, pyEqV, h1, h2]
  have hfor := for_stmt cx [("attrName", .py (.str n))] n rfl
  simp only [isValidAttributeName_ast, List.map, List.zip, List.zipWith]
  rw [execL_guard hc (execL_ret ..), truthy_bool, execL]
  generalize execS cx _ (.forS _ _ _) = p at hfor ⊢
  obtain ⟨env', res⟩ := p
  simp only at hfor
  subst hfor
  rcases n with _ | ⟨c, r⟩
  · rfl
  · have hvalid : validAttrName (c :: r) = ((isAlpha c || decide (c = '_')) && (c :: r).all okChar) := rfl
    rw [hvalid]
    rcases Bool.eq_false_or_eq_true (isAlpha c || decide (c = '_')) with ha | ha <;>
      rcases Bool.eq_false_or_eq_true ((c :: r).all okChar) with hb | hb <;> simp only [ha, hb] <;> rfl

/-- The code is each of the four hand-written copies of the predicate. -/
theorem isValidAttributeName_code_eq_models (parseInt : Str → Except PyErr Int) (n : Str) :
    runModule parseInt tags "isValidAttributeName" [.py (.str n)] = .ok (.py (.bool (Attrs.validName n)))
    ∧ runModule parseInt tags "isValidAttributeName" [.py (.str n)] = .ok (.py (.bool (Pk.validAttrName n)))
    ∧ runModule parseInt tags "isValidAttributeName" [.py (.str n)] = .ok (.py (.bool (Fmt.validAttrName n))) := by
  obtain ⟨h1, h2, h3⟩ := AttrStores.validAttrName_agree n
  rw [h1, h2, h3]
  exact ⟨isValidAttributeName_code_eq_model parseInt n, isValidAttributeName_code_eq_model parseInt n,
    isValidAttributeName_code_eq_model parseInt n⟩

/-- `isValidAttributeName(None)`: a false value is no name (`not attrName`), whatever its type. -/
theorem isValidAttributeName_code_none (parseInt : Str → Except PyErr Int) :
    runModule parseInt tags "isValidAttributeName" [.py .none] = .ok (.py (.bool false)) := by
  have hlink : runModule parseInt tags "isValidAttributeName" [.py .none]
      = run { parseInt := parseInt, funs := callIn parseInt [] } isValidAttributeName_ast [.py .none] := rfl
  rw [hlink]
  simp [run, runKw, isValidAttributeName_ast, bindArgs, execS, py_straight]

/-! non-vacuity: concrete runs of the dump through the interpreter (kernel evaluation) — both rules, both outcomes -/

section
-- a broken `decide +kernel` would explain itself through the elaborator's evaluator (minutes, gigabytes on a run of the
-- interpreter): the small budget makes it fail at once; the kernel check of a correct example does not consume it
set_option maxHeartbeats 2000

example : runModule pyIntOfStr tags "isValidAttributeName" [.py (.str "data-x".toList)] = .ok (.py (.bool true)) := by
  decide +kernel
example : runModule pyIntOfStr tags "isValidAttributeName" [.py (.str "_x9".toList)] = .ok (.py (.bool true)) := by
  decide +kernel
example : runModule pyIntOfStr tags "isValidAttributeName" [.py (.str "a b".toList)] = .ok (.py (.bool false)) := by
  decide +kernel
example : runModule pyIntOfStr tags "isValidAttributeName" [.py (.str "-a".toList)] = .ok (.py (.bool false)) := by
  decide +kernel
example : runModule pyIntOfStr tags "isValidAttributeName" [.py (.str "9a".toList)] = .ok (.py (.bool false)) := by
  decide +kernel
example : runModule pyIntOfStr tags "isValidAttributeName" [.py (.str "".toList)] = .ok (.py (.bool false)) := by
  decide +kernel
/-- the limit of the tie: `isalpha` is ASCII here and in the hand models (Python's accepts `é`) -/
example : runModule pyIntOfStr tags "isValidAttributeName" [.py (.str "é".toList)] = .ok (.py (.bool false))
    ∧ validAttrName "é".toList = false := by
  decide +kernel
/-- an argument that is not a text and not false is outside the subset: an error, never a value -/
example : runModule pyIntOfStr tags "isValidAttributeName" [.py (.int 7)] = .error (unsupported "index") := by
  decide +kernel
end

/-! ## `StyleAttribute.camelCaseToDashName` and `StyleAttribute.styleToDict` (static methods of SpecialAttributes.py, dumped as
`Gen.Code.special_attributes`) against `Attrs.camelToDash` and `Attrs.styleToDict` -/

theorem upper_not_lower (c : Char) (h : asciiUpper c = true) : asciiLower c = false := by
  simp only [asciiUpper, asciiLower, Bool.and_eq_true, decide_eq_true_eq, Bool.and_eq_false_iff, decide_eq_false_iff_not] at h ⊢
  by_cases h1 : 'a' ≤ c
  · exact absurd (Char.le_trans h1 h.2) (by decide)
  · exact Or.inl h1

/-- what `ret` receives for one character -/
def dashItems (c : Char) : List PyV := if Attrs.isUpper c then [.str ['-'], .str [lowerChar c]] else [.str [c]]

def camelBody : List Stmt :=
  [.ifS (.meth (.var "ch") "isupper" [])
     [.varCall "ret" "append" [(.const (.str "-"))], .varCall "ret" "append" [(.meth (.var "ch") "lower" [])]]
     [.varCall "ret" "append" [(.var "ch")]]]

theorem camelBody_run (cx : Ctx) (env : Env) (c : Char) (acc : List PyV) (h : env.lookup "ret" = some (.list acc)) :
    execL cx (assocSet env "ch" (.py (.str [c]))) camelBody
      = (assocSet (assocSet env "ch" (.py (.str [c]))) "ret" (.list (acc ++ dashItems c)), .next) := by
  have hr : (assocSet env "ch" (.py (.str [c]))).lookup "ret" = some (.list acc) := by
    simp [lookup_assocSet, h]
  by_cases hu : Attrs.isUpper c = true
  · have hu' : asciiUpper c = true := hu
    simp [camelBody, execS, lookup_assocSet, callMethod_isupper, callMethod_lower, hu', upper_not_lower c hu', hr, Val.toField,
      mutCall_append, Field.toVal, assocSet_assocSet, dashItems, hu, lower, py_straight]
  · have hu' : asciiUpper c = false := by
      have : Attrs.isUpper c = false := by simpa using hu
      exact this
    simp [camelBody, execS, lookup_assocSet_eq, callMethod_isupper, hu', hr, Val.toField, mutCall_append, Field.toVal, dashItems, hu,
      py_straight]

theorem camelLoop_run (cx : Ctx) (V : Val) (same : Env → Bool)
    (hsame : ∀ env, env.lookup "camelCaseList" = some V → same env = true) :
    ∀ (l : Str) (env : Env) (acc : List PyV),
    env.lookup "ret" = some (.list acc) → env.lookup "camelCaseList" = some V →
    ∃ env', forLoop (fun env v => assocSet env "ch" v) (fun env => execL cx env camelBody) same
                ((l.map (fun c => PyV.str [c])).map Val.py) env = (env', .next)
      ∧ env'.lookup "ret" = some (.list (acc ++ l.flatMap dashItems))
  | [], env, acc, hr, _ => ⟨env, by simp [forLoop], by simpa using hr⟩
  | c :: r, env, acc, hr, hV => by
    have hstep := camelBody_run cx env c acc hr
    have hV' : (assocSet (assocSet env "ch" (.py (.str [c]))) "ret" (.list (acc ++ dashItems c))).lookup "camelCaseList"
        = some V := by
      simp [lookup_assocSet, hV]
    obtain ⟨env', h1, h2⟩ := camelLoop_run cx V same hsame r _ (acc ++ dashItems c) (lookup_assocSet_eq _ _ _) hV'
    refine ⟨env', ?_, ?_⟩
    · simp only [List.map_cons, forLoop, hstep, hsame _ hV', if_true]
      exact h1
    · rw [h2]; simp

theorem join_dashItems (l : Str) :
    ∃ ws, strItems (l.flatMap dashItems) = some ws ∧ joinWith [] ws = Attrs.camelToDash l := by
  induction l with
  | nil => exact ⟨[], rfl, rfl⟩
  | cons c r ih =>
    obtain ⟨ws, h1, h2⟩ := ih
    by_cases hu : Attrs.isUpper c = true
    · refine ⟨['-'] :: [lowerChar c] :: ws, ?_, ?_⟩
      · simp [List.flatMap_cons, dashItems, hu, strItems, h1]
      · have : ∀ (a : Str) (w : List Str), joinWith [] (a :: w) = a ++ joinWith [] w := by
          intro a w; cases w <;> simp [joinWith]
        rw [this, this, h2, Attrs.camelToDash, if_pos hu]; rfl
    · refine ⟨[c] :: ws, ?_, ?_⟩
      · simp [List.flatMap_cons, dashItems, hu, strItems, h1]
      · have : ∀ (a : Str) (w : List Str), joinWith [] (a :: w) = a ++ joinWith [] w := by
          intro a w; cases w <;> simp [joinWith]
        rw [this, h2, Attrs.camelToDash, if_neg hu]; rfl

/-- `StyleAttribute.camelCaseToDashName(camelCase)` on every text is `Attrs.camelToDash` (ASCII `isupper()` / `lower()`). -/
theorem camelCaseToDashName_code_eq_model (parseInt : Str → Except PyErr Int) (s : Str) :
    runModule parseInt special_attributes "camelCaseToDashName" [.py (.str s)] = .ok (.py (.str (Attrs.camelToDash s))) := by
  have hlink : runModule parseInt special_attributes "camelCaseToDashName" [.py (.str s)]
      = run { parseInt := parseInt, funs := callIn parseInt [] } StyleAttribute_camelCaseToDashName_ast [.py (.str s)] := rfl
  rw [hlink]
  simp only [run, runKw, StyleAttribute_camelCaseToDashName_ast, bindArgs, List.lookup, Option.isSome, List.isEmpty,
    Bool.false_eq_true, if_false, if_true]
  obtain ⟨env', hf1, hf2⟩ := camelLoop_run { parseInt := parseInt, funs := callIn parseInt [] }
    (.list (s.map (fun c => .str [c]))) (sameList _ "camelCaseList" _) (fun _ h => sameList_of_lookup h) s
    [("camelCase", .py (.str s)), ("camelCaseList", .list (s.map (fun c => .str [c]))), ("ret", .list [])] []
    (by simp [List.lookup]) (by simp [List.lookup])
  rw [← execS_forVar (x := "ch") rfl, camelBody] at hf1
  rw [List.nil_append] at hf2
  obtain ⟨ws, hw1, hw2⟩ := join_dashItems s
  have hl : callIn parseInt [] "list" = none := rfl
  simp [builtin_list_str, aliasOK, Expr.makesNew, hl, Val.mutable, assocSet, hf1, hf2, callMethod_join, hw1, hw2, py_straight]

/-- the hand model's style map as a Python dict of texts -/
def embAL (d : Attrs.AL Str) : List (PyV × PyV) := d.map (fun p => (PyV.str p.1, PyV.str p.2))

theorem dSet_embAL (d : Attrs.AL Str) (k v : Str) : dSet (embAL d) (.str k) (.str v) = embAL (Attrs.aset k v d) := by
  rw [Attrs.aset_eq]; exact dSet_map pyEqV_str PyV.str d k v

theorem findColon_not_mem (item : Str) (h : ':' ∉ item) : Attrs.findColon item = none := by
  induction item with
  | nil => rfl
  | cons c r ih =>
    have hc : c ≠ ':' := fun e => h (by simp [e])
    have hr : ':' ∉ r := fun e => h (List.mem_cons_of_mem _ e)
    simp [Attrs.findColon, hc, ih hr]

theorem findColon_mem (item : Str) (h : ':' ∈ item) :
    Attrs.findColon item = some (item.take (item.idxOf ':'), item.drop (item.idxOf ':' + 1)) := by
  induction item with
  | nil => simp at h
  | cons c r ih =>
    by_cases hc : c = ':'
    · subst hc; simp [Attrs.findColon]
    · have hr : ':' ∈ r := by
        rcases List.mem_cons.mp h with e | e
        · exact absurd e.symm hc
        · exact e
      have hb : (c == ':') = false := by simpa using hc
      simp [Attrs.findColon, hc, ih hr, List.idxOf_cons, hb]

theorem sliceFrom_succ (l : Str) (i : Nat) : Cache.sliceFrom l ((i : Int) + 1) = l.drop (i + 1) := by
  have h : ¬ ((i : Int) + 1 < 0) := by omega
  simp only [Cache.sliceFrom, h, if_false]
  congr 1

def styleBody : List Stmt :=
  [.tryS
     [.assign "splitIdx" (.meth (.var "item") "index" [(.const (.str ":"))]),
      .assign "name" (.meth (.meth (.sliceTo (.var "item") (.var "splitIdx")) "strip" []) "lower" []),
      .assign "value" (.meth (.sliceFrom (.var "item") (.binop .add (.var "splitIdx") (.const (.int (1))))) "strip" []),
      .setItemVar "styleDict" (.var "name") (.var "value")]
     [.mk none [.cont]]]

theorem styleBody_run (cx : Ctx) (env : Env) (item : Str) (d : Attrs.AL Str) (V : Val)
    (hd : env.lookup "styleDict" = some (.dict (embAL d))) (hV : env.lookup "styles" = some V) :
    ∃ env' r, execL cx (assocSet env "item" (.py (.str item))) styleBody = (env', r) ∧ (r = .next ∨ r = .cont)
      ∧ env'.lookup "styleDict" = some (.dict (embAL (Attrs.styleItem d item))) ∧ env'.lookup "styles" = some V := by
  have hd1 : (assocSet env "item" (.py (.str item))).lookup "styleDict" = some (.dict (embAL d)) := by
    simp [lookup_assocSet, hd]
  have hV1 : (assocSet env "item" (.py (.str item))).lookup "styles" = some V := by
    simp [lookup_assocSet, hV]
  by_cases hm : ':' ∈ item
  · generalize he : assocSet env "item" (.py (.str item)) = env1 at hd1 hV1
    have hi : env1.lookup "item" = some (.py (.str item)) := by rw [← he, lookup_assocSet_eq]
    refine ⟨assocSet (assocSet (assocSet (assocSet env1 "splitIdx" (.py (.int (item.idxOf ':'))))
        "name" (.py (.str (lower (strip (item.take (item.idxOf ':')))))))
        "value" (.py (.str (strip (item.drop (item.idxOf ':' + 1))))))
        "styleDict" (.dict (embAL (Attrs.styleItem d item))), .next, ?_, Or.inl rfl, lookup_assocSet_eq _ _ _, ?_⟩
    · simp [styleBody, execS, hi, callMethod_index, callMethod_strip, callMethod_lower, hm, aliasOK, Val.mutable,
        lookup_assocSet, hd1, pySlice, Cache.sliceTo_eq_take, pyBinop, numOf, sliceFrom_succ, hashable, dSet_embAL,
        Attrs.styleItem, findColon_mem item hm, py_straight]
    · simp [lookup_assocSet, hV1]
  · refine ⟨assocSet env "item" (.py (.str item)), .cont, ?_, Or.inr rfl, ?_, hV1⟩
    · simp [styleBody, execS, lookup_assocSet_eq, callMethod_index, hm, catches, py_straight]
    · rw [hd1, Attrs.styleItem, findColon_not_mem item hm]

theorem styleLoop_run (cx : Ctx) (V : Val) (same : Env → Bool) (hsame : ∀ env, env.lookup "styles" = some V → same env = true) :
    ∀ (l : List Str) (env : Env) (d : Attrs.AL Str),
    env.lookup "styleDict" = some (.dict (embAL d)) → env.lookup "styles" = some V →
    ∃ env', forLoop (fun env v => assocSet env "item" v) (fun env => execL cx env styleBody) same
                ((l.map PyV.str).map Val.py) env = (env', .next)
      ∧ env'.lookup "styleDict" = some (.dict (embAL (l.foldl Attrs.styleItem d)))
  | [], env, d, hd, _ => ⟨env, by simp [forLoop], by simpa using hd⟩
  | item :: r, env, d, hd, hV => by
    obtain ⟨env1, res, h1, hres, hd1, hV1⟩ := styleBody_run cx env item d V hd hV
    obtain ⟨env', h2, h3⟩ := styleLoop_run cx V same hsame r env1 (Attrs.styleItem d item) hd1 hV1
    refine ⟨env', ?_, by simpa using h3⟩
    rcases hres with rfl | rfl <;> simp only [List.map_cons, forLoop, h1, hsame _ hV1, if_true] <;> exact h2

/-- `StyleAttribute.styleToDict(styleStr)` on every text is the hand model's ordered map `Attrs.styleToDict` (as a dict of
texts): `strip()`, `split(';')`, and per item `index(':')` (an item without a colon is skipped by the bare `except`), the two
slices, `strip().lower()` / `strip()`, assignment into the `OrderedDict`. -/
theorem styleToDict_code_eq_model (parseInt : Str → Except PyErr Int) (s : Str) :
    runModule parseInt special_attributes "styleToDict" [.py (.str s)] = .ok (.dict (embAL (Attrs.styleToDict s))) := by
  have hlink : runModule parseInt special_attributes "styleToDict" [.py (.str s)]
      = run { parseInt := parseInt, funs := callIn parseInt [StyleAttribute_camelCaseToDashName_ast] }
          StyleAttribute_styleToDict_ast [.py (.str s)] := rfl
  rw [hlink]
  simp only [run, runKw, StyleAttribute_styleToDict_ast, bindArgs, List.lookup, Option.isSome, List.isEmpty,
    Bool.false_eq_true, if_false, if_true]
  obtain ⟨env', hf1, hf2⟩ := styleLoop_run
    { parseInt := parseInt, funs := callIn parseInt [StyleAttribute_camelCaseToDashName_ast] }
    (.list ((splitChar ';' (strip s)).map .str)) (sameList _ "styles" _) (fun _ h => sameList_of_lookup h) (splitChar ';' (strip s))
    [("styleStr", .py (.str (strip s))), ("styles", .list ((splitChar ';' (strip s)).map .str)), ("styleDict", .dict [])] []
    (by simp [List.lookup, embAL]) (by simp [List.lookup])
  rw [← execS_forVar (x := "item") rfl, styleBody] at hf1
  have hf2 : env'.lookup "styleDict" = some (.dict (embAL (Attrs.styleToDict s))) := hf2
  simp [aliasOK, Expr.makesNew, Val.mutable, assocSet, hf1, hf2, callMethod_strip, callMethod_split, py_straight]

/-- The code is each of the four hand-written copies of `styleToDict` (`AttrStores.styleToDict_agree`). -/
theorem styleToDict_code_eq_models (parseInt : Str → Except PyErr Int) (s : Str) :
    runModule parseInt special_attributes "styleToDict" [.py (.str s)] = .ok (.dict (embAL (AHP.styleToDict s)))
    ∧ runModule parseInt special_attributes "styleToDict" [.py (.str s)] = .ok (.dict (embAL (Pk.styleToDict s)))
    ∧ runModule parseInt special_attributes "styleToDict" [.py (.str s)] = .ok (.dict (embAL (Fmt.styleToDict s))) := by
  obtain ⟨h1, h2, h3⟩ := AttrStores.styleToDict_agree s
  rw [h2, h3, ← h1]
  exact ⟨styleToDict_code_eq_model parseInt s, styleToDict_code_eq_model parseInt s, styleToDict_code_eq_model parseInt s⟩

/-! ### non-vacuity: concrete runs of the two dumps (kernel evaluation) -/

set_option maxHeartbeats 2000

example : runModule pyIntOfStr special_attributes "camelCaseToDashName" [.py (.str "paddingTop".toList)]
    = .ok (.py (.str "padding-top".toList)) := by char_lits; decide +kernel
example : runModule pyIntOfStr special_attributes "camelCaseToDashName" [.py (.str "MozBoxSizing".toList)]
    = .ok (.py (.str "-moz-box-sizing".toList)) := by char_lits; decide +kernel
/-- a later declaration of the same name overwrites the value and keeps the position; an item without a colon is skipped;
names are lower-cased, values are not; only the first colon splits -/
example : runModule pyIntOfStr special_attributes "styleToDict" [.py (.str " Color : red ;; x:1; junk ; color: Blue:2 ".toList)]
    = .ok (.dict [(.str "color".toList, .str "Blue:2".toList), (.str "x".toList, .str "1".toList)]) := by
  char_lits; decide +kernel
example : runModule pyIntOfStr special_attributes "styleToDict" [.py (.str "".toList)] = .ok (.dict []) := by decide +kernel
/-- an argument that is not a text has no `strip`: `AttributeError` -/
example : runModule pyIntOfStr special_attributes "styleToDict" [.py .none] = .error (.other "AttributeError") := by
  decide +kernel

end AHP.C08Code
