/-
  C11 — Formatting preserves the document: structure, attributes, text, preformatted.

  Property theorems only.  Model: AHP/Model/Format.lean (the four formatter classes, the element serialiser with
  `_indent`, the plain parser's handlers); lemmas and specification functions: AHP/Lemmas/Format.lean, Squeeze.lean.

  All statements are about **every token sequence** the tokenizer may hand to the `handle_*` callbacks (no
  well-formedness assumed: stray and missing end tags, several roots, text outside the root, …) and every
  configuration `cfg` (element class normal/slim, indent unit, mini).  The only hypothesis is the one the property
  itself makes (DESIGN §5 C11, "the reserved-name exclusion"): no element of the input carries the reserved name of the invisible wrapper.

  String level: `formatter_output_lexes` / `formatter_output_reparses` / `formatter_roundtrip_strict` (below) go from
  the output *text* back to tokens with the character-level lexer of C01 (`lexStrict`, Model/Lexer.lean) and on to the
  plain parser's tree, for all four classes and for single- and multi-root documents in the strict sub-language
  (lemmas: AHP/Lemmas/FormatLex*.lean); `mini_output_is_fixed_point_text` is C12b (mini² = mini) on text.  What these statements
  assume is listed under "What is partial".
-/
import AHP.Lemmas.FormatLexPretty
import AHP.Lemmas.FormatLexExact
import AHP.Lemmas.FormatLexViaHTML
namespace AHP.C11
open AHP AHP.Fmt
-- the lexer's side (namespace `AHP`) has declarations with the same short names as the formatter model
-- (`AHP.Fmt`); inside this file the short names keep meaning the formatter model's
export AHP.Fmt (Node docHTML isVoid)

/-! #### table obligations: the sets of constants.py the statements below are about -/

theorem preformatted_table : Gen.preformattedTags = ["code", "pre"] := by decide
theorem preserve_table : Gen.preserveContentsTags = ["code", "pre", "script", "style"] := by decide
theorem wrapper_table : Gen.invisibleRootTag = "xxxblank" := by decide
/-- pre/code content is preserved content; the wrapper is neither void nor preformatted nor preserved -/
theorem tables_consistent :
    (∀ n, isPre n = true → isPreserve n = true)
    ∧ isVoid wrapper = false ∧ isPre wrapper = false ∧ isPreserve wrapper = false :=
  ⟨pre_preserve, wrapper_not_void, isPre_wrapper, preserve_wrapper⟩

/-! #### C11a — same elements, nesting, attributes, doctype; same text modulo white space -/

/-- The data rule only moves white space: the text without white space is unchanged … -/
theorem squeeze_preserves_text (s : Str) : eraseWS (squeeze s) = eraseWS s := eraseWS_squeeze s

/-- … and a piece that is more than white space is never dropped. -/
theorem squeeze_keeps_nonblank (s : Str) (h : blank s = false) : blank (squeeze s) = false := squeeze_not_blank s h

/-- **C11a (tree level).**  For every token sequence and configuration: the formatter fails exactly when the plain
    parser fails (same error), and otherwise the tree it serialises has the same doctype and is, modulo formatting,
    the plain parser's tree: same elements in the same nesting with the same attribute store and self-closing flag,
    reference and comment blocks verbatim, data blocks equal after removing all white space (`skel`). -/
theorem formatter_preserves_document (cfg : Cfg) (toks : List Tok) (h : NoWrapperStart toks) :
    (match Plain.feed toks with
     | .ok ps => ∃ fs, feed cfg toks = .ok fs ∧ fs.doctype = ps.doctype ∧ fs.root.map skel = ps.root.map skel
     | .error e => feed cfg toks = .error e) := by
  have := format_tree cfg toks h
  cases hp : Plain.feed toks with
  | error e => simpa [hp] using this
  | ok ps =>
    rw [hp] at this
    obtain ⟨fs, h1, h2, h3⟩ := this
    refine ⟨fs, h1, h3, ?_⟩
    rw [h2]
    cases ps.root with
    | none => rfl
    | some r => simp [dec0, skel_decorate]

/-- The stronger form the other statements are derived from: the formatter's tree is a *function of the plain
    parser's tree* — `decorate` walks it top-down and decides per node from its ancestors alone. -/
theorem formatter_tree_is_decorated (cfg : Cfg) (toks : List Tok) (h : NoWrapperStart toks) :
    feed cfg toks = mapOk (decSt cfg) (Plain.feed toks) := feed_dec cfg toks h

/-- `getHTML` of the formatter is the serialisation of that tree (definitionally; stated for the record). -/
theorem format_is_serialised_tree (cfg : Cfg) (toks : List Tok) (s : St) (h : feed cfg toks = .ok s) :
    format cfg toks = docHTML s.doctype s.root := by
  simp [format, h]

/-! #### C11b — below pre/code everything is reproduced exactly; script/style content is kept -/

/-- **C11b.**  In a context with a pre/code ancestor (`c.inPre ≠ 0`) `decorate` changes nothing but the element class:
    every block — including text in elements nested arbitrarily deep — is kept character for character and no
    element gets an `_indent`. -/
theorem below_pre_exact (cfg : Cfg) (c : Ctx) (p : Str) (h : c.inPre ≠ 0) (t : Node) :
    decorate cfg c p t = rekind cfg.kind t := decorate_inPre cfg c p h t

/-- the children of a pre/code element are in such a context, wherever the element itself sits -/
theorem pre_children_exact (cfg : Cfg) (c : Ctx) (p n : Str) (hn : isPre n = true) (k : Kind) (st : AStore) (sc : Bool)
    (ind : Str) (kids : List Node) :
    decorate cfg c p (.elem k n st sc ind kids) = .elem cfg.kind n st sc (indentAt cfg c) (rekindL cfg.kind kids) := by
  simp only [decorate]
  rw [decorateL_inPre cfg (c.push n) n (push_inPre_of_pre c n hn) kids]

/-- data directly inside script/style (and pre/code) is never rewritten -/
theorem preserved_parent_text_exact (cfg : Cfg) (c : Ctx) (p : Str) (hp : isPreserve p = true) (v : Bool) (s : Str) :
    decorate cfg c p (.text v s) = .text v s := by
  cases v <;> simp [decorate, hp]

/-- references and comments are never rewritten, wherever they are -/
theorem verbatim_blocks_exact (cfg : Cfg) (c : Ctx) (p : Str) (s : Str) :
    decorate cfg c p (.text true s) = .text true s := by
  simp [decorate]

/-! #### string level: the output text lexes back and re-parses to the same document -/

/-- **C11 (string level, a).**  Any of the four formatter classes (normal or slim element class, mini or an indent
    unit of spaces/tabs), any token sequence whose plain-parser tree is a document in the strict sub-language
    (`FNode.Strict`: well-formed names and attribute items, text blocks that are data runs / references / comments,
    raw-text content free of its closing expression, attribute stores that are re-read unchanged), single- or
    multi-root (`WrapperOK`): the formatter's output TEXT is in the domain of the strict lexer and lexes to `docToks` — the token rendering of the decorated
    tree, each `_indent` glued to the data run before it (or a data run of its own). -/
theorem formatter_output_lexes (cfg : Cfg) (hi : IndentWS cfg) (toks : List Tok)
    (h : NoWrapperStart toks) (ps : St) (hp : Plain.feed toks = .ok ps)
    (n : Str) (st : AStore) (sc : Bool) (kids : List FNode)
    (hroot : ps.root = some (FNode.elem n st sc kids).toNode) (hw : WrapperOK n st sc kids)
    (hs : (FNode.elem n st sc kids).Strict) (hdt : DtOK ps.doctype) :
    ∃ out, format cfg toks = .ok out ∧ lexStrict out = some (docToks cfg ps.doctype n st sc kids) :=
  ⟨_, format_text cfg toks h ps hp n st sc kids hroot hw hs, doc_lex_blocks cfg hi _ hdt n st sc kids hs⟩

/-- trees with the same skeleton have the same canonical skeleton (`cskel` = `skel`, then empty data blocks dropped
    and adjacent data blocks joined) — so `formatter_preserves_document` also reads with `cskel` -/
theorem cskel_of_skel (a b : Node) (h : skel a = skel b) : cskel a = cskel b := by
  unfold cskel; rw [h]

private theorem output_reparses (cfg : Cfg) (hi : IndentWS cfg) (dt : Option Str) (hdt : DtOK dt)
    (n : Str) (st : AStore) (sc : Bool) (kids : List FNode) (hw : WrapperOK n st sc kids)
    (hs : (FNode.elem n st sc kids).Strict) :
    ∃ u' : FNode, Plain.feed ((docToks cfg dt n st sc kids).map Tok.ofToken) = .ok ⟨[], some u'.toNode, dt, 0, 0⟩
      ∧ u'.Strict ∧ pskel u'.toNode = pskel (FNode.elem n st sc kids).toNode
      ∧ TailsRel (rawConts (FNode.elem n st sc kids).toNode) (rawConts u'.toNode) := by
  unfold docToks
  by_cases hn : n = wrapper
  · obtain ⟨hst, hsc, hmulti⟩ := hw hn
    subst hn; subst hsc; subst hst
    have hk := strictL_of_wrapper {} false kids hs
    exact ⟨_, by simpa using doc_reparse_multi cfg hi dt kids hk hdt hmulti,
      strict_wrapperElem _ (strict_outBlocksM cfg hi dt kids hk), pskel_outM cfg hi dt {} kids hk,
      rawConts_outM cfg hi dt {} kids hk⟩
  · exact ⟨outRoot cfg n st sc kids, by simpa [hn] using doc_reparse cfg hi dt n st sc kids hs hdt,
      strict_gK cfg hi ⟨0, 0⟩ n st sc kids hs, pskel_outRoot cfg hi n st sc kids hs,
      rawConts_outRoot cfg hi n st sc kids hs⟩

/-- **C11 (string level, b).**  Under the same hypotheses: lexing the formatter's output text and building with the
    plain parser gives a document with the same doctype whose tree equals the input's tree modulo formatting —
    same elements, nesting, attribute stores and self-closing flags, references and comments verbatim, text equal
    after removing white space (`cskel`: the white-space-only blocks the `_indent`s add between elements vanish,
    an `_indent` glued to a data run is white space of that run). -/
theorem formatter_output_reparses (cfg : Cfg) (hi : IndentWS cfg) (toks : List Tok)
    (h : NoWrapperStart toks) (ps : St) (hp : Plain.feed toks = .ok ps)
    (n : Str) (st : AStore) (sc : Bool) (kids : List FNode)
    (hroot : ps.root = some (FNode.elem n st sc kids).toNode) (hw : WrapperOK n st sc kids)
    (hs : (FNode.elem n st sc kids).Strict) (hdt : DtOK ps.doctype) :
    ∃ out toks' ps', format cfg toks = .ok out ∧ lexStrict out = some toks' ∧
      Plain.feed (toks'.map Tok.ofToken) = .ok ps' ∧ ps'.doctype = ps.doctype ∧
      ps'.root.map cskel = ps.root.map cskel := by
  obtain ⟨out, hout, hlex⟩ := formatter_output_lexes cfg hi toks h ps hp n st sc kids hroot hw hs hdt
  obtain ⟨u', hfeed, hs', hsk, _⟩ := output_reparses cfg hi ps.doctype hdt n st sc kids hw hs
  refine ⟨out, _, _, hout, hlex, hfeed, rfl, ?_⟩
  -- the finer skeleton decides the coarser one (`cskel_of_pskel`)
  rw [hroot]
  exact congrArg some (cskel_of_pskel _ _ (rawData_strict _ hs') (rawData_strict _ hs) hsk)

/-- **C11b on the re-parsed output (string level).**  Same hypotheses as `formatter_output_reparses`; the comparison is
    the finer skeleton `pskel` (`Lemmas/FormatLexExact.lean`) instead of `cskel`: lexing the formatter's output text and
    building with the plain parser gives a document with the same doctype whose tree has the same elements, nesting,
    attribute stores and self-closing flags, references and comments verbatim, and

    * **every data block below a pre/code element — at any depth, inside nested elements too — character for character**
      (adjacent data blocks joined, as re-tokenising joins them);
    * the content of every script/style element outside pre/code equal up to its trailing run of line-feed / space / tab
      characters (`stripTail`; exactly what is appended: `script_style_content_reparses`);
    * all other text equal after removing white space (as in `cskel`). -/
theorem formatter_output_reparses_exact (cfg : Cfg) (hi : IndentWS cfg) (toks : List Tok)
    (h : NoWrapperStart toks) (ps : St) (hp : Plain.feed toks = .ok ps)
    (n : Str) (st : AStore) (sc : Bool) (kids : List FNode)
    (hroot : ps.root = some (FNode.elem n st sc kids).toNode) (hw : WrapperOK n st sc kids)
    (hs : (FNode.elem n st sc kids).Strict) (hdt : DtOK ps.doctype) :
    ∃ out toks' ps', format cfg toks = .ok out ∧ lexStrict out = some toks' ∧
      Plain.feed (toks'.map Tok.ofToken) = .ok ps' ∧ ps'.doctype = ps.doctype ∧
      ps'.root.map pskel = ps.root.map pskel := by
  obtain ⟨out, hout, hlex⟩ := formatter_output_lexes cfg hi toks h ps hp n st sc kids hroot hw hs hdt
  obtain ⟨u', hfeed, _, hsk, _⟩ := output_reparses cfg hi ps.doctype hdt n st sc kids hw hs
  exact ⟨out, _, _, hout, hlex, hfeed, rfl, by rw [hroot]; exact congrArg some hsk⟩

/-- **C11b, script/style on the re-parsed output: exactly what is added.**  Same hypotheses.  List the contents
    (concatenated text) of the script/style elements in document order (`rawConts`), for the plain parser's tree of the
    input (`r`) and for its tree of the lexed output text (`r'`): the two lists have the same length and, element by
    element (`TailsRel`), the output's content is the input's content, or the input's content followed by **a line break
    and spaces/tabs** — "the line break and indentation the pretty printers place before the end tag" (`TailRel`;
    which of the two, and how many units: C12's layout law). -/
theorem script_style_content_reparses (cfg : Cfg) (hi : IndentWS cfg) (toks : List Tok)
    (h : NoWrapperStart toks) (ps : St) (hp : Plain.feed toks = .ok ps)
    (n : Str) (st : AStore) (sc : Bool) (kids : List FNode)
    (hroot : ps.root = some (FNode.elem n st sc kids).toNode) (hw : WrapperOK n st sc kids)
    (hs : (FNode.elem n st sc kids).Strict) (hdt : DtOK ps.doctype) :
    ∃ out toks' ps' r', format cfg toks = .ok out ∧ lexStrict out = some toks' ∧
      Plain.feed (toks'.map Tok.ofToken) = .ok ps' ∧ ps'.root = some r' ∧
      TailsRel (rawConts (FNode.elem n st sc kids).toNode) (rawConts r') := by
  obtain ⟨out, hout, hlex⟩ := formatter_output_lexes cfg hi toks h ps hp n st sc kids hroot hw hs hdt
  obtain ⟨u', hfeed, _, _, hrel⟩ := output_reparses cfg hi ps.doctype hdt n st sc kids hw hs
  exact ⟨out, _, _, _, hout, hlex, hfeed, rfl, hrel⟩

/-- **`pskel` refines `cskel`.**  On trees whose script/style content consists of data blocks only (`RawData`: every tree
    the tokenizer can give rise to — raw text is reported as data —, in particular every strict tree, `rawData_strict`)
    `cskel` is a function of `pskel` (`cskel t = canon (skel (pskel t))`): trees with the same `pskel` have the same
    `cskel`, so `formatter_output_reparses_exact` implies `formatter_output_reparses`. -/
theorem pskel_refines_cskel (a b : Node) (ha : RawData a) (hb : RawData b) (h : pskel a = pskel b) :
    cskel a = cskel b := cskel_of_pskel a b ha hb h

/-- what `pskel` keeps, spelled out on the three kinds of data: below pre/code the block itself; outside, the block
    without white space; of script/style outside pre/code the concatenated text without its trailing LF/space/tab run -/
theorem pskel_keeps (s : Str) (k : Kind) (n : Str) (st : AStore) (sc : Bool) (ind : Str) (kids : List Node) :
    pskelAt true (.text false s) = .text false s
    ∧ pskelAt false (.text false s) = .text false (eraseWS s)
    ∧ (isPre n = true → pskelAt false (.elem k n st sc ind kids) = .elem .normal n st sc [] (pskelAtL true kids))
    ∧ (isRawText n = true →
        pskelAt false (.elem k n st sc ind kids) = .elem .normal n st sc [] [.text false (stripTail (textCat kids))]) := by
  refine ⟨rfl, rfl, ?_, ?_⟩
  · intro hp
    have hr : isRawText n = false := by
      cases hr : isRawText n with
      | false => rfl
      | true => rw [raw_not_pre n hr] at hp; cases hp
    simp [pskelAt, hp, hr]
  · intro hr
    simp [pskelAt, hr]

/-- **C11 (string level, token form).**  For every strict single-root document tree `u` (any size, any depth),
    every doctype and every formatter class: feed the formatter the token sequence of the document; its output
    text lexes, and the plain parser builds from it a document with the same doctype and the tree of `u` modulo
    formatting. -/
theorem formatter_roundtrip_strict (cfg : Cfg) (hi : IndentWS cfg) (dt : Option Str) (hdt : DtOK dt)
    (n : Str) (st : AStore) (sc : Bool) (kids : List FNode) (hs : (FNode.elem n st sc kids).Strict)
    (hn : n ≠ wrapper) (hnw : NoWrapperStart (strictToks dt (.elem n st sc kids))) :
    ∃ out toks' ps', format cfg (strictToks dt (.elem n st sc kids)) = .ok out ∧ lexStrict out = some toks' ∧
      Plain.feed (toks'.map Tok.ofToken) = .ok ps' ∧ ps'.doctype = dt ∧
      ps'.root.map cskel = some (cskel (FNode.elem n st sc kids).toNode) := by
  have hp := plain_feed_strictToks dt hdt n st sc kids hs
  exact formatter_output_reparses cfg hi _ hnw _ hp n st sc kids rfl (fun e => absurd e hn) hs hdt

/-! #### C11c — `getFormattedHTML` / `getMiniHTML` = formatter ∘ `getHTML` (a composition through text) -/

/-- `AdvancedHTMLParser.getFormattedHTML(indent)` / `.getMiniHTML()` as the code has them (Parser.py):
    `html = self.getHTML()`; a fresh formatter of the class in question is fed `html` — i.e. the text is tokenised
    again —; `formatter.getHTML()`.  The tokenizer in between is the strict lexer of C01: `none` = the text of `getHTML()`
    is outside its domain (never for strict documents: `getFormattedHTML_is_format_of_getHTML`); a `getHTML()` that raises
    (nothing parsed) raises here too. -/
def viaGetHTML (cfg : Cfg) (toks : List Tok) : Option (Except Err Str) :=
  match Plain.html toks with
  | .error e => some (.error e)
  | .ok html => (lexStrict html).map (fun ts => format cfg (ts.map Tok.ofToken))

/-- `parser.getFormattedHTML(indent)`: `AdvancedHTMLFormatter(indent, None)` -/
def getFormattedHTML (ind : IndentArg) (toks : List Tok) : Option (Except Err Str) :=
  viaGetHTML (mkCfg .pretty ind false) toks
/-- `parser.getMiniHTML()`: `AdvancedHTMLMiniFormatter(None)` -/
def getMiniHTML (toks : List Tok) : Option (Except Err Str) := viaGetHTML (mkCfg .mini .dflt false) toks

/-- **C11c.**  Any formatter class; any token sequence whose plain-parser tree is a strict document `u` (single- or
    multi-root) without the reserved name below the root.  Then `getHTML()` returns a text `html` that the strict lexer
    reads back (`toks'` = the tokens of `u` with adjacent data blocks glued; C01), the convenience method **is the
    formatter applied to those tokens**, and those tokens are again a document of the class all C11/C12 statements are
    about: they do not start the reserved name, the plain parser builds from them `reparsed` — `u` with adjacent data
    blocks joined (multi-root: the line break after the doctype line becomes text of the wrapper) — with the same
    doctype, strict again, and with the same `pskel` as `u`. -/
theorem getFormattedHTML_is_format_of_getHTML (cfg : Cfg) (toks : List Tok) (ps : St) (hp : Plain.feed toks = .ok ps)
    (n : Str) (st : AStore) (sc : Bool) (kids : List FNode)
    (hroot : ps.root = some (FNode.elem n st sc kids).toNode) (hw : WrapperOK n st sc kids)
    (hs : (FNode.elem n st sc kids).Strict) (hdt : DtOK ps.doctype) (hnw : NoWrapperL (plainBlocks n st sc kids)) :
    ∃ html toks', Plain.html toks = .ok html ∧ lexStrict html = some toks' ∧
      viaGetHTML cfg toks = some (format cfg (toks'.map Tok.ofToken)) ∧
      NoWrapperStart (toks'.map Tok.ofToken) ∧
      Plain.feed (toks'.map Tok.ofToken)
        = .ok ⟨[], some (reparsed ps.doctype n st sc kids).toNode, ps.doctype, 0, 0⟩ ∧
      (reparsed ps.doctype n st sc kids).Strict ∧
      pskel (reparsed ps.doctype n st sc kids).toNode = pskel (FNode.elem n st sc kids).toNode := by
  have hhtml : Plain.html toks = .ok (renderToksY TagStyle.normal (htmlToks ps.doctype n st sc kids)) := by
    simp only [Plain.html, hp, hroot]
    exact plain_html_text ps.doctype n st sc kids hw
  have hlex := plain_html_lex ps.doctype hdt n st sc kids hs
  refine ⟨_, _, hhtml, hlex, ?_, nw_htmlToks ps.doctype n st sc kids hs hnw,
    plain_html_reparse ps.doctype hdt n st sc kids hw hs, reparsed_strict ps.doctype n st sc kids hw hs,
    pskel_reparsed ps.doctype n st sc kids hw⟩
  simp [viaGetHTML, hhtml, hlex]

/-- **C11c + C11a/b: the convenience methods preserve the document.**  Same hypotheses, indent unit of spaces/tabs: the
    method returns a text; that text lexes and the plain parser builds from it a document with the same doctype and the
    same `pskel` as the parser's own tree (`formatter_output_reparses_exact` composed with the step through `getHTML()`). -/
theorem getFormattedHTML_preserves_document (cfg : Cfg) (hi : IndentWS cfg) (toks : List Tok) (ps : St)
    (hp : Plain.feed toks = .ok ps) (n : Str) (st : AStore) (sc : Bool) (kids : List FNode)
    (hroot : ps.root = some (FNode.elem n st sc kids).toNode) (hw : WrapperOK n st sc kids)
    (hs : (FNode.elem n st sc kids).Strict) (hdt : DtOK ps.doctype) (hnw : NoWrapperL (plainBlocks n st sc kids)) :
    ∃ out toks'' ps'', viaGetHTML cfg toks = some (.ok out) ∧ lexStrict out = some toks'' ∧
      Plain.feed (toks''.map Tok.ofToken) = .ok ps'' ∧ ps''.doctype = ps.doctype ∧
      ps''.root.map pskel = ps.root.map pskel := by
  obtain ⟨html, toks', _, _, hvia, hnws, hfeed, hstrict, hpsk⟩ :=
    getFormattedHTML_is_format_of_getHTML cfg toks ps hp n st sc kids hroot hw hs hdt hnw
  obtain ⟨n', st', sc', kids', e, hw'⟩ := reparsed_wrapperOK ps.doctype n st sc kids hw
  rw [e] at hfeed hstrict hpsk
  obtain ⟨out, t2, ps2, h1, h2, h3, h4, h5⟩ := formatter_output_reparses_exact cfg hi _ hnws _ hfeed _ _ _ _ rfl hw'
    hstrict hdt
  refine ⟨out, t2, ps2, by rw [hvia, h1], h2, h3, h4, ?_⟩
  rw [h5, hroot]
  simp only [St.root, rootOfStack, Option.map_some, hpsk]

/-- For a single-root strict document without adjacent data blocks (`Glued`: what every parse of strict text gives) the
    step through `getHTML()` changes nothing: the convenience method returns exactly what the formatter returns on the
    original token sequence. -/
theorem getFormattedHTML_eq_format_glued (cfg : Cfg) (toks : List Tok) (hnwt : NoWrapperStart toks) (ps : St)
    (hp : Plain.feed toks = .ok ps) (n : Str) (st : AStore) (sc : Bool) (kids : List FNode)
    (hroot : ps.root = some (FNode.elem n st sc kids).toNode) (hn : n ≠ wrapper)
    (hs : (FNode.elem n st sc kids).Strict) (hg : (FNode.elem n st sc kids).Glued) (hdt : DtOK ps.doctype)
    (hnw : (FNode.elem n st sc kids).NoWrapper) :
    viaGetHTML cfg toks = some (format cfg toks) := by
  have hw : WrapperOK n st sc kids := fun e => absurd e hn
  have hnw' : NoWrapperL (plainBlocks n st sc kids) := by
    simp only [plainBlocks, hn, if_false, NoWrapperL]
    exact ⟨hnw, trivial⟩
  obtain ⟨html, toks', _, _, hvia, hnws, hfeed, _, _⟩ :=
    getFormattedHTML_is_format_of_getHTML cfg toks ps hp n st sc kids hroot hw hs hdt hnw'
  have hre : reparsed ps.doctype n st sc kids = .elem n st sc kids := by
    simp only [FNode.Glued] at hg
    simp only [reparsed, hn, if_false, mergeL_glued kids hg.1 hg.2]
  rw [hre] at hfeed
  rw [hvia, format_text cfg _ hnws _ hfeed n st sc kids rfl hw hs, format_text cfg toks hnwt ps hp n st sc kids hroot hw hs]

/-! #### C12b at string level -/

/-- **mini² = mini on text**, both mini classes, strict single-root documents without adjacent data blocks and without the
    reserved name (statement and discussion: `C12.mini_output_fixed_point_text`). -/
theorem mini_output_is_fixed_point_text (cfg : Cfg) (hm : cfg.mini = true) (hi : IndentWS cfg) (dt : Option Str)
    (hdt : DtOK dt) (n : Str) (st : AStore) (sc : Bool) (kids : List FNode)
    (hs : (FNode.elem n st sc kids).Strict) (hg : (FNode.elem n st sc kids).Glued)
    (hnw : (FNode.elem n st sc kids).NoWrapper) :
    ∃ out toks2, format cfg (strictToks dt (.elem n st sc kids)) = .ok out ∧ lexStrict out = some toks2 ∧
      format cfg (toks2.map Tok.ofToken) = .ok out :=
  mini_text_fixed_point cfg hm hi dt hdt n st sc kids hs hg hnw

/-! #### non-vacuity -/

/-- a document with a nested preformatted span, text before the root's end and an implicit close -/
def sampleToks : List Tok :=
  [.start (str "div") [(str "class", some (str " a  b "))], .data (str " x \n"), .start (str "pre") [],
   .start (str "span") [], .data (str "  y  "), .end_ (str "pre"), .entity (str "amp"), .end_ (str "div")]

private theorem sample_nws : NoWrapperStart sampleToks := by decide +kernel
example : NoWrapperStart sampleToks := sample_nws
-- the kernel decodes a string literal in quadratic time; as `String.ofList` of its characters it is a list already
example : okIs (format (mkCfg .pretty (.str (str "  ")) false) sampleToks)
    "\n<div class=\"a b\" > x \n  <pre ><span >  y  </span></pre>&amp;\n</div>" = true := by
  unfold okIs; char_lits; decide +kernel
example : okIs (Plain.html sampleToks) "<div class=\"a b\" > x \n<pre ><span >  y  </span></pre>&amp;</div>" = true := by
  unfold okIs; char_lits; decide +kernel

/-- the plain parser's tree of `sampleToks` in lexical form -/
def sampleTree : FNode :=
  .elem (str "div") (mkStore [(str "class", some (str " a  b "))] {}) false
    [.tok (.data (str " x \n")),
     .elem (str "pre") {} false [.elem (str "span") {} false [.tok (.data (str "  y  "))]],
     .tok (.entity (str "amp"))]

private theorem sample_feed : Plain.feed sampleToks = .ok ⟨[], some sampleTree.toNode, none, 0, 0⟩ := by rfl
private theorem sample_strict : sampleTree.Strict := by simp only [sampleTree, FNode.Strict, StrictL]; decide +kernel
private theorem sample_glued : sampleTree.Glued := by
  simp only [sampleTree, FNode.Glued, GluedL, FNoAdjL, fisDataTok]; decide +kernel
private theorem sample_nw : sampleTree.NoWrapper := by simp only [sampleTree, FNode.NoWrapper, NoWrapperL]; decide +kernel

/-- a document with raw text: `<!DOCTYPE html><div id="a"><script>if (a < b && c) { s = "</div>"; }</script><p>x</p></div>` -/
def rawToks : List Tok :=
  [.decl (str "DOCTYPE html"), .start (str "div") [(str "id", some (str "a"))], .start (str "script") [],
   .data (str "if (a < b && c) { s = \"</div>\"; }"), .end_ (str "script"), .start (str "p") [], .data (str "x"),
   .end_ (str "p"), .end_ (str "div")]

def rawTree : FNode :=
  .elem (str "div") (mkStore [(str "id", some (str "a"))] {}) false
    [.elem (str "script") {} false [.tok (.data (str "if (a < b && c) { s = \"</div>\"; }"))],
     .elem (str "p") {} false [.tok (.data (str "x"))]]

private theorem raw_nws : NoWrapperStart rawToks := by decide +kernel
private theorem raw_feed : Plain.feed rawToks = .ok ⟨[], some rawTree.toNode, some (str "DOCTYPE html"), 0, 0⟩ := by rfl
private theorem raw_strict : rawTree.Strict := by simp only [rawTree, FNode.Strict, StrictL]; decide +kernel
private theorem raw_dt : DtOK (some (str "DOCTYPE html")) := by decide +kernel

/-- the hypotheses of `formatter_output_reparses` are met by `sampleToks` (pretty class, two spaces) … -/
example : ∃ out toks' ps', format (mkCfg .pretty (.str (str "  ")) false) sampleToks = .ok out ∧
    lexStrict out = some toks' ∧ Plain.feed (toks'.map Tok.ofToken) = .ok ps' ∧ ps'.doctype = none ∧
    ps'.root.map cskel = some (cskel sampleTree.toNode) :=
  formatter_output_reparses (mkCfg .pretty (.str (str "  ")) false) (by decide +kernel) sampleToks sample_nws
    _ sample_feed _ _ _ _ rfl (by decide +kernel) sample_strict trivial

/-- a multi-root document: text, a reference and two elements at top level, after a doctype -/
def multiToks : List Tok :=
  [.decl (str "doctype html"), .data (str "a "), .start (str "b") [], .data (str "x"), .end_ (str "b"),
   .entity (str "amp"), .startend (str "br") [], .data (str "\n")]

def multiKids : List FNode :=
  [.tok (.data (str "a ")), .elem (str "b") {} false [.tok (.data (str "x"))], .tok (.entity (str "amp")),
   .elem (str "br") {} true [], .tok (.data (str "\n"))]

private theorem multi_nws : NoWrapperStart multiToks := by decide +kernel
private theorem multi_feed : Plain.feed multiToks
    = .ok ⟨[], some (FNode.elem wrapper {} false multiKids).toNode, some (str "doctype html"), 0, 0⟩ := by rfl
private theorem multi_strict : (FNode.elem wrapper {} false multiKids).Strict := by
  simp only [multiKids, FNode.Strict, StrictL]; decide +kernel
private theorem multi_wok : WrapperOK wrapper {} false multiKids := by decide +kernel
private theorem multi_dt : DtOK (some (str "doctype html")) := by decide +kernel

/-- … by a multi-root document (the wrapper case; pretty class with a tab) … -/
example : ∃ out toks' ps', format (mkCfg .pretty (.str (str "\t")) false) multiToks = .ok out ∧
    lexStrict out = some toks' ∧ Plain.feed (toks'.map Tok.ofToken) = .ok ps' ∧
    ps'.doctype = some (str "doctype html") ∧
    ps'.root.map cskel = some (cskel (FNode.elem wrapper {} false multiKids).toNode) :=
  formatter_output_reparses (mkCfg .pretty (.str (str "\t")) false) (by decide +kernel) multiToks multi_nws
    _ multi_feed _ _ _ _ rfl multi_wok multi_strict multi_dt

/-- … and by a document with a doctype and a `<script>` whose content has `<`, `&&` and `</div>` (mini class) -/
example : ∃ out toks' ps', format (mkCfg .mini .dflt false) rawToks = .ok out ∧
    lexStrict out = some toks' ∧ Plain.feed (toks'.map Tok.ofToken) = .ok ps' ∧
    ps'.doctype = some (str "DOCTYPE html") ∧ ps'.root.map cskel = some (cskel rawTree.toNode) :=
  formatter_output_reparses (mkCfg .mini .dflt false) (by decide +kernel) rawToks raw_nws
    _ raw_feed _ _ _ _ rfl (by decide +kernel) raw_strict raw_dt

/-- … and by the same multi-root document under the slim classes (`<b>`, `<br/>`) -/
example : ∃ out toks' ps', format (mkCfg .slim (.int 4) true) multiToks = .ok out ∧
    lexStrict out = some toks' ∧ Plain.feed (toks'.map Tok.ofToken) = .ok ps' ∧
    ps'.doctype = some (str "doctype html") ∧
    ps'.root.map cskel = some (cskel (FNode.elem wrapper {} false multiKids).toNode) :=
  formatter_output_reparses (mkCfg .slim (.int 4) true) (by decide +kernel) multiToks multi_nws
    _ multi_feed _ _ _ _ rfl multi_wok multi_strict multi_dt

/-- `formatter_roundtrip_strict` on the raw-text document (slim-mini class) -/
example : ∃ out toks' ps', format (mkCfg .slimMini .dflt true) (strictToks (some (str "DOCTYPE html")) rawTree) = .ok out ∧
    lexStrict out = some toks' ∧ Plain.feed (toks'.map Tok.ofToken) = .ok ps' ∧
    ps'.doctype = some (str "DOCTYPE html") ∧ ps'.root.map cskel = some (cskel rawTree.toNode) :=
  formatter_roundtrip_strict (mkCfg .slimMini .dflt true) (by decide +kernel) _ raw_dt _ _ _ _
    raw_strict (by decide +kernel) (by decide +kernel)

/-- `mini_output_is_fixed_point_text` on `sampleTree` (white space around text, a `pre` with a nested element, a
    reference) and on the raw-text document, slim-mini class -/
example : ∃ out toks2, format (mkCfg .slimMini .dflt true) (strictToks none sampleTree) = .ok out ∧
    lexStrict out = some toks2 ∧ format (mkCfg .slimMini .dflt true) (toks2.map Tok.ofToken) = .ok out :=
  mini_output_is_fixed_point_text (mkCfg .slimMini .dflt true) rfl (by decide +kernel) none trivial _ _ _ _
    sample_strict sample_glued sample_nw

example : ∃ out toks2, format (mkCfg .mini .dflt false) (strictToks (some (str "DOCTYPE html")) rawTree) = .ok out ∧
    lexStrict out = some toks2 ∧ format (mkCfg .mini .dflt false) (toks2.map Tok.ofToken) = .ok out :=
  mini_output_is_fixed_point_text (mkCfg .mini .dflt false) rfl (by decide +kernel) _ raw_dt _ _ _ _
    raw_strict
    (by simp only [FNode.Glued, GluedL, FNoAdjL, fisDataTok]; decide +kernel)
    (by simp only [FNode.NoWrapper, NoWrapperL]; decide +kernel)

/-- `formatter_output_reparses_exact` applies to `sampleToks` (a `pre` with a nested `span` holding `  y  `) … -/
example : ∃ out toks' ps', format (mkCfg .pretty (.str (str "  ")) false) sampleToks = .ok out ∧
    lexStrict out = some toks' ∧ Plain.feed (toks'.map Tok.ofToken) = .ok ps' ∧ ps'.doctype = none ∧
    ps'.root.map pskel = some (pskel sampleTree.toNode) :=
  formatter_output_reparses_exact (mkCfg .pretty (.str (str "  ")) false) (by decide +kernel) sampleToks sample_nws
    _ sample_feed _ _ _ _ rfl (by decide +kernel) sample_strict trivial

example : ∃ out toks' ps' r', format (mkCfg .pretty .dflt false) rawToks = .ok out ∧
    lexStrict out = some toks' ∧ Plain.feed (toks'.map Tok.ofToken) = .ok ps' ∧ ps'.root = some r' ∧
    TailsRel (rawConts rawTree.toNode) (rawConts r') :=
  script_style_content_reparses (mkCfg .pretty .dflt false) (by decide +kernel) rawToks raw_nws
    _ raw_feed _ _ _ _ rfl (by decide +kernel) raw_strict raw_dt

example : rawConts rawTree.toNode = [str "if (a < b && c) { s = \"</div>\"; }"] := by decide +kernel

/-- `pskel` is strictly finer than `cskel`: white space below pre/code (here inside a nested element) is erased by
    `cskel` and kept by `pskel` -/
def preA : Node := .elem .normal (str "pre") {} false [] [.elem .normal (str "b") {} false [] [.text false (str " y ")]]
def preB : Node := .elem .normal (str "pre") {} false [] [.elem .normal (str "b") {} false [] [.text false (str "y")]]

example : cskel preA = cskel preB ∧ pskel preA ≠ pskel preB := by
  have e1 : eraseWS (str " y ") = str "y" := by decide +kernel
  have e2 : eraseWS (str "y") = str "y" := by decide +kernel
  have e3 : isRawText (str "pre") = false := by decide +kernel
  have e4 : isRawText (str "b") = false := by decide +kernel
  have e5 : isPre (str "pre") = true := by decide +kernel
  constructor
  · simp [preA, preB, cskel, skel, skelL, e1, e2]
  · simp only [preA, preB, pskel, pskelAt, pskelAtL, e3, e4, e5, Bool.and_false, Bool.false_eq_true, if_false,
      Bool.or_true, if_true, Bool.not_false, Bool.true_or]
    simp [canon, canonL, pushText, str]
/-- C11c on `sampleToks` (single root, no adjacent data blocks): the convenience method = the formatter on the tokens -/
example : getFormattedHTML (.str (str "  ")) sampleToks = some (format (mkCfg .pretty (.str (str "  ")) false) sampleToks) :=
  getFormattedHTML_eq_format_glued _ sampleToks sample_nws _ sample_feed
    _ _ _ _ rfl (by decide +kernel) sample_strict sample_glued trivial sample_nw

/-- C11c on the multi-root document with a doctype (mini class): hypotheses met, and the computed result -/
example : ∃ out toks'' ps'', getMiniHTML multiToks = some (.ok out) ∧ lexStrict out = some toks'' ∧
    Plain.feed (toks''.map Tok.ofToken) = .ok ps'' ∧ ps''.doctype = some (str "doctype html") ∧
    ps''.root.map pskel = some (pskel (FNode.elem wrapper {} false multiKids).toNode) :=
  getFormattedHTML_preserves_document (mkCfg .mini .dflt false) (by decide +kernel) multiToks
    _ multi_feed _ _ _ _ rfl multi_wok multi_strict multi_dt
    (by simp only [multiKids, plainBlocks, if_true, FNode.NoWrapper, NoWrapperL]; decide +kernel)

example : (match getMiniHTML multiToks with
    | some r => okIs r "<!doctype html>\na <b >x</b>&amp;<br />"
    | none => false) = true := by decide +kernel
example : (match getFormattedHTML (.int 1) multiToks with
    | some r => okIs r "<!doctype html>\na \n<b >x\n</b>&amp;\n<br />"
    | none => false) = true := by decide +kernel
/-- `getFormattedHTML_is_format_of_getHTML` on the raw-text document (pretty class), and `pskel_refines_cskel`'s
    hypothesis on its tree -/
example : ∃ html toks', Plain.html rawToks = .ok html ∧ lexStrict html = some toks' ∧
    getFormattedHTML .dflt rawToks = some (format (mkCfg .pretty .dflt false) (toks'.map Tok.ofToken)) :=
  let ⟨html, toks', h1, h2, h3, _⟩ := getFormattedHTML_is_format_of_getHTML (mkCfg .pretty .dflt false) rawToks
    _ raw_feed _ _ _ _ rfl (by decide +kernel) raw_strict raw_dt
    (by
      have hn : str "div" ≠ wrapper := by decide +kernel
      simp only [plainBlocks, hn, if_false, FNode.NoWrapper, NoWrapperL]; decide +kernel)
  ⟨html, toks', h1, h2, h3⟩
example : RawData rawTree.toNode := rawData_strict _ raw_strict

/-- the output texts in question -/
example : okIs (format (mkCfg .slim (.int 4) true) multiToks)
    "<!doctype html>\na \n<b>x\n</b>&amp;\n<br/>" = true := by
  unfold okIs; char_lits; decide +kernel
example : okIs (format (mkCfg .pretty .dflt false) rawToks)
    "<!DOCTYPE html>\n\n<div id=\"a\" >\n  <script >if (a < b && c) { s = \"</div>\"; }\n  </script>\n  <p >x\n  </p>\n</div>"
    = true := by unfold okIs; char_lits; decide +kernel

/-!
  #### What is partial

  * `formatter_output_reparses` is stated on the plain parser's *tree* of the input (`ps.root = some u.toNode`,
    `u.Strict`), not on the input's token list: that every token list of the strict sub-language (C01's `ListOK`)
    builds a `Strict` tree is not proved (it needs an invariant over `Plain.run` for arbitrary nesting); attribute
    stores are assumed stable under re-reading (`mkStore st.items {} = st`, part of `Strict` — C09/C10's subject);
    documents with the data singletons `<` / `&` as text blocks are outside (`NotSingleton`: the data rule can strip
    the white space that kept `<` from opening markup, e.g. `<\nabc` → `<abc`, on the real library too).  The
    comparison is by `cskel` (= `skel` + empty data blocks dropped + adjacent data blocks joined), which is what "same
    text modulo white space" means once the `_indent`s have become text of the document; `…_reparses_exact` compares by
    the finer `pskel` (pre/code content exact).
  * C11c (`getFormattedHTML`/`getMiniHTML` = formatter ∘ `getHTML`) is stated as the composition through text it is
    in the code (`viaGetHTML`, `getFormattedHTML_is_format_of_getHTML`, `…_preserves_document`,
    `…_eq_format_glued`) for strict documents.  What remains tie-only there: that the stdlib tokenizer agrees with
    `lexStrict` on the text of `getHTML()` (C01's tie), documents outside the strict sub-language, and the equality
    "convenience method = formatter on the original tokens" for multi-root documents and for trees with adjacent data
    blocks (for the latter it is false in general: the joined piece is squeezed as one) — oracle `convenience`, stream
    entry `via: parser`.
  * `pskel` compares script/style content up to its trailing LF/space/tab run; the exact form of what is appended is
    `script_style_content_reparses` (a line break and spaces/tabs, or nothing).
-/

/-! #### known finding `C11-singleton-joined` (kept in the model as it is in the code)

The token sequence the stdlib tokenizer reports for `<div>a <\nb</div>` holds the data singleton `<` followed by the data
piece `\nb`.  The data rule strips the line break of the second piece, so the mini and the pretty formatter write `<b`,
which reads back as a start tag: the output does not parse back to the input's tree.  Same on the real library (replayed on
every run from `corpus/C11/finding-singleton-joined*.json`); this is why the string-level theorems above exclude the data
singletons (`NotSingleton`). -/
def singletonJoinedToks : List Tok :=
  [.start (str "div") [], .data (str "a "), .data (str "<"), .data (str "\nb"), .end_ (str "div")]

theorem singleton_joined_counterexample :
    okIs (format (mkCfg .mini .dflt false) singletonJoinedToks) "<div >a <b</div>" = true ∧
    okIs (format (mkCfg .pretty (.str (str "  ")) false) singletonJoinedToks) "\n<div >a <b\n</div>" = true ∧
    okIs (Plain.html singletonJoinedToks) "<div >a <\nb</div>" = true := by decide +kernel

end AHP.C11
