/-
  C20 — fragment APIs build what the document parser would build, attached where asked.

  Model: AHP/Model/Fragment.lean (constructors), AHP/Model/Dom.lean (`createBlocks`, `World.appendInnerHTML`).
  The document parser is an input: `p : Parsed` is what the tree builder produced for the fragment
  text — `single r` (one root element; the first pass succeeded) or `multi tops` (the first pass raised
  MultipleRootNodeException; `tops` are the blocks of the invisible wrapper of the second pass).
  `p.build doc n` is the element tree the temporary parser holds; `sfragment n p` (AHP/Lemmas/DomSpec) is
  the list of top-level nodes of that parse as plain trees: `[root]`, resp. the wrapper's blocks.
  The theorems C20a–e are stated over this input so that they compose with the tree-builder theorems (C02); the
  part "C20 on token lists" computes it: `parsed toks` is what the model of the document parser hands over for the
  tokens of the fragment text, and the theorems say which of `single` / `multi` it is and restate C20a–c on tokens.
-/
import AHP.Lemmas.FragmentText
import AHP.Lemmas.DomRefine
import AHP.Props.C02
import AHP.Props.C04
namespace AHP.C20
open AHP AHP.Dom AHP.Dom.Spec

/-- C20a. With exactly one root the result is the root the parser built (consistent, without parent);
    it never raises. -/
theorem createElementFromHTML_single (doc n : Nat) (r : FN) :
    createElementFromHTML doc n (.single r) = .ok ((Parsed.single r).build doc n).1 ∧
    OK none (some doc) ((Parsed.single r).build doc n).1 :=
  ⟨rfl, mk_OK none (some doc) r n⟩

/-- C20a. It raises MultipleRootNodeException exactly when the parser needed the wrapper, i.e. when
    there is more than one top-level node. -/
theorem createElementFromHTML_raises_iff (doc n : Nat) (p : Parsed) :
    createElementFromHTML doc n p = .error "MultipleRootNodeException" ↔ ∃ tops, p = .multi tops := by
  cases p with
  | single r => simp [createElementFromHTML]
  | multi tops => simp [createElementFromHTML]

/-- C20b. The result is the list of top-level elements of `createBlocksFromHTML`, in order (with
    several top-level nodes: every one of them, detached, none missing). -/
theorem createElementsFromHTML_eq (doc n : Nat) (p : Parsed) (hp : Parsed.plain p) :
    (createElementsFromHTML doc n p).map (Option.map abs) = ((sfragment n p).1.filter SN.isEl).map some := by
  cases p with
  | single r =>
    have := abs_mk none (some doc) r n
    cases r with
    | text s => simp [createElementsFromHTML, Parsed.build, sfragment, smk, List.filter, SN.isEl]
    | el name attrs sc kids =>
      simp only [Parsed.plain] at hp
      simp only [createElementsFromHTML, Parsed.build, sfragment]
      rw [mk_el] at this ⊢
      simp only [if_neg hp, List.map_cons, List.map_nil, Option.map_some]
      rw [this.1]
      simp [smk, List.filter, SN.isEl]
  | multi tops =>
    obtain ⟨k, -, hids, _⟩ := build_spec (.multi tops) doc n
    have hb := abs_createBlocks (.multi tops) trivial doc n
    rw [createBlocks_multi, absL_map_detach] at hb
    simp only [createElementsFromHTML, Parsed.build, Dom.wrapperName, if_true] at hids ⊢
    have hnd : (elemIds (mkL (some n) (some doc) tops (n + 1)).1).Nodup := by
      have h0 : (elemIds (DN.text [] :: (mkL (some n) (some doc) tops (n + 1)).1)).Nodup := by
        apply elemIds_nodup
        have : (List.range' n k).Nodup := List.nodup_range'
        rw [← hids] at this
        simp only [ids_el, List.nodup_cons] at this
        exact this.2
      simpa using h0
    rw [locRemoveChildren_all (elemIds (mkL (some n) (some doc) tops (n + 1)).1) _
      (DN.text [] :: (mkL (some n) (some doc) tops (n + 1)).1) rfl (by simp) hnd, ← hb.1, ← absL_filter_isEl, absL_eq_map]
    simp [abs_detach]

/-- C20c. The blocks are exactly the top-level nodes of the parse, in order: the single root *itself*
    (not its contents), or the blocks of the wrapper — nothing else, no other text. -/
theorem createBlocksFromHTML_top_level (doc n : Nat) (p : Parsed) (hp : Parsed.plain p) :
    absL (createBlocksFromHTML doc n p) = (sfragment n p).1 :=
  (abs_createBlocks p hp doc n).1

/-- C20c. Every element handed out is a consistent root (no parent; children / text caches right;
    one ownerDocument throughout), uids are fresh and distinct. -/
theorem createBlocksFromHTML_roots (doc n : Nat) (p : Parsed) :
    (∀ r ∈ (createBlocksFromHTML doc n p).filter DN.isEl, RootOK r) ∧
    (idsL ((createBlocksFromHTML doc n p).filter DN.isEl)).Nodup ∧
    (∀ i ∈ idsL ((createBlocksFromHTML doc n p).filter DN.isEl), n ≤ i) := by
  obtain ⟨k, hok, hids, _⟩ := build_spec p doc n
  obtain ⟨h1, h2, h3⟩ := createBlocks_roots _ hok hids
  exact ⟨h1, h2, fun i hi => (h3 i hi).1⟩

/-- C20c. With several top-level nodes the elements handed out are detached from the wrapper:
    parentNode None and ownerDocument None throughout. -/
theorem createBlocksFromHTML_multi_detached (doc n : Nat) (tops : List FN) :
    ∀ r ∈ (createBlocksFromHTML doc n (.multi tops)).filter DN.isEl, Detached r := by
  rw [createBlocksFromHTML, createBlocks_multi]
  exact detach_roots (bs := .text [] :: _) (by simpa using mkL_OK (some n) (some doc) tops (n+1))

/-! C20c, "no text that is not in the fragment" (the next theorem).

  `sfragment n (.multi tops)` (AHP/Lemmas/DomSpec.lean) starts with an EMPTY text block: that is the behaviour of the code
  written into the specification (`createBlocksFromHTML('hi <b>x</b>')` is `['', 'hi ', <b>]` on the library — the
  wrapper element's `blocks` start with the empty indent string every element is created with, and the function copies
  that list), not something the property asks for.  The property's wording is about text that is NOT in the fragment; it is
  proved on top of it: every NON-EMPTY text block returned is a top-level text node of the parse, i.e. the text of one
  text-like token (data, entity / character reference, comment) of the fragment. -/

/-- C20c at the level of the parse: a text block handed out is empty (the leading `''` of a multi-node fragment) or a
    top-level text node of the parse. -/
theorem createBlocks_text_in_parse (doc n : Nat) (p : Parsed) (hp : Parsed.plain p) (s : Str)
    (h : DN.text s ∈ createBlocksFromHTML doc n p) (hs : s ≠ []) :
    (∃ tops, p = .multi tops ∧ FN.text s ∈ tops) ∨ p = .single (.text s) := by
  rcases createBlocks_text_parsed doc n p hp s h with h0 | h1
  · exact absurd h0 hs
  · exact h1

/-- C20d. `appendInnerHTML(h)` is `appendBlock` folded over `createBlocksFromHTML(h)` (whose new
    elements have joined the world as detached roots). -/
theorem appendInnerHTML_is_fold (w : World) (t : Nat) (p : Parsed) :
    w.appendInnerHTML t p =
      (World.appendBlocksLoop
        { roots := w.roots ++ (createBlocksFromHTML w.nextDoc w.next p).filter DN.isEl,
          next := (p.build w.nextDoc w.next).2, nextDoc := w.nextDoc + 1 }
        t ((createBlocksFromHTML w.nextDoc w.next p).map toBlk)).map (fun w' => (w', .none)) := rfl

/-- C20d. It keeps the world invariant of C04 — so afterwards every new element's parentNode is the
    element whose block it is, and its ownerDocument (and that of everything below it) is the
    target's document. -/
theorem appendInnerHTML_keeps_inv (w w' : World) (t : Nat) (p : Parsed) (v : Val) (hw : Inv w)
    (h : w.appendInnerHTML t p = some (w', v)) : Inv w' :=
  appendInnerHTML_Inv hw h

/-- C20d. On the reference document: appendInnerHTML is the documented append of the parse's
    top-level nodes, one by one. -/
theorem appendInnerHTML_refines (w : World) (t : Nat) (p : Parsed) (hw : Inv w) (hp : Parsed.plain p) :
    (w.appendInnerHTML t p).map absR = (absW w).appendInnerHTML t p :=
  abs_appendInnerHTML hw t p hp

theorem createBlocks_ne_nil (p : Parsed) (d n : Nat) : createBlocks (p.build d n).1 ≠ [] := by
  cases p with
  | single r =>
    cases r with
    | text s => simp [Parsed.build, createBlocks]
    | el name attrs sc kids =>
      simp only [Parsed.build]; rw [mk_el]; simp only [createBlocks]; split <;> simp
  | multi tops => simp [Parsed.build, createBlocks, Dom.wrapperName]

/-- C20d. After `appendInnerHTML(h)` the target's blocks are the previous blocks followed by the
    top-level nodes of the parse, and its innerHTML is the previous innerHTML followed by the
    serialisation of those nodes (also when the target was self-closing before: then the previous
    innerHTML is empty and the flag is cleared). -/
theorem appendInnerHTML_innerHTML (w w' : World) (t : Nat) (p : Parsed) (v : Val) (m : Meta) (bs : List DN)
    (hw : Inv w) (hp : Parsed.plain p) (hf : w.find? t = some (m, bs)) (h : w.appendInnerHTML t p = some (w', v)) :
    ∃ m' bs', w'.find? t = some (m', bs') ∧ absL bs' = absL bs ++ (sfragment w.next p).1 ∧
      innerHTML m' bs' = innerHTML m bs ++ shtmlL (sfragment w.next p).1 := by
  simp only [World.appendInnerHTML, Option.map_eq_some_iff] at h
  obtain ⟨w1, h1, he⟩ := h
  simp only [Prod.mk.injEq] at he
  obtain ⟨m', _, _, hf', _, hsc⟩ := appendLoop_spec t (createBlocks (p.build w.nextDoc w.next).1) w.roots _ _ m bs w1 hf
    (fragment_world_Inv p hw) h1
  have hb : absL (bs ++ (createBlocks (p.build w.nextDoc w.next).1).map (attach m)) = absL bs ++ (sfragment w.next p).1 := by
    rw [absL_append, absL_map_attach, (abs_createBlocks p hp w.nextDoc w.next).1]
  refine ⟨m', _, he.1 ▸ hf', hb, ?_⟩
  have hsc' : m'.sc = false := by rw [hsc, List.isEmpty_eq_false_iff.mpr (createBlocks_ne_nil p _ _)]; rfl
  obtain ⟨-, par, own, hk⟩ := findL?_roots t w.roots hw.roots hf
  have hold : innerHTML m bs = shtmlL (absL bs) := by
    simp only [innerHTML]
    split
    · rename_i hs
      rw [← innerL_abs, noContent_innerL bs (hk.sc hs)]
    · exact innerL_abs bs
  rw [hold]
  simp only [innerHTML, hsc']
  rw [innerL_abs, hb, shtmlL_append]
  simp

/-- C20d **never undefined, and what the new elements look like.**  For every element `t` of an invariant world and
    every fragment, `appendInnerHTML` is defined (`C04.appendInnerHTML_defined`) and
    afterwards:

    * the target's blocks are EXACTLY the old blocks followed by the blocks of `createBlocksFromHTML`, each element
      block attached (`attachBlk`: `parentNode` set, `ownerDocument` rewritten below it), text blocks as they are;
    * the target keeps its uid, name, attributes, parent and owner;
    * **every new top-level element's `parentNode` is the target, and the `ownerDocument` of it and of every element
      below it is the target's owner**; its uid is fresh (≥ the world's counter before the call);
    * the world invariant holds. -/
theorem appendInnerHTML_new_elements (w : World) (t : Nat) (p : Parsed) (m : Meta) (bs : List DN)
    (hw : Inv w) (hf : w.find? t = some (m, bs)) :
    ∃ w' m', w.appendInnerHTML t p = some (w', .none) ∧ Inv w' ∧
      w'.find? t = some (m', bs ++ (createBlocksFromHTML w.nextDoc w.next p).map (attachBlk m)) ∧
      (m'.id = t ∧ m'.name = m.name ∧ m'.attrs = m.attrs ∧ m'.parent = m.parent ∧ m'.owner = m.owner) ∧
      ∀ mc kc, DN.el mc kc ∈ (createBlocksFromHTML w.nextDoc w.next p).map (attachBlk m) →
        mc.parent = some t ∧ w.next ≤ mc.id ∧ ∀ e ∈ elems (.el mc kc), e.1.owner = m.owner := by
  have hd := C04.appendInnerHTML_defined w hw t (by simp [hf]) p
  simp only [Dom.step] at hd
  cases hr : w.appendInnerHTML t p with
  | none => rw [hr] at hd; simp at hd
  | some r =>
    have hinv' : Inv r.1 := appendInnerHTML_Inv (w' := r.1) (v := r.2) hw hr
    simp only [World.appendInnerHTML, Option.map_eq_some_iff] at hr
    obtain ⟨w1, h1, he⟩ := hr
    subst he
    obtain ⟨m', hfind, hk⟩ := appendLoop_exact t (createBlocks (p.build w.nextDoc w.next).1) w.roots _ _ m bs w1 hf
      (fragment_world_Inv p hw) h1
    have hid : m.id = t := (findL?_roots t w.roots hw.roots hf).1
    obtain ⟨hroots, _, hfresh⟩ := createBlocksFromHTML_roots w.nextDoc w.next p
    refine ⟨w1, m', rfl, hinv', hfind, ⟨hk.1.trans hid, hk.2.1, hk.2.2.1, hk.2.2.2.1, hk.2.2.2.2⟩, ?_⟩
    intro mc kc hmem
    rw [attachBlk_eq] at hmem
    obtain ⟨b, hb, e⟩ := List.mem_map.mp hmem
    cases b with
    | text s => simp at e
    | el m0 k0 =>
      have hb' : DN.el m0 k0 ∈ (createBlocksFromHTML w.nextDoc w.next p).filter DN.isEl := by
        simp [List.mem_filter, hb, DN.isEl]
      obtain ⟨_, _, he0, hok⟩ := hroots _ hb'
      cases he0
      have hk' := attach_OK m _ hok
      have hrid := rid_attach m (.el m0 k0)
      rw [e] at hk' hrid
      refine ⟨hid ▸ hk'.parent, ?_, fun x hx => elems_owner _ hk' hx⟩
      rw [show mc.id = m0.id from hrid]
      exact hfresh _ (elemIds_subset_idsL _ _ (mem_elemIds.mpr ⟨m0, k0, hb', rfl⟩))

/-- C20e. `createElement(name)` is detached (no parent, no ownerDocument), lower-cased, without
    attributes, children or text (its only block is the empty indent string); it is self-closing
    exactly for the void tag names. -/
theorem createElement_fresh (name : Str) (n : Nat) :
    createElement name n = .el ⟨n, lower name, [], Dom.isVoid (lower name), [], [], none, none⟩ [.text []] ∧
    Detached (createElement name n) := by
  refine ⟨by simp [createElement, mk_el], ?_⟩
  obtain ⟨m, bs, h, _, _⟩ := mk_el_spec none none (lower name) [] false [] n
  exact ⟨m, bs, h, mk_OK none none _ n⟩

/-! ## C20 on token lists — which of `single` / `multi` the document parser produces

  Above, the parse of the fragment text is an input `p : Parsed`.  Here it is computed: `parsed toks` is what the
  MODEL of the document parser (`feedTokens`, AHP/Model/Builder.lean — first pass, wrapper fallback) hands to the
  fragment constructors for the token list `toks` of the fragment text.  With C02's `feed_eq_spec` it is read off
  the recursive-descent specification: `topNodes toks` are the top-level nodes of the fragment, a node is
  *significant* when it is an element or text that is not blank, and the parser produces

    * `single r`            when the only significant top-level node is the element `r`,
    * `multi (topNodes …)`  when there are two or more significant top-level nodes, or exactly one that is text,
    * nothing (`root is None`; the fragment APIs then raise `AttributeError` — outside the property's domain)
      when there is no significant node at all. -/

def parsed (toks : List Token) : Option Parsed := parsedOf (feedTokens toks)

/-- **which of single / multi**, for every token list that does not mention the reserved wrapper name. -/
theorem parsed_of_tokens (toks : List Token) (hw : C02.NoWrapper toks) :
    parsed toks =
      match oneRoot (sigNodes (topNodes toks)) with
      | some (some r) => some (.single r.toFN)
      | some none => none
      | none => some (.multi (toFNL (topNodes toks))) := by
  unfold parsed
  rw [C02.feed_eq_spec toks hw]
  unfold Spec.build
  rw [single_eq_oneRoot_top]
  cases h : oneRoot (sigNodes (topNodes toks)) with
  | none => rfl
  | some r =>
    cases r with
    | none => rfl
    | some r => rfl

private theorem parsed_some (toks : List Token) (hw : C02.NoWrapper toks) (p : Parsed) (hp : parsed toks = some p) :
    (∃ r, oneRoot (sigNodes (topNodes toks)) = some (some r) ∧ p = .single r.toFN) ∨
    (oneRoot (sigNodes (topNodes toks)) = none ∧ p = .multi (toFNL (topNodes toks))) := by
  rw [parsed_of_tokens toks hw] at hp
  cases ho : oneRoot (sigNodes (topNodes toks)) with
  | none => rw [ho] at hp; exact Or.inr ⟨rfl, (Option.some.inj hp).symm⟩
  | some r =>
    rw [ho] at hp
    cases r with
    | none => cases hp
    | some r => exact Or.inl ⟨r, rfl, (Option.some.inj hp).symm⟩

theorem parsed_single (toks : List Token) (hw : C02.NoWrapper toks) (r : Node)
    (h : sigNodes (topNodes toks) = [r]) (hr : r.isText = false) : parsed toks = some (.single r.toFN) := by
  rw [parsed_of_tokens toks hw, h]
  cases r with
  | text s => simp [Node.isText] at hr
  | elem n a sc kids => rfl

theorem parsed_multi (toks : List Token) (hw : C02.NoWrapper toks)
    (h : 2 ≤ (sigNodes (topNodes toks)).length ∨ ∃ s, sigNodes (topNodes toks) = [.text s]) :
    parsed toks = some (.multi (toFNL (topNodes toks))) := by
  rw [parsed_of_tokens toks hw, (oneRoot_multi_iff _).mpr h]

theorem parsed_none_iff (toks : List Token) (hw : C02.NoWrapper toks) :
    parsed toks = none ↔ sigNodes (topNodes toks) = [] := by
  rw [parsed_of_tokens toks hw, ← oneRoot_none_iff]
  cases oneRoot (sigNodes (topNodes toks)) with
  | none => simp
  | some r => cases r <;> simp

/-- the single root the parser hands over is not the wrapper (the fragment does not mention its name) -/
theorem parsed_plain (toks : List Token) (hw : C02.NoWrapper toks) (p : Parsed) (hp : parsed toks = some p) :
    Parsed.plain p := by
  rcases parsed_some toks hw p hp with ⟨r, ho, rfl⟩ | ⟨-, rfl⟩
  · -- the root was opened by a start tag of the input
    have hs : Spec.single (toks.length + 1) toks = some (some r) := by rw [single_eq_oneRoot_top, ho]
    obtain ⟨n, a', sc, kids, rfl, a, hm⟩ := single_root_name _ toks r hs
    show lower n ≠ AHP.wrapperName
    rcases hm with hm | hm <;> simpa [Spec.mentionsWrapper] using hw _ hm
  · trivial

/-- **C20a on token lists.** `createElementFromHTML` raises `MultipleRootNodeException` exactly when the
    significant top-level nodes (elements and non-blank text) of the fragment are not a single element — i.e.
    there are two or more of them, or the only one is text; with exactly one element (and any blank text,
    declarations, stray end tags around it) it never raises and returns that element. -/
theorem createElement_raises_iff (toks : List Token) (hw : C02.NoWrapper toks) (doc n : Nat) (p : Parsed)
    (hp : parsed toks = some p) :
    (createElementFromHTML doc n p = .error "MultipleRootNodeException" ↔
      (2 ≤ (sigNodes (topNodes toks)).length ∨ ∃ s, sigNodes (topNodes toks) = [.text s])) ∧
    (∀ r, sigNodes (topNodes toks) = [r] → r.isText = false →
      createElementFromHTML doc n p = .ok ((Parsed.single r.toFN).build doc n).1) := by
  constructor
  · rw [createElementFromHTML_raises_iff, ← oneRoot_multi_iff]
    rcases parsed_some toks hw p hp with ⟨r, ho, rfl⟩ | ⟨ho, rfl⟩ <;> simp [ho]
  · intro r h hr
    have := parsed_single toks hw r h hr
    rw [this] at hp
    simp only [Option.some.injEq] at hp
    rw [← hp]
    rfl

/-- **C20c on token lists.** `createBlocksFromHTML` returns exactly the top-level nodes of the parse, in order —
    and which they are is decided by the tokens: the single root ITSELF when the only significant top-level node is
    an element, else every top-level node of the fragment (elements, text — blank text included —, references,
    comments) as the blocks of the wrapper. -/
theorem createBlocks_of_tokens (toks : List Token) (hw : C02.NoWrapper toks) (doc n : Nat) (p : Parsed)
    (hp : parsed toks = some p) :
    absL (createBlocksFromHTML doc n p) = (sfragment n p).1 ∧
    ((∃ r, sigNodes (topNodes toks) = [r] ∧ r.isText = false ∧ p = .single r.toFN) ∨
     ((2 ≤ (sigNodes (topNodes toks)).length ∨ ∃ s, sigNodes (topNodes toks) = [.text s]) ∧
       p = .multi (toFNL (topNodes toks)))) := by
  refine ⟨createBlocksFromHTML_top_level doc n p (parsed_plain toks hw p hp), ?_⟩
  rcases parsed_some toks hw p hp with ⟨r, ho, rfl⟩ | ⟨ho, rfl⟩
  · exact Or.inl ⟨r, (oneRoot_some _ r ho).1, (oneRoot_some _ r ho).2, rfl⟩
  · exact Or.inr ⟨(oneRoot_multi_iff _).mp ho, rfl⟩

/-- **C20b on token lists**: the elements `createElementsFromHTML` returns are the element nodes among those -/
theorem createElements_of_tokens (toks : List Token) (hw : C02.NoWrapper toks) (doc n : Nat) (p : Parsed)
    (hp : parsed toks = some p) :
    (createElementsFromHTML doc n p).map (Option.map abs) = ((sfragment n p).1.filter SN.isEl).map some :=
  createElementsFromHTML_eq doc n p (parsed_plain toks hw p hp)

/-- C20c **every non-empty text block returned occurs in the fragment's token list**: for the tokens `toks` of a
    fragment that does not mention the reserved wrapper name and the parse `p` the document parser hands over, a
    non-empty text block of `createBlocksFromHTML` is `Spec.textOf t` for some token `t` of `toks` — a data token's text,
    `&name;` / `&#n;` of a reference, `<!--…-->` of a comment.  (The only text block that is not: the empty one.) -/
theorem createBlocks_text_in_fragment (toks : List Token) (hw : C02.NoWrapper toks) (doc n : Nat) (p : Parsed)
    (hp : parsed toks = some p) (s : Str) (h : DN.text s ∈ createBlocksFromHTML doc n p) (hs : s ≠ []) :
    ∃ t ∈ toks, Spec.textOf t = some s := by
  have hplain := parsed_plain toks hw p hp
  rcases createBlocks_text_in_parse doc n p hplain s h hs with ⟨tops, rfl, hm⟩ | rfl
  · rcases (createBlocks_of_tokens toks hw doc n _ hp).2 with ⟨r, _, _, e⟩ | ⟨_, e⟩
    · cases e
    · simp only [Parsed.multi.injEq] at e
      rw [e] at hm
      exact topNodes_text_from_token toks s (toFNL_text_mem _ s hm)
  · rcases (createBlocks_of_tokens toks hw doc n _ hp).2 with ⟨r, _, hr, e⟩ | ⟨_, e⟩
    · simp only [Parsed.single.injEq] at e
      cases r with
      | text s' => simp [Node.isText] at hr
      | elem nm a sc kids => simp [Node.toFN] at e
    · cases e

-- the shapes of the property's quantifier text, decided on tokens
def fragOne : List Token :=
  [.data " \n".toList, .start "div".toList [("id".toList, some "a".toList)], .data "x".toList, .start "br".toList [],
   .end_ "div".toList, .data "  ".toList]

def fragTwo : List Token :=
  [.data "hi ".toList, .start "b".toList [], .data "x".toList, .end_ "b".toList, .data " ".toList, .startend "i".toList []]

def fragText : List Token := [.data "just text".toList, .entity "amp".toList]

private theorem noWrapper_of_dec (toks : List Token) (h : toks.all (fun t => !Spec.mentionsWrapper t) = true) :
    C02.NoWrapper toks := by
  intro t ht
  have := List.all_eq_true.mp h t ht
  simpa using this

private theorem eq_singleton {α} [Inhabited α] {l : List α} (h : l.length = 1) : l = [l.head!] := by
  match l, h with
  | [a], _ => rfl

example : C02.NoWrapper fragOne := noWrapper_of_dec _ (by decide +kernel)
/-- white space around a single element: single, the element itself -/
example : ∃ r, sigNodes (topNodes fragOne) = [r] ∧ r.isText = false ∧ parsed fragOne = some (.single r.toFN) := by
  -- `Node` has no decidable equality: the kernel counts the nodes, the one node is then named by `head!`
  have h : sigNodes (topNodes fragOne) = [(sigNodes (topNodes fragOne)).head!] := eq_singleton (by decide +kernel)
  exact ⟨_, h, by decide +kernel, parsed_single fragOne (noWrapper_of_dec _ (by decide +kernel)) _ h (by decide +kernel)⟩

/-- text + element + blank text + element: multi, all four top-level nodes -/
example : (sigNodes (topNodes fragTwo)).length = 3 ∧ (topNodes fragTwo).length = 4 := by decide +kernel
example : parsed fragTwo = some (.multi (toFNL (topNodes fragTwo))) :=
  parsed_multi fragTwo (noWrapper_of_dec _ (by decide +kernel)) (Or.inl (by decide +kernel))

/-- text only: multi (so `createElementFromHTML` raises) -/
example : (createElementFromHTML 1 5 (.multi (toFNL (topNodes fragText))) = .error "MultipleRootNodeException") := rfl
example : parsed fragText = some (.multi (toFNL (topNodes fragText))) :=
  parsed_multi fragText (noWrapper_of_dec _ (by decide +kernel)) (Or.inl (by decide +kernel))

def exFrag : Parsed := .multi [.text "hi ".toList, .el "b".toList [] false [.text "x".toList], .el "br".toList [] false []]
example : Parsed.plain exFrag := trivial
example : (createBlocksFromHTML 1 5 exFrag).length = 4 := by decide +kernel
example : ((initWorld true (.el "div".toList [] false []) []).appendInnerHTML 0 exFrag).isSome = true := by decide +kernel
/-- the hypotheses of `appendInnerHTML_new_elements` on a concrete world, and what it says there: the `<div>` gets the
    four blocks `'' 'hi ' <b> <br>`, the two new elements have uids 2 and 3 (fresh), parent 0 and the document 0 -/
example : Inv (initWorld true (.el "div".toList [] false []) []) :=
  C04.initial_world_inv true _ [] (by decide +kernel) (by decide +kernel)
example : ((initWorld true (.el "div".toList [] false []) []).appendInnerHTML 0 exFrag).map
      (fun r => ((r.1.find? 0).map (fun e => e.2.map (fun b => match b with
        | .text s => (s, none, none)
        | .el mc _ => (mc.name, mc.parent, mc.owner)))))
    = some (some [([], none, none), ([], none, none), ("hi ".toList, none, none), ("b".toList, some 0, some 0),
        ("br".toList, some 0, some 0)]) := by decide +kernel

/-- `createBlocks_text_in_fragment` on `fragTwo` (`hi <b>x</b> <i/>`): the non-empty text blocks are the two data tokens -/
example : (createBlocksFromHTML 1 5 (.multi (toFNL (topNodes fragTwo)))).filterMap (fun b => match b with
      | .text s => some s
      | _ => none) = [[], "hi ".toList, " ".toList] := by decide +kernel

end AHP.C20
