/-
  C01 — the code tie of the start-tag serialiser: `Tags.AdvancedTag.getStartTag` ITSELF (dumped node by node into
  `Gen.Code.advanced_tag` by harness/ahpcheck/translate_code.py on every run, interpreted by `AHP.PyAst`) builds, from the
  (name, value) pairs that `self._attributes.items()` yields, the text the hand-written model's `startTagI` / `startTag`
  (`Model/Tree.lean`: the serialiser of the C01 theorems) builds — for EVERY list of pairs, tag name, indent and both values of
  `isSelfClosing`.

  The object: any record of fields `fs` with `_indent`, `tagName` (texts), `isSelfClosing` (a boolean) and `_attributes`.
  `self._attributes.items()` is a PARAMETER: the pairs it yields (names are texts, values texts or `None`), modelled as the items of
  a dict held in the field `_attributes`.  What the real `SpecialAttributesDict.items()` yields — and that it synchronises the
  pending `class` / `style` entries on the way (a write) — is the hand model's business (`AttrState.view`, `Attrs.items`; C08–C10):
  here `its` is arbitrary, and `getStartTag_code_eq_startTag` instantiates it with `a.view`.  `AdvancedTag` overrides
  `__getattribute__`; the translator checks that it starts with the plain lookup (`try: return object.__getattribute__(self,
  name)`), so `self.f` is the plain attribute for a field the object has, and that the method assigns no attribute.
  `escapeQuotes` is the dumped function of utils.py (tied to the models' `escQ` by `C19Code.escapeQuotes_code_eq_model`);
  `TAG_ITEM_BINARY_ATTRIBUTES` is `Gen.binaryAttributes`, the table regenerated from constants.py (`Expr.global`).

  The theorems are about the dumped methods themselves (`AdvancedTag_getStartTag_ast`, `AdvancedTag_getEndTag_ast`): no lookup by
  name in the list of the dump is involved.

  Second part: `getEndTag` of the same class against the formatter model's `Fmt.endTag` (`getEndTag_code_eq_model`), for every tag
  name, indent, `isSelfClosing` and list of blocks (`embB`: a text block is its text, a child element an `AdvancedTag`).
-/
import AHP.Props.C19Code
namespace AHP.C01Code
open AHP AHP.Gen AHP.Conv AHP.PyAst AHP.Gen.Code AHP.PyAstParser

/-- the pairs `self._attributes.items()` yields: a value is a text or `None` -/
def embA (a : List Attr) : List (PyV × PyV) :=
  a.map (fun p => (PyV.str p.1, match p.2 with | some v => PyV.str v | none => PyV.none))

/-- What `getStartTag` runs in: `escapeQuotes` is the dumped function of utils.py, `TAG_ITEM_BINARY_ATTRIBUTES` the regenerated
table. -/
def tagCx (parseInt : Str → Except PyErr Int) : Ctx :=
  { parseInt := parseInt
    funs := callIn parseInt utils.reverse
    globals := fun x =>
      if x = "TAG_ITEM_BINARY_ATTRIBUTES" then some (ofMembers binaryAttributes)
      else if x = "PREFORMATTED_TAGS" then some (ofMembers preformattedTags)
      else if x = "PRESERVE_CONTENTS_TAGS" then some (ofMembers preserveContentsTags)
      else none }

theorem tagCx_binary (parseInt : Str → Except PyErr Int) :
    (tagCx parseInt).globals "TAG_ITEM_BINARY_ATTRIBUTES" = some (ofMembers binaryAttributes) := by simp [tagCx]
theorem tagCx_pre (parseInt : Str → Except PyErr Int) :
    (tagCx parseInt).globals "PREFORMATTED_TAGS" = some (ofMembers preformattedTags) := by simp [tagCx]
theorem tagCx_preserve (parseInt : Str → Except PyErr Int) :
    (tagCx parseInt).globals "PRESERVE_CONTENTS_TAGS" = some (ofMembers preserveContentsTags) := by simp [tagCx]
theorem tagCx_tostr (parseInt : Str → Except PyErr Int) : (tagCx parseInt).funs "tostr" = none := rfl

/-- the call `escapeQuotes(val)` inside the method is the tree serialiser's `escQ` -/
theorem tagCx_esc (parseInt : Str → Except PyErr Int) (env : Env) (v : Str) (h : env.lookup "val" = some (.py (.str v))) :
    eval (tagCx parseInt) env (.call "escapeQuotes" [.var "val"]) = .ok (.py (.str (AHP.escQ v))) := by
  have := C19Code.escapeQuotes_code_eq_model parseInt v
  rw [← (C19Code.escapeQuotes_models_agree v).2.1] at this
  simp only [eval, evalList, h]
  exact this

theorem contains_members (ms : List String) (k : Str) :
    ms.contains (String.ofList k) = (ms.map String.toList).contains k := by
  rw [← any_members, List.contains_eq_any_beq, List.any_map, List.any_map]
  exact congrArg _ (funext fun m => by by_cases h : k = m.toList <;> simp [pyEqV, h])

theorem strItems_map_str (l : List Str) : strItems (l.map PyV.str) = some l := by
  simpa using strItems_map_comp id l

def attrBody : List Stmt :=
  [.ifS (.cmp .is (.var "val") (.const .none))
     [.varCall "attributeStrings" "append" [.var "name"], .cont] [],
   .ifS (.var "val") [.assign "val" (.call "tostr" [.var "val"])] [],
   .ifS (.or (.var "val") (.cmp .notIn (.var "name") (.global "TAG_ITEM_BINARY_ATTRIBUTES")))
     [.assign "val" (.call "escapeQuotes" [.var "val"]),
      .varCall "attributeStrings" "append" [.format "%s=\"%s\"".toList [.var "name", .var "val"]]]
     [.varCall "attributeStrings" "append" [.var "name"]]]

/-- (the format text as the list of characters that evaluating the literal `"%s=\"%s\"".toList` of the dump leaves in the goal) -/
theorem format_attr (k v : Str) :
    pyFormat ['%', 's', '=', '"', '%', 's', '"'] [.str k, .str v] = .ok (k ++ ('=' :: '"' :: v) ++ ['"']) := by
  simp [pyFormat, tostr]

theorem attrBody_run (parseInt : Str → Except PyErr Int) (env : Env) (k : Str) (w : Option Str) (acc : List PyV)
    (hacc : env.lookup "attributeStrings" = some (.list acc)) :
    ∃ env' res, execL (tagCx parseInt)
          (assocSet (assocSet env "name" (.py (.str k))) "val" (.py (match w with | some v => PyV.str v | none => PyV.none)))
          attrBody = (env', res)
      ∧ (res = .next ∨ res = .cont)
      ∧ env'.lookup "attributeStrings" = some (.list (acc ++ [.str (renderAttr (k, w))]))
      ∧ env'.lookup "self" = env.lookup "self" := by
  cases w with
  | none =>
    refine ⟨assocSet (assocSet (assocSet env "name" (.py (.str k))) "val" (.py .none)) "attributeStrings"
      (.list (acc ++ [.str k])), .cont, ?_, Or.inr rfl, ?_, ?_⟩
    · simp [attrBody, execS, lookup_assocSet, pyCompare, compareB, pyIs, Val.unique, hacc, Val.toField, mutCall_append, Field.toVal,
      py_straight]
    · rw [lookup_assocSet_eq]; rfl
    · simp [lookup_assocSet]
  | some v =>
    have hesc := fun (e : Env) (h : e.lookup "val" = some (.py (.str v))) => tagCx_esc parseInt e v h
    have hbin : pyIn (.py (.str k)) (ofMembers binaryAttributes) = .ok (binaryAttrs.contains k) := by
      rw [pyIn_ofMembers, contains_members]; rfl
    by_cases hq : (v.isEmpty && binaryAttrs.contains k) = true
    · -- an empty value of a boolean attribute: the bare name
      have hv : v = [] := by
        have : v.isEmpty = true := by simp at hq; simp [hq.1]
        simpa using this
      have hb : k ∈ binaryAttrs := by simp at hq; exact hq.2
      subst hv
      refine ⟨assocSet (assocSet (assocSet env "name" (.py (.str k))) "val" (.py (.str []))) "attributeStrings"
        (.list (acc ++ [.str k])), .next, ?_, Or.inl rfl, ?_, ?_⟩
      · simp [attrBody, execS, lookup_assocSet, pyCompare, compareB, pyIs, Val.unique, hacc, Val.toField, mutCall_append, Field.toVal,
        tagCx_binary, hbin, hb, bnot, py_straight]
      · rw [lookup_assocSet_eq]; simp [renderAttr, hb]
      · simp [lookup_assocSet]
    · -- quoted
      have hr : renderAttr (k, some v) = k ++ ('=' :: '"' :: AHP.escQ v) ++ ['"'] := by
        simp only [renderAttr]; rw [if_neg hq]
      have hval := hesc (assocSet (assocSet env "name" (.py (.str k))) "val" (.py (.str v))) (lookup_assocSet_eq _ _ _)
      refine ⟨assocSet (assocSet (assocSet env "name" (.py (.str k))) "val" (.py (.str (AHP.escQ v)))) "attributeStrings"
        (.list (acc ++ [.str (k ++ ('=' :: '"' :: AHP.escQ v) ++ ['"'])])), .next, ?_, Or.inl rfl, ?_, ?_⟩
      · simp only [attrBody]
        generalize (Expr.call "escapeQuotes" [.var "val"]) = E at hval ⊢
        by_cases hv : v = []
        · subst hv
          have hb : k ∉ binaryAttrs := by simpa using hq
          simp [execS, lookup_assocSet, pyCompare, compareB, pyIs, Val.unique, hacc, Val.toField, mutCall_append, Field.toVal,
            tagCx_binary, hbin, hb, bnot, hval, aliasOK, Val.mutable, assocSet_assocSet, pyVals, format_attr, py_straight]
        · have hne : v.isEmpty = false := by
            cases v with
            | nil => exact absurd rfl hv
            | cons _ _ => rfl
          simp [execS, lookup_assocSet, pyCompare, compareB, pyIs, Val.unique, hacc, Val.toField, mutCall_append, Field.toVal,
            tagCx_tostr, builtin_tostr, tostr, hne, hval, aliasOK, Val.mutable, assocSet_assocSet, pyVals, format_attr, py_straight]
      · rw [lookup_assocSet_eq, hr]
      · simp [lookup_assocSet]

theorem attrLoop_run (parseInt : Str → Except PyErr Int) (S : Val) (same : Env → Bool)
    (hsame : ∀ env, env.lookup "self" = some S → same env = true) :
    ∀ (its : List Attr) (env : Env) (acc : List PyV),
    env.lookup "attributeStrings" = some (.list acc) → env.lookup "self" = some S →
    ∃ env', forLoop (fun env v => match v with
              | .tuple [x, y] => assocSet (assocSet env "name" (.py x)) "val" (.py y) | _ => env)
          (fun env => execL (tagCx parseInt) env attrBody) same ((embA its).map (fun p => Val.tuple [p.1, p.2])) env
        = (env', .next)
      ∧ env'.lookup "attributeStrings" = some (.list (acc ++ (its.map renderAttr).map PyV.str))
      ∧ env'.lookup "self" = some S := by
  intro its env acc ha hs
  rw [embA, List.map_map]
  refine forLoop_inv (fun p : Attr => .tuple [.str p.1, match p.2 with | some v => PyV.str v | none => PyV.none])
    (fun r e => e.lookup "self" = some S ∧ ∃ a, e.lookup "attributeStrings" = some (.list a)
      ∧ a ++ (r.map renderAttr).map PyV.str = acc ++ (its.map renderAttr).map PyV.str)
    _ _ (fun e ⟨h1, a, h2, h3⟩ => ⟨rfl, by rw [h2, ← h3]; simp, h1⟩) ?_ its env ⟨hs, acc, ha, rfl⟩
  rintro ⟨k, w⟩ r e ⟨h1, a, h2, h3⟩
  obtain ⟨env1, res, hb, hres, h4, h5⟩ := attrBody_run parseInt e k w a h2
  have hs1 : env1.lookup "self" = some S := by rw [h5, h1]
  refine ⟨env1, res, hb, ?_⟩
  rcases hres with rfl | rfl <;> exact ⟨hsame _ hs1, hs1, _, h4, by rw [← h3]; simp⟩

theorem getStartTag_body : AdvancedTag_getStartTag_ast.body =
    [.assign "attributeStrings" .newList,
     .forPair "name" "val" (.meth (.attr (.var "self") "_attributes") "items" []) attrBody,
     .ifS (.var "attributeStrings")
       [.assign "attributeString" (.binop .add (.const (.str " ")) (.meth (.const (.str " ")) "join" [.var "attributeStrings"]))]
       [.assign "attributeString" (.const (.str ""))],
     .ifS (.cmp .is (.attr (.var "self") "isSelfClosing") (.const (.bool false)))
       [.ret (.format "%s<%s%s >".toList [.attr (.var "self") "_indent", .attr (.var "self") "tagName", .var "attributeString"])]
       [.ret (.format "%s<%s%s />".toList [.attr (.var "self") "_indent", .attr (.var "self") "tagName", .var "attributeString"])]] :=
  rfl

theorem format_open (i n a : Str) :
    pyFormat ['%', 's', '<', '%', 's', '%', 's', ' ', '>'] [.str i, .str n, .str a]
      = .ok (i ++ ('<' :: n) ++ a ++ " >".toList) := by
  simp [pyFormat, tostr]
theorem format_selfclosing (i n a : Str) :
    pyFormat ['%', 's', '<', '%', 's', '%', 's', ' ', '/', '>'] [.str i, .str n, .str a]
      = .ok (i ++ ('<' :: n) ++ a ++ " />".toList) := by
  simp [pyFormat, tostr]

/-- **The code tie of C01's start tag.**  `getStartTag(self)` for every list `its` of (name, value) pairs that
`self._attributes.items()` yields, every indent, tag name and `isSelfClosing`: the text is the indent, `<`, the name, the
attributes as `renderAttrs` of the hand model writes them (a missing value, or an empty value of a boolean attribute: the bare
name; otherwise `name="value"` with `"` escaped; separated and preceded by one space), then ` >` or ` />`; the object is
unchanged. -/
theorem getStartTag_code_eq_model (parseInt : Str → Except PyErr Int) (fs : List (String × Field)) (indent n : Str) (sc : Bool)
    (its : List Attr)
    (h1 : fs.lookup "_attributes" = some (.dict (embA its))) (h2 : fs.lookup "_indent" = some (.py (.str indent)))
    (h3 : fs.lookup "tagName" = some (.py (.str n))) (h4 : fs.lookup "isSelfClosing" = some (.py (.bool sc))) :
    runMeth (tagCx parseInt) AdvancedTag_getStartTag_ast fs []
      = (some fs, .ok (.py (.str (indent ++ ('<' :: n) ++ renderAttrs its ++ (if sc then " />".toList else " >".toList))))) := by
  have s1 : execS (tagCx parseInt) [("self", .obj fs)] (.assign "attributeStrings" .newList)
      = ([("self", .obj fs), ("attributeStrings", .list [])], .next) := by
    have hnew : Expr.makesNew .newList = true := rfl
    simp [execS, eval, aliasOK, hnew, assocSet]
  have hit : ∀ env : Env, env.lookup "self" = some (.obj fs) →
      eval (tagCx parseInt) env (.meth (.attr (.var "self") "_attributes") "items" []) = .ok (.pairs (embA its)) := by
    intro env h
    simp [eval, evalList, h, getAttr_field, h1, Field.toVal, callMethod_items]
  obtain ⟨env2, l1, l2, l3⟩ := attrLoop_run parseInt (.obj fs)
    (fun env' => decide (eval (tagCx parseInt) env' (.meth (.attr (.var "self") "_attributes") "items" [])
      = .ok (.pairs (embA its))))
    (by intro env h; simp [hit env h]) its [("self", .obj fs), ("attributeStrings", .list [])] [] rfl rfl
  have s2 : execS (tagCx parseInt) [("self", .obj fs), ("attributeStrings", .list [])]
      (.forPair "name" "val" (.meth (.attr (.var "self") "_attributes") "items" []) attrBody) = (env2, .next) := by
    rw [execS, hit _ rfl]
    exact l1
  simp only [List.nil_append] at l2
  have s3 : execS (tagCx parseInt) env2
      (.ifS (.var "attributeStrings")
        [.assign "attributeString" (.binop .add (.const (.str " ")) (.meth (.const (.str " ")) "join" [.var "attributeStrings"]))]
        [.assign "attributeString" (.const (.str ""))])
      = (assocSet env2 "attributeString" (.py (.str (renderAttrs its))), .next) := by
    cases its with
    | nil =>
      simp [execS, l2, aliasOK, Val.mutable, renderAttrs, py_straight]
    | cons p r =>
      have ht : (Val.list (((p :: r).map renderAttr).map PyV.str)).truthy = true := by simp [Val.truthy]
      have hj : renderAttrs (p :: r) = ' ' :: joinWith [' '] ((p :: r).map renderAttr) := by simp [renderAttrs]
      rw [hj]
      generalize (p :: r).map renderAttr = L at l2 ht
      simp [execS, execL, eval, evalList, l2, ht, Lit.toPy, callMethod_join, strItems_map_str, pyBinop, numOf, aliasOK, Val.mutable]
  have e1 : (assocSet env2 "attributeString" (.py (.str (renderAttrs its)))).lookup "self" = some (.obj fs) := by
    simp [lookup_assocSet, l3]
  have e2 : (assocSet env2 "attributeString" (.py (.str (renderAttrs its)))).lookup "attributeString"
      = some (.py (.str (renderAttrs its))) := lookup_assocSet_eq _ _ _
  have s4 : execS (tagCx parseInt) (assocSet env2 "attributeString" (.py (.str (renderAttrs its))))
      (.ifS (.cmp .is (.attr (.var "self") "isSelfClosing") (.const (.bool false)))
        [.ret (.format "%s<%s%s >".toList [.attr (.var "self") "_indent", .attr (.var "self") "tagName", .var "attributeString"])]
        [.ret (.format "%s<%s%s />".toList [.attr (.var "self") "_indent", .attr (.var "self") "tagName", .var "attributeString"])])
      = (assocSet env2 "attributeString" (.py (.str (renderAttrs its))),
         .ret (.py (.str (indent ++ ('<' :: n) ++ renderAttrs its ++ (if sc then " />".toList else " >".toList))))) := by
    cases sc <;>
      simp [execS, e1, e2, getAttr_field, h2, h3, h4, Field.toVal, pyCompare, compareB, pyIs, Val.unique, pyVals, format_open,
        format_selfclosing, py_straight]
  refine runMeth_of "self" none [] rfl rfl (res := .ret _) ?_ e1
  rw [getStartTag_body]
  exact (execL_cons_next _ _ _ _ _ s1).trans ((execL_cons_next _ _ _ _ _ s2).trans ((execL_cons_next _ _ _ _ _ s3).trans
    (execL_cons_ret s4)))

/-- with the pairs the hand model's attribute store shows (`AttrState.view`): the hand model's `startTagI`; without indent its
`startTag`, the start tag of `Node.html` (the `outerHTML` of the C01 theorems) -/
theorem getStartTag_code_eq_startTag (parseInt : Str → Except PyErr Int) (fs : List (String × Field)) (indent n : Str) (sc : Bool)
    (a : AttrState)
    (h1 : fs.lookup "_attributes" = some (.dict (embA a.view))) (h2 : fs.lookup "_indent" = some (.py (.str indent)))
    (h3 : fs.lookup "tagName" = some (.py (.str n))) (h4 : fs.lookup "isSelfClosing" = some (.py (.bool sc))) :
    runMeth (tagCx parseInt) AdvancedTag_getStartTag_ast fs [] = (some fs, .ok (.py (.str (startTagI indent n a sc))))
    ∧ (indent = [] → startTagI indent n a sc = startTag n a sc) := by
  refine ⟨getStartTag_code_eq_model parseInt fs indent n sc a.view h1 h2 h3 h4, ?_⟩
  intro h; subst h; rfl

/-- the blocks of an element as the list `self.blocks`: a text block is its text, a child element an `AdvancedTag` (every child the
same one: `getEndTag` asks of the last block only whether it is an `AdvancedTag` or a text, and reads the text) -/
def embB (kids : List Fmt.Node) : List PyV :=
  kids.map (fun k => match k with | .text _ s => PyV.str s | .elem _ _ _ _ _ _ => PyV.ancestor 0)

theorem embB_append (a b : List Fmt.Node) : embB (a ++ b) = embB a ++ embB b := by simp [embB]

theorem format_close (n : Str) : pyFormat ['<', '/', '%', 's', '>'] [.str n] = .ok (str "</" ++ n ++ str ">") := by
  simp [pyFormat, tostr, str]
theorem format_close_indent (i n : Str) :
    pyFormat ['%', 's', '<', '/', '%', 's', '>'] [.str i, .str n] = .ok (i ++ str "</" ++ n ++ str ">") := by
  simp [pyFormat, tostr, str]

theorem pyIn_pre (n : Str) : pyIn (.py (.str n)) (ofMembers preformattedTags) = .ok (Fmt.isPre n) := by
  rw [pyIn_ofMembers, contains_members]; rfl
theorem pyIn_preserve (n : Str) : pyIn (.py (.str n)) (ofMembers preserveContentsTags) = .ok (Fmt.isPreserve n) := by
  rw [pyIn_ofMembers, contains_members]; rfl

/-- **The code tie of the end tag.**  `getEndTag(self)` for every tag name, indent, `isSelfClosing` and list of blocks: the text of
the formatter model's `Fmt.endTag` (nothing for a self-closing element; no indent before the end tag of a preformatted element,
nor of a `script` / `style` / `pre` / `code` whose last block is a text that already ends with the indent); the object is
unchanged.  Without indent this is `endTag n sc` of `Model/Tree.lean`. -/
theorem getEndTag_code_eq_model (parseInt : Str → Except PyErr Int) (fs : List (String × Field)) (indent n : Str) (sc : Bool)
    (kids : List Fmt.Node)
    (h2 : fs.lookup "_indent" = some (.py (.str indent))) (h3 : fs.lookup "tagName" = some (.py (.str n)))
    (h4 : fs.lookup "isSelfClosing" = some (.py (.bool sc))) (h5 : fs.lookup "blocks" = some (.list (embB kids))) :
    runMeth (tagCx parseInt) AdvancedTag_getEndTag_ast fs []
      = (some fs, .ok (.py (.str (Fmt.endTag n sc indent kids)))) := by
  cases sc with
  | true =>
    simp [runMeth, AdvancedTag_getEndTag_ast, bindArgs, execS, getAttr_field, h4, Field.toVal, pyCompare, compareB, pyIs, Val.unique,
      Fmt.endTag, py_straight]
  | false =>
    by_cases hi : indent = []
    · subst hi
      simp [runMeth, AdvancedTag_getEndTag_ast, bindArgs, execS, getAttr_field, getField, h2, h3, h4, Field.toVal, pyCompare,
        compareB, pyIs, Val.unique, assocSet, pyVals, format_close_indent, Fmt.endTag, str, py_straight]
    · have hne : indent.isEmpty = false := by cases indent <;> simp_all
      by_cases hp : Fmt.isPre n = true
      · simp [runMeth, AdvancedTag_getEndTag_ast, bindArgs, execS, getAttr_field, getField, h2, h3, h4, Field.toVal, pyCompare,
        compareB, pyIs, Val.unique, assocSet, pyVals, format_close, Fmt.endTag, hne, tagCx_pre, pyIn_pre, hp, py_straight]
      · have hp' : Fmt.isPre n = false := by simpa using hp
        by_cases hs : Fmt.isPreserve n = true
        · rcases List.eq_nil_or_concat kids with hk | ⟨L, b, hk⟩
          · subst hk
            simp [runMeth, AdvancedTag_getEndTag_ast, bindArgs, execS, getAttr_field, getField, h2, h3, h4, h5, embB, Field.toVal,
              pyCompare, compareB, pyIs, Val.unique, assocSet, pyVals, format_close_indent, Fmt.endTag, hne, tagCx_pre,
              pyIn_pre, hp', tagCx_preserve, pyIn_preserve, hs, Fmt.lastTextEndsWith, Fmt.endsWith, py_straight]
          · subst hk
            have hb : (embB (L ++ [b])).isEmpty = false := by simp [embB]
            cases b with
            | text vb t =>
              have hlast : seqItem (embB (L ++ [Fmt.Node.text vb t])) (-1) = some (.str t) := by
                rw [embB_append]; exact seqItem_last _ _
              by_cases he : indent <:+ t
              · simp [runMeth, AdvancedTag_getEndTag_ast, bindArgs, execS, getAttr_field, getField, h2, h3, h4, h5, hb, Field.toVal,
                pyCompare, compareB, pyIs, Val.unique, assocSet, pyVals, format_close, Fmt.endTag, hne, tagCx_pre, pyIn_pre,
                hp', tagCx_preserve, pyIn_preserve, hs, Fmt.lastTextEndsWith, Fmt.endsWith, pyIndex_list hlast, aliasOK,
                Val.mutable, typeName, callMethod_endswith, he, py_straight]
              · simp [runMeth, AdvancedTag_getEndTag_ast, bindArgs, execS, getAttr_field, getField, h2, h3, h4, h5, hb, Field.toVal,
                pyCompare, compareB, pyIs, Val.unique, assocSet, pyVals, format_close_indent, Fmt.endTag, hne, tagCx_pre,
                pyIn_pre, hp', tagCx_preserve, pyIn_preserve, hs, Fmt.lastTextEndsWith, Fmt.endsWith, pyIndex_list hlast, aliasOK,
                Val.mutable, typeName, callMethod_endswith, he, py_straight]
            | elem kd nm st sc' ind ks =>
              have hlast : seqItem (embB (L ++ [Fmt.Node.elem kd nm st sc' ind ks])) (-1) = some (.ancestor 0) := by
                rw [embB_append]; exact seqItem_last _ _
              simp [runMeth, AdvancedTag_getEndTag_ast, bindArgs, execS, getAttr_field, getField, h2, h3, h4, h5, hb, Field.toVal,
                pyCompare, compareB, pyIs, Val.unique, assocSet, pyVals, format_close_indent, Fmt.endTag, hne, tagCx_pre,
                pyIn_pre, hp', tagCx_preserve, pyIn_preserve, hs, Fmt.lastTextEndsWith, pyIndex_list hlast, aliasOK,
                Val.mutable, typeName, py_straight]
        · have hs' : Fmt.isPreserve n = false := by simpa using hs
          simp [runMeth, AdvancedTag_getEndTag_ast, bindArgs, execS, getAttr_field, getField, h2, h3, h4, Field.toVal, pyCompare,
            compareB, pyIs, Val.unique, assocSet, pyVals, format_close_indent, Fmt.endTag, hne, tagCx_pre, pyIn_pre, hp',
            tagCx_preserve, pyIn_preserve, hs', py_straight]

theorem endTag_no_indent (n : Str) (sc : Bool) (kids : List Fmt.Node) : Fmt.endTag n sc [] kids = endTag n sc := by
  cases sc <;> simp [Fmt.endTag, endTag, str]

/-! ### the theorems are not vacuous, and the interpreter runs the dump -/

-- a broken `decide +kernel` would explain itself through the elaborator's evaluator (minutes, gigabytes on a run of the
-- interpreter): the small budget makes it fail at once; the kernel check of a correct example does not consume it
set_option maxHeartbeats 2000
-- (`char_lits`, `Lemmas/Ws.lean`, in front of `decide +kernel` where a literal is long: the kernel's `"…".toList` is quadratic in the
-- length of the literal; on the short literals of the other code ties it costs more than it saves)

private def pI : Str → Except PyErr Int := fun _ => .error .valueError
private def tagObj (indent n : String) (sc : Bool) (its : List Attr) : List (String × Field) :=
  [("tagName", .py (.str n.toList)), ("_attributes", .dict (embA its)), ("isSelfClosing", .py (.bool sc)),
   ("_indent", .py (.str indent.toList)), ("uid", .py (.int 7))]

/-- a quoted value with a quote in it, a missing value, an empty value of a boolean attribute, an empty value of another one -/
example : runMeth (tagCx pI) AdvancedTag_getStartTag_ast
      (tagObj "" "input" false [("title".toList, some "a\"b".toList), ("data-x".toList, none), ("checked".toList, some []),
        ("value".toList, some [])]) []
    = (some (tagObj "" "input" false [("title".toList, some "a\"b".toList), ("data-x".toList, none), ("checked".toList, some []),
        ("value".toList, some [])]),
       .ok (.py (.str "<input title=\"a&quot;b\" data-x checked value=\"\" >".toList))) := by
  char_lits
  decide +kernel
/-- no attributes, self-closing, with an indent -/
example : (runMeth (tagCx pI) AdvancedTag_getStartTag_ast (tagObj "  " "br" true []) []).2
    = .ok (.py (.str "  <br />".toList)) := by
  char_lits
  decide +kernel
/-- the hand model on the first list -/
example : startTagI [] "input".toList ⟨[("title".toList, some "a\"b".toList), ("data-x".toList, none), ("checked".toList, some []),
      ("value".toList, some [])], [], []⟩ false = "<input title=\"a&quot;b\" data-x checked value=\"\" >".toList := by
  char_lits
  decide +kernel
/-- a value that is neither a text nor `None` (a number) goes through `tostr`, as in Python -/
example : (runMeth (tagCx pI) AdvancedTag_getStartTag_ast
      [("tagName", .py (.str "a".toList)), ("_attributes", .dict [(.str "x".toList, .int 3)]),
       ("isSelfClosing", .py (.bool false)), ("_indent", .py (.str []))] []).2 = .ok (.py (.str "<a x=\"3\" >".toList)) := by
  char_lits
  decide +kernel
/-- fail closed: an object without `_attributes` is an `AttributeError`, never a text -/
example : (runMeth (tagCx pI) AdvancedTag_getStartTag_ast [("tagName", .py (.str "a".toList))] []).2
    = .error (.other "AttributeError") := by
  char_lits
  decide +kernel

private def endObj (indent n : String) (sc : Bool) (blocks : List PyV) : List (String × Field) :=
  [("tagName", .py (.str n.toList)), ("isSelfClosing", .py (.bool sc)), ("_indent", .py (.str indent.toList)),
   ("blocks", .list blocks)]

/-- `getEndTag`: plain; self-closing; a preformatted element keeps its end tag unindented; a `script` whose last text already
ends with the indent; the same with a child element last; an ordinary element is indented -/
example : (runMeth (tagCx pI) AdvancedTag_getEndTag_ast (endObj "" "div" false [.str "x".toList]) []).2
      = .ok (.py (.str "</div>".toList))
    ∧ (runMeth (tagCx pI) AdvancedTag_getEndTag_ast (endObj "  " "br" true []) []).2 = .ok (.py (.str []))
    ∧ (runMeth (tagCx pI) AdvancedTag_getEndTag_ast (endObj "  " "pre" false [.str "x".toList]) []).2
      = .ok (.py (.str "</pre>".toList))
    ∧ (runMeth (tagCx pI) AdvancedTag_getEndTag_ast (endObj "  " "script" false [.str "a;\n  ".toList]) []).2
      = .ok (.py (.str "</script>".toList))
    ∧ (runMeth (tagCx pI) AdvancedTag_getEndTag_ast (endObj "  " "script" false [.str "a;".toList, .ancestor 3]) []).2
      = .ok (.py (.str "  </script>".toList))
    ∧ (runMeth (tagCx pI) AdvancedTag_getEndTag_ast (endObj "  " "div" false [.str "x  ".toList]) []).2
      = .ok (.py (.str "  </div>".toList)) := by
  char_lits
  decide +kernel
/-- the formatter model on the `script` case -/
example : Fmt.endTag "script".toList false "  ".toList [.text false "a;\n  ".toList] = "</script>".toList := by
  char_lits
  decide +kernel

end AHP.C01Code
