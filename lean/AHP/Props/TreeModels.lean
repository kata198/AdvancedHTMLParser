/-
  TreeModels — the six models of the document tree are consistent with each other.

  Each property group has its own model of the tree, tied to the library by its own correspondence stream:

    (1) `AHP.Node`            Model/Tree.lean + Builder.lean   what the parser builds; `Node.html`, `htmlL`, `docHTML`   (C01–C03, C13)
    (2) `AHP.Dom.DN`/`Meta`   Model/Dom.lean + DomView.lean    cached fields, mutators, `outerHTML`/`innerHTML`         (C04, C05, C20)
    (3) `AHP.Pk.DN`           Model/Pickle.lean + Observe.lean attribute stores, object ids, `html`/`inner`, `elems`      (C16, C17)
    (4) `AHP.G3.Node`/`Elem`  Model/Search.lean                documents for the searches, `preorder`, `desc`           (C06, C07)
    (5) `AHP.XPath.Doc`       Model/XPath.lean                 pre-order tables with parent indices                      (C14)
    (6) `AHP.Fmt.Node`        Model/Format.lean                formatter trees and the model's own plain parser          (C11, C12)

  Property theorems; definitions and lemmas in AHP/Lemmas/TreeModels{,Order,Build,Create,XPath}.lean
  (namespace `AHP.TM`; `TreeModelsNth.lean` continues `TreeModelsXPath.lean` for Props/XPathEndToEnd.lean).  The hub `TM.HN` is the common refinement: text | element with identity, name, the
  attribute store of model (1), self-closing flag, blocks.  The maps (all total, structural):

      Dom.DN --ofDom--> HN --toTree--> AHP.Node --toFmt--> Fmt.Node
                           --toPk p o--> Pk.DN         (cached fields recomputed from the blocks; `rawPk` copies them)
                           --g3--> List G3.Node        (elements only)
                           --toDoc--> XPath.Doc
      AHP.Node --number n--> HN                        (identities in creation order; `toTree ∘ number = id`)

  Everything is stated for EVERY tree (any size, depth, shape).  Side conditions, each shown to be needed:
    * `PlainDom`  (2)'s `getStartTag` prints the attribute list as it is; (1), (3), (4), (6) drop `class`/`style`
                  keys of the raw dict (they live in the class list / style map) and print a boolean attribute with
                  an empty value bare.  The library does the latter (`<input checked>`): `dom_differs_on_empty_boolean`.
    * `AttrInv`/`DictDom`  the attribute store is a Python dict (pairwise distinct keys) — AttrStores' invariant.
    * `LeadDeclOK`  a leading declaration is a doctype (`handle_decl` is only ever called for one):
                  `builders_differ_on_non_doctype_decl`.
  White space is all of `str.isspace()` in both builders (`isWs` of Model/Basic.lean), as in the library: top-level
  text such as U+00A0 is skipped by both (`builders_agree_on_nbsp_data`), so `LeadDeclOK` is the only condition on tokens.
-/
import AHP.Lemmas.TreeModelsCreate
import AHP.Lemmas.TreeModelsXPath
import AHP.Lemmas.RoundTrip
import AHP.Lemmas.DomStep
namespace AHP.TreeModels
open AHP AHP.TM AHP.AttrStores

/-- Every tree of model (1) is the image of a hub tree, whose identities are 0, 1, 2, … in document order. -/
theorem tree_is_image (t : Node) (n : Nat) :
    (number t n).1.toTree = t ∧ (number t n).1.ids = List.range' n (number t n).1.size :=
  ⟨toTree_number t n, (number_ids t n).1⟩

/-- sample: `<div id="a">x<p class="k">y</p><br/>z</div>` with uids 0, 1, 2 -/
def sampleTree : Node :=
  .elem "div".toList ⟨[("id".toList, some "a".toList)], [], []⟩ false
    [.text "x".toList, .elem "p".toList ⟨[], ["k".toList], []⟩ false [.text "y".toList],
     .elem "br".toList AttrState.empty true [], .text "z".toList]

def sampleHub : HN := (number sampleTree 0).1

example : sampleHub.ids = [0, 1, 2] ∧ sampleHub.toTree.html = "<div id=\"a\" >x<p class=\"k\" >y</p><br />z</div>".toList := by
  -- the kernel evaluates `toList` of a long literal in quadratic time; as `String.ofList [..]` it does not evaluate it at all
  char_lits; decide +kernel

/-- the DOM model's sample: the same shape with cached fields (what `Dom.mk` builds) and plain attributes only (a `title`
    instead of the class) -/
def sampleFN : Dom.FN :=
  .el "div".toList [("id".toList, some "a".toList)] false
    [.text "x".toList, .el "p".toList [("title".toList, some "say \"hi\"".toList)] false [.text "y".toList],
     .el "br".toList [] true [], .text "z".toList]

def sampleDom : Dom.DN := (Dom.mk none (some 7) sampleFN 0).1

theorem sampleDom_ok : Dom.OK none (some 7) sampleDom := Dom.mk_OK none (some 7) sampleFN 0
theorem sampleDom_plain : PlainDom sampleDom := by
  simp only [sampleDom, sampleFN, Dom.mk, Dom.mkL, PlainDom, PlainDomL, PlainAttrs, List.mem_cons, List.not_mem_nil,
    or_false, forall_eq, false_imp_iff, implies_true, and_true]
  decide

theorem sampleDom_dict : DictDom sampleDom := by
  simp [sampleDom, sampleFN, Dom.mk, Dom.mkL, DictDom, DictDomL, keys]

/-- **`outerHTML` is one function**: the DOM model's `outerHTML` of any tree with plain attribute dicts, `Node.html`
    of its image in model (1), `DN.html` of its image in the pickle model (whatever parent / owner it hangs
    under) and `outer` of its image in the formatter model are the same string. -/
theorem outerHTML_agree (n : Dom.DN) (hp : PlainDom n) (hd : DictDom n) (p o : Option Nat) :
    Dom.outerHTML n = (ofDom n).toTree.html
    ∧ Pk.DN.html ((ofDom n).toPk p o) = (ofDom n).toTree.html
    ∧ Fmt.outer (toFmt (ofDom n).toTree) = (ofDom n).toTree.html :=
  ⟨outerHTML_toTree n hp, pk_html _ p o (attrInv_ofDom n hd), fmt_outer _ (attrInv_toTree _ (attrInv_ofDom n hd))⟩

/-- **`innerHTML` is one function** (of an element `m` with blocks `bs`). -/
theorem innerHTML_agree (m : Dom.Meta) (bs : List Dom.DN) (hp : PlainDom (.el m bs)) (hd : DictDom (.el m bs))
    (p o : Option Nat) :
    Dom.innerHTML m bs = (ofDom (.el m bs)).toTree.innerHTML
    ∧ Pk.DN.inner ((ofDom (.el m bs)).toPk p o) = (ofDom (.el m bs)).toTree.innerHTML := by
  refine ⟨?_, pk_inner _ p o (attrInv_ofDom _ hd) ⟨_, _, _, _, _, ofDom_el m bs⟩⟩
  simp only [plainDom_el] at hp
  simp only [Dom.innerHTML, ofDom_el, toTree_el, Node.innerHTML, innerL_toTree bs hp.2]

/-- The cached fields: under C04's invariant `OK` the element copied FIELD BY FIELD into the pickle model (`rawPk`:
    `children`, `text`, `parentNode`, `ownerDocument` as stored) is the image that recomputes them from the blocks
    — so the consistent element serialises alike in the three models, cached fields and all. -/
theorem consistent_element_agree (n : Dom.DN) (p o : Option Nat) (hok : Dom.OK p o n) (hp : PlainDom n)
    (hd : DictDom n) :
    rawPk n = (ofDom n).toPk p o ∧ Pk.DN.html (rawPk n) = Dom.outerHTML n ∧ Dom.outerHTML n = (ofDom n).toTree.html := by
  have h := outerHTML_agree n hp hd p o
  refine ⟨rawPk_eq_toPk n p o hok, ?_, h.1⟩
  rw [rawPk_eq_toPk n p o hok, h.2.1, h.1]

example : Dom.outerHTML sampleDom = "<div id=\"a\" >x<p title=\"say &quot;hi&quot;\" >y</p><br />z</div>".toList := by
  char_lits; decide +kernel
example : rawPk sampleDom = (ofDom sampleDom).toPk none (some 7) :=
  (consistent_element_agree sampleDom none (some 7) sampleDom_ok sampleDom_plain sampleDom_dict).1

/-- The DOM model's own tree builder against the trees of model (1): what `Dom.mk` builds for a parsed node — the
    leading empty indent block, identities, cached fields — is, identities forgotten and text normalised (`Node.norm`:
    empty text dropped, adjacent text merged), the parsed node itself; and it serialises as that node. -/
theorem dom_constructor_builds_the_parsed_tree (f : Dom.FN) (p o : Option Nat) (n : Nat) :
    (ofDom (Dom.mk p o f n).1).toTree.norm = (fnNode f).norm
    ∧ (PlainDom (Dom.mk p o f n).1 → Dom.outerHTML (Dom.mk p o f n).1 = (fnNode f).html) := by
  refine ⟨mk_norm f p o n, fun hp => ?_⟩
  rw [outerHTML_toTree _ hp, ← html_norm, mk_norm f p o n, html_norm]

example : (fnNode sampleFN).html = "<div id=\"a\" >x<p title=\"say &quot;hi&quot;\" >y</p><br />z</div>".toList := by
  char_lits; decide +kernel

/-- Beyond plain attributes (`class`, `style`, boolean strings — any store of model (1) that is a dict): the pickle
    model's and the formatter model's serialisers still print what model (1) prints.  AttrStores supplies the
    start tags. -/
theorem html_agree_any_store (h : HN) (hi : h.AttrInv) (p o : Option Nat) :
    Pk.DN.html (h.toPk p o) = h.toTree.html ∧ Fmt.outer (toFmt h.toTree) = h.toTree.html :=
  ⟨pk_html h p o hi, fmt_outer _ (attrInv_toTree h hi)⟩

example : sampleHub.AttrInv := by
  simp [sampleHub, sampleTree, number, numberL, HN.AttrInv, AttrInvL, AttrStores.Inv, keys, AttrState.empty]

/-- `PlainDom` is needed, and here the DOM model is the one that differs from the library (which prints a boolean
    attribute with an empty value bare: `<input checked />`); such names are outside the DOM model's alphabet
    (`Dom.specialAttr`). -/
theorem dom_differs_on_empty_boolean :
    Dom.startTag ⟨0, "input".toList, [("checked".toList, some [])], true, [], [], none, none⟩
        = "<input checked=\"\" />".toList
    ∧ startTag "input".toList (plainState [("checked".toList, some [])]) true = "<input checked />".toList := by
  char_lits
  decide +kernel

/-- … and a `class` key inside the raw dict is printed by the DOM model only (models (1), (3), (4), (6) keep class
    names in the class list, as the library does). -/
theorem dom_differs_on_class_key :
    Dom.startTag ⟨0, "p".toList, [("class".toList, some "k".toList)], false, [], [], none, none⟩
        = "<p class=\"k\" >".toList
    ∧ startTag "p".toList (plainState [("class".toList, some "k".toList)]) false = "<p >".toList := by
  char_lits
  decide +kernel

/-- **Document order is one list.**  For every DOM tree: the pre-order of its image in the search model, the
    object ids / uids / `getAllNodes` of its image in the pickle model, and the DOM model's own `ids`; the
    `getAllChildNodes` walk is that list without the element itself. -/
theorem document_order_agree (n : Dom.DN) (p o : Option Nat) :
    G3.uidsOf (G3.preorderL (ofDom n).g3) = Dom.ids n
    ∧ Pk.DN.oids ((ofDom n).toPk p o) = Dom.ids n
    ∧ Pk.DN.uids ((ofDom n).toPk p o) = Dom.ids n
    ∧ (Pk.DN.elems ((ofDom n).toPk p o)).map Pk.DN.oid = Dom.ids n
    ∧ Dom.desc n = (Dom.ids n).tail := by
  rw [← ids_ofDom]
  exact ⟨uids_g3 _, pk_oids _ p o, pk_uids _ p o, pk_elems_oids _ p o, by rw [ids_ofDom]; exact Dom.desc_eq_ids_tail n⟩

/-- … element by element, not only identity by identity: each model's traversal is the image of the hub's
    element list `subs` (every element with its parent's identity). -/
theorem elements_agree (h : HN) (p o : Option Nat) :
    G3.preorderL h.g3 = (h.subs p).flatMap (fun e => e.2.g3)
    ∧ Pk.DN.elems (h.toPk p o) = (h.subs p).map (fun e => e.2.toPk e.1 o)
    ∧ els h.toTree = (h.subs p).map (fun e => e.2.key) :=
  ⟨preorder_g3 h p, pk_elems h p o, els_toTree h p⟩

theorem dom_elements_agree (n : Dom.DN) (p : Option Nat) :
    (Dom.elems n).map elOf = ((ofDom n).subs p).map (·.2) := elems_ofDom n p

/-- The element of the search model (root of the image of an element): its `preorder`, `desc` and children are the
    DOM model's `ids`, `getAllChildNodes` and element blocks; `Distinct` (hypothesis of C06/C07) is the `nodup`
    clause of C04's invariant; the creation order C07 folds the index over is the document order. -/
theorem search_image (m : Dom.Meta) (bs : List Dom.DN) :
    let r := g3Root m.id m.name (plainState m.attrs) (ofDomL bs)
    (ofDom (.el m bs)).g3 = [r]
    ∧ G3.uidsOf r.preorder = Dom.ids (.el m bs)
    ∧ G3.uidsOf r.desc = Dom.descL bs
    ∧ G3.uidsOf r.kids = Dom.elemIds bs
    ∧ (r.Distinct ↔ (Dom.ids (.el m bs)).Nodup)
    ∧ (G3.creationOrder r).map (·.uid) = Dom.ids (.el m bs) := by
  have hids : Dom.ids (.el m bs) = m.id :: idsL (ofDomL bs) := by rw [← ids_ofDom]; simp
  refine ⟨by simp [g3Root], ?_, ?_, ?_, ?_, ?_⟩
  · rw [g3Root_preorder, hids]
  · rw [g3Root_desc, Dom.descL_eq_idsL, idsL_ofDomL]
  · rw [g3Root_kids, kidIds_ofDomL]
  · rw [g3Root_distinct _ _ _ m.sc, hids, ids_el]
  · rw [creationOrder_g3Root, hids]

/-- The cached navigation fields, under C04's invariant: `parentNode` of every element is the element that holds
    it, `children` its element blocks, `text` its text blocks — what the images in (3), (4), (5) compute. -/
theorem cached_fields_agree (n : Dom.DN) (p o : Option Nat) (hok : Dom.OK p o n) :
    (Dom.elems n).map (fun e => e.1.parent) = ((ofDom n).subs p).map (·.1)
    ∧ ∀ e ∈ Dom.elems n, e.1.children = kidIds (ofDomL e.2) ∧ e.1.text = kidText (ofDomL e.2) :=
  ⟨parents_ofDom n p o hok, cached_ofDom n p o hok⟩

example : Dom.ids sampleDom = [0, 1, 2] ∧ Dom.desc sampleDom = [1, 2]
    ∧ (Dom.elems sampleDom).map (fun e => e.1.parent) = [none, some 0, some 0] := by
  have h : Dom.ids sampleDom = [0, 1, 2] := by decide +kernel
  exact ⟨h, by rw [Dom.desc_eq_ids_tail, h]; rfl, by decide +kernel⟩

/-- **The table built from any tree passes the model's pre-order check** — the hypothesis `preorder_check_sound`
    (C14) turns into `PreOrder`, under which C14c/d are proved, holds for every document that is a tree. -/
theorem toDoc_isPreOrder (h : HN) : h.toDoc.isPreOrder = true ∧ XPath.PreOrder h.toDoc :=
  ⟨table_isPreOrder (walked_walk h), table_preOrder (walked_walk h)⟩

theorem docOfL_isPreOrder (ks : List HN) : (docOfL ks).isPreOrder = true ∧ XPath.PreOrder (docOfL ks) :=
  ⟨table_isPreOrder (walked_walkL ks), table_preOrder (walked_walkL ks)⟩

/-- hence C14c applies to every tree: the recursive descendant walk of the table is the ancestor-based
    specification -/
theorem toDoc_desc_spec (h : HN) (i : Nat) : h.toDoc.desc i = XPath.specDesc h.toDoc i :=
  XPath.desc_eq_specDesc _ (toDoc_isPreOrder h).2 i

/-- **Rows are the elements in document order; `anc`, `children`, `desc` of a row are the ancestors, element
    blocks and subtree of its element** — for every tree, in terms of row indices: an entry of `walk` is (row
    index, row indices of the ancestors nearest first, the element). -/
theorem toDoc_rows (h : HN) :
    h.toDoc.length = h.size
    ∧ (h.walk [] 0).map (·.pos) = List.range' 0 h.size
    ∧ (h.walk [] 0).map (·.node) = (h.subs none).map (·.2)
    ∧ ∀ e ∈ h.walk [] 0,
        h.toDoc.name e.pos = e.node.name
        ∧ h.toDoc.parent e.pos = e.ups.head?
        ∧ h.toDoc.anc e.pos = e.ups
        ∧ h.toDoc.children e.pos = kidPos (e.pos + 1) e.node.kids
        ∧ h.toDoc.desc e.pos = List.range' (e.pos + 1) (e.node.size - 1) := by
  have hW := walked_walk h
  refine ⟨by rw [HN.toDoc, table_length, walk_length], walk_pos h [] 0, walk_nodes h [] 0 none, ?_⟩
  intro e he
  exact ⟨name_ent hW he, parent_ent hW he, anc_ent hW e.pos he rfl, children_ent hW he, desc_ent hW he⟩

/-- **Read by identity**, for a tree whose identities are the creation indices 0, 1, 2, … in document order (every
    parsed document, `parsed_is_ranked`): row `i` is element `i`; its parent column, `children`, `desc`, `anc` are the
    identities of the element's parent, element blocks, subtree and ancestors. -/
theorem toDoc_by_identity (h : HN) (hr : h.ids = List.range' 0 h.size) :
    h.toDoc.isPreOrder = true ∧ h.toDoc.length = h.size ∧
    (∀ x ∈ h.subs none, h.toDoc.name x.2.id = x.2.name ∧ h.toDoc.parent x.2.id = x.1 ∧
        h.toDoc.children x.2.id = kidIds x.2.kids ∧ h.toDoc.desc x.2.id = idsL x.2.kids) ∧
    (∀ y ∈ h.ancs [], h.toDoc.anc y.1 = y.2) := by
  have hW := walked_walk h
  refine ⟨table_isPreOrder hW, by rw [HN.toDoc, table_length, walk_length], ?_, ?_⟩
  · intro x hx
    rw [show h.subs none = _ from (walk_subs h [] 0 hr).symm] at hx
    obtain ⟨e, he, rfl⟩ := List.mem_map.mp hx
    have hk := ranked_kids (walk_ranked h [] 0 hr e he)
    show _ ∧ h.toDoc.parent e.node.id = e.ups.head? ∧ _
    rw [walk_id_pos h [] 0 hr e he, HN.toDoc, name_ent hW he, parent_ent hW he, children_ent hW he, desc_ent hW he, hk]
    exact ⟨rfl, rfl, kidPos_eq_kidIds _ _ (by rw [hk, sizeL_kids]), rfl⟩
  · intro y hy
    rw [← walk_ancs h [] 0 hr] at hy
    obtain ⟨e, he, rfl⟩ := List.mem_map.mp hy
    exact anc_ent hW e.pos he rfl

/-- the documents the parser (`number`: model (1) numbered in creation order) and the DOM constructor (`Dom.mk`)
    build are numbered that way -/
theorem parsed_is_ranked (t : Node) (f : Dom.FN) (p o : Option Nat) :
    (number t 0).1.ids = List.range' 0 (number t 0).1.size
    ∧ (ofDom (Dom.mk p o f 0).1).ids = List.range' 0 (ofDom (Dom.mk p o f 0).1).size := by
  refine ⟨(number_ids t 0).1, ?_⟩
  obtain ⟨k, h1, _⟩ := Dom.mk_ids p o f 0
  rw [← length_ids, ids_ofDom, h1]; simp

example : sampleHub.toDoc.map (fun r => (r.name, r.parent)) =
    [("div".toList, none), ("p".toList, some 0), ("br".toList, some 0)] := by decide +kernel
example : sampleHub.toDoc.children 0 = [1, 2] ∧ sampleHub.toDoc.desc 0 = [1, 2] ∧ sampleHub.toDoc.anc 2 = [0] := by
  decide +kernel

/-- **The elements of the parsed document, in document order, are the elements `handle_starttag` /
    `handle_startendtag` created, in creation order** — for every token list (any nesting, implicit closes,
    stray end tags, both passes).  With `tree_is_image` (identities = ranks in that order) this is the assumption
    C07 ("the index is filled as elements are created": `Idx.parse` folds over `creationOrder doc`) and C14 (row
    index = uid) take from C02. -/
theorem creation_order_is_document_order {toks : List Token} {d : Doc} {sp : Bool}
    (h : feedTokens toks = .doc d sp) :
    docEls d = (if sp then wrapToks toks else toks).flatMap created := by
  obtain ⟨b, hb, rfl⟩ := feedTokens_doc h
  exact doc_els _ b hb

/-- one pass, from the initial state: also when it is the pass that gets abandoned -/
theorem pass_creation_order (ts : List Token) (b : BState) (h : run BState.init ts = .ok b) :
    docEls b.doc = ts.flatMap created := doc_els ts b h

/-- badly nested input: `<a><b>x</a><c/>` then a second root — second pass, four elements in creation order -/
def sampleToks : List Token :=
  [.start "a".toList [], .start "b".toList [], .data "x".toList, .end_ "a".toList, .startend "c".toList []]

example : ∃ d, feedTokens sampleToks = .doc d true ∧
    (docEls d).map (·.1) = [wrapperName, "a".toList, "b".toList, "c".toList] := by
  refine ⟨_, rfl, by decide +kernel⟩

/-- **`Fmt.Plain.feed` = the image of `Builder.feedTokens`**, for every token list of the domain: same exception
    or same doctype and same root (up to the ghost `verb` flags, which no function of the formatter model reads). -/
theorem plain_builders_agree (toks : List Token) (hd : LeadDeclOK toks) :
    (Fmt.Plain.feed (toks.map tokF)).map viewF = feedViewF (feedTokens toks) := feed_agree toks hd

/-- step by step: from related states, any pass ends in related states or in `MultipleRootNodeException` on both
    sides -/
theorem plain_passes_agree (ts : List Token) {s : Fmt.St} {b : BState} (h : Sim s b.tree b.doctype) :
    SimRun (run b ts) (Fmt.Plain.run (ts.map tokF) s) := sim_run ts h

/-- `feedViewF` loses nothing: the plain parser raises `MultipleRootNodeException` only -/
theorem plain_parser_raises (toks : List Token) (e : Exc) (h : feedTokens toks = .raised e) : e = .multipleRoot := by
  rcases feedTokens_run toks with ⟨b, sp, _, _, h2⟩ | ⟨_, _, h2⟩ <;> rw [h2] at h <;> cases h
  rfl

/-- … and so do `parseStr` + `getHTML` of the two models (the string C01–C03 reason about is the string C11
    compares the formatter with). -/
theorem plain_getHTML_agree (toks : List Token) (hd : LeadDeclOK toks) :
    Fmt.Plain.html (toks.map tokF) =
      (match feedTokens toks with
       | .doc d _ => (match d.html with | some s => .ok s | none => .error .noRoot)
       | .raised _ => .error .multipleRoot) := plain_html_agree toks hd

/-- the domain contains every token list whose declarations are doctypes — whatever characters the tokens carry -/
theorem leadDeclOK_of_doctypes {toks : List Token}
    (hdecl : ∀ d, Token.decl d ∈ toks → Fmt.isDoctype d = true) : LeadDeclOK toks := by
  unfold LeadDeclOK
  split
  · exact hdecl _ (by simp)
  · exact hdecl _ (by simp)
  · trivial

theorem sampleToks_lead : LeadDeclOK sampleToks := by simp [sampleToks, LeadDeclOK]

example : (Fmt.Plain.feed (sampleToks.map tokF)).map viewF = feedViewF (feedTokens sampleToks) :=
  plain_builders_agree sampleToks sampleToks_lead

example : Fmt.Plain.html (sampleToks.map tokF) = .ok "<a ><b >x</b></a><c />".toList :=
  eq_ok_of_toOption (by char_lits; decide +kernel)

/-- Top-level data that is white space to `str.strip()` but not ASCII white space — U+00A0 before the root.  Both
    models skip it (`not data.strip()`): first pass, one root `a`, as in the library.  An instance of
    `plain_builders_agree`. -/
theorem builders_agree_on_nbsp_data :
    (Fmt.Plain.feed ([Token.data [Char.ofNat 0xa0], .start ['a'] [], .end_ ['a']].map tokF)).map viewF
        = .ok (none, some (.elem .normal ['a'] {} false [] []))
    ∧ feedViewF (feedTokens [Token.data [Char.ofNat 0xa0], .start ['a'] [], .end_ ['a']])
        = .ok (none, some (.elem .normal ['a'] {} false [] []))
    ∧ ∃ d, feedTokens [Token.data [Char.ofNat 0xa0], .start ['a'] [], .end_ ['a']] = .doc d false := by
  refine ⟨by rfl, by rfl, _, rfl⟩

/-- non-vacuity beyond ASCII: non-ASCII white space in a `class` value, in top-level data (U+3000, skipped) and inside
    an element (kept) -/
def sampleUniToks : List Token :=
  [.data [Char.ofNat 0x3000, '\n'], .start "a".toList [("class".toList, some [Char.ofNat 0xa0, 'k', Char.ofNat 0x2003])],
   .data [Char.ofNat 0xa0], .end_ "a".toList, .data [Char.ofNat 0x85]]

example : (Fmt.Plain.feed (sampleUniToks.map tokF)).map viewF = feedViewF (feedTokens sampleUniToks) :=
  plain_builders_agree sampleUniToks (by simp [sampleUniToks, LeadDeclOK])

example : Fmt.Plain.html (sampleUniToks.map tokF) = .ok ("<a class=\"k\" >".toList ++ [Char.ofNat 0xa0] ++ "</a>".toList) :=
  eq_ok_of_toOption (by char_lits
                        decide +kernel)

/-- `LeadDeclOK` is needed: a leading declaration that is not a doctype, after blanks — never produced by the
    tokenizer (`handle_decl` is called for `<!doctype …>` only).  Model (1) puts the wrapper start tag after it
    (the blanks stay outside), the formatter model in front (the blanks become a text block of the wrapper). -/
theorem builders_differ_on_non_doctype_decl :
    (Fmt.Plain.feed ([Token.data ['\n'], .decl ['x'], .startend ['a'] [], .startend ['b'] []].map tokF)).map viewF
      ≠ feedViewF (feedTokens [Token.data ['\n'], .decl ['x'], .startend ['a'] [], .startend ['b'] []]) := by
  intro h
  -- the number of blocks of the root tells them apart: 3 (the blanks are a text block of the wrapper) against 2
  have := congrArg (fun r : Except Fmt.Err (Option Str × Option Fmt.Node) => match r with
    | .ok (_, some (.elem _ _ _ _ _ ks)) => ks.length
    | _ => 0) h
  revert this
  decide +kernel

end AHP.TreeModels
