/-
  C01 — Serialise → parse round trip preserves the document tree.

  Model: serialisers (AHP/Model/Tree.lean), strict lexer (AHP/Model/Lexer.lean), builder (AHP/Model/Builder.lean).

  Documents are taken in *lexical normal form* (`LNode`): every text block is one text-like token of the
  tokenizer — which is the form of every tree a parse produces (`parsed_lexical_normal_form`); trees built through the
  API with other text segmentations are covered up to `norm` (`roundtrip_single_any_segmentation`).
  Raw-text elements (`script` / `style`) are covered at character level: `ToksOK` (= `ListOK`) accepts the
  block start tag / one data token / end tag provided the data nowhere matches the element's closing expression
  `</ ws* name ws* >`, case-insensitively (`RawOK`, `Lemmas/LexRaw.lean` — exactly what `set_cdata_mode`'s
  `interesting` expression searches for); inside, `<`, `&`, tags, comments and references are plain text.
  Attribute preservation is PROVED, not assumed (`intake_viewStable`, `parsed_stable`, `constructed_stable`): the
  `…_parsed` / `…_constructed` forms of the round-trip theorems have lexical hypotheses only.
-/
import AHP.Lemmas.RoundTrip
import AHP.Lemmas.LexRoundTrip
import AHP.Lemmas.LexRawTree
import AHP.Lemmas.IntakeStableTree
namespace AHP.C01
open AHP AHP.Spec

/-! ### the serialiser writes the rendering of the tree's token sequence -/

theorem textlike_render (t : Token) (h : (Spec.textOf t).isSome) : textOfD t = renderTok t := by
  cases t with
  | data d =>
    by_cases hd : d.isEmpty = true
    · simp [Spec.textOf, hd] at h
    · simp [textOfD, Spec.textOf, hd, renderTok]
  | entity e => simp [textOfD, Spec.textOf, renderTok]
  | charref e => simp [textOfD, Spec.textOf, renderTok]
  | comment e => simp [textOfD, Spec.textOf, renderTok]
  | decl d => simp [Spec.textOf] at h
  | unknownDecl d => simp [Spec.textOf] at h
  | pi d => simp [Spec.textOf] at h
  | start n a => simp [Spec.textOf] at h
  | startend n a => simp [Spec.textOf] at h
  | end_ n => simp [Spec.textOf] at h

mutual
theorem html_eq_render (t : LNode) (h : t.WF) : t.toNode.html = renderToks t.toks := by
  match t, h with
  | .tok tk, h =>
    simp only [LNode.WF] at h
    simp [LNode.toNode, Node.html, LNode.toks, renderToks, textlike_render tk h]
  | .elem n a sc kids, h =>
    simp only [LNode.WF] at h
    obtain ⟨_, _, hsc, hk⟩ := h
    cases hs : sc with
    | true =>
      have : kids = [] := hsc hs
      subst this
      simp [LNode.toNode, Node.html, LNode.toks, renderToks, startTag, startTagI, endTag, renderTok]
    | false =>
      have ih := htmlL_eq_render kids hk
      simp [LNode.toNode, Node.html, LNode.toks, renderToks, startTag, startTagI, endTag, renderTok,
        renderToks_append, ih]
theorem htmlL_eq_render (ks : List LNode) (h : WFLL ks) : htmlL (toNodeL ks) = renderToks (toksL ks) := by
  match ks, h with
  | [], _ => rfl
  | k :: ks, h =>
    simp only [WFLL] at h
    simp [toNodeL, htmlL, toksL, renderToks_append, html_eq_render k h.1, htmlL_eq_render ks h.2]
end

/-- well-formedness of a document in terms of its token sequence: every token is in the serialiser's image
    and is followed by something that keeps it a token of its own (`ListOK`; `listOK_of_noAdjData` gives the
    simple sufficient condition "no two data runs adjacent" when the data singletons `<` / `&` do not occur) -/
def ToksOK (ts : List Token) : Prop := ListOK ts

/-! ### C01a — single-root documents -/

/-- the root element built from the initial state: the stack is empty and the finished element becomes the root -/
theorem root_rt (n : Str) (a : AttrState) (sc : Bool) (kids : List LNode) (h : (LNode.elem n a sc kids).WF) :
    runT TState.init (LNode.elem n a sc kids).toks
      = .ok ⟨[], some (LNode.elem n a sc kids).toNode.reintake⟩ :=
  lelem_run n a sc kids h _ (fun _ => rfl) (lforest_run kids h.kids)

/-- tokens of the doctype line `<!d>\n` -/
def doctypeToks (dt : Option Str) : List Token :=
  match dt with
  | some d => if d.isEmpty then [] else [.decl d, .data ['\n']]
  | none => []

theorem docHTML_single (dt : Option Str) (n : Str) (a : AttrState) (sc : Bool) (kids : List LNode)
    (h : (LNode.elem n a sc kids).WF) (hw : n ≠ wrapperName) :
    docHTML dt (LNode.elem n a sc kids).toNode = renderToks (doctypeToks dt ++ (LNode.elem n a sc kids).toks) := by
  have hh := html_eq_render (.elem n a sc kids) h
  rw [renderToks_append, ← hh]
  cases dt with
  | none => simp [docHTML, LNode.toNode, hw, doctypeToks, renderToks]
  | some d =>
    by_cases hd : d.isEmpty = true
    · simp [docHTML, LNode.toNode, hw, doctypeToks, renderToks, hd]
    · simp [docHTML, LNode.toNode, hw, doctypeToks, renderToks, hd, renderTok]

/-- **C01a (single root).** For every single-root document in lexical normal form whose tokens are in the
    serialiser's image — any size, any depth — `parse (getHTML d)` is the document with its attribute stores
    re-read from their rendering: same names, nesting, self-closing flags, text, doctype. -/
theorem roundtrip_single (dt : Option Str) (n : Str) (a : AttrState) (sc : Bool) (kids : List LNode)
    (hwf : (LNode.elem n a sc kids).WF) (hw : n ≠ wrapperName)
    (hok : ToksOK (doctypeToks dt ++ (LNode.elem n a sc kids).toks)) :
    ∃ toks, lexStrict (docHTML dt (LNode.elem n a sc kids).toNode) = some toks ∧
      feedTokens toks = .doc ⟨(doctypeToks dt).foldl stepD none, some (LNode.elem n a sc kids).toNode.reintake⟩ false := by
  refine ⟨_, docHTML_single dt n a sc kids hwf hw ▸ lexStrict_renderToks _ hok, feedTokens_root _ ?_ n a sc kids hwf⟩
  -- the doctype line leaves the builder where it started
  cases dt with
  | none => rfl
  | some d => simp only [doctypeToks]; split <;> rfl

/-! ### C01a — multi-root documents (no doctype: the white space after the doctype of a multi-root
       document is outside the property's domain) -/

/-- **C01a (multi-root).** For top-level blocks in lexical normal form whose tokens are in the serialiser's image and
    that the first pass rejects (`hmulti`), `parse (getHTML d)` — `d` showing the blocks under the invisible wrapper —
    answers on the second pass with the wrapper around the blocks, their attribute stores re-read. -/
theorem roundtrip_multi (ks : List LNode) (hwf : WFLL ks) (hok : ToksOK (toksL ks))
    (hmulti : run BState.init (toksL ks) = .multipleRoot) :
    ∃ toks, lexStrict (docHTML none (.elem wrapperName AttrState.empty false (toNodeL ks))) = some toks ∧
      feedTokens toks
        = .doc ⟨none, some (.elem wrapperName AttrState.empty false (reintakeL (toNodeL ks)))⟩ true := by
  refine ⟨toksL ks, ?_, feedTokens_forest ks hwf hmulti⟩
  have : docHTML none (.elem wrapperName AttrState.empty false (toNodeL ks)) = renderToks (toksL ks) := by
    simp [docHTML, Node.innerHTML, htmlL_eq_render ks hwf]
  rw [this]
  exact lexStrict_renderToks _ hok

/-! ### C01b — the second serialisation is identical -/

theorem doctype_of_line (dt : Option Str) :
    docHTML ((doctypeToks dt).foldl stepD none) = docHTML dt := by
  funext root
  cases dt with
  | none => rfl
  | some d =>
    by_cases hd : d.isEmpty = true
    · have : d = [] := by simpa using hd
      subst this
      simp [doctypeToks, docHTML]
    · simp [doctypeToks, hd, stepD]

/-- **C01b.** Serialising the re-parsed document returns the identical string, for stores whose rendering
    is stable under re-reading (`Stable`: discharged for every parsed and every constructed tree by `parsed_stable` /
    `constructed_stable`). -/
theorem second_serialisation_identical (dt : Option Str) (n : Str) (a : AttrState) (sc : Bool) (kids : List LNode)
    (hst : (LNode.elem n a sc kids).toNode.Stable) :
    docHTML ((doctypeToks dt).foldl stepD none) (LNode.elem n a sc kids).toNode.reintake
      = docHTML dt (LNode.elem n a sc kids).toNode := by
  rw [doctype_of_line]
  have h := html_reintake _ hst
  simp only [LNode.toNode, Node.reintake] at h ⊢
  simp only [docHTML]
  split
  · simp only [Node.innerHTML]
    have hst2 : StableL (toNodeL kids) := by
      simp only [LNode.toNode, Node.Stable] at hst; exact hst.2
    rw [htmlL_reintake _ hst2]
  · rw [h]

/-! ### C01c — values come back unchanged -/

/-- Quotes, angle brackets, non-ASCII, anything: a value written by `escapeQuotes` between double quotes
    is read back exactly, provided no `&` in it starts a reference. -/
theorem value_roundtrip (v rest : Str) (h : ValueOK v) :
    (readUntil '"' (escQ v ++ '"' :: rest)).bind (fun p => (unescValue (p.1.length + 1) p.1).map (fun w => (w, p.2)))
      = some (v, rest) := by
  rw [readUntil_append '"' (escQ v) rest (escQ_no_quote v)]
  simp [unesc_esc v h _ (Nat.lt_succ_self _)]

/-! ### a tree-level sufficient condition for `ToksOK`, raw-text elements included -/

/-- doctype text the serialiser's doctype line lexes back from -/
def DoctypeOK (dt : Option Str) : Prop :=
  match dt with
  | some d => d.isEmpty = true ∨ (lower (d.take 7) = "doctype".toList ∧ '>' ∉ d)
  | none => True

/-- **C01 (side condition, single root).** A single-root document whose tree meets `LNode.LexOK` — text blocks
    are well-formed text-like tokens, no two data runs adjacent, names and attribute views well formed, and the
    content of every `script` / `style` element is at most ONE data token in which the element's closing
    expression does not occur (it may contain `<`, `&`, `</div>`, comments …) — meets the hypothesis `ToksOK` of
    `roundtrip_single`. -/
theorem toksOK_of_lexOK_single (dt : Option Str) (n : Str) (a : AttrState) (sc : Bool) (kids : List LNode)
    (hwf : (LNode.elem n a sc kids).WF) (hlex : (LNode.elem n a sc kids).LexOK) (hdt : DoctypeOK dt) :
    ToksOK (doctypeToks dt ++ (LNode.elem n a sc kids).toks) := by
  have hroot : ListOK ((LNode.elem n a sc kids).toks ++ []) :=
    lnode_listOK _ hwf hlex [] .nil (fun h => by simp [isDataTok] at h)
  rw [List.append_nil] at hroot
  unfold ToksOK doctypeToks
  cases dt with
  | none => simpa using hroot
  | some d =>
    by_cases hd : d.isEmpty = true
    · simpa [hd] using hroot
    · simp only [hd, Bool.false_eq_true, if_false, List.cons_append, List.nil_append]
      have hd' : lower (d.take 7) = "doctype".toList ∧ '>' ∉ d := by
        rcases hdt with h | h
        · exact absurd h hd
        · exact h
      refine .cons hd' trivial (.cons (Or.inr (Or.inr ⟨by simp, by decide⟩)) ?_ hroot)
      -- the newline of the doctype line is followed by the root's start tag
      have := toks_head_markup _ hlex rfl []
      rw [List.append_nil] at this
      exact follows_of_startsMarkup (.data ['\n']) ⟨by decide, by decide⟩ _ this

/-- **C01 (side condition, multi-root).** The same for a forest of top-level blocks. -/
theorem toksOK_of_lexOK_multi (ks : List LNode) (hwf : WFLL ks) (hlex : LexOKL ks) (hadj : NoAdjL ks) :
    ToksOK (toksL ks) := by
  have := lforest_listOK ks hwf hlex hadj [] .nil (Or.inl rfl)
  rw [List.append_nil] at this
  exact this

/-! ### Non-vacuity: a concrete document meets the hypotheses of `roundtrip_single` -/

example : lexStrict "<div id=\"a&quot;b\" checked >x&amp;y<br /><!--c--></div>".toList =
    some [.start "div".toList [("id".toList, some "a\"b".toList), ("checked".toList, none)],
          .data "x".toList, .entity "amp".toList, .data "y".toList, .startend "br".toList [],
          .comment "c".toList, .end_ "div".toList] := by
  char_lits; decide +kernel

example : lexStrict "<p >1 < 2 & 3&#x41;&#65;</p>".toList =
    some [.start "p".toList [], .data "1 ".toList, .data "<".toList, .data " 2 ".toList, .data "&".toList,
          .data " 3".toList, .charref "x41".toList, .charref "65".toList, .end_ "p".toList] := by
  char_lits; decide +kernel

/-! ### Non-vacuity with raw text: a `<script>` whose content has `<`, `&`, `</div>`, a comment opener and an
       unfinished closing sequence, and a `<style>` with `>` and `&` — the hypotheses of `roundtrip_single`
       hold, so its conclusion does -/

/-- `<div ><script type="module" >if (a < b && c) { s = "</div>" + '</scr' + 'ipt>'; } <!-- &amp;</script><style >p > a { content: "&<" }</style><p >x</p></div>` -/
def exRawKids : List LNode :=
  [ .elem "script".toList ⟨[("type".toList, some "module".toList)], [], []⟩ false
      [.tok (.data "if (a < b && c) { s = \"</div>\" + '</scr' + 'ipt>'; } <!-- &amp;".toList)],
    .elem "style".toList AttrState.empty false [.tok (.data "p > a { content: \"&<\" }".toList)],
    .elem "p".toList AttrState.empty false [.tok (.data "x".toList)] ]

theorem exRaw_wf : (LNode.elem "div".toList AttrState.empty false exRawKids).WF := by
  simp only [LNode.WF, WFLL, exRawKids, Spec.textOf]
  char_lits
  decide +kernel

theorem exRaw_lexOK : (LNode.elem "div".toList AttrState.empty false exRawKids).LexOK := by
  simp only [LNode.LexOK, LexOKL, NoAdjL, RawKidsOK, exRawKids, isDataTok]
  char_lits
  decide +kernel

example : ∃ toks,
    lexStrict (docHTML (some "DOCTYPE html".toList) (LNode.elem "div".toList AttrState.empty false exRawKids).toNode)
      = some toks ∧
    feedTokens toks = .doc ⟨some "DOCTYPE html".toList,
      some (LNode.elem "div".toList AttrState.empty false exRawKids).toNode.reintake⟩ false :=
  roundtrip_single (some "DOCTYPE html".toList) "div".toList AttrState.empty false exRawKids exRaw_wf (by decide +kernel)
    (toksOK_of_lexOK_single _ _ _ _ _ exRaw_wf exRaw_lexOK (Or.inr (by decide +kernel)))

set_option maxRecDepth 8192 in
example : docHTML none (LNode.elem "div".toList AttrState.empty false exRawKids).toNode
    = ("<div ><script type=\"module\" >if (a < b && c) { s = \"</div>\" + '</scr' + 'ipt>'; } <!-- &amp;</script>"
       ++ "<style >p > a { content: \"&<\" }</style><p >x</p></div>").toList := by
  rw [String.toList_append]; unfold exRawKids; char_lits
  decide +kernel

/-- the side condition is needed: with the closing expression inside the content the text comes back cut -/
example : lexStrict "<script >a</ SCRIPT >b</script>".toList
    = some [.start "script".toList [], .data "a".toList, .end_ "script".toList, .data "b".toList,
            .end_ "script".toList] := by
  char_lits; decide +kernel

/-- a multi-root forest with an empty `<script>` and a `<style>`: hypotheses of `roundtrip_multi` -/
example : ToksOK (toksL [.elem "script".toList AttrState.empty false [],
    .elem "style".toList AttrState.empty false [.tok (.data "a<b".toList)]]) :=
  toksOK_of_lexOK_multi _ (by simp only [WFLL, LNode.WF, Spec.textOf]; decide +kernel)
    (by simp only [LexOKL, LNode.LexOK, RawKidsOK, NoAdjL]; decide +kernel) (by simp [NoAdjL, isDataTok])

/-! ### C01 — attribute preservation, PROVED for every parsed / constructed tree

  `roundtrip_single` concludes with the tree whose stores are *re-read from their rendering* (`reintake`); "same
  attribute name/value pairs" and "second serialisation identical" need `ViewStable` of every store.  It is a theorem
  for every store the constructor builds. -/

/-- **C01 (attribute stores).** For EVERY raw attribute list `l` — `class`, `style`, `spellcheck`, duplicate names,
    upper-case names, invalid names included — the store `AdvancedTag.__init__` builds from `l`, rendered by
    `getStartTag` and read again by a parse, lists the same name/value pairs in the same order. -/
theorem intake_viewStable (l : List Attr) : ViewStable (intake l AttrState.empty) := intake_view_stable l

theorem intake_view_fixed (l : List Attr) :
    (intake (intake l AttrState.empty).view AttrState.empty).view = (intake l AttrState.empty).view :=
  intake_view_stable l

def plainKey (k : Str) : Prop :=
  validAttrName k = true ∧ lower k = k ∧ k ≠ "class".toList ∧ k ≠ "style".toList ∧ k ≠ "spellcheck".toList

theorem intake_plain (xs : List Attr) : ∀ (acc : List Attr),
    (∀ p ∈ xs, plainKey p.1) → (xs.map (·.1)).Nodup → (∀ p ∈ acc, ∀ q ∈ xs, p.1 ≠ q.1) →
    intake xs ⟨acc, [], []⟩ = ⟨acc ++ xs, [], []⟩ := by
  induction xs with
  | nil => intro acc _ _ _; simp [intake]
  | cons x xs ih =>
    intro acc hp hn hd
    obtain ⟨k, v⟩ := x
    have hk := hp (k, v) (by simp)
    obtain ⟨hv, hl, h1, h2, h3⟩ := hk
    have hfresh : ∀ p ∈ acc, p.1 ≠ k := fun p hp' => hd p hp' (k, v) (by simp)
    simp only [intake, hl, hv, if_true, AttrState.set, h1, h2, h3, if_false]
    rw [AttrStores.dictSet_eq, Dict.set_of_not_mem v fun hm => let ⟨p, hp', e⟩ := List.mem_map.mp hm; hfresh p hp' e]
    have hn' : k ∉ xs.map (·.1) ∧ (xs.map (·.1)).Nodup := by
      have := hn; simp only [List.map_cons, List.nodup_cons] at this; exact this
    rw [ih (acc ++ [(k, v)]) (fun p hp' => hp p (List.mem_cons_of_mem _ hp')) hn'.2 ?_]
    · simp
    · intro p hp' q hq
      rcases List.mem_append.mp hp' with h | h
      · exact hd p h q (List.mem_cons_of_mem _ hq)
      · simp at h; subst h
        intro e
        exact hn'.1 (by simp only [List.mem_map]; exact ⟨q, hq, e.symm⟩)

/-- **C01 (plain stores).** An attribute store holding only plain attributes (distinct, valid, lower-case
    names other than class / style / spellcheck; any values, including missing ones) is re-read exactly. -/
theorem plain_viewStable (d : List Attr) (hp : ∀ p ∈ d, plainKey p.1) (hn : (d.map (·.1)).Nodup) :
    ViewStable ⟨d, [], []⟩ := by
  -- such a store is what the constructor builds from its own list
  have h : intake d AttrState.empty = ⟨d, [], []⟩ := intake_plain d [] hp hn (by simp)
  rw [← h]
  exact intake_view_stable d

/-- Why "built through the DOM API" is read as *constructed* (`CNode`) in the `…_constructed` theorems below, and the recorded finding
    `C01-class-position-after-look` in the model's terms: a store in which `class` was materialised by a look and a NEW
    attribute was added afterwards lists `class` before that attribute; it renders that way, and the store the constructor
    builds from the rendering lists `class` last — same pairs, another order, so the second serialisation is another string.
    (The library does exactly this: `t.addClass('k'); t.outerHTML; t.setAttribute('href', 'x')`; the check's `late` variant
    replays it and reports it as the known finding.) -/
def lateStore : AttrState := ⟨[("class".toList, some "k".toList), ("href".toList, some "x".toList)], ["k".toList], []⟩

theorem late_attribute_not_viewStable :
    ¬ ViewStable lateStore ∧
    startTag "span".toList lateStore false = "<span class=\"k\" href=\"x\" >".toList ∧
    startTag "span".toList (intake lateStore.view AttrState.empty) false = "<span href=\"x\" class=\"k\" >".toList ∧
    (intake lateStore.view AttrState.empty).view.map (·.1) = ["href".toList, "class".toList] := by
  unfold ViewStable lateStore; char_lits; decide +kernel

/-- a re-read store is re-read exactly ever after (any number of round trips) -/
theorem reintake_viewStable (a : AttrState) : ViewStable (reintakeA a) := reintakeA_viewStable a

/-- **C01 (every parsed tree is `Stable`).** Whatever the token list — any order, however nested, first pass or
    wrapped second pass — every attribute store of the tree `feedTokens` builds is re-read exactly. -/
theorem parsed_stable (toks : List Token) (d : Doc) (second : Bool) (h : feedTokens toks = .doc d second) :
    ∀ r, d.root = some r → r.Stable := feedTokens_stable toks d second h

/-- **C01 (every constructed tree is `Stable`).** A tree built through `AdvancedTag(name, attrList, isSelfClosing)`
    and `appendBlock` from RAW attribute lists (`CNode`, `CNode.build`). -/
theorem constructed_stable (c : CNode) : c.build.toNode.Stable := cnode_stable c

/-- **C01 (every parsed tree is in lexical normal form)** — the class `LNode` / `LNode.WF` of the round-trip
    theorems contains every tree a parse produces: no empty text block, lower-case names, void names self-closing,
    self-closing elements empty. -/
theorem parsed_lexical_normal_form (toks : List Token) (d : Doc) (second : Bool) (h : feedTokens toks = .doc d second)
    (l : LNode) (hl : d.root = some l.toNode) : l.WF :=
  wf_of_lex l (feedTokens_lex toks d second h _ hl)

/-- what the API shows of a `Stable` tree in lexical normal form is what it shows of the tree re-read by a parse:
    same names, same attribute name/value pairs in the same order, same self-closing flags, same text blocks -/
theorem reparsed_shows_same (l : LNode) (hwf : l.WF) (hst : l.toNode.Stable) : l.toNode.reintake.obs = l.toNode.obs :=
  lnode_obs_reintake l hwf hst

/-! #### single root, without the `Stable` hypothesis -/

/-- `roundtrip_single` + `second_serialisation_identical` + attribute preservation for a root all of whose stores
    are constructor images (`Node.Built`): the common core of the `_parsed` and `_constructed` forms -/
theorem roundtrip_single_built (dt : Option Str) (n : Str) (a : AttrState) (sc : Bool) (kids : List LNode)
    (hb : (LNode.elem n a sc kids).toNode.Built)
    (hwf : (LNode.elem n a sc kids).WF) (hw : n ≠ wrapperName)
    (hok : ToksOK (doctypeToks dt ++ (LNode.elem n a sc kids).toks)) :
    ∃ toks dt' parsed,
      lexStrict (docHTML dt (LNode.elem n a sc kids).toNode) = some toks ∧
      feedTokens toks = .doc ⟨dt', some parsed⟩ false ∧
      parsed.obs = (LNode.elem n a sc kids).toNode.obs ∧
      docHTML dt' parsed = docHTML dt (LNode.elem n a sc kids).toNode := by
  obtain ⟨toks, h1, h2⟩ := roundtrip_single dt n a sc kids hwf hw hok
  have hst := built_stable _ hb
  exact ⟨toks, _, _, h1, h2, reparsed_shows_same _ hwf hst, second_serialisation_identical dt n a sc kids hst⟩

/-- **C01a/b (single root, constructed).** For every tree handed to the public constructor with RAW attribute
    lists — the only hypotheses are the lexical ones (`WF`: void names self-closing …; `ToksOK`: the tokens are in the
    serialiser's image) — `parse (getHTML d)` answers, has the same names, the same attribute name/value pairs in
    the same order (class, style, spellcheck included), the same flags and text blocks, and serialises to the
    identical string. -/
theorem roundtrip_single_constructed (dt : Option Str) (n : Str) (l : List Attr) (sc : Bool) (kids : List CNode)
    (hwf : (CNode.elem n l sc kids).build.WF) (hw : lower n ≠ wrapperName)
    (hok : ToksOK (doctypeToks dt ++ (CNode.elem n l sc kids).build.toks)) :
    ∃ toks dt' parsed,
      lexStrict (docHTML dt (CNode.elem n l sc kids).build.toNode) = some toks ∧
      feedTokens toks = .doc ⟨dt', some parsed⟩ false ∧
      parsed.obs = (CNode.elem n l sc kids).build.toNode.obs ∧
      docHTML dt' parsed = docHTML dt (CNode.elem n l sc kids).build.toNode := by
  have hb := cnode_built (CNode.elem n l sc kids)
  simp only [CNode.build] at hb hwf hok ⊢
  exact roundtrip_single_built dt _ _ _ _ hb hwf hw hok

/-- **C01a/b (single root, parsed).** For every tree obtained from a previous parse (`hp`; any tokens) — only
    lexical hypotheses: the root is not the wrapper, the tokens are in the serialiser's image; `WF` is a consequence
    of `hp` — the same conclusions.  `dt` is the document's doctype at serialisation time (the parsed one, or one set
    through `setDoctype`). -/
theorem roundtrip_single_parsed (toks0 : List Token) (dt0 : Option Str) (second0 : Bool)
    (dt : Option Str) (n : Str) (a : AttrState) (sc : Bool) (kids : List LNode)
    (hp : feedTokens toks0 = .doc ⟨dt0, some (LNode.elem n a sc kids).toNode⟩ second0)
    (hw : n ≠ wrapperName) (hok : ToksOK (doctypeToks dt ++ (LNode.elem n a sc kids).toks)) :
    ∃ toks dt' parsed,
      lexStrict (docHTML dt (LNode.elem n a sc kids).toNode) = some toks ∧
      feedTokens toks = .doc ⟨dt', some parsed⟩ false ∧
      parsed.obs = (LNode.elem n a sc kids).toNode.obs ∧
      docHTML dt' parsed = docHTML dt (LNode.elem n a sc kids).toNode :=
  roundtrip_single_built dt n a sc kids (feedTokens_built toks0 _ second0 hp _ rfl)
    (parsed_lexical_normal_form toks0 _ second0 hp _ rfl) hw hok

/-- **C01b without hypothesis (constructed).** -/
theorem second_serialisation_identical_constructed (dt : Option Str) (n : Str) (l : List Attr) (sc : Bool)
    (kids : List CNode) :
    docHTML ((doctypeToks dt).foldl stepD none) (CNode.elem n l sc kids).build.toNode.reintake
      = docHTML dt (CNode.elem n l sc kids).build.toNode := by
  have hst := cnode_stable (CNode.elem n l sc kids)
  simp only [CNode.build] at hst ⊢
  exact second_serialisation_identical dt _ _ _ _ hst

/-- **C01b without hypothesis (parsed).** -/
theorem second_serialisation_identical_parsed (toks0 : List Token) (dt0 : Option Str) (second0 : Bool)
    (dt : Option Str) (n : Str) (a : AttrState) (sc : Bool) (kids : List LNode)
    (hp : feedTokens toks0 = .doc ⟨dt0, some (LNode.elem n a sc kids).toNode⟩ second0) :
    docHTML ((doctypeToks dt).foldl stepD none) (LNode.elem n a sc kids).toNode.reintake
      = docHTML dt (LNode.elem n a sc kids).toNode :=
  second_serialisation_identical dt n a sc kids (parsed_stable toks0 _ second0 hp _ rfl)

/-! #### multi-root, without the `Stable` hypothesis -/

theorem roundtrip_multi_built (ks : List LNode) (hb : BuiltL (toNodeL ks)) (hwf : WFLL ks) (hok : ToksOK (toksL ks))
    (hmulti : run BState.init (toksL ks) = .multipleRoot) :
    ∃ toks kids',
      lexStrict (docHTML none (.elem wrapperName AttrState.empty false (toNodeL ks))) = some toks ∧
      feedTokens toks = .doc ⟨none, some (.elem wrapperName AttrState.empty false kids')⟩ true ∧
      obsL kids' = obsL (toNodeL ks) ∧
      docHTML none (.elem wrapperName AttrState.empty false kids')
        = docHTML none (.elem wrapperName AttrState.empty false (toNodeL ks)) := by
  obtain ⟨toks, h1, h2⟩ := roundtrip_multi ks hwf hok hmulti
  have hst := builtL_stable _ hb
  refine ⟨toks, _, h1, h2, lforest_obs_reintake ks hwf hst, ?_⟩
  simp only [docHTML, Node.innerHTML, if_true, Bool.false_eq_true, if_false]
  rw [htmlL_reintake _ hst]

/-- **C01a/b (multi-root, constructed).** Top-level blocks built through the constructor from raw lists, shown
    under the invisible wrapper: lexical hypotheses only. -/
theorem roundtrip_multi_constructed (cs : List CNode) (hwf : WFLL (buildCL cs)) (hok : ToksOK (toksL (buildCL cs)))
    (hmulti : run BState.init (toksL (buildCL cs)) = .multipleRoot) :
    ∃ toks kids',
      lexStrict (docHTML none (.elem wrapperName AttrState.empty false (toNodeL (buildCL cs)))) = some toks ∧
      feedTokens toks = .doc ⟨none, some (.elem wrapperName AttrState.empty false kids')⟩ true ∧
      obsL kids' = obsL (toNodeL (buildCL cs)) ∧
      docHTML none (.elem wrapperName AttrState.empty false kids')
        = docHTML none (.elem wrapperName AttrState.empty false (toNodeL (buildCL cs))) :=
  roundtrip_multi_built _ (cnodeL_built cs) hwf hok hmulti

/-- **C01a/b (multi-root, parsed).** A wrapped document obtained from a previous parse: `WF` follows from `hp`. -/
theorem roundtrip_multi_parsed (toks0 : List Token) (dt0 : Option Str) (second0 : Bool) (ks : List LNode)
    (hp : feedTokens toks0 = .doc ⟨dt0, some (.elem wrapperName AttrState.empty false (toNodeL ks))⟩ second0)
    (hok : ToksOK (toksL ks)) (hmulti : run BState.init (toksL ks) = .multipleRoot) :
    ∃ toks kids',
      lexStrict (docHTML none (.elem wrapperName AttrState.empty false (toNodeL ks))) = some toks ∧
      feedTokens toks = .doc ⟨none, some (.elem wrapperName AttrState.empty false kids')⟩ true ∧
      obsL kids' = obsL (toNodeL ks) ∧
      docHTML none (.elem wrapperName AttrState.empty false kids')
        = docHTML none (.elem wrapperName AttrState.empty false (toNodeL ks)) := by
  have hb := feedTokens_built toks0 _ second0 hp _ rfl
  have hl := feedTokens_lex toks0 _ second0 hp _ rfl
  simp only [Node.Built] at hb
  simp only [Node.Lex] at hl
  exact roundtrip_multi_built ks hb.2 (wfL_of_lex ks hl.2.2.2) hok hmulti

/-! ### C01a at `norm` level — API-built trees with arbitrary text segmentation -/

/-- the serialisation depends only on the concatenation of adjacent text blocks -/
theorem serialisation_ignores_text_segmentation (t : Node) : t.norm.html = t.html := html_norm t

/-- `getHTML` depends only on the normal form of the tree (adjacent text blocks merged, empty ones dropped) -/
theorem getHTML_ignores_text_segmentation (dt : Option Str) (t : Node) : docHTML dt t.norm = docHTML dt t :=
  docHTML_norm dt t

/-- **C01a (any text segmentation).** `t` is ANY tree — text blocks split or empty as the DOM API leaves them —
    that equals a lexical normal form `l` up to text segmentation.  Then `getHTML t` is `getHTML l`, it lexes, and the
    parse of it is `t` with its stores re-read, up to text segmentation; if moreover every store of `t` is re-read
    exactly (`Stable`: e.g. `Built`), the parse shows the same names, attribute pairs, flags and merged text as `t`. -/
theorem roundtrip_single_any_segmentation (dt : Option Str) (t : Node) (n : Str) (a : AttrState) (sc : Bool)
    (kids : List LNode) (hnorm : t.norm = (LNode.elem n a sc kids).toNode.norm)
    (hwf : (LNode.elem n a sc kids).WF) (hw : n ≠ wrapperName)
    (hok : ToksOK (doctypeToks dt ++ (LNode.elem n a sc kids).toks)) :
    ∃ toks dt' parsed,
      lexStrict (docHTML dt t) = some toks ∧
      feedTokens toks = .doc ⟨dt', some parsed⟩ false ∧
      parsed.norm = t.reintake.norm ∧
      (t.Stable → parsed.norm.obs = t.norm.obs) := by
  obtain ⟨toks, h1, h2⟩ := roundtrip_single dt n a sc kids hwf hw hok
  have hhtml : docHTML dt t = docHTML dt (LNode.elem n a sc kids).toNode := by
    rw [← docHTML_norm dt t, hnorm, docHTML_norm]
  have hn : (LNode.elem n a sc kids).toNode.reintake.norm = t.reintake.norm := by
    rw [norm_reintake, ← hnorm, ← norm_reintake]
  refine ⟨toks, _, _, by rw [hhtml]; exact h1, h2, hn, ?_⟩
  intro hst
  rw [hn, norm_reintake, obs_reintake_norm t hst]

/-! ### Non-vacuity with class / style / spellcheck, duplicates, upper case, invalid names -/

/-- `AdvancedTag('DIV', [('CLASS','  a   b '), ('style','COLOR : red;; margin:0'), ('id','x'), ('ID','y'), ('1bad','z'),
      ('spellcheck','yes'), ('hidden', None)])` with a text block, a `<br>` and a `<p class>` (no class names) inside -/
def exStyledAttrs : List Attr :=
  [("CLASS".toList, some "  a   b ".toList), ("style".toList, some "COLOR : red;; margin:0".toList),
   ("id".toList, some "x".toList), ("ID".toList, some "y".toList), ("1bad".toList, some "z".toList),
   ("spellcheck".toList, some "yes".toList), ("hidden".toList, none)]

def exStyledKids : List CNode :=
  [.tok (.data "t".toList), .elem "br".toList [] false [],
   .elem "P".toList [("class".toList, none), ("style".toList, some "top: 1px".toList)] false [.tok (.entity "amp".toList)]]

def exStyled : CNode := .elem "DIV".toList exStyledAttrs false exStyledKids

/-- what the constructor made of the raw list: names lower-cased, the invalid name dropped, the last `id` at the
    position of the first, class words joined by single blanks, the style re-rendered, spellcheck as boolean string;
    `class` listed last, `style` at its dict position -/
example : (intake exStyledAttrs AttrState.empty).view =
    [("style".toList, some "color: red; margin: 0".toList), ("id".toList, some "y".toList),
     ("spellcheck".toList, some "true".toList), ("hidden".toList, none), ("class".toList, some "a b".toList)] := by
  decide +kernel

theorem exStyled_wf : exStyled.build.WF := by
  simp only [exStyled, exStyledKids, CNode.build, buildCL, LNode.WF, WFLL, Spec.textOf]
  decide +kernel

theorem exStyled_lexOK : exStyled.build.LexOK := by
  simp only [exStyled, exStyledKids, exStyledAttrs, CNode.build, buildCL, LNode.LexOK, LexOKL, NoAdjL, RawKidsOK, isDataTok]
  decide +kernel

/-- `roundtrip_single_constructed` applies to it: the hypotheses are satisfiable with class and style present -/
example : ∃ toks dt' parsed,
    lexStrict (docHTML (some "DOCTYPE html".toList) exStyled.build.toNode) = some toks ∧
    feedTokens toks = .doc ⟨dt', some parsed⟩ false ∧
    parsed.obs = exStyled.build.toNode.obs ∧
    docHTML dt' parsed = docHTML (some "DOCTYPE html".toList) exStyled.build.toNode :=
  roundtrip_single_constructed (some "DOCTYPE html".toList) "DIV".toList exStyledAttrs false exStyledKids
    exStyled_wf (by decide +kernel)
    (by
      have hwf := exStyled_wf
      have hlex := exStyled_lexOK
      simp only [exStyled, CNode.build] at hwf hlex ⊢
      exact toksOK_of_lexOK_single _ _ _ _ _ hwf hlex (Or.inr (by decide +kernel)))

/-- `second_serialisation_identical` (hypothesis `Stable`) instantiated on it: the hypothesis
    is met by `constructed_stable` -/
example : docHTML ((doctypeToks (some "DOCTYPE html".toList)).foldl stepD none) exStyled.build.toNode.reintake
    = docHTML (some "DOCTYPE html".toList) exStyled.build.toNode := by
  have hst := constructed_stable exStyled
  simp only [exStyled, CNode.build] at hst ⊢
  exact second_serialisation_identical _ _ _ _ _ hst

set_option maxRecDepth 8192 in
example : docHTML none exStyled.build.toNode
    = ("<div style=\"color: red; margin: 0\" id=\"y\" spellcheck=\"true\" hidden class=\"a b\" >t<br />"
       ++ "<p style=\"top: 1px\" >&amp;</p></div>").toList := by
  rw [String.toList_append]; char_lits; decide +kernel

/-- a multi-root forest with class and style attributes: two `<p>` built from raw lists -/
def exForest : List CNode :=
  [.elem "p".toList [("class".toList, some "x  y".toList)] false [.tok (.data "a".toList)],
   .tok (.comment "c".toList),
   .elem "P".toList [("STYLE".toList, some "color:red".toList), ("class".toList, some "z".toList)] false []]

theorem exForest_wf : WFLL (buildCL exForest) := by
  simp only [exForest, CNode.build, buildCL, LNode.WF, WFLL, Spec.textOf]
  decide +kernel

theorem exForest_lexOK : LexOKL (buildCL exForest) := by
  simp only [exForest, CNode.build, buildCL, LNode.LexOK, LexOKL, NoAdjL, RawKidsOK, isDataTok]
  decide +kernel

theorem exForest_noAdj : NoAdjL (buildCL exForest) := by
  simp [exForest, CNode.build, buildCL, NoAdjL, isDataTok]

theorem exForest_multi : run BState.init (toksL (buildCL exForest)) = .multipleRoot := by rfl

/-- `roundtrip_multi` instantiated: `hmulti` and `ToksOK` hold for the forest -/
example : ∃ toks, lexStrict (docHTML none (.elem wrapperName AttrState.empty false (toNodeL (buildCL exForest)))) = some toks ∧
    feedTokens toks
      = .doc ⟨none, some (.elem wrapperName AttrState.empty false (reintakeL (toNodeL (buildCL exForest))))⟩ true :=
  roundtrip_multi (buildCL exForest) exForest_wf
    (toksOK_of_lexOK_multi _ exForest_wf exForest_lexOK exForest_noAdj) exForest_multi

/-- `roundtrip_multi_constructed` instantiated on the forest: same attribute pairs, identical second serialisation -/
example : ∃ toks kids',
    lexStrict (docHTML none (.elem wrapperName AttrState.empty false (toNodeL (buildCL exForest)))) = some toks ∧
    feedTokens toks = .doc ⟨none, some (.elem wrapperName AttrState.empty false kids')⟩ true ∧
    obsL kids' = obsL (toNodeL (buildCL exForest)) ∧
    docHTML none (.elem wrapperName AttrState.empty false kids')
      = docHTML none (.elem wrapperName AttrState.empty false (toNodeL (buildCL exForest))) :=
  roundtrip_multi_constructed exForest exForest_wf
    (toksOK_of_lexOK_multi _ exForest_wf exForest_lexOK exForest_noAdj) exForest_multi

/-- a parsed instance: the tokens of `<p class="a  b" CLASS=c>x</p>` (duplicate `class`: the last one wins) give a
    tree to which `roundtrip_single_parsed` applies -/
def exParsedToks : List Token :=
  [.start "p".toList [("class".toList, some "a  b".toList), ("CLASS".toList, some "c".toList)], .data "x".toList,
   .end_ "p".toList]

def exParsedRoot : LNode :=
  .elem "p".toList (intake [("class".toList, some "a  b".toList), ("CLASS".toList, some "c".toList)] AttrState.empty)
    false [.tok (.data "x".toList)]

theorem exParsed_feed : feedTokens exParsedToks = .doc ⟨none, some exParsedRoot.toNode⟩ false := by rfl

example : ∃ toks dt' parsed,
    lexStrict (docHTML none exParsedRoot.toNode) = some toks ∧
    feedTokens toks = .doc ⟨dt', some parsed⟩ false ∧
    parsed.obs = exParsedRoot.toNode.obs ∧
    docHTML dt' parsed = docHTML none exParsedRoot.toNode :=
  roundtrip_single_parsed exParsedToks none false none _ _ _ _ exParsed_feed (by decide)
    (toksOK_of_lexOK_single none _ _ _ _
      (parsed_lexical_normal_form exParsedToks _ false exParsed_feed exParsedRoot rfl)
      (by simp only [exParsedRoot, LNode.LexOK, LexOKL, NoAdjL, RawKidsOK, isDataTok]; decide +kernel) trivial)

/-- an API-built tree with the text of `exParsedRoot` split up and empty blocks around it -/
def exSplit : Node :=
  .elem "p".toList (intake [("class".toList, some "a  b".toList), ("CLASS".toList, some "c".toList)] AttrState.empty) false
    [.text [], .text "x".toList, .text []]

/-- it equals `exParsedRoot` up to text segmentation … -/
theorem exSplit_norm : exSplit.norm = exParsedRoot.toNode.norm := by
  simp [exSplit, Node.norm, normL, exParsedRoot, LNode.toNode, toNodeL, textOfD, Spec.textOf]

/-- … so `roundtrip_single_any_segmentation` applies: its hypotheses are satisfiable by a tree that is NOT in
    lexical normal form -/
example : ∃ toks dt' parsed,
    lexStrict (docHTML none exSplit) = some toks ∧
    feedTokens toks = .doc ⟨dt', some parsed⟩ false ∧
    parsed.norm = exSplit.reintake.norm ∧
    (exSplit.Stable → parsed.norm.obs = exSplit.norm.obs) :=
  roundtrip_single_any_segmentation none exSplit _ _ _ _ exSplit_norm
    (parsed_lexical_normal_form exParsedToks _ false exParsed_feed exParsedRoot rfl) (by decide)
    (toksOK_of_lexOK_single none _ _ _ _
      (parsed_lexical_normal_form exParsedToks _ false exParsed_feed exParsedRoot rfl)
      (by simp only [exParsedRoot, LNode.LexOK, LexOKL, NoAdjL, RawKidsOK, isDataTok]; decide +kernel) trivial)

end AHP.C01
