/-
  C07 — indexes are transparent: indexed search equals unindexed search.

  Model: AHP/Model/Index.lean (what the driver executes); invariant and helper lemmas: AHP/Lemmas/Index.lean,
  AHP/Lemmas/IndexInv.lean; specification of the searches: C06 (`fil pred scope`, `parserScope`).

  Reading guide.
    `Idx.Good i`      the state is well formed (reachable): `indexFunctions` mirrors the four flags; the two
                      dicts of the attribute indexes have the same keys.
    `IdxInv i doc`    every installed map lists, per key, exactly the matching elements of `doc` in document
                      order (`Idx.Holds i (creationOrder doc)`); maps of disabled indexes are not constrained
                      (they are never read).
    `Valid doc`       ids below the root are pairwise distinct (element identity).  Nothing is assumed about the
                      class lists: with a repeated name (`class="a a"`) the class map lists the element once per
                      occurrence (`classU`, as `_indexClassName` does) and the lookups' `TagCollection(...)`
                      de-duplicates (`Lemmas/IndexInv.lean`).
  C07a: parsing establishes `IdxInv` (the index is maintained while elements are created, in creation order).
  C07b: `reindex` with any arguments — hence `setRoot` — establishes it for any document however edited, from
        any reachable configuration (after `addIndexOnAttribute`, `removeIndexOnAttribute`, `disableIndexing`).
  C07c: under `IdxInv` every lookup, for every `root=` argument and both values of `useIndex`, returns what the
        unindexed search returns, which is the C06 specification.
  The `useIndex=False` leg.  `idxBy… i doc q arg false` IS the plain scan `by… q (.parser doc arg)` by definition
        (that is what the driver executes), so on that leg the `*_transparent` theorems compare the scan with itself.
        The code's leg is another function: the base-class loop re-enters the indexed override for every child
        (`idxBy…FB`, Model/Index.lean).  `*_fallback` prove that function equal to the plain scan under `IdxInv` —
        so the definitional leg is justified by a theorem, not by the definition.
-/
import AHP.Lemmas.IndexInv
import AHP.Props.C06
namespace AHP.C07
open AHP AHP.G3 AHP.G3.Idx

def IdxInv (i : Idx) (doc : Node) : Prop := Holds i (creationOrder doc)

/-- what the property presupposes of the document: element identity (`Node.Distinct`), nothing else -/
structure Valid (doc : Node) : Prop where
  distinct : doc.Distinct

/-! #### every reachable configuration is well formed -/

inductive Cfg where
  | addIndexOn (a : Str)
  | removeIndexOn (a : Str)
  | disable
  | reindex (doc : Node) (a b c d : Option Bool)
  | parse (doc : Node)

def applyCfg (i : Idx) : Cfg → Idx
  | .addIndexOn a => i.addIndexOn a
  | .removeIndexOn a => i.removeIndexOn a
  | .disable => i.disable
  | .reindex doc a b c d => i.reindex doc a b c d
  | .parse doc => i.parse doc

theorem reindex_good {i : Idx} (h : Good i) (doc : Node) (a b c d : Option Bool) : Good (i.reindex doc a b c d) := by
  simp only [Idx.reindex, indexRec_eq]
  exact fold_good (reset_good (i := { i with indexIDs := optSet i.indexIDs a, indexNames := optSet i.indexNames b })
    ⟨h.nodup, h.keys⟩) _  -- `Keys` of the state with the new flags: it reads `otherFns` and `other` only

theorem parse_good {i : Idx} (h : Good i) (doc : Node) : Good (i.parse doc) :=
  fold_good (reset_good h.toKeys) _

/-- All 16 flag combinations, any number of attribute indexes, any history of configuration operations. -/
theorem reachable_good (a b c d : Bool) (ops : List Cfg) : Good (ops.foldl applyCfg (Idx.init a b c d)) := by
  have key : ∀ (ops : List Cfg) (i : Idx), Good i → Good (ops.foldl applyCfg i) := by
    intro ops
    induction ops with
    | nil => intro i h; exact h
    | cons op ops ih =>
      intro i h
      apply ih
      cases op with
      | addIndexOn x => exact addIndexOn_good h x
      | removeIndexOn x => exact removeIndexOn_good h x
      | disable => exact disable_good h
      | reindex doc p q r s => exact reindex_good h doc p q r s
      | parse doc => exact parse_good h doc
  exact key ops _ (init_good a b c d)

/-! #### C07a — parsing maintains the index -/

/-- `parseStr` on a parser in any reachable configuration (also one that held another document before:
    `reset` clears every map): the index mirrors the new document. -/
theorem parse_inv {i : Idx} (h : Good i) (doc : Node) : IdxInv (i.parse doc) doc := by
  have := fold_holds (reset_good h.toKeys) (reset_holds i) (creationOrder doc)
  simpa [IdxInv, Idx.parse] using this

/-- The multi-root fallback: a first pass has indexed some elements `es` when `MultipleRootNodeException`
    is raised; `reset` and the second pass give an index that mirrors the (wrapper-rooted) document. -/
theorem parse_after_failed_pass {i : Idx} (h : Good i) (es : List Elem) (doc : Node) :
    IdxInv ((es.foldl indexTag i.resetInternal).parse doc) doc :=
  parse_inv (fold_good (reset_good h.toKeys) es) doc

/-! #### C07b — reindex, for every document and configuration -/

theorem reindex_inv {i : Idx} (h : Good i) (doc : Node) (a b c d : Option Bool) :
    IdxInv (i.reindex doc a b c d) doc := by
  simp only [IdxInv, Idx.reindex, indexRec_eq]
  have := fold_holds (reset_good (i := { i with indexIDs := optSet i.indexIDs a, indexNames := optSet i.indexNames b })
      ⟨h.nodup, h.keys⟩) (reset_holds _) (creationOrder doc)
  simpa using this

/-- what the class map holds after parse / reindex when the class index is on: under `c`, every element of the
    document once per occurrence of `c` in its class list (`class="a a"`: twice), in document order; for class
    lists without repeats that is the list of the matching elements (`classU_eq_matchU`) -/
theorem class_map_contents {i : Idx} {doc : Node} (hi : IdxInv i doc) (hf : i.fnClassNames = true) (c : Str) :
    assocGet i.classNameMap c = (creationOrder doc).flatMap (fun e => List.replicate (e.classes.count c) e.uid) :=
  hi.classes hf c

/-- `_indexTagRecursive` (reindex) and indexing at creation time (parse) build the same index. -/
theorem reindex_eq_parse (i : Idx) (doc : Node) : i.reindex doc none none none none = i.parse doc := by
  simp only [Idx.reindex, Idx.parse, indexRec_eq, optSet]

/-- `removeIndexOnAttribute` needs no reindex: the remaining maps still mirror the document. -/
theorem removeIndexOn_inv {i : Idx} {doc : Node} (h : IdxInv i doc) (a : Str) : IdxInv (i.removeIndexOn a) doc := by
  refine Holds.mk h.tags h.names h.classes h.ids fun b m hb hm v => ?_
  have hb' : b ∈ i.otherFns.filter (fun x => !(x == lower a)) := hb
  have hm' : (assocDel i.other (lower a)).lookup b = some m := hm
  have hne : b ≠ lower a := by simpa using (List.mem_filter.mp hb').2
  rw [assocDel_eq, Dict.lookup_del_ne hne] at hm'
  exact h.others b m (List.mem_filter.mp hb').1 hm' v

/-! #### C07c — every lookup equals the unindexed search and the specification -/

theorem scanRoot_mem {doc : Node} (arg : Option Node) (ha : ∀ r, arg = some r → r ∈ doc.preorder) :
    (handleRootArg doc arg).1 ∈ doc.preorder := by
  rcases handleRootArg_cases doc arg with ⟨h1, _⟩ | ⟨r, hr, h1, _⟩ <;> rw [h1]
  · rw [Node.preorder_eq]; exact List.mem_cons_self
  · exact ha r hr

theorem scanRoot_distinct {doc : Node} (hd : doc.Distinct) (arg : Option Node)
    (ha : ∀ r, arg = some r → r ∈ doc.preorder) : (scanRoot doc arg).Distinct :=
  distinct_of_mem hd _ (scanRoot_mem arg ha)

theorem scope_sublist {doc : Node} (arg : Option Node) (ha : ∀ r, arg = some r → r ∈ doc.preorder) :
    (parserScope doc arg).Sublist doc.preorder :=
  (parserScope_sublist doc arg).trans (preorder_sublist_of_mem doc _ (scanRoot_mem arg ha))

/-- The index path of the single-criterion lookups: restrict the document's matches to the subtree, wrap
    (`index_path`: the same from the map entry, before it is resolved in the document). -/
theorem index_path' {doc : Node} (hd : doc.Distinct) (p : Elem → Bool) (arg : Option Node)
    (ha : ∀ r, arg = some r → r ∈ doc.preorder) :
    (TC.ofList (restrict doc (handleRootArg doc arg).2 (handleRootArg doc arg).1
        (fil p doc.preorder))).items = fil p (parserScope doc arg) := by
  rw [restrict_parserScope hd p arg ha]
  exact TC.ofList_filter_items (uids_nodup_of_sublist (scope_sublist arg ha) hd) _

theorem resolve_fil {doc : Node} (hd : doc.Distinct) (p : Elem → Bool) :
    resolve doc (uidsOf (fil p doc.preorder)) = fil p doc.preorder :=
  resolve_uids hd (fun _ hy => (fil_sublist p _).subset hy)

theorem index_path {doc : Node} (hd : doc.Distinct) (p : Elem → Bool) (arg : Option Node)
    (ha : ∀ r, arg = some r → r ∈ doc.preorder) :
    (TC.ofList (restrict doc (handleRootArg doc arg).2 (handleRootArg doc arg).1
        (resolve doc (uidsOf (fil p doc.preorder))))).items = fil p (parserScope doc arg) := by
  rw [resolve_fil hd]; exact index_path' hd p arg ha

/-- `*_transparent`: `plain` is the plain scan, `spec` the specification (C06); `*_fallback`: `plain` is the leg as the
    model defines it, `spec` the plain scan, conjuncts in the other order. -/
private theorem eq_plain_and_spec {α : Type} {idx plain spec : α} (hplain : plain = spec) (h : idx = spec) :
    idx = plain ∧ idx = spec := ⟨h.trans hplain.symm, h⟩

/-- getElementsByTagName. -/
theorem byTagName_transparent {i : Idx} (hg : Good i) {doc : Node} (hi : IdxInv i doc) (hd : doc.Distinct)
    (q : Str) (arg : Option Node) (ha : ∀ r, arg = some r → r ∈ doc.preorder) (useIndex : Bool) :
    (idxByTagName i doc q arg useIndex).items = (byTagName q (.parser doc arg)).items ∧
    (idxByTagName i doc q arg useIndex).items = fil (pTag q) (parserScope doc arg) := by
  have hplain := C06.byTagName_parser q doc arg (scanRoot_distinct hd arg ha)
  refine eq_plain_and_spec hplain ?_
  simp only [idxByTagName]
  split
  · rename_i hu
    rw [hi.tags (hg.sync.2.2.2 ▸ (Bool.and_eq_true_iff.mp hu).2) q, matchU_creationOrder]
    exact index_path hd _ arg ha
  · exact hplain

/-- getElementsByName (searched value non-empty). -/
theorem byName_transparent {i : Idx} (hg : Good i) {doc : Node} (hi : IdxInv i doc) (hd : doc.Distinct)
    (q : Str) (hq : q ≠ []) (arg : Option Node) (ha : ∀ r, arg = some r → r ∈ doc.preorder) (useIndex : Bool) :
    (idxByName i doc q arg useIndex).items = (byName q (.parser doc arg)).items ∧
    (idxByName i doc q arg useIndex).items = fil (pAttr (str "name") q) (parserScope doc arg) := by
  have hplain := C06.byName_parser q hq doc arg (scanRoot_distinct hd arg ha)
  refine eq_plain_and_spec hplain ?_
  simp only [idxByName]
  split
  · rename_i hu
    rw [hi.names (hg.sync.2.1 ▸ (Bool.and_eq_true_iff.mp hu).2) q hq, matchU_creationOrder]
    exact index_path hd _ arg ha
  · exact hplain

/-- getElementsByAttr, with or without an index on that attribute. -/
theorem byAttr_transparent {i : Idx} (hg : Good i) {doc : Node} (hi : IdxInv i doc) (hd : doc.Distinct)
    (a v : Str) (arg : Option Node) (ha : ∀ r, arg = some r → r ∈ doc.preorder) (useIndex : Bool) :
    (idxByAttr i doc a v arg useIndex).items = (byAttr a v (.parser doc arg)).items ∧
    (idxByAttr i doc a v arg useIndex).items = fil (pAttr a v) (parserScope doc arg) := by
  have hplain := C06.byAttr_parser a v doc arg (scanRoot_distinct hd arg ha)
  refine eq_plain_and_spec hplain ?_
  simp only [idxByAttr]
  split
  · rename_i m hm
    rw [other_entry hg hi hm v]
    exact index_path hd _ arg ha
  · exact hplain

/-- getElementsByClassName with the names `c :: rest`. -/
theorem byClassName_transparent {i : Idx} (hg : Good i) {doc : Node} (hi : IdxInv i doc) (hd : doc.Distinct)
    (q c : Str) (rest : List Str) (hw : classWords q = c :: rest)
    (arg : Option Node) (ha : ∀ r, arg = some r → r ∈ doc.preorder) (useIndex : Bool) :
    ∃ r, idxByClassName i doc q arg useIndex = some r ∧
      r.items = fil (pAllClasses (c :: rest)) (parserScope doc arg) ∧
      (byClassName q (.parser doc arg)).map TC.items = some r.items := by
  obtain ⟨rp, hrp, hitems⟩ := C06.byClassName_parser q c rest hw doc arg (scanRoot_distinct hd arg ha)
  simp only [idxByClassName]
  split
  · rename_i hu
    have hf : i.fnClassNames = true := hg.sync.2.2.1 ▸ (Bool.and_eq_true_iff.mp hu).2
    simp only [hw]
    have key : (TC.ofList (restrict doc (handleRootArg doc arg).2 (handleRootArg doc arg).1
        (if rest.isEmpty = true then resolve doc (assocGet i.classNameMap c)
         else (resolve doc (assocGet i.classNameMap c)).filter (fun n => pAllClasses rest n.elem)))).items
        = fil (pAllClasses (c :: rest)) (parserScope doc arg) := by
      rw [hi.classes hf c, resolve_classRep hd, classPath_dedup hd, first_then_rest]
      exact index_path' hd _ arg ha
    exact ⟨_, rfl, key, by rw [hrp, Option.map_some, hitems, key]⟩
  · exact ⟨rp, hrp, hitems, by rw [hrp]; rfl⟩

/-- getElementById (ids unique, searched value non-empty — as the property says). -/
theorem byId_transparent {i : Idx} (hg : Good i) {doc : Node} (hi : IdxInv i doc) (hd : doc.Distinct)
    (q : Str) (hq : q ≠ []) (huniq : (fil (pAttr (str "id") q) doc.preorder).length ≤ 1)
    (arg : Option Node) (ha : ∀ r, arg = some r → r ∈ doc.preorder) (useIndex : Bool) :
    idxById i doc q arg useIndex = byId q (.parser doc arg) ∧
    idxById i doc q arg useIndex = (fil (pAttr (str "id") q) (parserScope doc arg)).head? := by
  have hplain := C06.byId_parser q hq doc arg
  refine eq_plain_and_spec hplain ?_
  simp only [idxById]
  split
  · rename_i hu
    rw [hi.ids (hg.sync.1 ▸ (Bool.and_eq_true_iff.mp hu).2) q hq, matchU_creationOrder,
      resolve_unique hd (fun x hx => (fil_sublist _ _).subset hx) huniq, ← restrict_parserScope hd _ arg ha,
      restrict_eq_filter, ← head?_guard huniq]
    simp only [Bool.not_or]
    rfl
  · exact hplain

/-- `value in set` on a possibly missing attribute. -/
theorem pVals_iff (a : Str) (vs : List Str) (e : Elem) : pVals a vs e = true ↔ ∃ v ∈ vs, e.attr a = some v := by
  simp only [pVals, optIn]
  cases e.attr a with
  | none => simp
  | some w => simp

theorem vals_fold {doc : Node} (hd : doc.Distinct) (m : List (Str × List Nat)) (a : Str)
    (hm : ∀ v, assocGet m v = uidsOf (fil (pAttr a v) doc.preorder)) (vs : List Str) (acc : TC) :
    vs.foldl (fun (acc : TC) v => acc.iadd (TC.ofList (resolve doc (assocGet m v))).items) acc
      = acc.iadd (vs.flatMap (fun v => fil (pAttr a v) doc.preorder)) := by
  have : ∀ v, (TC.ofList (resolve doc (assocGet m v))).items = fil (pAttr a v) doc.preorder :=
    fun v => by rw [hm v, resolve_fil hd]; exact TC.ofList_filter_items hd _
  simp only [this, TC.foldl_iadd]

/-- getElementsWithAttrValues: answered from an attribute index the result is the same *set* of elements,
    each once (grouped by value instead of document order); otherwise it is the plain search itself. -/
theorem withAttrValues_transparent {i : Idx} (hg : Good i) {doc : Node} (hi : IdxInv i doc) (hd : doc.Distinct)
    (a : Str) (vs : List Str) (arg : Option Node) (ha : ∀ r, arg = some r → r ∈ doc.preorder) (useIndex : Bool) :
    (idxWithAttrValues i doc a vs arg useIndex).ids.Nodup ∧
    ∀ u, u ∈ (idxWithAttrValues i doc a vs arg useIndex).ids ↔
         u ∈ uidsOf (fil (pVals a vs) (parserScope doc arg)) := by
  simp only [idxWithAttrValues]
  split
  · rename_i m hm
    -- the answer is `restrict` of `TagCollection(X)`, `X` the matches of the document grouped by value
    rw [vals_fold hd m a (other_entry hg hi hm) vs TC.empty]
    generalize hX : vs.flatMap (fun v => fil (pAttr a v) doc.preorder) = X
    have hXmem : ∀ n, n ∈ X ↔ n ∈ fil (pVals a vs) doc.preorder := by
      intro n
      simp only [← hX, fil, List.mem_flatMap, List.mem_filter, pVals_iff, pAttr_eq]
      exact ⟨fun ⟨v, hv, hn, hav⟩ => ⟨hn, v, hv, hav⟩, fun ⟨hn, v, hv, hav⟩ => ⟨v, hv, hn, hav⟩⟩
    have hE : (TC.empty.iadd X).items = dedupN [] X := (TC.ofList_spec X).2
    have hEn : (uidsOf (dedupN [] X)).Nodup := nodup_dedupN _ _
    have hitems : (if (handleRootArg doc arg).2 = true then TC.empty.iadd X
          else TC.ofList ((TC.empty.iadd X).items.filter
            (fun x => hasTagInParentLine doc x.uid (handleRootArg doc arg).1))).items
        = restrict doc (handleRootArg doc arg).2 (handleRootArg doc arg).1 (dedupN [] X) := by
      rw [hE]
      split <;> rename_i hr <;> simp only [restrict, hr, if_true]
      · exact hE
      · exact TC.ofList_filter_items hEn _
    simp only [TC.ids, hitems]
    refine ⟨uids_nodup_of_sublist (by rw [restrict_eq_filter]; exact List.filter_sublist) hEn, fun u => ?_⟩
    rw [← restrict_parserScope hd _ arg ha]
    simp only [restrict_eq_filter, uidsOf, List.mem_map, List.mem_filter,
      mem_dedupN_iff hd (fun x hx => (fil_sublist _ _).subset ((hXmem x).mp hx)), hXmem]
  · rw [TC.ids, C06.withAttrValues_parser a vs doc arg (scanRoot_distinct hd arg ha)]
    exact ⟨uids_nodup_of_sublist ((fil_sublist _ _).trans (scope_sublist arg ha)) hd, fun _ => Iff.rfl⟩

/-- The unindexed answer for the same query is that set in document order (C06). -/
theorem withAttrValues_plain {doc : Node} (hd : doc.Distinct) (a : Str) (vs : List Str) (arg : Option Node)
    (ha : ∀ r, arg = some r → r ∈ doc.preorder) (i : Idx) :
    (idxWithAttrValues i doc a vs arg false).items = fil (pVals a vs) (parserScope doc arg) := by
  simp only [idxWithAttrValues, Bool.false_eq_true, if_false]
  exact C06.withAttrValues_parser a vs doc arg (scanRoot_distinct hd arg ha)

/-! #### the `useIndex=False` leg as the code has it: the base-class loop re-enters the indexed override -/

/-- `getElementsByTagName(q, root, useIndex=False)` on the indexed parser — the base-class method whose loop calls
    `self.getElementsByTagName(q, child)`, i.e. the indexed override — returns the plain scan's collection. -/
theorem byTagName_fallback {i : Idx} (hg : Good i) {doc : Node} (hi : IdxInv i doc) (hd : doc.Distinct)
    (q : Str) (arg : Option Node) (ha : ∀ r, arg = some r → r ∈ doc.preorder) :
    idxByTagNameFB i doc q arg = byTagName q (.parser doc arg) ∧
    idxByTagNameFB i doc q arg = idxByTagName i doc q arg false := by
  refine (eq_plain_and_spec (by simp [idxByTagName]) ?_).symm
  simp only [idxByTagNameFB, byTagName]
  apply scanFB_eq_scanP _ _ _ (scanRoot_mem arg ha) hd
  intro hu k hk
  rw [hi.tags (hg.sync.2.2.2 ▸ hu) q, matchU_creationOrder]
  exact indexed_child hd _ hk

/-- `getElementsByName(…, useIndex=False)` (searched value non-empty) -/
theorem byName_fallback {i : Idx} (hg : Good i) {doc : Node} (hi : IdxInv i doc) (hd : doc.Distinct)
    (q : Str) (hq : q ≠ []) (arg : Option Node) (ha : ∀ r, arg = some r → r ∈ doc.preorder) :
    idxByNameFB i doc q arg = byName q (.parser doc arg) ∧
    idxByNameFB i doc q arg = idxByName i doc q arg false := by
  refine (eq_plain_and_spec (by simp [idxByName]) ?_).symm
  simp only [idxByNameFB, byName]
  apply scanFB_eq_scanP _ _ _ (scanRoot_mem arg ha) hd
  intro hu k hk
  rw [hi.names (hg.sync.2.1 ▸ hu) q hq, matchU_creationOrder]
  exact indexed_child hd _ hk

/-- `getElementsByAttr(…, useIndex=False)`: the re-entered call uses the attribute index iff the attribute is indexed -/
theorem byAttr_fallback {i : Idx} (hg : Good i) {doc : Node} (hi : IdxInv i doc) (hd : doc.Distinct)
    (a v : Str) (arg : Option Node) (ha : ∀ r, arg = some r → r ∈ doc.preorder) :
    idxByAttrFB i doc a v arg = byAttr a v (.parser doc arg) ∧
    idxByAttrFB i doc a v arg = idxByAttr i doc a v arg false := by
  refine (eq_plain_and_spec (by simp [idxByAttr]) ?_).symm
  simp only [idxByAttrFB, byAttr]
  apply scanFB_eq_scanP _ _ _ (scanRoot_mem arg ha) hd
  intro hu k hk
  obtain ⟨m, hl⟩ := Option.isSome_iff_exists.mp hu
  rw [hl, Option.getD_some, other_entry (useIndex := true) hg hi hl v]
  exact indexed_child hd _ hk

/-- `getElementsByClassName(…, useIndex=False)`: the base class scans for the first name through the re-entering
    loop (the re-entered call answers from the class map — repeated names included —, restricted to the child),
    then filters by the other names -/
theorem byClassName_fallback {i : Idx} (hg : Good i) {doc : Node} (hi : IdxInv i doc) (hd : doc.Distinct)
    (q : Str) (arg : Option Node) (ha : ∀ r, arg = some r → r ∈ doc.preorder) :
    idxByClassNameFB i doc q arg = byClassName q (.parser doc arg) ∧
    idxByClassNameFB i doc q arg = idxByClassName i doc q arg false := by
  refine (eq_plain_and_spec (by simp [idxByClassName]) ?_).symm
  simp only [idxByClassNameFB, byClassName]
  cases hw : classWords q with
  | nil => rfl
  | cons c rest =>
    simp only
    rw [reenterL_eq_descScanL _ (scanRoot_mem arg ha) hd]
    intro hu k hk
    rw [hi.classes (hg.sync.2.2.1 ▸ hu) c, resolve_classRep hd]
    have := classPath_dedup hd c [] false k
    simp only [List.isEmpty_nil, if_true] at this
    rw [this, ← resolve_fil hd]
    exact indexed_child hd _ hk

/-- the index branch of a re-entered `getElementById(q, child)`: with the id unique in the document, the first
    match below the child -/
theorem byId_indexed_child {i : Idx} {doc : Node} (hi : IdxInv i doc) (hd : doc.Distinct) (hf : i.fnIDs = true)
    (q : Str) (hq : q ≠ []) (huniq : (fil (pAttr (str "id") q) doc.preorder).length ≤ 1) {k : Node}
    (hk : k ∈ doc.preorder) :
    idIndexedAt i doc q k = (fil (pAttr (str "id") q) k.desc).head? := by
  unfold idIndexedAt
  rw [hi.ids hf q hq, matchU_creationOrder, resolve_unique hd (fun x hx => (fil_sublist _ _).subset hx) huniq,
    ← restrict_desc hd hk, ← head?_guard huniq]
  rfl

/-- `getElementById(…, useIndex=False)` (id unique and non-empty — as the property says) -/
theorem byId_fallback {i : Idx} (hg : Good i) {doc : Node} (hi : IdxInv i doc) (hd : doc.Distinct)
    (q : Str) (hq : q ≠ []) (huniq : (fil (pAttr (str "id") q) doc.preorder).length ≤ 1)
    (arg : Option Node) (ha : ∀ r, arg = some r → r ∈ doc.preorder) :
    idxByIdFB i doc q arg = byId q (.parser doc arg) ∧
    idxByIdFB i doc q arg = idxById i doc q arg false := by
  refine (eq_plain_and_spec (by simp [idxById]) ?_).symm
  simp only [idxByIdFB, byId, firstP]
  have hr := scanRoot_mem arg ha
  have hH : i.indexIDs = true → ∀ k ∈ doc.preorder,
      idIndexedAt i doc q k = (fil (pAttr (str "id") q) k.desc).head? :=
    fun hu k hk => byId_indexed_child hi hd (hg.sync.1 ▸ hu) q hq huniq hk
  have := reenterFirstL_eq (root := doc) hH (handleRootArg doc arg).1.kids (mem_preorder_of_mem_desc hr)
  rw [this]
  cases hn : (handleRootArg doc arg).1 with
  | mk e ks => simp [descFirst, Node.kids]

/-- `getElementsWithAttrValues(…, useIndex=False)` does not re-enter the override (the base class delegates to the
    element form): this leg of the model is the code's, literally. -/
theorem withAttrValues_fallback (i : Idx) (doc : Node) (a : Str) (vs : List Str) (arg : Option Node) :
    idxWithAttrValues i doc a vs arg false = withAttrValues a vs (.parser doc arg) := by
  simp [idxWithAttrValues]

/-! #### the whole class: a parser in any configuration, after parse or reindex, answers as the plain search -/

theorem addIndexes_good (a b c d : Bool) (attrs : List Str) : Good (attrs.foldl Idx.addIndexOn (Idx.init a b c d)) := by
  have key : ∀ (attrs : List Str) (j : Idx), Good j → Good (attrs.foldl Idx.addIndexOn j) := by
    intro attrs
    induction attrs with
    | nil => intro j h; exact h
    | cons x xs ih => intro j h; exact ih _ (addIndexOn_good h x)
  exact key attrs _ (init_good a b c d)

/-- Right after parsing — all 16 flag combinations, any attribute indexes added before, ANY document (repeated class
    names included) — the state is well formed and the index mirrors the document. -/
theorem after_parse_state (a b c d : Bool) (attrs : List Str) (doc : Node) :
    Good ((attrs.foldl Idx.addIndexOn (Idx.init a b c d)).parse doc) ∧
    IdxInv ((attrs.foldl Idx.addIndexOn (Idx.init a b c d)).parse doc) doc :=
  ⟨parse_good (addIndexes_good a b c d attrs) doc, parse_inv (addIndexes_good a b c d attrs) doc⟩

/-- After any edit history (the document is whatever it is now) and any reconfiguration, `reindex` — with or without
    new flags — re-establishes both. -/
theorem after_reindex_state {i : Idx} (hg : Good i) (doc : Node) (na nb nc nd : Option Bool) :
    Good (i.reindex doc na nb nc nd) ∧ IdxInv (i.reindex doc na nb nc nd) doc :=
  ⟨reindex_good hg doc na nb nc nd, reindex_inv hg doc na nb nc nd⟩

/-- Right after parsing, for all 16 flag combinations, any attribute indexes added before, any query.
    (This theorem: `getElementsByTagName`; `after_parse_by*` / `after_parse_withAttrValues`: the other lookups.) -/
theorem after_parse (a b c d : Bool) (attrs : List Str) {doc : Node} (hv : Valid doc)
    (q : Str) (arg : Option Node) (ha : ∀ r, arg = some r → r ∈ doc.preorder) (useIndex : Bool) :
    let i := (attrs.foldl Idx.addIndexOn (Idx.init a b c d)).parse doc
    (idxByTagName i doc q arg useIndex).items = (byTagName q (.parser doc arg)).items := by
  intro i
  have hs := after_parse_state a b c d attrs doc
  exact (byTagName_transparent hs.1 hs.2 hv.distinct q arg ha useIndex).1

theorem after_parse_byName (a b c d : Bool) (attrs : List Str) {doc : Node} (hv : Valid doc)
    (q : Str) (hq : q ≠ []) (arg : Option Node) (ha : ∀ r, arg = some r → r ∈ doc.preorder) (useIndex : Bool) :
    let i := (attrs.foldl Idx.addIndexOn (Idx.init a b c d)).parse doc
    (idxByName i doc q arg useIndex).items = (byName q (.parser doc arg)).items ∧
    (idxByName i doc q arg useIndex).items = fil (pAttr (str "name") q) (parserScope doc arg) := by
  intro i
  have hs := after_parse_state a b c d attrs doc
  exact byName_transparent hs.1 hs.2 hv.distinct q hq arg ha useIndex

theorem after_parse_byAttr (a b c d : Bool) (attrs : List Str) {doc : Node} (hv : Valid doc)
    (k v : Str) (arg : Option Node) (ha : ∀ r, arg = some r → r ∈ doc.preorder) (useIndex : Bool) :
    let i := (attrs.foldl Idx.addIndexOn (Idx.init a b c d)).parse doc
    (idxByAttr i doc k v arg useIndex).items = (byAttr k v (.parser doc arg)).items ∧
    (idxByAttr i doc k v arg useIndex).items = fil (pAttr k v) (parserScope doc arg) := by
  intro i
  have hs := after_parse_state a b c d attrs doc
  exact byAttr_transparent hs.1 hs.2 hv.distinct k v arg ha useIndex

/-- class queries: documents with repeated class names included -/
theorem after_parse_byClassName (a b c d : Bool) (attrs : List Str) {doc : Node} (hv : Valid doc)
    (q w : Str) (rest : List Str) (hw : classWords q = w :: rest)
    (arg : Option Node) (ha : ∀ r, arg = some r → r ∈ doc.preorder) (useIndex : Bool) :
    let i := (attrs.foldl Idx.addIndexOn (Idx.init a b c d)).parse doc
    ∃ r, idxByClassName i doc q arg useIndex = some r ∧
      r.items = fil (pAllClasses (w :: rest)) (parserScope doc arg) ∧
      (byClassName q (.parser doc arg)).map TC.items = some r.items := by
  intro i
  have hs := after_parse_state a b c d attrs doc
  exact byClassName_transparent hs.1 hs.2 hv.distinct q w rest hw arg ha useIndex

theorem after_parse_byId (a b c d : Bool) (attrs : List Str) {doc : Node} (hv : Valid doc)
    (q : Str) (hq : q ≠ []) (huniq : (fil (pAttr (str "id") q) doc.preorder).length ≤ 1)
    (arg : Option Node) (ha : ∀ r, arg = some r → r ∈ doc.preorder) (useIndex : Bool) :
    let i := (attrs.foldl Idx.addIndexOn (Idx.init a b c d)).parse doc
    idxById i doc q arg useIndex = byId q (.parser doc arg) ∧
    idxById i doc q arg useIndex = (fil (pAttr (str "id") q) (parserScope doc arg)).head? := by
  intro i
  have hs := after_parse_state a b c d attrs doc
  exact byId_transparent hs.1 hs.2 hv.distinct q hq huniq arg ha useIndex

theorem after_parse_withAttrValues (a b c d : Bool) (attrs : List Str) {doc : Node} (hv : Valid doc)
    (k : Str) (vs : List Str) (arg : Option Node) (ha : ∀ r, arg = some r → r ∈ doc.preorder) (useIndex : Bool) :
    let i := (attrs.foldl Idx.addIndexOn (Idx.init a b c d)).parse doc
    (idxWithAttrValues i doc k vs arg useIndex).ids.Nodup ∧
    ∀ u, u ∈ (idxWithAttrValues i doc k vs arg useIndex).ids ↔ u ∈ uidsOf (fil (pVals k vs) (parserScope doc arg)) := by
  intro i
  have hs := after_parse_state a b c d attrs doc
  exact withAttrValues_transparent hs.1 hs.2 hv.distinct k vs arg ha useIndex

/-- After any edit history (the document is whatever it is now) and any reconfiguration, `reindex` — with
    or without new flags — makes every lookup transparent again.
    (This theorem: `getElementsByTagName`; `after_reindex_by*` / `after_reindex_withAttrValues`: the other lookups.) -/
theorem after_reindex {i : Idx} (hg : Good i) {doc : Node} (hv : Valid doc) (na nb nc nd : Option Bool)
    (q : Str) (arg : Option Node) (ha : ∀ r, arg = some r → r ∈ doc.preorder) (useIndex : Bool) :
    (idxByTagName (i.reindex doc na nb nc nd) doc q arg useIndex).items = (byTagName q (.parser doc arg)).items :=
  (byTagName_transparent (reindex_good hg doc na nb nc nd) (reindex_inv hg doc na nb nc nd) hv.distinct
    q arg ha useIndex).1

theorem after_reindex_byName {i : Idx} (hg : Good i) {doc : Node} (hv : Valid doc) (na nb nc nd : Option Bool)
    (q : Str) (hq : q ≠ []) (arg : Option Node) (ha : ∀ r, arg = some r → r ∈ doc.preorder) (useIndex : Bool) :
    (idxByName (i.reindex doc na nb nc nd) doc q arg useIndex).items = (byName q (.parser doc arg)).items ∧
    (idxByName (i.reindex doc na nb nc nd) doc q arg useIndex).items
      = fil (pAttr (str "name") q) (parserScope doc arg) :=
  have hs := after_reindex_state hg doc na nb nc nd
  byName_transparent hs.1 hs.2 hv.distinct q hq arg ha useIndex

theorem after_reindex_byAttr {i : Idx} (hg : Good i) {doc : Node} (hv : Valid doc) (na nb nc nd : Option Bool)
    (k v : Str) (arg : Option Node) (ha : ∀ r, arg = some r → r ∈ doc.preorder) (useIndex : Bool) :
    (idxByAttr (i.reindex doc na nb nc nd) doc k v arg useIndex).items = (byAttr k v (.parser doc arg)).items ∧
    (idxByAttr (i.reindex doc na nb nc nd) doc k v arg useIndex).items = fil (pAttr k v) (parserScope doc arg) :=
  have hs := after_reindex_state hg doc na nb nc nd
  byAttr_transparent hs.1 hs.2 hv.distinct k v arg ha useIndex

theorem after_reindex_byClassName {i : Idx} (hg : Good i) {doc : Node} (hv : Valid doc) (na nb nc nd : Option Bool)
    (q w : Str) (rest : List Str) (hw : classWords q = w :: rest)
    (arg : Option Node) (ha : ∀ r, arg = some r → r ∈ doc.preorder) (useIndex : Bool) :
    ∃ r, idxByClassName (i.reindex doc na nb nc nd) doc q arg useIndex = some r ∧
      r.items = fil (pAllClasses (w :: rest)) (parserScope doc arg) ∧
      (byClassName q (.parser doc arg)).map TC.items = some r.items :=
  have hs := after_reindex_state hg doc na nb nc nd
  byClassName_transparent hs.1 hs.2 hv.distinct q w rest hw arg ha useIndex

theorem after_reindex_byId {i : Idx} (hg : Good i) {doc : Node} (hv : Valid doc) (na nb nc nd : Option Bool)
    (q : Str) (hq : q ≠ []) (huniq : (fil (pAttr (str "id") q) doc.preorder).length ≤ 1)
    (arg : Option Node) (ha : ∀ r, arg = some r → r ∈ doc.preorder) (useIndex : Bool) :
    idxById (i.reindex doc na nb nc nd) doc q arg useIndex = byId q (.parser doc arg) ∧
    idxById (i.reindex doc na nb nc nd) doc q arg useIndex
      = (fil (pAttr (str "id") q) (parserScope doc arg)).head? :=
  have hs := after_reindex_state hg doc na nb nc nd
  byId_transparent hs.1 hs.2 hv.distinct q hq huniq arg ha useIndex

theorem after_reindex_withAttrValues {i : Idx} (hg : Good i) {doc : Node} (hv : Valid doc) (na nb nc nd : Option Bool)
    (k : Str) (vs : List Str) (arg : Option Node) (ha : ∀ r, arg = some r → r ∈ doc.preorder) (useIndex : Bool) :
    (idxWithAttrValues (i.reindex doc na nb nc nd) doc k vs arg useIndex).ids.Nodup ∧
    ∀ u, u ∈ (idxWithAttrValues (i.reindex doc na nb nc nd) doc k vs arg useIndex).ids ↔
         u ∈ uidsOf (fil (pVals k vs) (parserScope doc arg)) :=
  have hs := after_reindex_state hg doc na nb nc nd
  withAttrValues_transparent hs.1 hs.2 hv.distinct k vs arg ha useIndex

/-- the `useIndex=False` leg after parse, as the code has it, for every class query (the other four likewise by
    `by*_fallback` with `after_parse_state`) -/
theorem after_parse_fallback (a b c d : Bool) (attrs : List Str) {doc : Node} (hv : Valid doc)
    (q : Str) (arg : Option Node) (ha : ∀ r, arg = some r → r ∈ doc.preorder) :
    let i := (attrs.foldl Idx.addIndexOn (Idx.init a b c d)).parse doc
    idxByTagNameFB i doc q arg = byTagName q (.parser doc arg) ∧
    idxByClassNameFB i doc q arg = byClassName q (.parser doc arg) ∧
    (∀ v, idxByAttrFB i doc q v arg = byAttr q v (.parser doc arg)) := by
  intro i
  have hs := after_parse_state a b c d attrs doc
  exact ⟨(byTagName_fallback hs.1 hs.2 hv.distinct q arg ha).1, (byClassName_fallback hs.1 hs.2 hv.distinct q arg ha).1,
    fun v => (byAttr_fallback hs.1 hs.2 hv.distinct q v arg ha).1⟩

/-! #### Non-vacuity -/
section Examples
open C06
def cfgX : Idx := ((Idx.init true true true true).addIndexOn (str "title")).parse docX

example : docX.Distinct ∧ ClassesNodup docX := by
  refine ⟨by unfold Node.Distinct; decide +kernel, ?_⟩
  intro e he
  simp only [creationOrder, creationOrderL, docX, List.mem_cons, List.append_nil, List.mem_nil_iff, or_false] at he
  rcases he with rfl | rfl | rfl <;> decide +kernel
example : (idxByTagName cfgX docX (str "p") none true).ids = [1, 2] := by decide +kernel
example : (idxByClassName cfgX docX (str "b  a") (some (.mk eB [.mk eC []])) true).map TC.ids = some [2] := by decide +kernel
example : (idxById cfgX docX (str "r") none true).map Node.uid = some 0 := by decide +kernel

/-- a document with repeated class names (`<div class="a a"><p class="b a b"><p class="a"></p></p></div>`): it is
    `Valid`, the class map lists an element once per occurrence, the lookups list it once -/
def eR0 : Elem := ⟨0, str "div", [(str "id", str "r")], [str "a", str "a"], []⟩
def eR1 : Elem := ⟨1, str "p", [], [str "b", str "a", str "b"], []⟩
def eR2 : Elem := ⟨2, str "p", [], [str "a"], []⟩
def docR : Node := .mk eR0 [.mk eR1 [.mk eR2 []]]
def cfgR : Idx := (Idx.init true true true true).parse docR
example : Valid docR := ⟨by unfold Node.Distinct; decide +kernel⟩
example : ¬ ClassesNodup docR := by
  intro h
  exact absurd (h eR0 (by simp [creationOrder, docR])) (by decide +kernel)
example : assocGet cfgR.classNameMap (str "a") = [0, 0, 1, 2] ∧ assocGet cfgR.classNameMap (str "b") = [1, 1] := by decide +kernel
example : (idxByClassName cfgR docR (str "a") none true).map TC.ids = some [0, 1, 2] := by decide +kernel
example : (idxByClassName cfgR docR (str "a b") none true).map TC.ids = some [1] := by decide +kernel
example : (idxByClassName cfgR docR (str "a") (some (.mk eR1 [.mk eR2 []])) true).map TC.ids = some [2] := by decide +kernel
/-- the `useIndex=False` leg as the code runs it (re-entering the index below the first level), on the same document -/
example : (idxByClassNameFB cfgR docR (str "a") none).map TC.ids = some [0, 1, 2] := by decide +kernel
example : (idxByTagNameFB cfgR docR (str "p") none).ids = [1, 2] := by decide +kernel
example : (idxByIdFB cfgR docR (str "r") none).map Node.uid = some 0 := by decide +kernel
/-- … and with a STALE index (`IdxInv` fails: the maps were built for another document) the code's leg is not the plain
    scan — the hypothesis of `*_fallback` is needed, the leg is not definitional in the code -/
example : (idxByTagNameFB ((Idx.init true true true true).parse (.mk eR0 [])) docR (str "p") none).ids = [1]
    ∧ (byTagName (str "p") (.parser docR none)).ids = [1, 2] := by decide +kernel
end Examples

end AHP.C07
