/-
  C02 — Best-effort tree construction follows the token sequence, however nested.

  Property theorems, and in front of `feed_eq_spec` the lemma it rests on (`wrapped_pass`: the second pass against the
  specification).  Model: AHP/Model/Builder.lean (the handlers of Parser.py as a stack machine,
  `feedTokens` = first pass + wrapper fallback).  Specification: AHP/Spec/Build.lean (recursive descent,
  no stack).
  The labels C02a–d, f, g name the parts of this file; the design text uses the same letters.
-/
import AHP.Lemmas.BuilderSpec
import AHP.Lemmas.TotalBuilder
import AHP.Lemmas.WrapStr
import AHP.Lemmas.WrapLexFeed
import AHP.Lemmas.StripIERender
import AHP.Lemmas.ParserObj
import AHP.Lemmas.ParserObjDoctype
import AHP.Lemmas.IntakeStableObs
namespace AHP.C02
open AHP AHP.Spec

/-- the input does not mention the reserved wrapper name (outside the property's domain) -/
def NoWrapper (toks : List Token) : Prop := ∀ t ∈ toks, mentionsWrapper t = false

instance (toks : List Token) : Decidable (NoWrapper toks) :=
  inferInstanceAs (Decidable (∀ t ∈ toks, mentionsWrapper t = false))

/-! #### table obligation: the specification's void list is the source's -/
theorem void_table (n : Str) : AHP.isVoid n = Spec.isVoid n := isVoid_eq n
theorem wrapper_is_not_void : Spec.isVoid wrapperName = false := by decide +kernel

theorem doctype_fold (toks : List Token) (s s' : BState) (h : run s toks = .ok s') :
    s'.doctype = toks.foldl Spec.doctypeStep s.doctype := by
  rw [run_eq] at h
  cases hr : runT s.tree toks <;> rw [hr] at h <;> simp [Outcome.map] at h
  rw [← h, stepD_eq_spec]

private theorem fold_wrap (toks : List Token) :
    (wrapToks toks).foldl stepD none = toks.foldl stepD none := by
  obtain ⟨pre, e, _, h⟩ := wrapToks_shape toks
  rw [h]; conv => rhs; rw [e]
  simp [List.foldl_append, stepD]

/-- the wrapped pass: everything the input contains becomes content of the wrapper, whatever it is -/
theorem wrapped_pass (ts : List Token) (hw : NoWrapper ts) (k : Nat) (hk : ts.length < k) :
    (runT TState.init (.start wrapperName [] :: ts ++ [.end_ wrapperName])).fin
      = .ok ⟨[], some (.elem wrapperName AttrState.empty false (items k [] ts).1)⟩ := by
  -- the wrapped text is a single-root document whose root is the wrapper (`runT_prolog`); the content of the
  -- wrapper stops at its own end tag and nowhere before (`items_append_stop`)
  have hwm : ∀ t ∈ ts, (match t with
      | .start n _ => lower n ≠ wrapperName | .startend n _ => lower n ≠ wrapperName
      | .end_ n => n ≠ wrapperName | _ => True) := by
    intro t ht
    have := hw t ht
    cases t <;> simp_all [mentionsWrapper]
  have hc := items_append_stop wrapperName (ts.length + 3) [] ts (by simp) hwm
  have hrest : (items (ts.length + 3) [] ts).2 = [] := by
    rcases (items_rest (ts.length + 3) [] ts (by omega)).1 with h | ⟨m, r2, _, hm⟩
    · exact h
    · cases hm
  rw [runT_prolog (ts.length + 4) _ (by simp)]
  simp only [List.cons_append, single, wrapper_lower, wrapper_is_not_void, Bool.false_eq_true, if_false]
  rw [List.nil_append] at hc
  rw [hc, hrest, items_fuel _ k [] ts (by omega) hk]
  simp [afterContent, epilogOk, intake]

/-- **C02a.** For every token sequence — any order, however badly nested — that does not mention the
    reserved wrapper name, the parser (first pass, and the wrapper fallback when the first pass meets a
    second top-level node) builds exactly the document of the stack-free recursive-descent specification:
    same doctype, same tree, single root or wrapped top-level list. -/
theorem feed_eq_spec (toks : List Token) (hw : NoWrapper toks) :
    feedTokens toks = .doc (Spec.build toks).1 (Spec.build toks).2 := by
  have hpro := runT_prolog (toks.length + 1) toks (Nat.lt_succ_self _)
  have hsecond : (runT TState.init (wrapToks toks)).fin
      = .ok ⟨[], some (.elem wrapperName AttrState.empty false
          (items (toks.length + 1) [] (topTokens toks)).1)⟩ := by
    obtain ⟨pre, htoks, hpre, hs⟩ := wrapToks_shape toks
    rw [hs, runT_append_ok pre _ _ _ (runT_outer_empty pre TState.init rfl (wrapToks_pre_outer hpre))]
    exact wrapped_pass _ (fun t ht => hw t (by rw [htoks]; exact List.mem_append_right _ ht)) _
      (by have := congrArg List.length htoks; simp at this; omega)
  unfold Spec.build
  rcases feedTokens_cases toks with ⟨s, h1, hf⟩ | ⟨h1, h2⟩ <;> rw [h1] at hpro
  · cases hsingle : single (toks.length + 1) toks with
    | none => rw [hsingle] at hpro; cases hpro
    | some r =>
      rw [hsingle] at hpro
      rw [hf, show finish s = ⟨[], r⟩ from Outcome.ok.inj hpro]
      simp [doctypeOf, stepD_eq_spec]
  · cases hsingle : single (toks.length + 1) toks with
    | some r => rw [hsingle] at hpro; cases hpro
    | none =>
      rcases h2 with ⟨s, h2, hf⟩ | ⟨h2, _⟩ <;> rw [h2] at hsecond
      · rw [hf, show finish s = _ from Outcome.ok.inj hsecond]
        simp only [doctypeOf]
        rw [fold_wrap, stepD_eq_spec]
      · cases hsecond

/-- **C02 (void / self-closed elements never stay open; text, references and comments verbatim).**
    Read off the specification: these are its defining equations. -/
theorem spec_void_is_leaf (k : Nat) (open_ : List Str) (n : Str) (a : List Attr) (ts : List Token)
    (hv : Spec.isVoid (lower n) = true) :
    items (k + 1) open_ (.start n a :: ts)
      = (.elem (lower n) (intake a AttrState.empty) true [] :: (items k open_ ts).1, (items k open_ ts).2) := by
  simp [items, hv]

theorem spec_selfclosed_is_leaf (k : Nat) (open_ : List Str) (n : Str) (a : List Attr) (ts : List Token) :
    items (k + 1) open_ (.startend n a :: ts)
      = (.elem (lower n) (intake a AttrState.empty) true [] :: (items k open_ ts).1, (items k open_ ts).2) := by
  simp [items]

theorem spec_stray_end_ignored (k : Nat) (open_ : List Str) (n : Str) (ts : List Token)
    (h : open_.contains n = false) : items (k + 1) open_ (.end_ n :: ts) = items k open_ ts := by
  simp only [items, h, Bool.false_eq_true, if_false]

theorem spec_text_verbatim (k : Nat) (open_ : List Str) (e : Str) (ts : List Token) :
    items (k + 1) open_ (.entity e :: ts) = (.text ('&' :: e ++ [';']) :: (items k open_ ts).1, (items k open_ ts).2) := by
  simp [items, textOf]

/-! #### C02 — the attribute clause and the doctype clause against INDEPENDENT specifications (`Spec/Attrs.lean`)

  `Spec.items` / `Spec.single` build an element's store with the same `intake` as `handleStart`, and
  `Spec.doctypeStep` is textually `stepD`: by themselves they do not specify "attribute names are lower-cased with
  invalid names dropped and the last duplicate winning" or "the doctype is reported separately" independently.
  `Spec.attrs` / `Spec.doctypeRead` are written from the property text without `intake`, `AttrState.set`, `dictSet`
  or `stepD`; the theorems below say what every store built by `intake` — hence every element of `Spec.build` and of
  `feedTokens` — lists, and what doctype every parse reports. -/

/-- the specification's reading of a valid attribute name (a letter or underscore, then letters, digits, `-`, `_`)
    is `Tags.isValidAttributeName` -/
theorem valid_name_reading (n : Str) : Spec.validName n = validAttrName n := AttrStores.validName_eq n

/-- **C02 (attribute clause; names other than class / style / spellcheck).** For every raw attribute list — any
    letter case, duplicates, invalid names — the element lists exactly: the lower-cased valid names in the order of
    their first occurrence, each with the value of its last occurrence. -/
theorem attrs_spec_plain (l : List Attr)
    (h : ∀ p ∈ l, lower p.1 ≠ "class".toList ∧ lower p.1 ≠ "style".toList ∧ lower p.1 ≠ "spellcheck".toList) :
    (intake l AttrState.empty).view = Spec.attrs l :=
  intake_view_eq_spec_plain l (fun p hp => by
    obtain ⟨h1, h2, h3⟩ := h p hp
    exact ⟨h1, h2, fun e => h3 (by rw [e]; decide)⟩)

/-- **C02 (attribute clause, every list without a declaration-less `style`).** The listing is the documented
    normalisation (`Spec.normalise`: class words joined by single blanks and listed last; style parsed and
    re-rendered; spellcheck as boolean string) of the independently specified attribute set. -/
theorem attrs_spec (l : List Attr) (h : ∀ p ∈ l, Spec.deadStyle p = false) :
    (intake l AttrState.empty).view = Spec.normalise (Spec.attrs l) :=
  intake_view_eq_spec_live l h

/-- **C02 (attribute clause, in general).** Every raw list: the same over `Spec.liveStyle l` — a `style` attribute
    without any declaration deletes the element's `style` entry (`_ensureHtmlAttribute`), so a `style` attribute behind
    it is listed at its own position, not at the first one's (library behaviour the property text does not mention;
    `liveStyle_needed` shows the carve-out is needed). -/
theorem attrs_spec_general (l : List Attr) :
    (intake l AttrState.empty).view = Spec.normalise (Spec.attrs (Spec.liveStyle l)) :=
  intake_view_eq_spec l

/-- what `Spec.attrs` says on a concrete list: upper case, a duplicate (`id`: last value, first position), an
    invalid name, a value-less attribute -/
example : Spec.attrs [("ID".toList, some "x".toList), ("Title".toList, some "t".toList), ("1a".toList, some "z".toList),
      ("hidden".toList, none), ("id".toList, some "y".toList)]
    = [("id".toList, some "y".toList), ("title".toList, some "t".toList), ("hidden".toList, none)] := by decide +kernel

/-- `attrs_spec_plain` applies to it -/
example : (intake [("ID".toList, some "x".toList), ("Title".toList, some "t".toList), ("1a".toList, some "z".toList),
      ("hidden".toList, none), ("id".toList, some "y".toList)] AttrState.empty).view
    = [("id".toList, some "y".toList), ("title".toList, some "t".toList), ("hidden".toList, none)] := by
  rw [attrs_spec_plain _ (by decide +kernel)]; decide +kernel

/-- `attrs_spec` with class / style / spellcheck present -/
example : Spec.normalise (Spec.attrs [("class".toList, some " b  a ".toList), ("STYLE".toList, some "color:red".toList),
      ("spellcheck".toList, some "No".toList), ("Class".toList, some "c".toList), ("id".toList, some "i".toList)])
    = [("style".toList, some "color: red".toList), ("spellcheck".toList, some "true".toList),
       ("id".toList, some "i".toList), ("class".toList, some "c".toList)] := by decide +kernel

/-- `attrs_spec` applies to it (no declaration-less `style`) -/
example : (intake [("class".toList, some " b  a ".toList), ("STYLE".toList, some "color:red".toList),
      ("spellcheck".toList, some "No".toList), ("Class".toList, some "c".toList), ("id".toList, some "i".toList)]
      AttrState.empty).view
    = [("style".toList, some "color: red".toList), ("spellcheck".toList, some "true".toList),
       ("id".toList, some "i".toList), ("class".toList, some "c".toList)] := by
  rw [attrs_spec _ (by decide +kernel)]; decide +kernel

/-- the carve-out is needed: `style="a:b" id=x style="" style="c:d"` lists `id` BEFORE `style` (checked on the
    library), where "last value at the first position" would list `style` first -/
theorem liveStyle_needed :
    (intake [("style".toList, some "a:b".toList), ("id".toList, some "x".toList), ("style".toList, some [])
      , ("style".toList, some "c:d".toList)] AttrState.empty).view
      = [("id".toList, some "x".toList), ("style".toList, some "c: d".toList)] ∧
    Spec.normalise (Spec.attrs [("style".toList, some "a:b".toList), ("id".toList, some "x".toList),
      ("style".toList, some []), ("style".toList, some "c:d".toList)])
      = [("style".toList, some "c: d".toList), ("id".toList, some "x".toList)] := by decide +kernel

/-- **C02 (doctype clause).** After ANY token sequence the handlers' doctype is: the last doctype declaration when
    it is non-empty; otherwise the first non-empty unknown declaration behind it (behind the start of the input when
    there is no declaration); nothing when there is neither. -/
theorem doctype_spec (toks : List Token) : toks.foldl stepD none = Spec.doctypeRead toks := doctype_fold_eq_read toks

/-- …so that is the doctype of the specification's document -/
theorem build_doctype_read (toks : List Token) : (Spec.build toks).1.doctype = Spec.doctypeRead toks := by
  unfold Spec.build
  split <;> exact doctypeOf_eq_read toks

/-- …and of EVERY document the two-pass `feed` builds (first pass or wrapped second pass; wrapper name mentioned
    or not) -/
theorem feed_doctype_read (toks : List Token) (d : Doc) (b : Bool) (h : feedTokens toks = .doc d b) :
    d.doctype = Spec.doctypeRead toks := by
  rcases feedTokens_cases toks with ⟨_, _, hf⟩ | ⟨_, ⟨_, _, hf⟩ | ⟨_, hf⟩⟩ <;> rw [hf] at h <;> cases h
  · exact doctype_fold_eq_read toks
  · show (wrapToks toks).foldl stepD none = _
    rw [fold_wrap, doctype_fold_eq_read]

/-- the usual cases spelled out: a non-empty doctype declaration somewhere — the LAST one is reported -/
theorem doctype_last_declaration (pre post : List Token) (c : Char) (d : Str) (hpost : ∀ t ∈ post, ∀ x, t ≠ .decl x) :
    (pre ++ .decl (c :: d) :: post).foldl stepD none = some (c :: d) := by
  rw [List.foldl_append, List.foldl_cons]
  exact foldl_stepD_keep c d post hpost

/-- no doctype declaration: the FIRST non-empty unknown declaration -/
theorem doctype_first_unknown_declaration (pre post : List Token) (c : Char) (u : Str)
    (hpre : ∀ t ∈ pre, (∀ x, t ≠ .decl x) ∧ (∀ x, t = .unknownDecl x → x = []))
    (hpost : ∀ t ∈ post, ∀ x, t ≠ .decl x) :
    (pre ++ .unknownDecl (c :: u) :: post).foldl stepD none = some (c :: u) := by
  rw [List.foldl_append, List.foldl_cons, stepD_unknown_falsy (foldl_stepD_falsy pre none (Or.inl rfl) hpre)]
  exact foldl_stepD_keep c u post hpost

/-- neither kind of declaration: no doctype -/
theorem doctype_absent (ts : List Token) (h : ∀ t ∈ ts, (∀ x, t ≠ .decl x) ∧ (∀ x, t ≠ .unknownDecl x)) :
    ts.foldl stepD none = none :=
  foldl_stepD_fix _ ts fun t ht => by
    cases t with
    | decl x => exact absurd rfl ((h _ ht).1 x)
    | unknownDecl x => exact absurd rfl ((h _ ht).2 x)
    | _ => rfl

example : Spec.doctypeRead [.unknownDecl "CDATA[x".toList, .decl "DOCTYPE a".toList, .start "p".toList [],
    .unknownDecl "if".toList, .decl "DOCTYPE b".toList, .unknownDecl "late".toList] = some "DOCTYPE b".toList := by decide +kernel
example : Spec.doctypeRead [.start "p".toList [], .unknownDecl "CDATA[x".toList, .unknownDecl "y".toList]
    = some "CDATA[x".toList := by decide +kernel

/-- what the API shows of a parse result: doctype, root as names / listed attribute pairs / flags / blocks, and
    whether the wrapper was needed -/
def shown : FeedResult → Option ((Option Str × Option Spec.OTree) × Bool)
  | .doc d second => some ((d.doctype, d.root.map Node.toO), second)
  | .raised _ => none

/-- **C02a against a specification that shares NOTHING with the model but the string functions** (`Spec.buildO`:
    recursive descent without a stack, attribute lists by `Spec.attrs` / `Spec.normalise`, doctype by
    `Spec.doctypeRead`; no `intake`, no `AttrState.set`, no `dictSet`, no `stepD`).  For every token sequence that does
    not mention the wrapper name, what the API shows of the parsed document — doctype; names, attribute name/value
    pairs in listing order, self-closing flags, text blocks of every element; single root or wrapped — is `buildO`. -/
theorem feed_shows_spec (toks : List Token) (hw : NoWrapper toks) :
    shown (feedTokens toks) = some (Spec.buildO toks) := by
  rw [feed_eq_spec toks hw, ← obs_build]
  rfl

/-- the same on TEXT, with the stripping step (serialiser's image, no wrapper name, no conditional marker) -/
theorem parseText_shows_spec (ts : List Token) (h : ListOK ts) (hw : NoWrapper ts) (hm : ∀ t ∈ ts, TokNoIE t) :
    (parseText (renderToks ts)).bind shown = some (Spec.buildO ts) := by
  rw [parseText_renderToks ts h hm, feedText_renderToks ts h]
  exact feed_shows_spec ts hw

example : Spec.buildO [.decl "DOCTYPE html".toList, .start "P".toList [("CLASS".toList, some " b  a".toList),
      ("id".toList, some "1".toList), ("ID".toList, some "2".toList)], .data "x".toList, .start "br".toList [],
      .end_ "q".toList]
    = ((some "DOCTYPE html".toList,
        some (.elem "p".toList [("id".toList, some "2".toList), ("class".toList, some "b a".toList)] false
          [.text "x".toList, .elem "br".toList [] true []])), false) := by rfl

/-! #### C02c / C02d — the parser OBJECT across parses (`Lemmas/ParserObj.lean`)

  The object carries `_inTag` / `root` / `doctype`, the index maps of the indexed class, the tokenizer's own
  state and the encoding from call to call; `parseOn` follows `parseStr` (`reset`, decode, `feed`), `feedObj` follows
  `feed` (which does NOT reset first).  `PObj.Tokenizer τ` is ANY tokenizer with memory. -/

open PObj in
/-- **C02d (reuse).** For every history of inputs and EVERY starting object — whatever an earlier parse left in
    `_inTag` / `root` / `doctype` (elements left open, a parse that raised half-way), in the index maps, in the
    tokenizer (`rawdata`, raw-text mode) — the object and the outcome after the last `parseStr` are those of a
    freshly constructed object of the same class and encoding given the last input alone. -/
theorem reuse_reflects_last_only {τ ε β : Type} (T : Tokenizer τ) (decode : ε → β → Option Str)
    (o0 : ParserObj τ ε) (r0 : Option Raised) (h : List (Input β)) (last : Input β) :
    parseHist T decode (o0, r0) (h ++ [last]) = parseOn T decode (ParserObj.fresh T o0.enc o0.indexed) last :=
  reuse_object T decode o0 r0 h last

open PObj in
/-- …and that result is the two-pass `feed` of the token level (`feedTokens` with the tokenizer's own callbacks for
    the wrapped text) on what the tokenizer delivers FROM ITS FRESH STATE for the stripped last text: nothing of the
    history enters. -/
theorem reuse_reflects_last_only_doc {τ ε β : Type} (T : Tokenizer τ) (decode : ε → β → Option Str)
    (o0 : ParserObj τ ε) (r0 : Option Raised) (h : List (Input β)) (s : Str) :
    viewOf (parseHist T decode (o0, r0) (h ++ [.str s]))
      = viewOfFeed (feedTwo (T.feed T.fresh (stripIE s)).1 (T.feed T.fresh (wrapStr (stripIE s))).1) := by
  rw [reuse_object, parseOn_str_view]

open PObj in
/-- **C02d, indexed class.** After the last `parseStr` of any history (not raising) the index holds exactly the
    elements of the pass that built the last document, in document order; a plain parser's stays empty. -/
theorem reuse_index_last_only {τ ε β : Type} (T : Tokenizer τ) (decode : ε → β → Option Str)
    (o0 : ParserObj τ ε) (r0 : Option Raised) (h : List (Input β)) (s : Str)
    (hok : (parseHist T decode (o0, r0) (h ++ [.str s])).2 = none) :
    (parseHist T decode (o0, r0) (h ++ [.str s])).1.core.log
      = (if o0.indexed then
          (match run BState.init (T.feed T.fresh (stripIE s)).1 with
           | .multipleRoot => (T.feed T.fresh (wrapStr (stripIE s))).1
           | _ => (T.feed T.fresh (stripIE s)).1).flatMap newTags
         else []) := by
  rw [reuse_object] at hok ⊢
  exact parseOn_str_log T decode _ s hok

open PObj in
/-- **C02d end to end (strict lexer).** With the strict lexer as tokenizer: after ANY history on ANY starting
    object, `parseStr` of the rendering of a token list in the serialiser's image (not mentioning the wrapper, no
    conditional-comment marker) leaves the document of the recursive-descent specification of THAT list. -/
theorem reuse_eq_spec {ε β : Type} (decode : ε → β → Option Str) (o0 : ParserObj Unit ε) (r0 : Option Raised)
    (h : List (Input β)) (ts : List Token) (hok : ListOK ts) (hw : NoWrapper ts) (hm : ∀ t ∈ ts, TokNoIE t) :
    viewOf (parseHist lexTok decode (o0, r0) (h ++ [.str (renderToks ts)])) = .inl (Spec.build ts).1 := by
  rw [reuse_reflects_last_only_doc]
  have hs : stripIE (renderToks ts) = renderToks ts :=
    stripIE_of_no_marker _ (hasIEMarker_renderToks_of_tokNoIE ts hok hm)
  rw [hs]
  simp only [lexTok, lexStrict_renderToks ts hok, lexStrict_wrapStr_renderToks ts hok, Option.getD_some]
  rw [← feedTokens_eq_feedTwo, feed_eq_spec ts hw]
  rfl

open PObj in
/-- **C02d has content: it FAILS without the reset.** `parseStr` without its first line: the second document of a
    two-parse history lands inside the element the first one left open. -/
theorem reuse_fails_without_reset :
    ¬ ∀ (o : ParserObj Unit Unit) (i : Input Unit),
        rootName (parseOnNoReset lexTok noBytes o i)
          = rootName (parseOnNoReset lexTok noBytes (ParserObj.fresh lexTok o.enc o.indexed) i) := by
  intro hall
  exact absurd (hall (parseOnNoReset lexTok noBytes (ParserObj.fresh lexTok () false) (.str "<a >".toList)).1
    (.str "<b ></b>".toList)) (by char_lits; decide +kernel)

/-- the same for the two halves of the reset separately: the indexed class with the plain `_reset` (the library
    before `c1d2cb2`) keeps stale index entries; a `_reset` without `HTMLParser.reset` lets text the tokenizer kept
    from the first input join the second -/
theorem reuse_fails_with_half_resets :
    (PObj.logNames (PObj.parseOnPlainReset (β := Unit) PObj.lexTok
        (PObj.parseOnPlainReset (β := Unit) PObj.lexTok (PObj.ParserObj.fresh PObj.lexTok () true) (.str "<a ></a>".toList)).1
        (.str "<b ></b>".toList)) ≠
      PObj.logNames (PObj.parseOn PObj.lexTok PObj.noBytes (PObj.ParserObj.fresh PObj.lexTok () true) (.str "<b ></b>".toList))) ∧
    (PObj.rootName (PObj.parseOnNoTkReset (β := Unit) PObj.bufTok
        (PObj.parseOnNoTkReset (β := Unit) PObj.bufTok (PObj.ParserObj.fresh PObj.bufTok () false) (.str "<a ></a><".toList)).1
        (.str "b ></b>".toList)) ≠
      PObj.rootName (PObj.parseOn PObj.bufTok PObj.noBytes (PObj.ParserObj.fresh PObj.bufTok () false) (.str "b ></b>".toList))) := by
  char_lits; decide +kernel

open PObj in
/-- **C02c (entry points: `parseStr(bytes)`).** Bytes are decoded with the object's encoding after the reset and
    then go the way of `parseStr(str)`: whenever the decoded text is `s`, object and outcome are those of
    `parseStr(s)`.  (That the decoding itself is the codec's — and `parseFile(path | file object)` and the
    constructor's `filename=`, which read the text through `codecs.open` / `.read()` before the same `feed` — is
    observed in the tie, not proved: `decode` is a parameter.) -/
theorem entry_points_agree {τ ε β : Type} (T : Tokenizer τ) (decode : ε → β → Option Str) (o : ParserObj τ ε)
    (b : β) (s : Str) (h : decode o.enc b = some s) :
    parseOn T decode o (.bytes b) = parseOn T decode o (.str s) := by
  simp only [parseOn, h]

open PObj in
/-- two byte strings with the same decoding (in the object's encoding) give the same object and outcome — also when
    neither decodes -/
theorem entry_points_same_text {τ ε β : Type} (T : Tokenizer τ) (decode : ε → β → Option Str) (o : ParserObj τ ε)
    (b₁ b₂ : β) (h : decode o.enc b₁ = decode o.enc b₂) :
    parseOn T decode o (.bytes b₁) = parseOn T decode o (.bytes b₂) := by
  simp only [parseOn, h]

open PObj in
/-- bytes that do not decode: the call raises after the reset — the earlier document is gone -/
theorem entry_point_undecodable {τ ε β : Type} (T : Tokenizer τ) (decode : ε → β → Option Str) (o : ParserObj τ ε)
    (b : β) (h : decode o.enc b = none) :
    parseOn T decode o (.bytes b) = (ParserObj.fresh T o.enc o.indexed, some .decode) ∧
    (parseOn T decode o (.bytes b)).1.core.doc = ⟨none, none⟩ := by
  rw [parseOn_bytes_undecodable T decode o b h]
  exact ⟨rfl, rfl⟩

/-! non-vacuity of `entry_points_agree` / `reuse_index_last_only`: a decoder that accepts one byte string; an indexed
    parser whose second document takes the wrapped second pass (its index then holds the wrapper and both roots, none
    of the first document's elements) -/
example : PObj.parseOn PObj.lexTok (fun (_ : Unit) (b : List UInt8) => if b = [60, 97, 32, 62] then some "<a >".toList else none)
      (PObj.ParserObj.fresh PObj.lexTok () false) (.bytes [60, 97, 32, 62])
    = PObj.parseOn PObj.lexTok (fun (_ : Unit) (b : List UInt8) => if b = [60, 97, 32, 62] then some "<a >".toList else none)
      (PObj.ParserObj.fresh PObj.lexTok () false) (.str "<a >".toList) :=
  entry_points_agree _ _ _ _ _ (by decide +kernel)

example : (PObj.parseHist PObj.lexTok PObj.noBytes (PObj.ParserObj.fresh PObj.lexTok () true, none)
      [.str "<i ><u >".toList, .str "<a ></a><b ></b>".toList]).2 = none ∧
    PObj.logNames (PObj.parseHist PObj.lexTok PObj.noBytes (PObj.ParserObj.fresh PObj.lexTok () true, none)
      [.str "<i ><u >".toList, .str "<a ></a><b ></b>".toList]) = [wrapperName, "a".toList, "b".toList] := by decide +kernel

/-! non-vacuity: a three-parse history — the first leaves `<a>` open, the second raises (text after the root in
    both passes), the third is a single-root document — on the strict lexer -/
example : PObj.rootName (PObj.parseHist PObj.lexTok PObj.noBytes (PObj.ParserObj.fresh PObj.lexTok () true, none)
    [.str "<a >".toList, .str "<a ></a></xxxblank>x".toList, .str "<b ></b>".toList]) = some "b".toList := by decide +kernel

example : (PObj.parseHist PObj.lexTok PObj.noBytes (PObj.ParserObj.fresh PObj.lexTok () true, none)
    [.str "<a >".toList, .str "<a ></a></xxxblank>x".toList]).2 = some (.parse .multipleRoot) := by decide +kernel

/-- **C02b.** `getRootNodes` of a wrapped document lists the top-level elements in order; `getHTML`
    serialises every top-level block (text included) in order. -/
theorem rootNodes_wrapped (dt : Option Str) (kids : List Node) :
    (Doc.rootNodes ⟨dt, some (.elem wrapperName AttrState.empty false kids)⟩) = kids.filter (fun k => !k.isText) := by
  simp [Doc.rootNodes]

theorem html_wrapped (kids : List Node) :
    docHTML none (.elem wrapperName AttrState.empty false kids) = htmlL kids := by
  simp [docHTML, Node.innerHTML]

/-! #### C02f — `addStartTag` at character level

  `DoctypeSplit s p rest` (Lemmas/WrapStr.lean) is the explicit reading of `DOCTYPE_MATCH.match`: `s = p ++ rest`,
  `p` = newlines, then blanks, then `<!doctype…>` (any letter case) up to its *first* `>`.
  `startsWithDoctype s` is the decidable reading of "there is such a split" (`startsWithDoctype_iff`). -/

/-- the wrapper's tags are the constants `INVISIBLE_ROOT_TAG_START` / `INVISIBLE_ROOT_TAG_END` -/
theorem wrapper_tags : wrapOpen = "<xxxblank>".toList ∧ wrapClose = "</xxxblank>".toList := by decide +kernel

/-- **C02f, first case.** The text starts as `DOCTYPE_MATCH` reads it: the wrapper start tag goes directly after
    the matched prefix. -/
theorem addStartTag_after_doctype (s p rest : Str) (h : DoctypeSplit s p rest) :
    wrapStr s = p ++ wrapOpen ++ rest ++ wrapClose := by
  rw [wrapStr_eq, addStartTagStr_of_split s p rest _ h]

/-- **C02f, complementary case.** The text does not start with newlines, blanks, `<!doctype…>` (decidable
    reading): the wrapper start tag goes in front of everything. -/
theorem addStartTag_no_doctype (s : Str) (h : startsWithDoctype s = false) :
    wrapStr s = wrapOpen ++ s ++ wrapClose := by
  rw [wrapStr_eq, addStartTagStr_of_not s _ h]

/-- the same with the explicit reading -/
theorem addStartTag_no_doctype' (s : Str) (h : ¬ DoctypeStart s) :
    wrapStr s = wrapOpen ++ s ++ wrapClose := by
  apply addStartTag_no_doctype
  cases hb : startsWithDoctype s with
  | false => rfl
  | true => exact absurd ((startsWithDoctype_iff s).mp hb) h

/-- first case of the dichotomy: the text splits (in exactly one way) and the wrapper follows the prefix -/
def AfterDoctype (s : Str) : Prop :=
  ∃ p rest, DoctypeSplit s p rest ∧ (∀ p' rest', DoctypeSplit s p' rest' → p' = p ∧ rest' = rest) ∧
    wrapStr s = p ++ wrapOpen ++ rest ++ wrapClose

/-- second case: no split, the wrapper is in front -/
def InFront (s : Str) : Prop := ¬ DoctypeStart s ∧ wrapStr s = wrapOpen ++ s ++ wrapClose

/-- **C02f, dichotomy.** Every text falls in exactly one of the two cases, with the explicit result in each;
    which one is decided by `startsWithDoctype`. -/
theorem addStartTag_cases (s : Str) :
    (AfterDoctype s ∨ InFront s) ∧ ¬ (AfterDoctype s ∧ InFront s) ∧
    (AfterDoctype s ↔ startsWithDoctype s = true) ∧ (InFront s ↔ startsWithDoctype s = false) := by
  have hD : DoctypeStart s ↔ startsWithDoctype s = true := (startsWithDoctype_iff s).symm
  have hA : AfterDoctype s ↔ startsWithDoctype s = true := by
    refine ⟨fun ⟨p, rest, hsp, _, _⟩ => hD.mp ⟨p, rest, hsp⟩, fun hb => ?_⟩
    obtain ⟨p, rest, hsp⟩ := hD.mpr hb
    exact ⟨p, rest, hsp, fun p' rest' h' => doctypeSplit_unique s p rest p' rest' hsp h',
      addStartTag_after_doctype s p rest hsp⟩
  have hB : InFront s ↔ startsWithDoctype s = false := by
    refine ⟨fun ⟨hn, _⟩ => ?_, fun hb => ⟨fun hd => ?_, addStartTag_no_doctype s hb⟩⟩
    · cases hb : startsWithDoctype s with
      | false => rfl
      | true => exact absurd (hD.mpr hb) hn
    · rw [hD.mp hd] at hb; cases hb
  refine ⟨?_, fun ⟨ha, hb⟩ => ?_, hA, hB⟩
  · cases hb : startsWithDoctype s with
    | true => exact Or.inl (hA.mpr hb)
    | false => exact Or.inr (hB.mpr hb)
  · have := hB.mp hb
    rw [hA.mp ha] at this; cases this

/-- the first case with the split spelled out in the hypotheses -/
theorem addStartTag_after_doctype_partial (nl bl d rest : Str)
    (hnl : ∀ x ∈ nl, isNl x = true) (hbl : ∀ x ∈ bl, isBl x = true)
    (hd : lower (d.take 7) = "doctype".toList) (hgt : '>' ∉ d) :
    wrapStr (nl ++ bl ++ ('<' :: '!' :: d ++ '>' :: rest))
      = nl ++ bl ++ ('<' :: '!' :: d ++ ['>']) ++ ('<' :: wrapperName ++ ['>']) ++ rest
          ++ ('<' :: '/' :: wrapperName ++ ['>']) := by
  have h : DoctypeSplit (nl ++ bl ++ ('<' :: '!' :: d ++ '>' :: rest)) (nl ++ bl ++ ('<' :: '!' :: d ++ ['>'])) rest :=
    ⟨nl, bl, d, hnl, hbl, hd, hgt, rfl, by simp⟩
  exact addStartTag_after_doctype _ _ _ h

/-! non-vacuity: both cases occur; white space in the wrong order, a declaration without `>`, a comment and the
    empty text are "no doctype" -/
example : DoctypeSplit "\n  <!DOCTYPE html><a></a>x".toList "\n  <!DOCTYPE html>".toList "<a></a>x".toList :=
  (doctypePrefix_some_iff _ _ _).mp (by char_lits; decide +kernel)
example : startsWithDoctype "\n  <!DOCTYPE html><a></a>x".toList = true := by char_lits; decide +kernel
example : startsWithDoctype " \n<!DOCTYPE html><a></a>".toList = false := by char_lits; decide +kernel
example : startsWithDoctype "<!DOCTYPE html".toList = false := by char_lits; decide +kernel
example : startsWithDoctype "<!-- c --><a></a><b></b>".toList = false := by char_lits; decide +kernel
example : startsWithDoctype [] = false := by decide
example : InFront "<a></a><b></b>".toList :=
  ((addStartTag_cases _).2.2.2).mpr (by char_lits; decide +kernel)
example : AfterDoctype "<!doctype html><a></a><b></b>".toList :=
  ((addStartTag_cases _).2.2.1).mpr (by char_lits; decide +kernel)
example : wrapStr "\n  <!DOCTYPE html><a></a>x".toList = "\n  <!DOCTYPE html><xxxblank><a></a>x</xxxblank>".toList := by
  char_lits; decide +kernel
example : wrapStr " \n<!DOCTYPE html><a></a>".toList = "<xxxblank> \n<!DOCTYPE html><a></a></xxxblank>".toList := by
  char_lits; decide +kernel

/-! #### C02f — composition with the strict lexer

  `renderToks` / `ListOK` (Lemmas/LexRoundTrip.lean): the serialisers' output grammar and "every token well formed
  and followed by something that keeps it a token of its own" — the side condition of `lexStrict_renderToks`.
  `ListOK` contains the two conditions that matter for the wrapper: a doctype declaration has no `>` inside
  (`TokOK (.decl d)`), and a data run is not followed by another data run (`Follows`).  `ListOK` is the inductive
  predicate of C01 and includes raw-text elements (`script` / `style`: start tag, content as at most one data token
  with `RawOK`, end tag); every theorem below is for all of it (`sampleRawDoc`). -/

/-- **C02f (`DOCTYPE_MATCH`: characters = tokens).** On the rendering of a token list in the serialiser's image,
    `DOCTYPE_MATCH.match` finds exactly the rendering of what `leadDoctype` finds on the tokens: a leading
    declaration, or a leading data run of the shape `[\n]*[ \t]*` and then the declaration; nothing otherwise. -/
theorem doctypeMatch_text_eq_tokens (ts : List Token) (h : ListOK ts) :
    doctypePrefix (renderToks ts) = (leadDoctype ts).map (fun pr => (renderToks pr.1, renderToks pr.2)) :=
  doctypePrefix_renderToks ts h

/-- **C02f (composition).** The text of the second pass, `addStartTag(text, '<xxxblank>') + '</xxxblank>'`, of the
    rendering of a token list in the serialiser's image lexes to `wrapToks` of that list: the character-level
    placement of the wrapper is the token-level one `feed_eq_spec` works with. -/
theorem wrapText_lex_eq_wrapToks (ts : List Token) (h : ListOK ts) :
    lexStrict (wrapStr (renderToks ts)) = some (wrapToks ts) :=
  lexStrict_wrapStr_renderToks ts h

/-- leading doctype token: the wrapper opens directly after it -/
theorem wrapText_lex_leading_doctype (d : Str) (r : List Token) (h : ListOK (.decl d :: r)) :
    lexStrict (wrapStr (renderToks (.decl d :: r)))
      = some (.decl d :: .start wrapperName [] :: r ++ [.end_ wrapperName]) := by
  rw [wrapText_lex_eq_wrapToks _ h]; rfl

/-- white space of the shape `[\n]*[ \t]*` in front of the doctype: a data token of its own that stays *outside*
    the wrapper (the builder drops it: `runT_outer_empty`; the specification does not count it as content: `topTokens`) -/
theorem wrapText_lex_ws_doctype (ws d : Str) (r : List Token) (hws : wsNL ws = true)
    (h : ListOK (.data ws :: .decl d :: r)) :
    lexStrict (wrapStr (renderToks (.data ws :: .decl d :: r)))
      = some (.data ws :: .decl d :: .start wrapperName [] :: r ++ [.end_ wrapperName]) := by
  rw [wrapText_lex_eq_wrapToks _ h]
  simp [wrapToks, leadDoctype, hws]

/-- anything else first (including white space of another shape in front of a doctype): the wrapper is in front
    of everything, the white space and the declaration are inside it -/
theorem wrapText_lex_other (ts : List Token) (h : ListOK ts) (hl : leadDoctype ts = none) :
    lexStrict (wrapStr (renderToks ts)) = some (.start wrapperName [] :: ts ++ [.end_ wrapperName]) := by
  rw [wrapText_lex_eq_wrapToks _ h]
  simp [wrapToks, hl]

/-- **C02a/f end to end, on text.** For every token list in the serialiser's image that does not mention the
    reserved wrapper name, parsing the TEXT `renderToks ts` with the two-pass `feed` (lex; build; on
    MultipleRootNodeException insert the wrapper *into the text*, lex and build again) gives the document of the
    recursive-descent specification. -/
theorem feedText_eq_spec (ts : List Token) (h : ListOK ts) (hw : NoWrapper ts) :
    feedText (renderToks ts) = some (.doc (Spec.build ts).1 (Spec.build ts).2) := by
  rw [feedText_renderToks ts h, feed_eq_spec ts hw]

/-! non-vacuity: a multi-root document with white space and a doctype in front is in the serialiser's image,
    does not mention the wrapper, and takes the second pass -/
def sampleDoc : List Token :=
  [.data "\n ".toList, .decl "DOCTYPE html".toList, .start "a".toList [], .end_ "a".toList, .data "x".toList,
   .start "br".toList []]

theorem sampleDoc_ok : ListOK sampleDoc :=
  listOK_of_noAdjData _ (by decide +kernel) (by decide +kernel) (by unfold sampleDoc; simp [NoAdjData, isData])

example : NoWrapper sampleDoc := by decide +kernel

example : renderToks sampleDoc = "\n <!DOCTYPE html><a ></a>x<br >".toList := by char_lits; decide +kernel
example : wrapStr (renderToks sampleDoc) = "\n <!DOCTYPE html><xxxblank><a ></a>x<br ></xxxblank>".toList := by
  char_lits; decide +kernel
example : (Spec.build sampleDoc).2 = true := by decide +kernel
example : feedText (renderToks sampleDoc) = some (.doc (Spec.build sampleDoc).1 true) := by
  rw [feedText_eq_spec sampleDoc sampleDoc_ok (by decide +kernel), show (Spec.build sampleDoc).2 = true by decide +kernel]

/-! non-vacuity with a raw-text element: `ListOK` contains `script` / `style` blocks whose content is ONE data token
    with `<`, `&&`, another element's end tag (`ListOK.raw`); the C02f theorems hold for them as stated — the
    wrapper is placed after the doctype, the script's content stays one token, the second pass is taken -/
def sampleRawDoc : List Token :=
  [.data "\n ".toList, .decl "DOCTYPE html".toList, .start "script".toList [],
   .data "if(a<b&&c){s='</div>'}".toList, .end_ "script".toList, .start "br".toList []]

theorem sampleRawDoc_ok : ListOK sampleRawDoc := by
  unfold sampleRawDoc
  char_lits
  refine .cons (by decide +kernel) ?_
    (.cons (by decide +kernel) trivial
      (.raw (by decide +kernel) (by simp) (by decide +kernel) (by decide +kernel)
        (.cons (by decide +kernel) trivial .nil)))
  exact Or.inr ⟨_, Or.inl rfl⟩

example : ∃ t ∈ sampleRawDoc, ¬ TokOK t := by decide +kernel
example : renderToks sampleRawDoc = "\n <!DOCTYPE html><script >if(a<b&&c){s='</div>'}</script><br >".toList := by
  char_lits; decide +kernel
example : doctypePrefix (renderToks sampleRawDoc)
    = some ("\n <!DOCTYPE html>".toList, "<script >if(a<b&&c){s='</div>'}</script><br >".toList) := by
  rw [doctypeMatch_text_eq_tokens _ sampleRawDoc_ok]; char_lits; decide +kernel
example : lexStrict (wrapStr (renderToks sampleRawDoc))
    = some [.data "\n ".toList, .decl "DOCTYPE html".toList, .start wrapperName [], .start "script".toList [],
        .data "if(a<b&&c){s='</div>'}".toList, .end_ "script".toList, .start "br".toList [], .end_ wrapperName] := by
  rw [wrapText_lex_eq_wrapToks _ sampleRawDoc_ok]; decide +kernel
example : (Spec.build sampleRawDoc).2 = true := by decide +kernel
example : feedText (renderToks sampleRawDoc) = some (.doc (Spec.build sampleRawDoc).1 true) := by
  rw [feedText_eq_spec sampleRawDoc sampleRawDoc_ok (by decide +kernel),
    show (Spec.build sampleRawDoc).2 = true by decide +kernel]
/-- a raw-text element first: no doctype on either side, the wrapper is in front -/
example : lexStrict (wrapStr (renderToks [.start "style".toList [], .end_ "style".toList, .data "x".toList]))
    = some [.start wrapperName [], .start "style".toList [], .end_ "style".toList, .data "x".toList, .end_ wrapperName] :=
  wrapText_lex_other _ (.rawEmpty (by decide +kernel) (by simp) (.cons (by decide +kernel) (Or.inl rfl) .nil)) rfl

/-! the side conditions are needed.
    (1) A `>` inside the declaration (`TokOK (.decl d)` fails): the tokenizer and `DOCTYPE_MATCH` both end the
        declaration at the first `>`, the wrapper lands inside what the token list calls the declaration.
    (2) Two adjacent data runs (`Follows` fails): the text starts `\n <!doctype…`, so the wrapper goes after the
        declaration, while `leadDoctype` sees two data tokens first and puts it in front.
    (3) The wrapper's name in the text (`NoWrapper` fails): the stray `</xxxblank>` closes the wrapper early and the
        second pass raises, where the specification builds a document. -/
example : lexStrict (wrapStr (renderToks [.decl "doctype a>b".toList, .start "a".toList [], .end_ "a".toList]))
    ≠ some (wrapToks [.decl "doctype a>b".toList, .start "a".toList [], .end_ "a".toList]) := by decide +kernel

example : lexStrict (wrapStr (renderToks [.data "\n".toList, .data " ".toList, .decl "doctype html".toList,
      .start "a".toList [], .end_ "a".toList]))
    ≠ some (wrapToks [.data "\n".toList, .data " ".toList, .decl "doctype html".toList,
      .start "a".toList [], .end_ "a".toList]) := by decide +kernel

def strayWrapperEnd : List Token :=
  [.start "a".toList [], .end_ "a".toList, .end_ wrapperName, .start "a".toList [], .end_ "a".toList]

theorem strayWrapperEnd_ok : ListOK strayWrapperEnd :=
  listOK_of_noAdjData _ (by decide +kernel) (by decide +kernel) (by unfold strayWrapperEnd; simp [NoAdjData, isData])

theorem strayWrapperEnd_raises : feedTokens strayWrapperEnd = .raised .multipleRoot := by rfl

/-- without `NoWrapper` the end-to-end statement fails: the text-level `feed` raises -/
example : feedText (renderToks strayWrapperEnd)
    ≠ some (.doc (Spec.build strayWrapperEnd).1 (Spec.build strayWrapperEnd).2) := by
  rw [feedText_renderToks _ strayWrapperEnd_ok, strayWrapperEnd_raises]
  intro h
  cases h

/-! #### C02g — `stripIEConditionals`: what `feed` does to the text before the tokenizer sees it

  Model: AHP/Model/StripIE.lean (`stripIE` = `IE_CONDITIONAL_PATTERN.findall`, `replace` of every match in order,
  the `END_HTML` / `START_HTML` test with `addStartTag(contents, '<html>')`); `parseText = feedText ∘ stripIE`
  (Lemmas/StripIERender.lean) is `Parser.feed`, i.e. what `parseStr` / `parseFile` run after `reset()`.
  `hasIEMarker s` (Lemmas/StripIE.lean) decides whether `<!--` ws* `[` ws* `if` (ws = blank, tab, CR, LF) — the
  part of the pattern in front of `.*-->` — stands somewhere in `s`; `IsIEOpener op` is the explicit reading of
  such an opener. -/

/-- **C02g (identity).** A text in which `<!--` ws* `[` ws* `if` does not occur is returned unchanged. -/
theorem stripIE_id (s : Str) (h : hasIEMarker s = false) : stripIE s = s :=
  stripIE_of_no_marker s h

/-- **C02g (two readings of the marker).** The decidable `hasIEMarker` is the explicit reading: an opener
    `<!--` ws* `[` ws* `if` stands somewhere in the text. -/
theorem hasIEMarker_reading (s : Str) : hasIEMarker s = true ↔ ∃ a op b, IsIEOpener op ∧ s = a ++ op ++ b :=
  hasIEMarker_iff s

theorem hasIEMarker_of_opener (a op b : Str) (hop : IsIEOpener op) : hasIEMarker (a ++ op ++ b) = true :=
  (hasIEMarker_iff _).mpr ⟨a, op, b, hop, rfl⟩

/-- so a text without the marker contains no explicit opener anywhere -/
theorem no_opener_of_no_marker (s : Str) (h : hasIEMarker s = false) :
    ¬ ∃ a op b, IsIEOpener op ∧ s = a ++ op ++ b := by
  intro hex
  rw [(hasIEMarker_iff s).mpr hex] at h
  exact absurd h (by simp)

/-- **C02g (the model's greedy matching is the regular expression's).** The deterministic parts of the three
    patterns (`IE_CONDITIONAL_PATTERN` up to `if`, the middles of `END_HTML` / `START_HTML`) are item sequences
    in which every star is followed by a character class disjoint from its own.  For such a sequence the greedy
    `matchItems` returns `(m, r)` exactly when `m` is matched in the declarative sense (`Matches`: any way of
    splitting the text over the items) and the text is `m ++ r` — and a text has at most one such prefix, so
    backtracking has nothing else to find. -/
theorem patterns_greedy_is_declarative :
    (∀ ps, ps = ieOpenerPat ∨ ps = endHtmlPat ∨ ps = startHtmlPat →
      (∀ z m r, matchItems ps z = some (m, r) ↔ Matches ps m ∧ z = m ++ r) ∧
      (∀ m₁ r₁ m₂ r₂, Matches ps m₁ → Matches ps m₂ → m₁ ++ r₁ = m₂ ++ r₂ → m₁ = m₂ ∧ r₁ = r₂)) := by
  intro ps h
  have hd : Det ps := by
    rcases h with rfl | rfl | rfl
    · exact det_ieOpenerPat
    · exact det_endHtmlPat
    · exact det_startHtmlPat
  exact ⟨fun z m r => matchItems_iff ps hd z m r, fun m₁ r₁ m₂ r₂ h₁ h₂ he => matches_unique ps hd m₁ r₁ m₂ r₂ h₁ h₂ he⟩

/-- **C02g (one match, explicitly).** `IE_CONDITIONAL_PATTERN.match(z)` gives `m` iff `m` is an opener, a body
    without line break, and `-->`, and the rest of that line has no further `-->` (greedy `.*`, `.` ≠ `\n`). -/
theorem ieMatch_reading (z m : Str) : ieMatchAt z = some m ↔
    ∃ op body rest, IsIEOpener op ∧ '\n' ∉ body ∧ m = op ++ body ++ arrow ∧ z = m ++ rest ∧
      hasArrow (rest.takeWhile (· ≠ '\n')) = false :=
  ieMatchAt_iff z m

/-- **C02g (serialiser output, tight form).** The rendering of a token list in the serialiser's image contains
    the marker exactly when the rendering of one of its tokens does: no opener reaches across a token boundary. -/
theorem renderToks_marker_iff (ts : List Token) (h : ListOK ts) :
    hasIEMarker (renderToks ts) = ts.any (fun t => hasIEMarker (renderTok t)) :=
  hasIEMarker_renderToks ts h

/-- one well-formed token: its rendering contains the marker iff the token-level test `tokIE` says so — a comment
    whose body starts with ws* `[` ws* `if`; an attribute value, declaration body or processing instruction
    that contains the marker; never a tag name, an end tag, text outside raw-text elements (`text_no_marker`) or
    a reference -/
theorem token_marker_iff (t : Token) (h : TokOK t) : hasIEMarker (renderTok t) = tokIE t :=
  tokIE_render t h

/-- text outside raw-text elements (a `<` / `&` singleton, or a run without `<` and `&`) never tests positive:
    the `.data` clause of `tokIE` / `TokNoIE` speaks about the content of `script` / `style` only -/
theorem text_no_marker (s : Str) (h : TokOK (.data s)) : tokIE (.data s) = false ∧ TokNoIE (.data s) :=
  ⟨hasIEMarker_data_of_tokOK s h, hasIEMarker_data_of_tokOK s h⟩

/-- the same for every token of a list in the serialiser's image (`ListOK.tokOK`: well formed, or the start tag
    / the content of a raw-text element).  The content of `script` / `style` is rendered as it is, and
    `stripIEConditionals` works on the text without knowing about elements: the content tests positive iff it
    contains the marker. -/
theorem token_marker_iff_any (t : Token) (h : TokOK t ∨ RawTok t) : hasIEMarker (renderTok t) = tokIE t :=
  tokIE_render_any t h

/-- **C02g (serialiser output, on tokens).** The rendering of a token list in the serialiser's image contains
    the marker iff one of its tokens tests positive (raw-text elements included; for their content token the
    test is "the raw text contains the marker"). -/
theorem renderToks_marker_iff_tokens (ts : List Token) (h : ListOK ts) :
    hasIEMarker (renderToks ts) = ts.any tokIE :=
  hasIEMarker_renderToks_tok ts h

/-- `TokNoIE` is the negative test spelled out -/
theorem tokNoIE_reading (t : Token) : TokNoIE t ↔ tokIE t = false := tokNoIE_iff t

/-- **C02g (serialiser output).** The condition on tokens (`TokNoIE`): no comment's body starts with
    ws* `[` ws* `if`; no attribute value, declaration body, processing instruction or content of a raw-text
    element (`script` / `style`) contains the marker (tags, end tags, text outside raw-text elements and
    references never do).  Then the rendering has no marker.

    Without the clause on data tokens (`TokNoIE (.data _) = True`) the statement is FALSE, because `ListOK` contains
    raw-text elements: `rawCondDoc` below. -/
theorem renderToks_no_marker (ts : List Token) (h : ListOK ts) (hm : ∀ t ∈ ts, TokNoIE t) :
    hasIEMarker (renderToks ts) = false :=
  hasIEMarker_renderToks_of_tokNoIE ts h hm

/-- a comment token is the only place where the condition speaks about the *start* of a body: its rendering
    has the marker exactly when the body starts with ws* `[` ws* `if` -/
theorem comment_marker_iff (c : Str) (h : CommentOK c) :
    hasIEMarker (renderTok (.comment c)) = condStart c :=
  hasIEMarker_comment c h

/-- on such renderings `feed` with the stripping step is `feed` without it -/
theorem parseText_eq_feedText (ts : List Token) (h : ListOK ts) (hm : ∀ t ∈ ts, TokNoIE t) :
    parseText (renderToks ts) = feedText (renderToks ts) :=
  parseText_renderToks ts h hm

/-- **C02a/f/g end to end, on text, with the stripping step.** For every token list in the serialiser's image
    that does not mention the wrapper name and meets the token-level condition, `feed` (strip IE conditionals;
    lex; build; on MultipleRootNodeException insert the wrapper into the text, lex and build again) gives the
    document of the recursive-descent specification. -/
theorem parseText_eq_spec (ts : List Token) (h : ListOK ts) (hw : NoWrapper ts) (hm : ∀ t ∈ ts, TokNoIE t) :
    parseText (renderToks ts) = some (.doc (Spec.build ts).1 (Spec.build ts).2) := by
  rw [parseText_eq_feedText ts h hm, feedText_eq_spec ts h hw]

/-- **C02g (one conditional on one line).** `pre ++ cond ++ post` with `cond` = an opener, a body that stays on
    the line, and `-->`; no marker in `pre` or in `post`; no further `-->` on the rest of `cond`'s line (so the
    greedy `.*` ends at `cond`'s own arrow).  `findall` finds exactly `cond`, `replace` removes exactly that
    occurrence, and the result is `pre ++ post` up to the html-tag rule. -/
theorem stripIE_removes (pre op body post : Str) (hop : IsIEOpener op) (hbody : '\n' ∉ body)
    (hpre : hasIEMarker pre = false) (hpost : hasIEMarker post = false)
    (hline : hasArrow (post.takeWhile (· ≠ '\n')) = false) :
    stripIE (pre ++ (op ++ body ++ arrow) ++ post) = addHtmlIfMissing (pre ++ post) :=
  stripIE_of_cond pre op body post hop hbody hpre hpost hline

/-- **C02g (`findall`, explicitly).** The matches are found from left to right and do not overlap: nothing found
    means no match starts anywhere; a first match `m` splits the text into `pre ++ m ++ post` with no match
    starting inside `pre`, the pattern giving exactly `m` there, and the search continuing in `post`. -/
theorem findall_reading (s : Str) :
    (ieFindAll s = [] → NoMatchIn s) ∧
    (∀ m ms, ieFindAll s = m :: ms → ∃ pre post, s = pre ++ m ++ post ∧ NoMatchBefore pre (m ++ post) ∧
      ieMatchAt (m ++ post) = some m ∧ ms = ieFindAll post) :=
  ⟨noMatchIn_of_findAll_nil s, fun m ms h => findAll_cons_split s m ms h⟩

/-- **C02g (exactly one match, in general).** Whenever `findall` finds exactly one match — whatever else the
    text contains: openers without `-->` on their line, a second copy of the match's text overlapping it — the
    result is the text with that one occurrence cut out, up to the html-tag rule.  `stripIE_removes` is the
    instance with explicit hypotheses on `pre`, the conditional and `post`. -/
theorem stripIE_single_match (s m : Str) (h : ieFindAll s = [m]) :
    ∃ pre post, s = pre ++ m ++ post ∧ NoMatchBefore pre (m ++ post) ∧ ieMatchAt (m ++ post) = some m ∧
      NoMatchIn post ∧ stripIE s = addHtmlIfMissing (pre ++ post) :=
  stripIE_of_single_match s m h

/-- **C02g (several conditionals).** The text `g₀ c₁ g₁ … cₖ gₖ` (`segText` / `joinGaps`, Lemmas/StripIE.lean):
    at every `cᵢ` the pattern matches exactly `cᵢ` (`MatchOK`; by `ieMatch_reading`: opener, body on one line, `-->`,
    no further `-->` on the rest of the line); the gaps joined contain no marker (cutting a conditional out makes
    no new one); no marker inside a conditional behind its own opener; no conditional is a proper prefix of
    another (`Incomp`; equal ones are fine — the first `replace` takes them all).  Then `findall` finds
    `c₁ … cₖ`, the removals do not disturb one another, and the result is the gaps joined, up to the html-tag rule. -/
theorem stripIE_several (g0 : Str) (L : Segs) (hne : L ≠ []) (hok : MatchOK L)
    (hgaps : hasIEMarker (g0 ++ joinGaps L) = false)
    (hin : ∀ cg ∈ L, hasIEMarker (cg.1.drop 1) = false)
    (hinc : ∀ a ∈ L, ∀ b ∈ L, Incomp a.1 b.1) :
    stripIE (g0 ++ segText L) = addHtmlIfMissing (g0 ++ joinGaps L) :=
  stripIE_segs g0 L hne hok hgaps hin hinc

/-- **C02g (a conditional comment token is dropped).** A token list in the serialiser's image with one comment
    token whose body starts with ws* `[` ws* `if` (one line; no further `-->` on the rest of that line in what
    follows; the marker nowhere else; the html-tag rule not firing): `feed` builds the document of the list
    WITHOUT that token — where `feed` without the stripping step keeps the comment as a text block. -/
theorem parseText_drops_conditional (ts1 ts2 : List Token) (c : Str) (hc : condStart c = true) (hnl : '\n' ∉ c)
    (h1 : hasIEMarker (renderToks ts1) = false) (h2 : hasIEMarker (renderToks ts2) = false)
    (hline : hasArrow ((renderToks ts2).takeWhile (· ≠ '\n')) = false)
    (hhtml : occurs endHtmlPat (renderToks (ts1 ++ ts2)) = false ∨ occurs startHtmlPat (renderToks (ts1 ++ ts2)) = true)
    (hok : ListOK (ts1 ++ ts2)) (hw : NoWrapper (ts1 ++ ts2)) :
    parseText (renderToks (ts1 ++ .comment c :: ts2))
      = some (.doc (Spec.build (ts1 ++ ts2)).1 (Spec.build (ts1 ++ ts2)).2) := by
  unfold parseText
  rw [stripIE_comment_token ts1 ts2 c hc hnl h1 h2 hline, addHtmlIfMissing_of_not _ hhtml, feedText_eq_spec _ hok hw]

/-- **C02g / C03 (size).** Stripping only removes text, except for the six characters of `<html>`. -/
theorem stripIE_length_le (s : Str) : (stripIE s).length ≤ s.length + 6 := stripIE_length s

/-- the html-tag rule spelled out: an `</html>` end tag (any case, white space allowed inside) without an
    `<html>` start tag gets `<html>` inserted by `addStartTag` — directly after a leading doctype as
    `DOCTYPE_MATCH` reads it, else in front; otherwise nothing is added -/
theorem addHtmlIfMissing_cases (s : Str) :
    (occurs endHtmlPat s = true ∧ occurs startHtmlPat s = false ∧
      ((∃ p rest, DoctypeSplit s p rest ∧ addHtmlIfMissing s = p ++ htmlStartTag ++ rest) ∨
       (startsWithDoctype s = false ∧ addHtmlIfMissing s = htmlStartTag ++ s))) ∨
    ((occurs endHtmlPat s = false ∨ occurs startHtmlPat s = true) ∧ addHtmlIfMissing s = s) := by
  by_cases h : occurs endHtmlPat s = false ∨ occurs startHtmlPat s = true
  · exact Or.inr ⟨h, addHtmlIfMissing_of_not s h⟩
  · have he : occurs endHtmlPat s = true := by cases hh : occurs endHtmlPat s <;> simp_all
    have hs : occurs startHtmlPat s = false := by cases hh : occurs startHtmlPat s <;> simp_all
    refine Or.inl ⟨he, hs, ?_⟩
    rw [show addHtmlIfMissing s = addStartTagStr s htmlStartTag by simp [addHtmlIfMissing, he, hs]]
    cases hd : startsWithDoctype s with
    | true =>
      obtain ⟨p, rest, hsp⟩ := (startsWithDoctype_iff s).mp hd
      exact Or.inl ⟨p, rest, hsp, addStartTagStr_of_split s p rest _ hsp⟩
    | false => exact Or.inr ⟨rfl, addStartTagStr_of_not s _ hd⟩

/-- the usual case: the document keeps an `<html>` start tag (or has no `</html>`): the conditional is cut out -/
theorem stripIE_removes_plain (pre op body post : Str) (hop : IsIEOpener op) (hbody : '\n' ∉ body)
    (hpre : hasIEMarker pre = false) (hpost : hasIEMarker post = false)
    (hline : hasArrow (post.takeWhile (· ≠ '\n')) = false)
    (hhtml : occurs endHtmlPat (pre ++ post) = false ∨ occurs startHtmlPat (pre ++ post) = true) :
    stripIE (pre ++ (op ++ body ++ arrow) ++ post) = pre ++ post := by
  rw [stripIE_removes pre op body post hop hbody hpre hpost hline, addHtmlIfMissing_of_not _ hhtml]

example : IsIEOpener "<!--[if".toList := by char_lits; exact ⟨[], [], by simp, by simp, rfl⟩
example : IsIEOpener "<!-- \n[\tif".toList := by
  char_lits; exact ⟨[' ', '\n'], ['\t'], by decide, by decide, rfl⟩

example : hasIEMarker "<p>x</p><!-- [ if IE]>".toList = true := by char_lits; decide +kernel
example : hasIEMarker "<p>x</p><!--[IF IE]><!-- if --><!-[if]>".toList = false := by char_lits; decide +kernel

/-- the classic use: the conditional carries the only `<html>` start tag; it is cut out and `<html>` is put
    back after the doctype -/
example : stripIE "<!DOCTYPE html><!--[if lt IE 9]><html class=\"ie\"><![endif]-->\n<p>x</p></html>".toList
    = "<!DOCTYPE html><html>\n<p>x</p></html>".toList := by char_lits; decide +kernel

example : stripIE "<!DOCTYPE html><!--[if lt IE 9]><html class=\"ie\"><![endif]-->\n<p>x</p></html>".toList
    = addHtmlIfMissing ("<!DOCTYPE html>".toList ++ "\n<p>x</p></html>".toList) := by
  have h := stripIE_removes "<!DOCTYPE html>".toList "<!--[if".toList " lt IE 9]><html class=\"ie\"><![endif]".toList
    "\n<p>x</p></html>".toList ⟨[], [], by simp, by simp, rfl⟩ (by char_lits; decide +kernel) (by char_lits; decide +kernel)
    (by char_lits; decide +kernel) (by char_lits; decide +kernel)
  char_lits at h
  char_lits
  exact h

/-- one match although an opener without `-->` on its line stands in front and a near miss behind
    (`stripIE_removes` does not apply: `hasIEMarker pre = true`; `stripIE_single_match` does) -/
example : ieFindAll "<!--[if IE]>\n<p>a</p><!--[if IE 6]>b<![endif]-->c\n<!--[IF]-->".toList
    = ["<!--[if IE 6]>b<![endif]-->".toList] := by char_lits; decide +kernel
example : stripIE "<!--[if IE]>\n<p>a</p><!--[if IE 6]>b<![endif]-->c\n<!--[IF]-->".toList
    = "<!--[if IE]>\n<p>a</p>c\n<!--[IF]-->".toList := by char_lits; decide +kernel

/-- the classic head of a document: three conditionals (one of them downlevel-revealed) carrying the `<html>` start
    tags, one per line; all three go, `<html>` is put back after the doctype -/
def classicSegs : Segs :=
  [("<!--[if lt IE 7]><html class=\"ie6\"><![endif]-->".toList, "\n".toList),
   ("<!--[if IE 7]><html class=\"ie7\"><![endif]-->".toList, "\n".toList),
   ("<!--[if gt IE 8]><!--><html><!--<![endif]-->".toList, "\n<head></head><body><p>x</p></body></html>".toList)]

example : stripIE ("<!DOCTYPE html>\n".toList ++ segText classicSegs)
    = addHtmlIfMissing ("<!DOCTYPE html>\n".toList ++ joinGaps classicSegs) :=
  stripIE_several _ classicSegs (List.cons_ne_nil _ _) (by unfold classicSegs; char_lits; decide +kernel)
    (by unfold classicSegs; char_lits; decide +kernel) (by unfold classicSegs; char_lits; decide +kernel)
    (by unfold classicSegs; char_lits; decide +kernel)

example : addHtmlIfMissing ("<!DOCTYPE html>\n".toList ++ joinGaps classicSegs)
    = "<!DOCTYPE html><html>\n\n\n\n<head></head><body><p>x</p></body></html>".toList := by
  unfold classicSegs; char_lits; decide +kernel

/-- `Incomp` is needed: the first conditional is a proper prefix of the second, its removal damages the second,
    which is then not found any more -/
example : stripIE "<!--[if a]-->\n<!--[if a]--> x -->\n".toList = "\n x -->\n".toList := by char_lits; decide +kernel
/-- "no marker in the gaps joined" is needed: cutting the conditional out of `<!-` … `-[if y]` makes a new one -/
example : stripIE "<!-<!--[if x]-->-\n[if y]-->".toList = "<!--\n[if y]-->".toList := by char_lits; decide +kernel

/-- `.*` is greedy: a later `-->` on the same line belongs to the match (`hline` is needed) -/
example : stripIE "a<!--[if IE]>b<![endif]--> c <!-- d --> e\nf".toList = "a e\nf".toList := by char_lits; decide +kernel
/-- `.` stops at a line break: a conditional whose `-->` is on another line is not touched (`hbody` is needed) -/
example : stripIE "a<!--[if IE]>\nb<![endif]-->c".toList = "a<!--[if IE]>\nb<![endif]-->c".toList := by char_lits; decide +kernel
/-- `replace` removes *every* occurrence of a match, and matches are removed in order: here the first match
    also occurs at the end of the second, which is then no longer found (`hpost` is needed) -/
example : stripIE "<!--[if a]-->\n<!--[if b]--><!--[if a]-->".toList = "\n<!--[if b]-->".toList := by char_lits; decide +kernel
/-- removing a match can leave a new conditional behind: `stripIE` is applied once, not to a fixed point -/
example : stripIE "<!-<!--[if x]-->-\n[if y]-->".toList = "<!--\n[if y]-->".toList := by char_lits; decide +kernel
example : stripIE (stripIE "<!-<!--[if x]-->-\n[if y]-->".toList) = [] := by char_lits; decide +kernel

/-- a token list with comments, a doctype and attribute values that meets the token-level condition -/
def sampleDocIE : List Token :=
  [.decl "DOCTYPE html".toList, .comment "x [if] is not at the start ".toList,
   .start "a".toList [("href".toList, some "x<!-- [y".toList)], .data "[if IE]".toList, .end_ "a".toList,
   .comment "if".toList, .start "br".toList []]

theorem sampleDocIE_ok : ListOK sampleDocIE :=
  listOK_of_noAdjData _ (by unfold sampleDocIE; char_lits; decide +kernel) (by unfold sampleDocIE; char_lits; decide +kernel)
    (by unfold sampleDocIE; simp [NoAdjData, isData])

theorem sampleDocIE_noIE : ∀ t ∈ sampleDocIE, TokNoIE t := by unfold sampleDocIE; char_lits; decide +kernel

example : parseText (renderToks sampleDocIE) = some (.doc (Spec.build sampleDocIE).1 (Spec.build sampleDocIE).2) :=
  parseText_eq_spec sampleDocIE sampleDocIE_ok (by unfold sampleDocIE; char_lits; decide +kernel) sampleDocIE_noIE

/-- a document with a raw-text element that meets the token-level condition: the script's content has `<`, `&&`,
    an end tag — but no opener -/
theorem sampleRawDoc_noIE : ∀ t ∈ sampleRawDoc, TokNoIE t := by unfold sampleRawDoc; char_lits; decide +kernel

example : parseText (renderToks sampleRawDoc) = some (.doc (Spec.build sampleRawDoc).1 (Spec.build sampleRawDoc).2) :=
  parseText_eq_spec sampleRawDoc sampleRawDoc_ok (by decide +kernel) sampleRawDoc_noIE

/-- the clause of `TokNoIE` on data tokens is needed: a script whose content holds a conditional comment is in the
    serialiser's image (`ListOK.raw`; every other token meets the condition), its content token tests positive,
    the rendering has the marker, and `stripIEConditionals` cuts the conditional out of the script's text -/
def rawCondDoc : List Token :=
  [.start "script".toList [], .data "a<!--[if IE]>b<![endif]-->c".toList, .end_ "script".toList]

theorem rawCondDoc_ok : ListOK rawCondDoc :=
  .raw (by decide +kernel) (by simp) (by char_lits; decide +kernel) (by char_lits; decide +kernel) .nil

example : rawCondDoc.map tokIE = [false, true, false] := by unfold rawCondDoc; char_lits; decide +kernel
example : hasIEMarker (renderToks rawCondDoc) = true := by
  rw [renderToks_marker_iff_tokens _ rawCondDoc_ok]; unfold rawCondDoc; char_lits; decide +kernel
example : stripIE (renderToks rawCondDoc) = "<script >ac</script>".toList := by
  unfold rawCondDoc; char_lits; decide +kernel

/-- the token-level condition is needed: a comment token whose body starts with `[if` is in the serialiser's
    image, but `feed` strips it from the text — the element it stood in comes out empty -/
def condComment : List Token :=
  [.start "a".toList [], .comment "[if IE]><b>x</b><![endif]".toList, .end_ "a".toList]

theorem condComment_ok : ListOK condComment :=
  listOK_of_noAdjData _ (by unfold condComment; char_lits; decide +kernel) (by decide +kernel)
    (by unfold condComment; simp [NoAdjData, isData])

example : stripIE (renderToks condComment) = "<a ></a>".toList := by unfold condComment; char_lits; decide +kernel

def emptyA : List Token := [.start "a".toList [], .end_ "a".toList]

theorem emptyA_ok : ListOK emptyA := .cons (by decide +kernel) trivial (.cons (by decide +kernel) trivial .nil)

/-- …and `parseText_drops_conditional` says what comes out instead: the document of the list without the token -/
example : parseText (renderToks condComment)
    = some (.doc (Spec.build [.start "a".toList [], .end_ "a".toList]).1 (Spec.build [.start "a".toList [], .end_ "a".toList]).2) :=
  parseText_drops_conditional [.start "a".toList []] [.end_ "a".toList] "[if IE]><b>x</b><![endif]".toList
    (by char_lits; decide +kernel) (by char_lits; decide +kernel) (by decide +kernel) (by decide +kernel)
    (by decide +kernel) (Or.inl (by decide +kernel)) emptyA_ok (by decide +kernel)

def rootKids : FeedResult → Option Nat
  | .doc ⟨_, some (.elem _ _ _ kids)⟩ _ => some kids.length
  | _ => none

theorem condComment_stripped : stripIE (renderToks condComment) = renderToks emptyA := by
  unfold condComment; char_lits; decide +kernel

example : parseText (renderToks condComment) ≠ feedText (renderToks condComment) := by
  unfold parseText
  rw [condComment_stripped, feedText_renderToks _ condComment_ok, feedText_renderToks _ emptyA_ok]
  intro h
  have h2 := congrArg (Option.map rootKids) h
  revert h2
  decide +kernel

example : NoWrapper [.start "a".toList [], .data "x".toList, .end_ "b".toList, .start "br".toList []] := by
  decide +kernel

example : (Spec.build [.start "a".toList [], .start "b".toList [], .data "x".toList, .end_ "a".toList,
    .data "y".toList]).2 = true := by decide +kernel

/-- `reuse_eq_spec` applies: after a history that left an element open, `parseStr` of `sampleDocIE`'s rendering gives
    the specification's document of `sampleDocIE` -/
example : PObj.viewOf (PObj.parseHist PObj.lexTok PObj.noBytes (PObj.ParserObj.fresh PObj.lexTok () true, none)
    ([.str "<a >".toList] ++ [.str (renderToks sampleDocIE)])) = .inl (Spec.build sampleDocIE).1 :=
  reuse_eq_spec PObj.noBytes _ none [.str "<a >".toList] sampleDocIE sampleDocIE_ok
    (by unfold sampleDocIE; char_lits; decide +kernel) sampleDocIE_noIE

end AHP.C02
