/-
  C10 — the code tie of the style object: methods of `SpecialAttributes.StyleAttribute` THEMSELVES (`isEmpty`, `setProperty`,
  `_asStr`, and the name translation of `__getattribute__` / `__setattr__`; dumped node by node into `Gen.Code.style_attribute` by
  harness/ahpcheck/translate_code.py on every run, interpreted by `AHP.PyAst`) do to the style object what the hand-written model
  `Model/Attrs.lean` (`El.sty` with `Attrs.setProperty`, `Attrs.asStr`, `Attrs.styleDotGet`, `Attrs.styleDotSet`: the model of the
  C10 theorems) does to the ordered style map — for every map, every name, every value.

  The object: `ofStyle sv tr d` = the three fields `__init__` creates, `_styleDict` holding the map `d` (an ordered dict of
  texts); `_styleValue` and `_tagRef` are arbitrary.  `self._ensureHtmlAttribute()` — it attaches / detaches the `style` key of
  the TAG's attribute store (`Attrs.ensureStyle`, hand-modelled) and does not touch the style object — is a parameter of the
  interpreter returning `None` (the translator checks its exact body); so the theorems are about the style map (`El.sty`), which
  `Attrs.ensureStyle` leaves alone (`ensureStyle_sty`).  The theorems are about the dumped methods themselves
  (`StyleAttribute_isEmpty_ast`, `…_setProperty_ast`, `…_asStr_ast`, `…_getattribute_ast`, `…_setattr_ast`): no lookup by name is involved.
-/
import AHP.Props.C08Code
namespace AHP.C10Code
open AHP AHP.Gen AHP.Conv AHP.PyAst AHP.Gen.Code
open AHP.C08Code (embAL dSet_embAL)

def ofStyle (sv tr : PyV) (d : Attrs.AL Str) : List (String × Field) :=
  [("_styleValue", .py sv), ("_styleDict", .dict (embAL d)), ("_tagRef", .py tr)]

/-- What the methods run in: the static methods of the class dumped as functions (`Gen.Code.special_attributes`), and
`_ensureHtmlAttribute` as a call without effect on the style object. -/
def styleCx (parseInt : Str → Except PyErr Int) : Ctx :=
  { parseInt := parseInt
    funs := callIn parseInt special_attributes.reverse
    selfMeth := fun m =>
      if m = "_ensureHtmlAttribute" then
        some (fun args => match args with | [] => .ok (.py .none) | _ => .error .typeError)
      else none }

/-- a value given to the style: a text or `None` -/
def optV : Option Str → PyV
  | none => .none
  | some s => .str s

theorem ensureStyle_sty (e : Attrs.El) : (Attrs.ensureStyle e).sty = e.sty := by
  unfold Attrs.ensureStyle; split <;> rfl

theorem dGet_embAL (d : Attrs.AL Str) (k : Str) : dGet (embAL d) (.str k) = (Attrs.aget k d).map PyV.str := by
  rw [Attrs.aget_eq]; exact dGet_map pyEqV_str PyV.str d k

theorem dDel_embAL (d : Attrs.AL Str) (k : Str) : dDel (embAL d) (.str k) = embAL (Attrs.adel k d) := by
  exact dDel_map pyEqV_str PyV.str d k

theorem adel_absent (d : Attrs.AL Str) (k : Str) (h : Attrs.aget k d = none) : Attrs.adel k d = d := by
  exact Attrs.adel_of_not_mem (Attrs.aget_eq_none_iff.mp h)

theorem any_embAL (d : Attrs.AL Str) (k : Str) :
    (embAL d).any (fun e => pyEqV (.str k) e.1) = (Attrs.aget k d).isSome := by
  induction d with
  | nil => rfl
  | cons p r ih =>
    obtain ⟨a, w⟩ := p
    simp only [embAL, List.map_cons, List.any_cons, Attrs.aget, pyEqV] at ih ⊢
    by_cases h : a = k
    · subst h; simp
    · have h2 : ¬ k = a := fun e => h e.symm
      simp [h, h2, ih]

theorem embAL_isEmpty (d : Attrs.AL Str) : (embAL d).isEmpty = d.isEmpty := by cases d <;> rfl
theorem embAL_length (d : Attrs.AL Str) : (embAL d).length = d.length := by simp [embAL]

/-- `isEmpty(self)`: is the style map empty; the object is unchanged. -/
theorem isEmpty_code_eq_model (parseInt : Str → Except PyErr Int) (sv tr : PyV) (d : Attrs.AL Str) :
    runMeth (styleCx parseInt) StyleAttribute_isEmpty_ast (ofStyle sv tr d) []
      = (some (ofStyle sv tr d), .ok (.py (.bool d.isEmpty))) := by
  have hb : (styleCx parseInt).funs "bool" = none := rfl
  have hl : (styleCx parseInt).funs "len" = none := rfl
  cases d <;>
    simp [runMeth, StyleAttribute_isEmpty_ast, bindArgs, execS, getAttr_field, ofStyle, Field.toVal, hb, hl, builtin_bool,
      builtin_len, pyLen, pyCompare, compareB, pyEq_py, pyEqV, embAL, py_straight]
  -- left by the non-empty case: the length of the dict, `↑r.length + 1 : Int`, is not `0`
  omega

theorem styleCx_ensure (parseInt : Str → Except PyErr Int) :
    (styleCx parseInt).selfMeth "_ensureHtmlAttribute"
      = some (fun args => match args with | [] => .ok (.py .none) | _ => .error .typeError) := by simp [styleCx]

/-- `setProperty(self, name, value)` for every style map, every name (a dash name: it is not translated) and every value that
is a text or `None`: the map becomes that of the hand model's `Attrs.setProperty` (`''` / `None` delete the name — an absent
name is no error —, anything else is stored as `str(value)`); the call returns `None`. -/
theorem setProperty_code_eq_model (parseInt : Str → Except PyErr Int) (sv tr : PyV) (e : Attrs.El) (name : Str) (v : Option Str) :
    runMeth (styleCx parseInt) StyleAttribute_setProperty_ast (ofStyle sv tr e.sty) [.py (.str name), .py (optV v)]
      = (some (ofStyle sv tr (Attrs.setProperty name v e).sty), .ok (.py .none)) := by
  have hs : (styleCx parseInt).funs "str" = none := rfl
  have hsty : (Attrs.setProperty name v e).sty
      = if Attrs.emptyVal v then Attrs.adel name e.sty else Attrs.aset name (v.getD []) e.sty := by
    rw [Attrs.setProperty, ensureStyle_sty]
  rw [hsty]
  generalize hd' : (if Attrs.emptyVal v then Attrs.adel name e.sty else Attrs.aset name (v.getD []) e.sty) = d'
  have hrun : execL (styleCx parseInt)
      [("self", .obj (ofStyle sv tr e.sty)), ("name", .py (.str name)), ("value", .py (optV v))] StyleAttribute_setProperty_ast.body
      = ([("self", .obj (ofStyle sv tr d')), ("name", .py (.str name)), ("value", .py (optV v)),
          ("styleDict", .ref "self" "_styleDict")], .next) := by
    refine (PyAstParser.execL_cons_next _ _ [("self", .obj (ofStyle sv tr e.sty)), ("name", .py (.str name)),
      ("value", .py (optV v)), ("styleDict", .ref "self" "_styleDict")] _ _ ?_).trans ?_
    · simp [execS, getField, List.lookup, ofStyle, assocSet]
    refine (PyAstParser.execL_cons_next _ _ [("self", .obj (ofStyle sv tr d')), ("name", .py (.str name)),
      ("value", .py (optV v)), ("styleDict", .ref "self" "_styleDict")] _ _ ?_).trans ?_
    · subst hd'
      have hc : eval (styleCx parseInt) [("self", .obj (ofStyle sv tr e.sty)), ("name", .py (.str name)), ("value", .py (optV v)),
          ("styleDict", .ref "self" "_styleDict")] (.cmp .isIn (.var "value") (.tuple [.const (.str ""), .const .none]))
          = .ok (.py (.bool (Attrs.emptyVal v))) := by
        rcases v with _ | _ | ⟨c, r⟩ <;>
          simp [eval, evalList, toTuple, List.lookup, optV, pyCompare, compareB, pyIn_py_tuple, pyEqV, Lit.toPy, Attrs.emptyVal]
      rw [execS_ifS hc]
      cases hv : Attrs.emptyVal v
      · obtain ⟨c, r, rfl⟩ : ∃ c r, v = some (c :: r) := by rcases v with _ | _ | ⟨c, r⟩ <;> simp_all [Attrs.emptyVal]
        simp [execS, getField, ofStyle, optV, assocSet, setItemAt, hashable, hs, builtin_str, tostr, putField, dSet_embAL,
          py_straight]
      · cases hg : Attrs.aget name e.sty <;>
          simp [execS, getField, ofStyle, assocSet, delItemAt, hashable, dGet_embAL, hg, catches, errIsA, excOf, putField,
            dDel_embAL, adel_absent, py_straight]
    simp [execS, styleCx_ensure, Val.mutable, py_straight]
  simp only [runMeth, StyleAttribute_setProperty_ast, bindArgs, List.lookup, Option.isSome, List.isEmpty, Bool.false_eq_true,
    if_false, if_true] at hrun ⊢
  rw [hrun]
  rfl

/-- (the twin of `C01Code.strItems_map_str`; `_asStr` below goes through `strItems_map_comp`) -/
theorem strItems_map_str (l : List Str) : strItems (l.map PyV.str) = some l := by
  simpa using strItems_map_comp id l

/-- the comprehension of `_asStr`, for every map: one text `name: value` per declaration, in order -/
theorem comp_declStr (cx : Ctx) (env : Env) (d : Attrs.AL Str) :
    collectPy ((embAL d).map (fun p => eval cx (assocSet (assocSet env "name" (.py p.1)) "value" (.py p.2))
        (.binop .add (.binop .add (.var "name") (.const (.str ": "))) (.var "value"))))
      = .ok ((d.map Attrs.declStr).map PyV.str) := by
  induction d with
  | nil => rfl
  | cons p r ih =>
    obtain ⟨a, w⟩ := p
    simp only [embAL, List.map_cons] at ih ⊢
    have hn : (assocSet (assocSet env "name" (.py (.str a))) "value" (.py (.str w))).lookup "name" = some (.py (.str a)) := by
      simp [lookup_assocSet, lookup_assocSet_eq]
    have hhead : eval cx (assocSet (assocSet env "name" (.py (.str a))) "value" (.py (.str w)))
        (.binop .add (.binop .add (.var "name") (.const (.str ": "))) (.var "value"))
        = .ok (.py (.str (Attrs.declStr (a, w)))) := by
      simp only [eval, hn, lookup_assocSet_eq, pyBinop, numOf, Lit.toPy, Attrs.declStr]
      rfl
    rw [hhead, collectPy, ih]

/-- `_asStr(self)` (= `str(style)`) for every style map: the hand model's `Attrs.asStr` (`name: value` joined with `; `, in
the order of the map; `''` for the empty map); the object is unchanged. -/
theorem asStr_code_eq_model (parseInt : Str → Except PyErr Int) (sv tr : PyV) (d : Attrs.AL Str) :
    runMeth (styleCx parseInt) StyleAttribute_asStr_ast (ofStyle sv tr d) []
      = (some (ofStyle sv tr d), .ok (.py (.str (Attrs.asStr d)))) := by
  cases d with
  | nil =>
    simp [runMeth, StyleAttribute_asStr_ast, bindArgs, execL, execS, eval, List.lookup, getField, ofStyle, assocSet,
      Field.toVal, Val.truthy, embAL, Lit.toPy, resultOf, Attrs.asStr, joinWith]
  | cons p r =>
    have hc := fun env => comp_declStr (styleCx parseInt) env (p :: r)
    have ht : (Val.dict (embAL (p :: r))).truthy = true := by simp [Val.truthy, embAL]
    simp only [runMeth, StyleAttribute_asStr_ast, bindArgs, List.lookup, Option.isSome, List.isEmpty, Bool.false_eq_true,
      if_false, if_true]
    generalize (Expr.binop .add (Expr.binop .add (.var "name") (.const (.str ": "))) (.var "value")) = elt at hc ⊢
    have hc' := hc [("self", .obj (ofStyle sv tr (p :: r))), ("styleDict", .ref "self" "_styleDict")]
    simp only [assocSet, ofStyle, String.reduceEq, if_false] at hc'
    simp [execL, execS, eval, evalList, List.lookup, getField, ofStyle, assocSet, Field.toVal, ht, hc', callMethod_join,
      strItems_map_comp, strItems, Attrs.asStr, Lit.toPy, resultOf]

/-- `StyleAttribute.RESERVED_ATTRIBUTES`, as the dump has it -/
def reservedNames : List Str :=
  ["_styleValue", "_styleDict", "_asStr", "_ensureHtmlAttribute", "tag", "_tagRef", "setTag", "isEmpty", "setProperty"].map
    String.toList

/-- the test `name in StyleAttribute.RESERVED_ATTRIBUTES`, as dumped -/
def reservedTest : Expr :=
  .cmp .isIn (.var "name") (.tuple [(.const (.str "_styleValue")), (.const (.str "_styleDict")), (.const (.str "_asStr")),
    (.const (.str "_ensureHtmlAttribute")), (.const (.str "tag")), (.const (.str "_tagRef")), (.const (.str "setTag")),
    (.const (.str "isEmpty")), (.const (.str "setProperty"))])

theorem reservedTest_eval (cx : Ctx) (env : Env) (name : Str) (hN : env.lookup "name" = some (.py (.str name))) :
    eval cx env reservedTest = .ok (.py (.bool (reservedNames.contains name))) := by
  simp [reservedTest, eval, evalList, hN, toTuple, pyCompare, compareB, pyIn_py_tuple, pyEqV, Lit.toPy, reservedNames,
    Bool.or_assoc]

/-- the static method `camelCaseToDashName` as the methods see it: `Attrs.camelToDash` (`C08Code`) -/
theorem styleCx_camel (parseInt : Str → Except PyErr Int) :
    (styleCx parseInt).funs "camelCaseToDashName"
      = some (runKw { parseInt := parseInt, funs := callIn parseInt [] } StyleAttribute_camelCaseToDashName_ast) := rfl

theorem camel_run (parseInt : Str → Except PyErr Int) (s : Str) :
    runKw { parseInt := parseInt, funs := callIn parseInt [] } StyleAttribute_camelCaseToDashName_ast [.py (.str s)] []
      = .ok (.py (.str (Attrs.camelToDash s))) :=
  C08Code.camelCaseToDashName_code_eq_model parseInt s

/-- the last expression of `__getattribute__`, `self._styleDict.get(name) or ''`: the value, `''` when the name is absent -/
theorem get_or_eval (cx : Ctx) (env : Env) (sv tr : PyV) (d : Attrs.AL Str) (n : Str)
    (hS : env.lookup "self" = some (.obj (ofStyle sv tr d))) (hN : env.lookup "name" = some (.py (.str n))) :
    eval cx env (.or (.meth (.attr (.var "self") "_styleDict") "get" [(.var "name")]) (.const (.str "")))
      = .ok (.py (.str ((Attrs.aget n d).getD []))) := by
  -- (three outcomes of the lookup: absent, the empty text — false, so `or` gives `''` again —, another text)
  rcases hg : Attrs.aget n d with _ | _ | ⟨c, r⟩ <;>
    simp [eval, evalList, hS, hN, getAttr_field, ofStyle, List.lookup, Field.toVal, callMethod_get, hashable, dGet_embAL, hg,
      Val.truthy, truthy, Lit.toPy]

/-- `style.<name>` (`__getattribute__(self, name)`) for every style map and every name that is not reserved and does not start
with `__`: the hand model's `Attrs.styleDotGet` — the camel-case name is translated to its dash name when that has a dash,
the value is `''` when the name is absent; the object is unchanged. -/
theorem getattribute_code_eq_model (parseInt : Str → Except PyErr Int) (sv tr : PyV) (e : Attrs.El) (name : Str)
    (hres : reservedNames.contains name = false) (hdd : "__".toList.isPrefixOf name = false) :
    runMeth (styleCx parseInt) StyleAttribute_getattribute_ast (ofStyle sv tr e.sty) [.py (.str name)]
      = (some (ofStyle sv tr e.sty), .ok (.py (.str (Attrs.styleDotGet name e)))) := by
  have h1 := reservedTest_eval (styleCx parseInt) [("self", .obj (ofStyle sv tr e.sty)), ("name", .py (.str name))] name
    (by simp [List.lookup])
  have h3 := fun env n => get_or_eval (styleCx parseInt) env sv tr e.sty n
  have hE1 : reservedTest = Expr.cmp .isIn (.var "name") (.tuple [(.const (.str "_styleValue")),
    (.const (.str "_styleDict")), (.const (.str "_asStr")), (.const (.str "_ensureHtmlAttribute")), (.const (.str "tag")),
    (.const (.str "_tagRef")), (.const (.str "setTag")), (.const (.str "isEmpty")), (.const (.str "setProperty"))]) := rfl
  simp only [runMeth, StyleAttribute_getattribute_ast, bindArgs, List.lookup, Option.isSome, List.isEmpty, Bool.false_eq_true,
    if_false, if_true]
  -- the test folded back into its name and then made opaque, so that the closing `simp` uses `h1` and does not evaluate it again
  rw [← hE1]
  generalize reservedTest = E1 at h1 ⊢
  have hdd' : ['_', '_'].isPrefixOf name = false := hdd
  have hres' : name ∉ reservedNames := by simpa using hres
  simp only [ofStyle] at h1 h3
  generalize (Expr.or (.meth (.attr (.var "self") "_styleDict") "get" [(.var "name")]) (.const (.str ""))) = E3 at h3 ⊢
  by_cases hdash : '-' ∈ Attrs.camelToDash name <;>
    simp [execS, h1, hres', callMethod_startswith, hdd', styleCx_camel, camel_run, aliasOK, Val.mutable, assocSet, pyCompare, compareB,
      pyIn_char_str, hdash, h3, ofStyle, Attrs.styleDotGet, py_straight]

/-- `style.<name> = val` (`__setattr__(self, name, val)`) for every style map, every name that is not reserved, and every value
that is a text or `None`: the map becomes that of the hand model's `Attrs.styleDotSet` (the name is translated to its dash
name; a false value deletes it — an absent name is no error —, another is stored); the call returns `val`. -/
theorem setattr_code_eq_model (parseInt : Str → Except PyErr Int) (sv tr : PyV) (e : Attrs.El) (name : Str) (v : Option Str)
    (hres : reservedNames.contains name = false) :
    runMeth (styleCx parseInt) StyleAttribute_setattr_ast (ofStyle sv tr e.sty) [.py (.str name), .py (optV v)]
      = (some (ofStyle sv tr (Attrs.styleDotSet name v e).sty), .ok (.py (optV v))) := by
  have hsty : (Attrs.styleDotSet name v e).sty
      = if Attrs.emptyVal v then Attrs.adel (Attrs.camelToDash name) e.sty
        else Attrs.aset (Attrs.camelToDash name) (v.getD []) e.sty := by
    rw [Attrs.styleDotSet, ensureStyle_sty]
  have hcam := camel_run parseInt name
  rw [hsty]
  generalize Attrs.camelToDash name = n at hcam ⊢
  generalize hd' : (if Attrs.emptyVal v then Attrs.adel n e.sty else Attrs.aset n (v.getD []) e.sty) = d'
  -- the body, statement by statement; `name` holds the dash name from the fourth statement on, whether or not it differed
  have hrun : execL (styleCx parseInt)
      [("self", .obj (ofStyle sv tr e.sty)), ("name", .py (.str name)), ("val", .py (optV v))] StyleAttribute_setattr_ast.body
      = ([("self", .obj (ofStyle sv tr d')), ("name", .py (.str n)), ("val", .py (optV v)), ("attrName", .py (.str n)),
          ("styleDict", .ref "self" "_styleDict")], .ret (.py (optV v))) := by
    have h1 := reservedTest_eval (styleCx parseInt)
      [("self", .obj (ofStyle sv tr e.sty)), ("name", .py (.str name)), ("val", .py (optV v))] name (by simp [List.lookup])
    have hres' : name ∉ reservedNames := by simpa using hres
    refine (PyAstParser.execL_cons_next _ _ [("self", .obj (ofStyle sv tr e.sty)), ("name", .py (.str name)), ("val", .py (optV v))]
      _ _ ?_).trans ?_
    · change execS _ _ (.ifS reservedTest _ _) = _
      rw [execS, h1]
      simp [hres', Val.truthy, truthy, execL]
    refine (PyAstParser.execL_cons_next _ _ [("self", .obj (ofStyle sv tr e.sty)), ("name", .py (.str name)), ("val", .py (optV v)),
      ("attrName", .py (.str n))] _ _ ?_).trans ?_
    · simp [execS, eval, evalList, List.lookup, styleCx_camel, hcam, aliasOK, Val.mutable, assocSet]
    refine (PyAstParser.execL_cons_next _ _ [("self", .obj (ofStyle sv tr e.sty)), ("name", .py (.str name)), ("val", .py (optV v)),
      ("attrName", .py (.str n)), ("styleDict", .ref "self" "_styleDict")] _ _ ?_).trans ?_
    · simp [execS, getField, List.lookup, ofStyle, assocSet]
    refine (PyAstParser.execL_cons_next _ _ [("self", .obj (ofStyle sv tr e.sty)), ("name", .py (.str n)), ("val", .py (optV v)),
      ("attrName", .py (.str n)), ("styleDict", .ref "self" "_styleDict")] _ _ ?_).trans ?_
    · by_cases hne : n = name
      · subst hne
        simp [execS, pyCompare, compareB, bnot, pyEq_py, pyEqV_str, py_straight]
      · simp [execS, pyCompare, compareB, bnot, pyEq_py, pyEqV_str, hne, aliasOK, Val.mutable, assocSet, py_straight]
    refine (PyAstParser.execL_cons_next _ _ [("self", .obj (ofStyle sv tr d')), ("name", .py (.str n)), ("val", .py (optV v)),
      ("attrName", .py (.str n)), ("styleDict", .ref "self" "_styleDict")] _ _ ?_).trans ?_
    · subst hd'
      have hc : eval (styleCx parseInt) [("self", .obj (ofStyle sv tr e.sty)), ("name", .py (.str n)), ("val", .py (optV v)),
          ("attrName", .py (.str n)), ("styleDict", .ref "self" "_styleDict")] (.not (.var "val"))
          = .ok (.py (.bool (Attrs.emptyVal v))) := by
        rcases v with _ | _ | ⟨c, r⟩ <;> simp [eval, List.lookup, optV, Val.truthy, truthy, Attrs.emptyVal]
      rw [execS_ifS hc]
      cases hv : Attrs.emptyVal v
      · obtain ⟨c, r, rfl⟩ : ∃ c r, v = some (c :: r) := by rcases v with _ | _ | ⟨c, r⟩ <;> simp_all [Attrs.emptyVal]
        simp [execS, assocSet, getField, hashable, setItemAt, dSet_embAL, putField, ofStyle, optV, py_straight]
      · cases hg : Attrs.aget n e.sty <;>
          simp [execS, assocSet, pyCompare, compareB, pyIn_py_dict, hashable, any_embAL, hg, getField, Field.toVal, delItemAt,
            dGet_embAL, dDel_embAL, putField, ofStyle, adel_absent, py_straight]
    simp [execS, styleCx_ensure, Val.mutable, py_straight]
  simp only [runMeth, StyleAttribute_setattr_ast, bindArgs, List.lookup, Option.isSome, List.isEmpty, Bool.false_eq_true,
    if_false, if_true] at hrun ⊢
  rw [hrun]
  rfl

/-! ### non-vacuity: concrete runs of the dump through the interpreter (kernel evaluation) -/

-- a broken `decide +kernel` would explain itself through the elaborator's evaluator (minutes, gigabytes on a run of the
-- interpreter): the small budget makes it fail at once; the kernel check of a correct example does not consume it
set_option maxHeartbeats 2000

private def d2 : Attrs.AL Str := [("color".toList, "red".toList), ("padding-top".toList, "5px".toList)]
private def sobj (d : Attrs.AL Str) : List (String × Field) := ofStyle (.str "x".toList) (.opaque "weakref") d
private def s (t : String) : Val := .py (.str t.toList)

/-- the hypotheses of the two dot-access theorems are met by ordinary style names, and fail for a reserved one -/
example : reservedNames.contains "paddingTop".toList = false ∧ "__".toList.isPrefixOf "paddingTop".toList = false
    ∧ reservedNames.contains "tag".toList = true := by decide
example : runMeth (styleCx pyIntOfStr) StyleAttribute_isEmpty_ast (sobj d2) [] = (some (sobj d2), .ok (.py (.bool false)))
    ∧ runMeth (styleCx pyIntOfStr) StyleAttribute_isEmpty_ast (sobj []) [] = (some (sobj []), .ok (.py (.bool true))) := by
  decide +kernel
/-- `setProperty`: an existing name keeps its place, a new one goes last; `''` and `None` delete; deleting an absent name is
no error; the name is NOT translated (no dash name for `paddingTop`) -/
example : runMeth (styleCx pyIntOfStr) StyleAttribute_setProperty_ast (sobj d2) [s "color", s "blue"]
    = (some (sobj [("color".toList, "blue".toList), ("padding-top".toList, "5px".toList)]), .ok (.py .none)) := by
  decide +kernel
example : runMeth (styleCx pyIntOfStr) StyleAttribute_setProperty_ast (sobj d2) [s "paddingTop", s "1px"]
    = (some (sobj (d2 ++ [("paddingTop".toList, "1px".toList)])), .ok (.py .none)) := by decide +kernel
example : runMeth (styleCx pyIntOfStr) StyleAttribute_setProperty_ast (sobj d2) [s "color", .py .none]
    = (some (sobj [("padding-top".toList, "5px".toList)]), .ok (.py .none))
    ∧ runMeth (styleCx pyIntOfStr) StyleAttribute_setProperty_ast (sobj d2) [s "float", s ""]
    = (some (sobj d2), .ok (.py .none)) := by decide +kernel
/-- a value that is not a text is stored as `str(value)` (outside the hand model's `Option Str`) -/
example : runMeth (styleCx pyIntOfStr) StyleAttribute_setProperty_ast (sobj []) [s "z-index", .py (.int 3)]
    = (some (sobj [("z-index".toList, "3".toList)]), .ok (.py .none)) := by decide +kernel
example : runMeth (styleCx pyIntOfStr) StyleAttribute_asStr_ast (sobj d2) []
    = (some (sobj d2), .ok (s "color: red; padding-top: 5px"))
    ∧ runMeth (styleCx pyIntOfStr) StyleAttribute_asStr_ast (sobj []) [] = (some (sobj []), .ok (s "")) := by decide +kernel
/-- `style.paddingTop` reads `padding-top`; a name without capitals is read as it is; an absent name is `''` -/
example : runMeth (styleCx pyIntOfStr) StyleAttribute_getattribute_ast (sobj d2) [s "paddingTop"] = (some (sobj d2), .ok (s "5px"))
    ∧ runMeth (styleCx pyIntOfStr) StyleAttribute_getattribute_ast (sobj d2) [s "color"] = (some (sobj d2), .ok (s "red"))
    ∧ runMeth (styleCx pyIntOfStr) StyleAttribute_getattribute_ast (sobj d2) [s "float"] = (some (sobj d2), .ok (s "")) := by
  decide +kernel
/-- a reserved name is the plain attribute (`object.__getattribute__`): the field itself -/
example : (runMeth (styleCx pyIntOfStr) StyleAttribute_getattribute_ast (sobj d2) [s "_styleValue"]).2 = .ok (s "x") := by
  decide +kernel
/-- `style.paddingTop = v` writes `padding-top`; a false value deletes -/
example : runMeth (styleCx pyIntOfStr) StyleAttribute_setattr_ast (sobj d2) [s "paddingTop", s "9px"]
    = (some (sobj [("color".toList, "red".toList), ("padding-top".toList, "9px".toList)]), .ok (s "9px"))
    ∧ runMeth (styleCx pyIntOfStr) StyleAttribute_setattr_ast (sobj d2) [s "paddingTop", s ""]
    = (some (sobj [("color".toList, "red".toList)]), .ok (s ""))
    ∧ runMeth (styleCx pyIntOfStr) StyleAttribute_setattr_ast (sobj d2) [s "marginLeft", .py .none]
    = (some (sobj d2), .ok (.py .none)) := by decide +kernel
/-- assigning a reserved name goes to `object.__setattr__`, which is NOT modelled: an error, never a value -/
example : (runMeth (styleCx pyIntOfStr) StyleAttribute_setattr_ast (sobj d2) [s "tag", .py .none]).2
    = .error (unsupported "object.__setattr__") := by decide +kernel

end AHP.C10Code
