/-
  AttrStores — the four models of the attribute store are one function.

  `AdvancedTag.__init__` over the attribute list, the reader-side synchronisation (`_handleClassAttr`), the
  listing `getAttributesList()` and the attribute part of `getStartTag()` are modelled four times:

    (1) `AHP`        Model/Token.lean  + Model/Tree.lean   `intake`, `AttrState.view`, `startTagI`      (C01–C03, C13)
    (2) `AHP.Attrs`  Model/Attrs.lean                      `mk`, `attrsList`, `startTag`                (C08–C10)
    (3) `AHP.Pk`     Model/Pickle.lean                     `Attrs.init`, `Attrs.attrsList`, `startTag`  (C16, C17)
    (4) `AHP.Fmt`    Model/Format.lean                     `mkStore`, `AStore.items`, `attrString`      (C11, C12)

  Property theorems only; lemmas in AHP/Lemmas/AttrStores{Str,Dict,Sim,Render}.lean.  Everything is stated for
  EVERY raw attribute list `l : List (Str × Option Str)`.  Model (1) is the hub: it keeps the most state (the
  raw text under `style`); `toA`, `toP`, `toF` forget that text and are otherwise the identity.

  Documented differences of representation (not of behaviour):
    * model (3) returns `Option` ("the constructor raised"): the theorem says it is always `some`;
    * model (2) is parametrised by the tables of constants.py.  Construction consults one row of them
      (`TAG_ITEM_BINARY_ATTRIBUTES_STRING_ATTR`, hypothesis `TablesOK`), rendering one more
      (`TAG_ITEM_BINARY_ATTRIBUTES`, hypothesis `BinaryOK`); the dot-access rows do not matter.  Models (1), (3),
      (4) read the same rows from the generated tables (AHP/Gen/Tables.lean) — `tables_agree`;
    * models (2) and (3) return / keep the synchronised store next to the listing; (1) and (4) are pure.

  There is no difference of behaviour: all four strip with `str.isspace()` (the shared `isWs` of Model/Basic.lean;
  `pyStrip = strip`, `strip_agree`), and `fmt_agrees_on_nbsp` is the instance on `class="\xa0a"`, where an ASCII-only
  `strip` would differ from the library.
-/
import AHP.Lemmas.AttrStoresRender
namespace AHP.AttrStores
open AHP

/-- The four `isValidAttributeName`s are one predicate. -/
theorem validAttrName_agree (n : Str) :
    Attrs.validName n = validAttrName n ∧ Pk.validAttrName n = validAttrName n ∧ Fmt.validAttrName n = validAttrName n :=
  ⟨validName_attrs n, validName_pk n, validName_fmt n⟩

example : validAttrName "data-x".toList = true ∧ validAttrName "a b".toList = false := by decide +kernel

/-- The four renderings of `WORDS_ONLY_RE.sub(' ', …)` (two-character look-ahead, "previous was a space" flag,
    nested match) are one function. -/
theorem collapseSpaces_agree (s : Str) :
    Attrs.collapseSpaces s = collapseSpaces s ∧ Pk.collapseSp s = collapseSpaces s
      ∧ Fmt.collapseSpaces false s = collapseSpaces s :=
  ⟨collapse_attrs s, collapse_pk s, collapse_fmt s⟩

example : collapseSpaces " a   b  ".toList = " a b ".toList := by decide +kernel

theorem classSplit_agree (s : Str) :
    Attrs.words s = classNamesOf (some s) ∧ Pk.classTokens s = classNamesOf (some s)
      ∧ Fmt.classNames s = classNamesOf (some s) :=
  ⟨words_attrs s, classTokens_pk s, classNames_fmt s⟩

example : classNamesOf (some "  a  b c ".toList) = ["a".toList, "b".toList, "c".toList] := by decide +kernel

/-- non-ASCII white space: stripped at the ends (`str.strip()`), but only U+0020 separates names (`split(' ')`) — an
    inner U+00A0 / U+3000 stays inside the name, as in the library -/
example : classNamesOf (some [Char.ofNat 0xa0, 'a', ' ', 'b', Char.ofNat 0xa0, 'c', Char.ofNat 0x3000])
      = [['a'], ['b', Char.ofNat 0xa0, 'c']]
    ∧ Fmt.classNames [Char.ofNat 0xa0, 'a', ' ', 'b', Char.ofNat 0xa0, 'c', Char.ofNat 0x3000]
      = [['a'], ['b', Char.ofNat 0xa0, 'c']] := by decide +kernel

/-- `pyStrip` and `strip` are one function: both remove all of `str.isspace()`. -/
theorem strip_agree (s : Str) : Fmt.pyStrip s = strip s := pyStrip_eq s

example : strip [Char.ofNat 0x2003, '\x1c', 'a', ' ', 'b', Char.ofNat 0x85, '\n'] = ['a', ' ', 'b'] := by decide +kernel

/-- The four `StyleAttribute.styleToDict`s (first colon found by index / by recursion / by `takeWhile`) agree. -/
theorem styleToDict_agree (s : Str) :
    Attrs.styleToDict s = styleToDict s ∧ Pk.styleToDict s = styleToDict s
      ∧ Fmt.styleToDict s = styleToDict s :=
  ⟨styleToDict_attrs s, styleToDict_pk s, styleToDict_fmt s⟩

example : styleToDict " Color : red ;; x:1; color: blue".toList
    = [("color".toList, "blue".toList), ("x".toList, "1".toList)] := by
  char_lits
  decide +kernel

/-- names and values are stripped of non-ASCII white space too -/
example : styleToDict [Char.ofNat 0xa0, 'x', Char.ofNat 0x3000, ':', Char.ofNat 0x2003, '1', Char.ofNat 0x85, ';', 'y', ':', '2',
      Char.ofNat 0xa0] = [(['x'], ['1']), (['y'], ['2'])] := by decide +kernel

theorem styleStr_agree (m : List (Str × Str)) :
    Attrs.asStr m = styleStr m ∧ Pk.styleStr m = styleStr m ∧ Fmt.styleStr m = styleStr m :=
  ⟨rfl, rfl, rfl⟩

/-- Models (2)–(4) copy the parsed style once more through its text (`tag.style = StyleAttribute(…)`), model (1)
    does not: the copy changes nothing. -/
theorem styleCopy_agree (s : Str) : styleToDict (styleStr (styleToDict s)) = styleToDict s := styleToDict_idem s

theorem boolString_agree (v : Option Str) :
    Attrs.boolString v = boolString v ∧ Pk.convBoolStr v = boolString v ∧ Fmt.boolString v = boolString v :=
  ⟨boolString_attrs v, boolString_pk v, boolString_fmt v⟩

example : boolString (some "FALSE".toList) = "false".toList ∧ boolString (some "x".toList) = "true".toList
    ∧ boolString none = "false".toList := by decide +kernel

theorem escapeQuotes_agree (s : Str) : Attrs.escQ s = escQ s ∧ Pk.escQ s = escQ s ∧ Fmt.escapeQuotes s = escQ s :=
  ⟨escQ_attrs s, escQ_pk s, escQ_fmt s⟩

/-- The dict writes agree: always for (2) and (3); for the formatter's (which rewrites every entry with the key)
    on dicts with pairwise distinct keys. -/
theorem dictSet_agree {β : Type} (k : Str) (v : β) (d : List (Str × β)) :
    Attrs.aset k v d = dictSet d k v ∧ Pk.dset k v d = dictSet d k v
      ∧ ((keys d).Nodup → Fmt.dictSet d k v = dictSet d k v) :=
  ⟨aset_eq_dictSet k v d, dset_eq k v d, fun h => fset_eq k v h⟩

/-- The dict deletes agree: always for (2) and (4); for the pickle model's (which removes the first entry only)
    on dicts with pairwise distinct keys. -/
theorem dictDel_agree {β : Type} (k : Str) (d : List (Str × β)) :
    Attrs.adel k d = dictDel d k ∧ Fmt.dictDel d k = dictDel d k
      ∧ ((keys d).Nodup → Pk.ddel k d = dictDel d k) :=
  ⟨rfl, rfl, fun h => ddel_eq k h⟩

/-- with a repeated key the two variants do differ — such a list is not a Python dict -/
example : Fmt.dictSet [(['a'], 1), (['a'], 2)] ['a'] 0 ≠ dictSet [(['a'], 1), (['a'], 2)] ['a'] 0
    ∧ Pk.ddel ['a'] [(['a'], 1), (['a'], 2)] ≠ dictDel [(['a'], 1), (['a'], 2)] ['a'] := by decide +kernel

/-- The rows of constants.py the stores consult are the same in the generated tables of models (1), (3), (4). -/
theorem tables_agree :
    Pk.boolStrAttrs = ["spellcheck".toList] ∧ Fmt.binaryStringAttrs = ["spellcheck".toList]
      ∧ Pk.binaryAttrs = binaryAttrs ∧ Fmt.binaryAttrs = binaryAttrs :=
  ⟨pk_boolStr, fmt_boolStr, pk_binary, fmt_binary⟩

/-- a raw attribute list exercising every branch: upper-case names, an invalid name, duplicates (last wins, first
    position), `class` twice, `style` with a duplicate property and an item without colon, a value-less `style`
    replaced later, the boolean-string attribute, a value-less attribute -/
def sample : List Attr :=
  [("ID".toList, some "a".toList), ("a b".toList, some "x".toList), ("class".toList, some " x  y ".toList),
   ("style".toList, none), ("checked".toList, none), ("spellcheck".toList, some "No".toList),
   ("Style".toList, some "Color: red; junk; color : blue;top:1".toList), ("id".toList, some "b".toList),
   ("CLASS".toList, some "z  x".toList), ("data-q".toList, some "say \"hi\"".toList)]

/-- tables as the drivers hand them to model (2) -/
def sampleTables : Attrs.Tables := ⟨binaryAttrs, [kSpell], []⟩

theorem sampleTables_ok : TablesOK sampleTables ∧ BinaryOK sampleTables :=
  ⟨fun k => contains_single k kSpell, fun _ => rfl⟩

/-- the same with non-ASCII white space at the ends of the `class` and `style` values and of a style name / value -/
def sampleUni : List Attr :=
  [("class".toList, some [Char.ofNat 0xa0, 'x', ' ', ' ', 'y', Char.ofNat 0x3000]),
   ("style".toList, some [Char.ofNat 0x2003, 'c', Char.ofNat 0xa0, ':', Char.ofNat 0x85, 'r', ';', '\x1c']),
   ("id".toList, some [Char.ofNat 0xa0, 'i'])]

/-- The invariant the equalities rest on: the keys of the dict stay pairwise distinct. -/
theorem intake_keys_nodup (l : List Attr) : (keys (intake l AttrState.empty).d).Nodup := inv_intake l inv_empty

/-- (2) = (1) as STATES: the element the constructor of model (2) builds is the image of model (1)'s store. -/
theorem mk_eq_intake {T : Attrs.Tables} (hT : TablesOK T) (tag : Str) (sc : Bool) (l : List Attr) :
    Attrs.mk T tag sc l = toA (lower tag) sc (intake l AttrState.empty) := by
  rw [intake_eq_foldl]
  exact List.foldl_hom (toA (lower tag) sc) (init := AttrState.empty) (initStep_toA hT _ sc)

/-- (3) = (1) as states; the constructor of model (3) never raises. -/
theorem init_eq_intake (l : List Attr) : Pk.Attrs.init l = some (toP (intake l AttrState.empty)) := by
  exact initGo_toP l inv_empty

theorem mkStore_eq_intake (l : List Attr) : Fmt.mkStore l {} = toF (intake l AttrState.empty) := by
  rw [empty_toF]; exact mkStore_toF l inv_empty

/-- class names and style map are literally the same in the four stores -/
theorem classes_style_agree {T : Attrs.Tables} (hT : TablesOK T) (tag : Str) (sc : Bool) (l : List Attr) :
    let st := intake l AttrState.empty
    (Attrs.mk T tag sc l).cls = st.classes ∧ (Attrs.mk T tag sc l).sty = st.style
    ∧ (Pk.Attrs.init l).map (·.cls) = some st.classes ∧ (Pk.Attrs.init l).map (·.sty) = some st.style
    ∧ (Fmt.mkStore l {}).classes = st.classes ∧ (Fmt.mkStore l {}).style = st.style := by
  simp only [mk_eq_intake hT, init_eq_intake, mkStore_eq_intake l, Option.map_some]
  exact ⟨rfl, rfl, rfl, rfl, rfl, rfl⟩

/-- (2) = (1): `getAttributesList()` of the freshly built element. -/
theorem intake_view_eq_attrs {T : Attrs.Tables} (hT : TablesOK T) (tag : Str) (sc : Bool) (l : List Attr) :
    (Attrs.attrsList (Attrs.mk T tag sc l)).1 = (intake l AttrState.empty).view := by
  rw [mk_eq_intake hT]; exact attrsList_toA _ _ (inv_intake l inv_empty)

/-- (3) = (1): the constructor succeeds and lists the same. -/
theorem intake_view_eq_pickle (l : List Attr) :
    (Pk.Attrs.init l).map Pk.Attrs.attrsList = some (intake l AttrState.empty).view := by
  rw [init_eq_intake, Option.map_some, attrsList_toP (inv_intake l inv_empty)]

theorem intake_view_eq_format (l : List Attr) :
    (Fmt.mkStore l {}).items = (intake l AttrState.empty).view := by
  rw [mkStore_eq_intake l]; exact items_toF (inv_intake l inv_empty)

/-- The listing after construction is one list in all four models. -/
theorem intake_view_eq_all {T : Attrs.Tables} (hT : TablesOK T) (tag : Str) (sc : Bool) (l : List Attr) :
    (Attrs.attrsList (Attrs.mk T tag sc l)).1 = (intake l AttrState.empty).view
    ∧ (Pk.Attrs.init l).map Pk.Attrs.attrsList = some (intake l AttrState.empty).view
    ∧ (Fmt.mkStore l {}).items = (intake l AttrState.empty).view :=
  ⟨intake_view_eq_attrs hT tag sc l, intake_view_eq_pickle l, intake_view_eq_format l⟩

/-- the listing of `sample`, evaluated once: the `example` below states it, the start-tag example rewrites with it -/
private theorem sample_view : (intake sample AttrState.empty).view =
    [("id".toList, some "b".toList), ("checked".toList, none), ("spellcheck".toList, some "true".toList),
     ("style".toList, some "color: blue; top: 1".toList), ("data-q".toList, some "say \"hi\"".toList),
     ("class".toList, some "z x".toList)] := by
  unfold sample
  char_lits
  decide +kernel

/-- non-vacuity: the sample list meets the hypotheses and its listing is far from trivial -/
example : (intake sample AttrState.empty).view =
    [("id".toList, some "b".toList), ("checked".toList, none), ("spellcheck".toList, some "true".toList),
     ("style".toList, some "color: blue; top: 1".toList), ("data-q".toList, some "say \"hi\"".toList),
     ("class".toList, some "z x".toList)] := sample_view

example : (Attrs.attrsList (Attrs.mk sampleTables "DIV".toList false sample)).1 = (intake sample AttrState.empty).view :=
  intake_view_eq_attrs sampleTables_ok.1 _ _ _

/-- `TablesOK` is needed: with another boolean-string row model (2) stores another value. -/
example : (Attrs.attrsList (Attrs.mk ⟨[], [], []⟩ ['p'] false [("spellcheck".toList, some ['x'])])).1
      = [("spellcheck".toList, some ['x'])]
    ∧ (intake [("spellcheck".toList, some ['x'])] AttrState.empty).view
      = [("spellcheck".toList, some "true".toList)] := by decide +kernel

/-- A `class` value that starts with U+00A0 (an ASCII-only `strip` would keep it, `str.strip()` drops it) — an instance
    of `intake_view_eq_all`. -/
theorem fmt_agrees_on_nbsp :
    (Fmt.mkStore [("class".toList, some [Char.ofNat 0xa0, 'a'])] {}).items = [("class".toList, some ['a'])]
    ∧ (intake [("class".toList, some [Char.ofNat 0xa0, 'a'])] AttrState.empty).view = [("class".toList, some ['a'])]
    ∧ (Attrs.attrsList (Attrs.mk sampleTables ['p'] false [("class".toList, some [Char.ofNat 0xa0, 'a'])])).1
        = [("class".toList, some ['a'])]
    ∧ (Pk.Attrs.init [("class".toList, some [Char.ofNat 0xa0, 'a'])]).map Pk.Attrs.attrsList
        = some [("class".toList, some ['a'])] := by decide +kernel

/-- non-vacuity beyond ASCII: class and style lose the white space of `str.isspace()` at their ends, the plain attribute
    `id` keeps its value untouched; one listing in the four models -/
example : (intake sampleUni AttrState.empty).view =
    [("style".toList, some "c: r".toList), ("id".toList, some [Char.ofNat 0xa0, 'i']), ("class".toList, some "x y".toList)] := by
  decide +kernel

example : (Fmt.mkStore sampleUni {}).items = (intake sampleUni AttrState.empty).view := intake_view_eq_format sampleUni

/-- (2) = (1): `getStartTag()` of the freshly built element (model (2) lower-cases the tag name itself). -/
theorem startTag_eq_attrs {T : Attrs.Tables} (hT : TablesOK T) (hB : BinaryOK T) (tag : Str) (sc : Bool)
    (l : List Attr) :
    (Attrs.startTag T (Attrs.mk T tag sc l)).1 = startTag (lower tag) (intake l AttrState.empty) sc := by
  rw [mk_eq_intake hT]; exact startTag_toA hB _ _ (inv_intake l inv_empty)

theorem startTag_eq_pickle (name : Str) (sc : Bool) (l : List Attr) :
    (Pk.Attrs.init l).map (fun a => Pk.Attrs.startTag name a sc) = some (startTag name (intake l AttrState.empty) sc) := by
  rw [init_eq_intake, Option.map_some, startTag_toP name sc (inv_intake l inv_empty)]

/-- (4) = (1): the attribute string, and the start tag with the formatter's indent prefix. -/
theorem startTag_eq_format (l : List Attr) (name indent : Str) (sc : Bool) :
    Fmt.attrString (Fmt.mkStore l {}) = renderAttrs (intake l AttrState.empty).view
    ∧ Fmt.startTagNormal name (Fmt.mkStore l {}) sc indent = startTagI indent name (intake l AttrState.empty) sc := by
  rw [mkStore_eq_intake l]
  refine ⟨?_, startTag_toF name indent sc (inv_intake l inv_empty)⟩
  rw [attrString_eq, items_toF (inv_intake l inv_empty)]

/-- the element of the pickle model's tree (`DN.mk`) renders the start tag of model (1) -/
theorem dn_startTag_eq (oid uid : Nat) (name : Str) (l : List Attr) (sc : Bool) (owner : Option Nat) :
    ∃ a sc', Pk.DN.mk oid uid name l sc owner = some (.el oid uid (lower name) a sc' [.text []] [] [] none owner)
      ∧ Pk.Attrs.startTag (lower name) a sc' = startTag (lower name) (intake l AttrState.empty) sc' := by
  refine ⟨toP (intake l AttrState.empty), (if !sc && Pk.voidTags.contains name then true else sc), ?_,
    startTag_toP _ _ (inv_intake l inv_empty)⟩
  unfold Pk.DN.mk
  rw [init_eq_intake]

example : startTag "div".toList (intake sample AttrState.empty) false =
    "<div id=\"b\" checked spellcheck=\"true\" style=\"color: blue; top: 1\" data-q=\"say &quot;hi&quot;\" class=\"z x\" >".toList := by
  rw [startTag, startTagI, sample_view]
  char_lits
  decide +kernel

example : (Attrs.startTag sampleTables (Attrs.mk sampleTables "DIV".toList false sample)).1
    = startTag "div".toList (intake sample AttrState.empty) false :=
  startTag_eq_attrs sampleTables_ok.1 sampleTables_ok.2 _ _ _

example : Fmt.startTagNormal "div".toList (Fmt.mkStore sample {}) false "\n  ".toList
    = startTagI "\n  ".toList "div".toList (intake sample AttrState.empty) false :=
  (startTag_eq_format sample _ _ _).2

end AHP.AttrStores
