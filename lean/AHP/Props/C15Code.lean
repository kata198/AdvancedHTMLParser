/-
  C15 — the code tie of the compiled-expression cache: the methods of `xpath/_cache.py` THEMSELVES
  (`XPathExpressionCacheType.__init__`, `getCachedExpression`, `setCachedExpression`, dumped node by node into `Gen.Code`
  by harness/ahpcheck/translate_code.py on every run and interpreted by `AHP.PyAst`) do to the cache object what the
  hand-written model `Model/Cache.lean` (`State.empty`, `Cache.get`, `Cache.set`: the model of every C15 theorem) does to its
  state — for every state, key function, expression text, stored value, every `MAX_CACHED_EXPRESSIONS` and
  `CLEAR_AT_ONE_TIME` (the module constants are read at call time), and every `while` fuel above the length of the
  recency list.  The lock is a boolean field: each method is entered with the lock free and leaves it free.

  An edit of a method changes the dump and breaks its theorem for ALL states (the differential check of the C15 stream
  only sees the generated histories).
-/
import AHP.Gen.Code
import AHP.Lemmas.PyAstCache
import AHP.Lemmas.CacheLock
namespace AHP.C15Code
open AHP AHP.Gen AHP.Conv AHP.PyAst AHP.Gen.Code AHP.Cache

/-- `None` for a miss, the stored object for a hit: what `getCachedExpression` returns. -/
def optPy : Option PyV → PyV
  | none => .none
  | some v => v

theorem mem_of_dictGet {m : List (Str × PyV)} {k : Str} {v : PyV} (h : Cache.dictGet m k = some v) : (k, v) ∈ m := by
  rw [Cache.dictGet_eq] at h; exact Dict.mem_of_lookup h

/-- `XPathExpressionCacheType.__init__(self)` on a fresh object creates the empty state of the hand model and a free lock. -/
theorem init_code_eq_model (key : Str → Str) (MAX CLEAR fuel : Nat) :
    runMeth (cacheCx key MAX CLEAR fuel) XPathExpressionCacheType_init_ast [] []
      = (some (ofState State.empty false), .ok (.py .none)) := by
  simp [runMeth, XPathExpressionCacheType_init_ast, bindArgs, execS, Val.toField, aliasOK, Expr.makesNew, putField, assocSet,
    ofState, State.empty, embD, embK, py_straight]

/-- `getCachedExpression(self, expressionStr)`: the object afterwards and the value returned are `Cache.get` of the hand
model at the key of the text — for every state none of whose stored objects is `None` (the code reads a stored `None`
as a miss), every `MAX`, `CLEAR`, and every fuel above the length of the recency list. -/
theorem getCachedExpression_code_eq_model (key : Str → Str) (MAX CLEAR fuel : Nat) (s : State Str PyV) (e : Str)
    (hv : ∀ p ∈ s.map, p.2 ≠ .none) (hfuel : s.recent.length < fuel) :
    runMeth (cacheCx key MAX CLEAR fuel) XPathExpressionCacheType_getCachedExpression_ast (ofState s false) [.py (.str e)]
      = (some (ofState (Cache.get s (key e)).1 false), .ok (.py (optPy (Cache.get s (key e)).2))) := by
  cases hg : Cache.dictGet s.map (key e) with
  | none =>
    simp [runMeth, XPathExpressionCacheType_getCachedExpression_ast, bindArgs, ofState, hg, Cache.get, optPy, py_cache, py_stmts]
  | some v =>
    have hne : v ≠ .none := hv _ (mem_of_dictGet hg)
    have hloop := fun fs rest hk hf => rmLoop_stmt (cacheCx key MAX CLEAR fuel) (key e) s.recent fs rest hk hf hfuel
    simp [runMeth, XPathExpressionCacheType_getCachedExpression_ast, bindArgs, ofState, hg, hne, hloop, Cache.get, optPy,
      py_cache, py_stmts]

/-- `setCachedExpression(self, expressionStr, xpathExpressionObj)`: the object afterwards is `Cache.set MAX CLEAR` of the
hand model at the key of the text; the call returns `None` — for every state, every value, every `MAX`, `CLEAR` (also the
broken bounds `CLEAR ≥ MAX`: Python's slice rules on both sides), every fuel above the length of the recency list. -/
theorem setCachedExpression_code_eq_model (key : Str → Str) (MAX CLEAR fuel : Nat) (s : State Str PyV) (e : Str) (v : PyV)
    (hfuel : s.recent.length < fuel) :
    runMeth (cacheCx key MAX CLEAR fuel) XPathExpressionCacheType_setCachedExpression_ast (ofState s false)
        [.py (.str e), .py v]
      = (some (ofState (Cache.set MAX CLEAR s (key e) v) false), .ok (.py .none)) := by
  have hloop := fun fs rest hk hf => rmLoop_stmt (cacheCx key MAX CLEAR fuel) (key e) s.recent fs rest hk hf hfuel
  by_cases hgt : MAX < (removeAll (key e) s.recent).length + 1
  · have hgtI : (MAX : Int) < ((removeAll (key e) s.recent).length : Int) + 1 := by omega
    simp [runMeth, XPathExpressionCacheType_setCachedExpression_ast, bindArgs, ofState, hloop, Cache.set, hgt, hgtI, py_cache,
      py_stmts]
  · have hgtI : ¬ ((MAX : Int) < ((removeAll (key e) s.recent).length : Int) + 1) := by omega
    simp [runMeth, XPathExpressionCacheType_setCachedExpression_ast, bindArgs, ofState, hloop, Cache.set, hgt, hgtI, py_cache,
      py_stmts]

/-- The fuel does not matter once it exceeds the length of the recency list (both methods; cf. `C14.tokenizer_fuel_suffices`). -/
theorem cache_code_fuel_suffices (key : Str → Str) (MAX CLEAR f₁ f₂ : Nat) (s : State Str PyV) (e : Str) (v : PyV)
    (hv : ∀ p ∈ s.map, p.2 ≠ .none) (h₁ : s.recent.length < f₁) (h₂ : s.recent.length < f₂) :
    runMeth (cacheCx key MAX CLEAR f₁) XPathExpressionCacheType_getCachedExpression_ast (ofState s false) [.py (.str e)]
        = runMeth (cacheCx key MAX CLEAR f₂) XPathExpressionCacheType_getCachedExpression_ast (ofState s false) [.py (.str e)]
    ∧ runMeth (cacheCx key MAX CLEAR f₁) XPathExpressionCacheType_setCachedExpression_ast (ofState s false)
          [.py (.str e), .py v]
        = runMeth (cacheCx key MAX CLEAR f₂) XPathExpressionCacheType_setCachedExpression_ast (ofState s false)
          [.py (.str e), .py v] := by
  rw [getCachedExpression_code_eq_model key MAX CLEAR f₁ s e hv h₁, getCachedExpression_code_eq_model key MAX CLEAR f₂ s e hv h₂,
    setCachedExpression_code_eq_model key MAX CLEAR f₁ s e v h₁, setCachedExpression_code_eq_model key MAX CLEAR f₂ s e v h₂]
  exact ⟨rfl, rfl⟩

/-- With the constants the source ships (regenerated into `Gen.Tables` on every run) the dumped `setCachedExpression` is the
transition `Cache.set Gen.maxCachedExpressions Gen.clearAtOneTime` that `C15.shipped_inv` is about. -/
theorem setCachedExpression_code_shipped (key : Str → Str) (fuel : Nat) (s : State Str PyV) (e : Str) (v : PyV)
    (hfuel : s.recent.length < fuel) :
    runMeth (cacheCx key Gen.maxCachedExpressions Gen.clearAtOneTime fuel) XPathExpressionCacheType_setCachedExpression_ast
        (ofState s false) [.py (.str e), .py v]
      = (some (ofState (Cache.set Gen.maxCachedExpressions Gen.clearAtOneTime s (key e) v) false), .ok (.py .none)) :=
  setCachedExpression_code_eq_model key _ _ fuel s e v hfuel

/-- The methods are critical sections of the lock-level programs of `Model/Cache.lean` (one program point per statement:
acquire, lookup, the removal loop, append, release): from a free lock, the whole of `getCachedExpression`, run alone, is the run
of `lstep` from `getAcquire` to its return — same cache, same result, lock free again. -/
theorem getCachedExpression_code_eq_lsteps (key : Str → Str) (MAX CLEAR fuel : Nat) (s : State Str PyV) (e : Str)
    (hv : ∀ p ∈ s.map, p.2 ≠ .none) (hfuel : s.recent.length < fuel) :
    ∃ sh r, Runs MAX CLEAR ⟨false, s⟩ (.getAcquire (key e)) sh (.done r false)
      ∧ runMeth (cacheCx key MAX CLEAR fuel) XPathExpressionCacheType_getCachedExpression_ast (ofState s false) [.py (.str e)]
          = (some (ofState sh.cache sh.held), .ok (.py (optPy r))) := by
  refine ⟨⟨false, (Cache.get s (key e)).1⟩, (Cache.get s (key e)).2, get_section_runs MAX CLEAR s (key e), ?_⟩
  exact getCachedExpression_code_eq_model key MAX CLEAR fuel s e hv hfuel

/-- The same for `setCachedExpression` (normal path, from `setAcquire` to its return). -/
theorem setCachedExpression_code_eq_lsteps (key : Str → Str) (MAX CLEAR fuel : Nat) (s : State Str PyV) (e : Str) (v : PyV)
    (hfuel : s.recent.length < fuel) :
    ∃ sh, Runs MAX CLEAR ⟨false, s⟩ (.setAcquire (key e) v false) sh (.done none false)
      ∧ runMeth (cacheCx key MAX CLEAR fuel) XPathExpressionCacheType_setCachedExpression_ast (ofState s false)
          [.py (.str e), .py v] = (some (ofState sh.cache sh.held), .ok (.py .none)) := by
  refine ⟨⟨false, Cache.set MAX CLEAR s (key e) v⟩, set_section_runs MAX CLEAR s (key e) v, ?_⟩
  exact setCachedExpression_code_eq_model key MAX CLEAR fuel s e v hfuel

/-! ### non-vacuity: concrete runs of the dump through the interpreter (kernel evaluation), off the trivial paths -/

-- a broken `decide +kernel` would explain itself through the elaborator's evaluator (minutes, gigabytes on a run of the
-- interpreter): the small budget makes it fail at once; the kernel check of a correct example does not consume it
set_option maxHeartbeats 2000

private def st : State Str PyV :=
  ⟨[("a".toList, .opaque "A"), ("b".toList, .opaque "B")], ["a".toList, "b".toList, "a".toList]⟩

/-- the hypotheses of the theorems are met by a state with a duplicate in the recency list -/
example : (∀ p ∈ st.map, p.2 ≠ .none) ∧ st.recent.length < 4 := by decide

/-- a hit: both occurrences of the key leave the list, one is appended; the lock is free again -/
example : runMeth (cacheCx id 3 1 4) XPathExpressionCacheType_getCachedExpression_ast (ofState st false) [.py (.str "a".toList)]
    = (some (ofState ⟨st.map, ["b".toList, "a".toList]⟩ false), .ok (.py (.opaque "A"))) := by decide +kernel
/-- a miss changes nothing -/
example : runMeth (cacheCx id 3 1 4) XPathExpressionCacheType_getCachedExpression_ast (ofState st false) [.py (.str "c".toList)]
    = (some (ofState st false), .ok (.py .none)) := by decide +kernel
/-- too little fuel is an error, never a value (the loop has removed one occurrence and stopped) -/
example : (runMeth (cacheCx id 3 1 2) XPathExpressionCacheType_getCachedExpression_ast (ofState st false)
    [.py (.str "a".toList)]).2 = .error (unsupported "while: out of fuel") := by decide +kernel
/-- entered with the lock held, the method would wait for ever: an error -/
example : (runMeth (cacheCx id 3 1 4) XPathExpressionCacheType_getCachedExpression_ast (ofState st true)
    [.py (.str "a".toList)]).2 = .error (unsupported "acquire of a held lock") := by decide +kernel
/-- the hypothesis on stored values is needed: a stored `None` is read as a miss (the hand model would touch the key) -/
example : runMeth (cacheCx id 3 1 4) XPathExpressionCacheType_getCachedExpression_ast
      (ofState ⟨[("a".toList, .none)], ["a".toList, "b".toList]⟩ false) [.py (.str "a".toList)]
    = (some (ofState ⟨[("a".toList, .none)], ["a".toList, "b".toList]⟩ false), .ok (.py .none))
    ∧ (Cache.get (⟨[("a".toList, .none)], ["a".toList, "b".toList]⟩ : State Str PyV) "a".toList).1.recent
        = ["b".toList, "a".toList] := by decide +kernel
/-- storing with an overflow: bound 2, clearing 1 — the three oldest keys leave map and list -/
example : runMeth (cacheCx id 2 1 4) XPathExpressionCacheType_setCachedExpression_ast (ofState st false)
      [.py (.str "c".toList), .py (.opaque "C")]
    = (some (ofState ⟨[("c".toList, .opaque "C")], ["c".toList]⟩ false), .ok (.py .none)) := by decide +kernel
/-- the broken bound `CLEAR = MAX`: `recent[-0:]` is the whole list while every key leaves the map (as the hand model has it) -/
example : runMeth (cacheCx id 2 2 4) XPathExpressionCacheType_setCachedExpression_ast (ofState st false)
      [.py (.str "c".toList), .py (.opaque "C")]
    = (some (ofState ⟨[], ["a".toList, "b".toList, "a".toList, "c".toList]⟩ false), .ok (.py .none)) := by decide +kernel
/-- storing without overflow, an existing key keeps its place in the map -/
example : runMeth (cacheCx id 10 3 4) XPathExpressionCacheType_setCachedExpression_ast (ofState st false)
      [.py (.str "a".toList), .py (.opaque "A2")]
    = (some (ofState ⟨[("a".toList, .opaque "A2"), ("b".toList, .opaque "B")], ["b".toList, "a".toList]⟩ false),
       .ok (.py .none)) := by decide +kernel
/-- a call with a missing argument is a `TypeError` -/
example : (runMeth (cacheCx id 10 3 4) XPathExpressionCacheType_setCachedExpression_ast (ofState st false)
      [.py (.str "a".toList)]).2 = .error .typeError := by decide +kernel

end AHP.C15Code
