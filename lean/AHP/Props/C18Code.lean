/-
  C18 — the code tie of `Tags.TagCollection`: the methods THEMSELVES (`_hasTag`, `append`, `remove`, `all`, `__iadd__`,
  `__isub__`, `__init__`, `__add__`, `__sub__`, and the module function `uniqueTags`; dumped node by node into
  `Gen.Code.tag_collection` / `tag_collection_funs` by harness/ahpcheck/translate_code.py on every run, interpreted by
  `AHP.PyAst`) do to the collection object what the hand-written model `Model/Coll.lean` (`Coll.hasTag/append/remove/iadd/isub/
  ofList/add/sub`, `uniqueTags`: the model of every C18 theorem) does to its state — for EVERY receiver state (no invariant is
  needed) and EVERY operand list (the `for other in others` loops: induction on the list, no fuel), including whether the call
  raises and with which exception.

  The object: `ofColl c` = the list the object is (its elements) and the field `uids` (a set), holding `c.items` / `c.uids`.
  An element is its uid (`PyAst.elemV u`: an `AdvancedTag` identified by the number `u`; `tag.uid` / `tag.getUid()` is `u`;
  `==` between elements, which `list.remove` uses, is equality of the uids — `AdvancedTag.__eq__`, `Ident.Elem.eq` of the hand
  model; the translator checks that `__eq__` and `getUid` are exactly that).  Calls between the methods (`self.append(x)`,
  `hasTag = ret._hasTag; hasTag(x)`, `TagCollection(self[:])`) go through the table of the dumped methods (`Ctx.meths`,
  `tcCx k`: the first `k` methods of the dependency order), so an edit of `append` also breaks the theorems of its callers.
  The method (or `uniqueTags`) a theorem is about is given as the dumped value itself (`TagCollection_append_ast`, …, `uniqueTags_ast`);
  only the calls between methods look a name up.
-/
import AHP.Lemmas.PyAstColl
namespace AHP.C18Code
open AHP AHP.Gen AHP.Conv AHP.PyAst AHP.Gen.Code

/-- an operand list (any Python list of elements) -/
def operands (xs : List Nat) : Val := .list (embE xs)

/-- `_hasTag(self, tag)`: `Coll.hasTag`; the object is unchanged. -/
theorem hasTag_code_eq_model (c : Coll) (x : Nat) :
    runMeth (tcCx 0) TagCollection_hasTag_ast (ofColl c) [.py (elemV x)]
      = (some (ofColl c), .ok (.py (.bool (c.hasTag x)))) := hasTag_run _ c x

/-- `append(self, tag)`: `Coll.append` (the list gets the element also when it is there already; the set only a new uid). -/
theorem append_code_eq_model (c : Coll) (x : Nat) :
    runMeth (tcCx 1) TagCollection_append_ast (ofColl c) [.py (elemV x)]
      = (some (ofColl (c.append x)), .ok (.py .none)) := append_run _ c x

/-- `remove(self, toRemove)`: `Coll.remove`, `none` being a raise — `ValueError` from `list.remove` when the element is not in
the list (nothing changed), `KeyError` from `set.remove` when its uid is not in the set (the list has lost the element). -/
theorem remove_code_eq_model (c : Coll) (x : Nat) :
    (∀ c', c.remove x = some c' →
        runMeth (tcCx 2) TagCollection_remove_ast (ofColl c) [.py (elemV x)] = (some (ofColl c'), .ok (.py .none)))
    ∧ (c.remove x = none →
        (x ∉ c.items ∧ runMeth (tcCx 2) TagCollection_remove_ast (ofColl c) [.py (elemV x)]
            = (some (ofColl c), .error .valueError))
        ∨ (x ∈ c.items ∧ x ∉ c.uids ∧ runMeth (tcCx 2) TagCollection_remove_ast (ofColl c) [.py (elemV x)]
            = (some (ofColl ⟨c.items.erase x, c.uids⟩), .error .keyError))) := by
  rw [remove_run]
  unfold Coll.remove removeRun
  by_cases h1 : x ∈ c.items <;> by_cases h2 : x ∈ c.uids <;> simp [h1, h2]

/-- `all(self)`: a plain list of the elements; the object is unchanged. -/
theorem all_code_eq_model (c : Coll) :
    runMeth (tcCx 3) TagCollection_all_ast (ofColl c) [] = (some (ofColl c), .ok (.list (embE c.items))) := by
  simp [runMeth, TagCollection_all_ast, bindArgs, execS, tcCx_funs, builtin_list_obj, ofColl, listPart, py_straight]

theorem iadd_exec (c : Coll) (xs : List Nat) :
    ∃ env', execL (tcCx 4) [("self", .obj (ofColl c)), ("others", operands xs)] TagCollection_iadd_ast.body
        = (env', .ret (.obj (ofColl (c.iadd xs))))
      ∧ env'.lookup "self" = some (.obj (ofColl (c.iadd xs))) ∧ env'.lookup "others" = some (operands xs) := by
  have L := leaves_tcCx 4 (by omega) (by omega)
  obtain ⟨env', h1, h2, h3⟩ := addFor_stmt (tcCx 4) L "self" (by simp) (by simp) xs
    [("self", .obj (ofColl c)), ("others", operands xs), ("hasTag", .bound "self" "_hasTag")] c
    (by simp [List.lookup]) (by simp [List.lookup]) (by simp [List.lookup, operands])
  have hn : (ofColl c).lookup "_hasTag" = none := ofColl_lookup_name c _ (by decide) (by simp)
  have hV : env'.lookup "others" = some (operands xs) := by rw [h3 _ (by simp) (by simp)]; simp [List.lookup]
  refine ⟨env', ?_, h2, hV⟩
  simp only [addBody] at h1
  simp [TagCollection_iadd_ast, tcCx_hasTag 4 (by omega) (by omega), hn, aliasOK, Val.mutable, assocSet, h1, h2, py_straight]

/-- `__iadd__(self, others)` for every state and every operand list: the object becomes `Coll.iadd`, and is returned. -/
theorem iadd_code_eq_model (c : Coll) (xs : List Nat) :
    runMeth (tcCx 4) TagCollection_iadd_ast (ofColl c) [operands xs]
      = (some (ofColl (c.iadd xs)), .ok (.obj (ofColl (c.iadd xs)))) := by
  obtain ⟨env', h1, h2, _⟩ := iadd_exec c xs
  simp only [TagCollection_iadd_ast] at h1
  simp [runMeth, TagCollection_iadd_ast, bindArgs, List.lookup, h1, h2, resultOf]

/-- what the method table holds for `__iadd__` (the operand list is left as it was: the guard of `callMeth`) -/
theorem iadd_call (c : Coll) (xs : List Nat) :
    callMeth (tcCx 4) TagCollection_iadd_ast (ofColl c) [operands xs]
      = (some (ofColl (c.iadd xs)), .ok (.obj (ofColl (c.iadd xs)))) := by
  obtain ⟨env', h1, _, h3⟩ := iadd_exec c xs
  refine callMeth_of (env := [("self", .obj (ofColl c)), ("others", operands xs)]) (bindArgs_pos _ _ _ rfl) ?_
    (iadd_code_eq_model c xs) (fun _ h => by cases h; rfl)
  rw [h1]
  simp [TagCollection_iadd_ast, argsKept, h3]

/-- `__isub__(self, others)` for every state and every operand list, as the run `isubRun` (operand by operand, stopping at
the first `remove` that raises): the state reached, and either the object returned or the `ValueError`. -/
theorem isub_code_eq_run (c : Coll) (xs : List Nat) :
    runMeth (tcCx 5) TagCollection_isub_ast (ofColl c) [operands xs]
      = (some (ofColl (isubRun c xs).1),
         if (isubRun c xs).2 then .error .valueError else .ok (.obj (ofColl (isubRun c xs).1))) := by
  have L := leaves_tcCx 5 (by omega) (by omega)
  obtain ⟨env', h1, h2, _⟩ := subFor_stmt (tcCx 5) L "self" (by simp) (by simp) xs
    [("self", .obj (ofColl c)), ("others", operands xs), ("hasTag", .bound "self" "_hasTag")] c
    (by simp [List.lookup]) (by simp [List.lookup]) (by simp [List.lookup, operands])
  have hn : (ofColl c).lookup "_hasTag" = none := ofColl_lookup_name c _ (by decide) (by simp)
  simp only [subBody] at h1
  simp only [runMeth, TagCollection_isub_ast, bindArgs, List.lookup, Option.isSome, List.isEmpty, Bool.false_eq_true, if_false,
    if_true]
  by_cases hr : (isubRun c xs).2 = true
  · simp only [hr, if_true] at h1
    simp [tcCx_hasTag 5 (by omega) (by omega), hn, aliasOK, Val.mutable, assocSet, h1, h2, hr, py_straight]
  · have hr' : (isubRun c xs).2 = false := by simpa using hr
    simp only [hr', Bool.false_eq_true, if_false] at h1
    simp [tcCx_hasTag 5 (by omega) (by omega), hn, aliasOK, Val.mutable, assocSet, h1, h2, hr', py_straight]

/-- `__isub__` against the hand model: `Coll.isub = some c'` — the object becomes `c'` and is returned; `Coll.isub = none` —
the call raises `ValueError` (an operand whose uid is in the set while the element is not in the list). -/
theorem isub_code_eq_model (c : Coll) (xs : List Nat) :
    (∀ c', c.isub xs = some c' →
        runMeth (tcCx 5) TagCollection_isub_ast (ofColl c) [operands xs] = (some (ofColl c'), .ok (.obj (ofColl c'))))
    ∧ (c.isub xs = none →
        (runMeth (tcCx 5) TagCollection_isub_ast (ofColl c) [operands xs]).2 = .error .valueError) := by
  rw [isub_code_eq_run, isub_eq_run]
  by_cases hr : (isubRun c xs).2 = true
  · simp [hr]
  · have hr' : (isubRun c xs).2 = false := by simpa using hr
    simp only [hr', Bool.false_eq_true, if_false, Option.some.injEq, reduceCtorEq, false_implies, and_true]
    intro c' h; rw [h]

/-- `TagCollection.__init__(self)` / `__init__(self, None)` on a new object: the empty collection. -/
theorem init_code_empty :
    runMeth (tcCx 6) TagCollection_init_ast [] [] = (some (ofColl Coll.empty), .ok (.py .none))
    ∧ runMeth (tcCx 6) TagCollection_init_ast [] [.py .none] = (some (ofColl Coll.empty), .ok (.py .none)) := by
  constructor <;>
    simp [runMeth, TagCollection_init_ast, bindArgs, execS, baseCall_init, putField, assocSet, Val.toField, aliasOK, Expr.makesNew,
      pyCompare, compareB, bnot, pyIs, Val.unique, ofColl, Coll.empty, embE, embU, listPart, py_straight]

theorem init_exec (xs : List Nat) :
    execL (tcCx 6) [("self", .obj []), ("values", operands xs)] TagCollection_init_ast.body
      = ([("self", .obj (ofColl (Coll.ofList xs))), ("values", operands xs)], .next) := by
  have hn : (ofColl Coll.empty).lookup "__iadd__" = none := ofColl_lookup_name _ _ (by decide) (by simp)
  have he : [(listPart, Field.list []), ("uids", Field.set [])] = ofColl Coll.empty := rfl
  have hlp : ¬ (listPart = "uids") := by decide
  have := iadd_call Coll.empty xs
  simp only [operands] at this
  simp [TagCollection_init_ast, execS, baseCall_init, putField, assocSet, Val.toField, aliasOK, Expr.makesNew, pyCompare, compareB,
    bnot, pyIs, Val.unique, operands, he, hlp, objCall, hn, Val.isBound, tcCx_iadd 6 (by omega) (by omega), this, Coll.ofList,
    py_straight]

/-- `TagCollection.__init__(self, values)` on a new object, for every list of values: `Coll.ofList`. -/
theorem init_code_eq_model (xs : List Nat) :
    runMeth (tcCx 6) TagCollection_init_ast [] [operands xs] = (some (ofColl (Coll.ofList xs)), .ok (.py .none)) := by
  have h := init_exec xs
  simp only [TagCollection_init_ast] at h
  simp [runMeth, TagCollection_init_ast, bindArgs, List.lookup, h, resultOf]

theorem init_call (xs : List Nat) :
    callMeth (tcCx 6) TagCollection_init_ast [] [operands xs] = (some (ofColl (Coll.ofList xs)), .ok (.py .none)) := by
  refine callMeth_of (env := [("self", .obj []), ("values", operands xs)]) (bindArgs_pos _ _ _ rfl) ?_
    (init_code_eq_model xs) (fun _ h => by cases h; rfl)
  rw [init_exec]
  simp [TagCollection_init_ast, argsKept, List.lookup]

/-- `TagCollection(values)` as an expression of a later method (or of `uniqueTags`): a new object holding `Coll.ofList`. -/
theorem construct_run (k : Nat) (h1 : 7 ≤ k) (h2 : k ≤ 9) (xs : List Nat) :
    construct (tcCx k) "TagCollection" [operands xs] = .ok (.obj (ofColl (Coll.ofList xs))) := by
  have := init_call xs
  simp only [operands] at this
  simp [construct, tcCx_cls, tcCx_init k h1 h2, this, operands, Val.isBound]

/-! ### `__add__`, `__sub__`: a new collection from a copy of the list, then as the in-place operators on the copy -/

/-- the first two statements of `__add__` / `__sub__` at method `k` of the order: `ret = TagCollection(self[:])`,
`hasTag = ret._hasTag` -/
theorem copy_exec (k : Nat) (h1 : 7 ≤ k) (h2 : k ≤ 9) (c : Coll) (xs : List Nat) (rest : List Stmt) :
    execL (tcCx k) [("self", .obj (ofColl c)), ("others", operands xs)]
        (.assign "ret" (.construct "TagCollection" [(.sliceAll (.var "self"))])
          :: .assign "hasTag" (.boundMeth "ret" "_hasTag") :: rest)
      = execL (tcCx k) [("self", .obj (ofColl c)), ("others", operands xs), ("ret", .obj (ofColl (Coll.ofList c.items))),
          ("hasTag", .bound "ret" "_hasTag")] rest := by
  have hn : (ofColl (Coll.ofList c.items)).lookup "_hasTag" = none := ofColl_lookup_name _ _ (by decide) (by simp)
  have hs : pySliceAll (.obj (ofColl c)) = .ok (operands c.items) := by simp [pySliceAll, ofColl, operands]
  have hc := construct_run k h1 h2 c.items
  simp only [operands] at hs hc
  simp [execS, hs, hc, aliasOK, Expr.makesNew, Val.mutable, assocSet, tcCx_hasTag k (by omega) h2, hn, py_straight]

/-- `__add__(self, others)` for every state and every operand list: the receiver is unchanged, the result is a new object
holding `Coll.add`. -/
theorem add_code_eq_model (c : Coll) (xs : List Nat) :
    runMeth (tcCx 7) TagCollection_add_ast (ofColl c) [operands xs]
      = (some (ofColl c), .ok (.obj (ofColl (c.add xs)))) := by
  have L := leaves_tcCx 7 (by omega) (by omega)
  obtain ⟨env', h1, h2, h3⟩ := addFor_stmt (tcCx 7) L "ret" (by simp) (by simp) xs
    [("self", .obj (ofColl c)), ("others", operands xs), ("ret", .obj (ofColl (Coll.ofList c.items))),
      ("hasTag", .bound "ret" "_hasTag")] (Coll.ofList c.items)
    (by simp [List.lookup]) (by simp [List.lookup]) (by simp [List.lookup, operands])
  have hS : env'.lookup "self" = some (.obj (ofColl c)) := by rw [h3 _ (by simp) (by simp)]; simp [List.lookup]
  simp only [addBody] at h1
  simp only [runMeth, TagCollection_add_ast, bindArgs, List.lookup, Option.isSome, List.isEmpty, Bool.false_eq_true, if_false,
    if_true, copy_exec 7 (by omega) (by omega)]
  simp [h1, h2, hS, Coll.add, py_straight]

/-- `__sub__(self, others)` as the run `isubRun` on the copy: the receiver is unchanged; the new object is returned, or the
`ValueError` of a `remove` propagates. -/
theorem sub_code_eq_run (c : Coll) (xs : List Nat) :
    runMeth (tcCx 8) TagCollection_sub_ast (ofColl c) [operands xs]
      = (some (ofColl c),
         if (isubRun (Coll.ofList c.items) xs).2 then .error .valueError
         else .ok (.obj (ofColl (isubRun (Coll.ofList c.items) xs).1))) := by
  have L := leaves_tcCx 8 (by omega) (by omega)
  obtain ⟨env', h1, h2, h3⟩ := subFor_stmt (tcCx 8) L "ret" (by simp) (by simp) xs
    [("self", .obj (ofColl c)), ("others", operands xs), ("ret", .obj (ofColl (Coll.ofList c.items))),
      ("hasTag", .bound "ret" "_hasTag")] (Coll.ofList c.items)
    (by simp [List.lookup]) (by simp [List.lookup]) (by simp [List.lookup, operands])
  have hS : env'.lookup "self" = some (.obj (ofColl c)) := by rw [h3 _ (by simp) (by simp)]; simp [List.lookup]
  simp only [subBody] at h1
  simp only [runMeth, TagCollection_sub_ast, bindArgs, List.lookup, Option.isSome, List.isEmpty, Bool.false_eq_true, if_false,
    if_true, copy_exec 8 (by omega) (by omega)]
  by_cases hr : (isubRun (Coll.ofList c.items) xs).2 = true
  · simp only [hr, if_true] at h1
    simp [h1, hS, hr, py_straight]
  · have hr' : (isubRun (Coll.ofList c.items) xs).2 = false := by simpa using hr
    simp only [hr', Bool.false_eq_true, if_false] at h1
    simp [h1, h2, hS, hr', py_straight]

/-- `__sub__` against the hand model: `Coll.sub = some d` — a new object holding `d` is returned; `Coll.sub = none` — the call
raises `ValueError`; the receiver is unchanged either way. -/
theorem sub_code_eq_model (c : Coll) (xs : List Nat) :
    (∀ d, c.sub xs = some d →
        runMeth (tcCx 8) TagCollection_sub_ast (ofColl c) [operands xs] = (some (ofColl c), .ok (.obj (ofColl d))))
    ∧ (c.sub xs = none →
        runMeth (tcCx 8) TagCollection_sub_ast (ofColl c) [operands xs] = (some (ofColl c), .error .valueError)) := by
  rw [sub_code_eq_run, Coll.sub, isub_eq_run]
  by_cases hr : (isubRun (Coll.ofList c.items) xs).2 = true
  · simp [hr]
  · have hr' : (isubRun (Coll.ofList c.items) xs).2 = false := by simpa using hr
    simp only [hr', Bool.false_eq_true, if_false, Option.some.injEq, reduceCtorEq, false_implies, and_true]
    intro d h; rw [h]

/-! ### `uniqueTags` (module level): the loop never fills `alreadyAdded`, the constructor de-duplicates -/

def uniqBody : List Stmt :=
  [.assign "myUid" (.meth (.var "tag") "getUid" []),
   .ifS (.cmp .isIn (.var "myUid") (.var "alreadyAdded")) [.cont] [],
   .varCall "ret" "append" [(.var "tag")]]

theorem uniqBody_run (cx : Ctx) (env : Env) (x : Nat) (acc : List PyV) (hR : env.lookup "ret" = some (.list acc))
    (hA : env.lookup "alreadyAdded" = some (.set [])) :
    execL cx (assocSet env "tag" (.py (elemV x))) uniqBody
      = (assocSet (assocSet (assocSet env "tag" (.py (elemV x))) "myUid" (.py (uidV x))) "ret" (.list (acc ++ [elemV x])),
         .next) := by
  simp [uniqBody, execS, lookup_assocSet, hR, hA, callMethod_getUid, elemV, uidV, aliasOK, Val.mutable,
    pyCompare, compareB, pyIn_py_set, hashable, sMem, Val.toField, mutCall_append, Field.toVal, py_straight]

theorem uniqLoop_run (cx : Ctx) (V : Val) (same : Env → Bool) (hsame : ∀ env, env.lookup "tagList" = some V → same env = true) :
    ∀ (xs : List Nat) (env : Env) (acc : List PyV),
    env.lookup "ret" = some (.list acc) → env.lookup "alreadyAdded" = some (.set []) → env.lookup "tagList" = some V →
    ∃ env', forLoop (fun env v => assocSet env "tag" v) (fun env => execL cx env uniqBody) same ((embE xs).map Val.py) env
        = (env', .next)
      ∧ env'.lookup "ret" = some (.list (acc ++ embE xs)) := by
  intro xs env acc hR hA hV
  rw [embE, List.map_map]
  refine forLoop_inv (fun x => .py (elemV x))
    (fun r e => e.lookup "alreadyAdded" = some (.set []) ∧ e.lookup "tagList" = some V
      ∧ ∃ a, e.lookup "ret" = some (.list a) ∧ a ++ r.map elemV = acc ++ xs.map elemV)
    _ _ (fun e ⟨_, _, a, h1, h2⟩ => ⟨rfl, by rw [h1, ← h2]; simp⟩) ?_ xs env ⟨hA, hV, acc, hR, rfl⟩
  rintro x r e ⟨h1, h2, a, h3, h4⟩
  have hk : ∀ z w, z ≠ "ret" → z ≠ "myUid" → z ≠ "tag" → e.lookup z = some w →
      (assocSet (assocSet (assocSet e "tag" (.py (elemV x))) "myUid" (.py (uidV x))) "ret" (.list (a ++ [elemV x]))).lookup z
        = some w :=
    fun z w z1 z2 z3 h => by
      rw [lookup_assocSet_ne _ _ _ _ z1, lookup_assocSet_ne _ _ _ _ z2, lookup_assocSet_ne _ _ _ _ z3, h]
  exact ⟨_, _, uniqBody_run cx e x a h3 h1, hsame _ (hk _ _ (by simp) (by simp) (by simp) h2),
    hk _ _ (by simp) (by simp) (by simp) h1, hk _ _ (by simp) (by simp) (by simp) h2, _, lookup_assocSet_eq .., by rw [← h4]; simp⟩

/-- `uniqueTags(tagList)` for every list of elements: a new collection holding `AHP.uniqueTags` (= `Coll.ofList`). -/
theorem uniqueTags_code_eq_model (xs : List Nat) :
    run (tcCx 9) uniqueTags_ast [operands xs] = .ok (.obj (ofColl (uniqueTags xs))) := by
  simp only [run, runKw, uniqueTags_ast, bindArgs, List.lookup, Option.isSome, List.isEmpty, Bool.false_eq_true, if_false,
    if_true]
  obtain ⟨env', hf1, hf2⟩ := uniqLoop_run (tcCx 9) (.list (embE xs)) (sameList _ "tagList" _)
    (fun _ h => sameList_of_lookup h) xs
    [("tagList", operands xs), ("ret", .list []), ("alreadyAdded", .set [])] []
    (by simp [List.lookup]) (by simp [List.lookup]) (by simp [List.lookup, operands])
  rw [← execS_forVar (x := "tag") rfl, uniqBody] at hf1
  have hf2 : env'.lookup "ret" = some (operands xs) := by simpa [operands] using hf2
  have hc := construct_run 9 (by omega) (by omega) xs
  simp [aliasOK, Expr.makesNew, Val.mutable, assocSet, hf1, hf2, hc, uniqueTags, py_straight]

/-! ### non-vacuity: concrete runs of the dump through the interpreter (kernel evaluation), off the trivial paths -/

-- a broken `decide +kernel` would explain itself through the elaborator's evaluator (minutes, gigabytes on a run of the
-- interpreter): the small budget makes it fail at once; the kernel check of a correct example does not consume it
set_option maxHeartbeats 2000

private def c12 : Coll := ⟨[1, 2], [1, 2]⟩

/-- `__iadd__`: operands already present and repeated operands are skipped, order of first occurrence -/
example : runMeth (tcCx 4) TagCollection_iadd_ast (ofColl c12) [operands [2, 3, 3, 1, 4]]
    = (some (ofColl ⟨[1, 2, 3, 4], [1, 2, 3, 4]⟩), .ok (.obj (ofColl ⟨[1, 2, 3, 4], [1, 2, 3, 4]⟩))) := by decide +kernel
/-- the theorems hold off the invariant too: a state whose set lacks a uid of the list (`2` is appended again) -/
example : runMeth (tcCx 4) TagCollection_iadd_ast (ofColl ⟨[1, 2], [1]⟩) [operands [2]]
    = (some (ofColl ⟨[1, 2, 2], [1, 2]⟩), .ok (.obj (ofColl ⟨[1, 2, 2], [1, 2]⟩)))
    ∧ Coll.iadd ⟨[1, 2], [1]⟩ [2] = ⟨[1, 2, 2], [1, 2]⟩ := by decide +kernel
/-- `__isub__`: present operands leave, absent and repeated ones are skipped -/
example : runMeth (tcCx 5) TagCollection_isub_ast (ofColl ⟨[1, 2, 3], [1, 2, 3]⟩) [operands [3, 5, 1, 3]]
    = (some (ofColl ⟨[2], [2]⟩), .ok (.obj (ofColl ⟨[2], [2]⟩)))
    ∧ Coll.isub ⟨[1, 2, 3], [1, 2, 3]⟩ [3, 5, 1, 3] = some ⟨[2], [2]⟩ := by decide +kernel
/-- `__isub__` raising: the uid is in the set, the element is not in the list — `ValueError` from `list.remove`, after the
operands before it were removed; the hand model says `none` -/
example : runMeth (tcCx 5) TagCollection_isub_ast (ofColl ⟨[2, 3], [1, 2, 3]⟩) [operands [3, 1, 2]]
    = (some (ofColl ⟨[2], [1, 2]⟩), .error .valueError)
    ∧ Coll.isub ⟨[2, 3], [1, 2, 3]⟩ [3, 1, 2] = none := by decide +kernel
/-- `remove` raising `KeyError`: the element is in the list, its uid is not in the set; the list has lost it -/
example : runMeth (tcCx 2) TagCollection_remove_ast (ofColl ⟨[1, 2], [2]⟩) [.py (elemV 1)]
    = (some (ofColl ⟨[2], [2]⟩), .error .keyError) ∧ Coll.remove ⟨[1, 2], [2]⟩ 1 = none := by decide +kernel
/-- `remove` takes the FIRST equal element of the list -/
example : runMeth (tcCx 2) TagCollection_remove_ast (ofColl ⟨[1, 2, 1], [1, 2]⟩) [.py (elemV 1)]
    = (some (ofColl ⟨[2, 1], [2]⟩), .ok (.py .none)) := by decide +kernel
/-- `__init__` with values: de-duplicated -/
example : runMeth (tcCx 6) TagCollection_init_ast [] [operands [3, 1, 3, 2, 1]]
    = (some (ofColl ⟨[3, 1, 2], [3, 1, 2]⟩), .ok (.py .none)) := by decide +kernel
/-- `__add__`: the receiver is unchanged, the result is a new object built from a copy of the list (so a duplicate in the
receiver's list is dropped by the constructor) -/
example : runMeth (tcCx 7) TagCollection_add_ast (ofColl ⟨[1, 1, 2], [1, 2]⟩) [operands [2, 3]]
    = (some (ofColl ⟨[1, 1, 2], [1, 2]⟩), .ok (.obj (ofColl ⟨[1, 2, 3], [1, 2, 3]⟩))) := by decide +kernel
example : runMeth (tcCx 8) TagCollection_sub_ast (ofColl ⟨[1, 2, 3], [1, 2, 3]⟩) [operands [2, 9]]
    = (some (ofColl ⟨[1, 2, 3], [1, 2, 3]⟩), .ok (.obj (ofColl ⟨[1, 3], [1, 3]⟩))) := by decide +kernel
/-- `__sub__` consults the uid set of the COPY (`hasTag = ret._hasTag`): an operand whose uid is only in the receiver's stale set is
skipped, not removed from a list that does not have it -/
example : runMeth (tcCx 8) TagCollection_sub_ast (ofColl ⟨[1], [1, 2]⟩) [operands [2]]
    = (some (ofColl ⟨[1], [1, 2]⟩), .ok (.obj (ofColl ⟨[1], [1]⟩))) := by decide +kernel
example : run (tcCx 9) uniqueTags_ast [operands [3, 1, 3, 2, 1]] = .ok (.obj (ofColl ⟨[3, 1, 2], [3, 1, 2]⟩)) := by
  decide +kernel
example : runMeth (tcCx 3) TagCollection_all_ast (ofColl c12) [] = (some (ofColl c12), .ok (operands [1, 2])) := by
  decide +kernel
/-- an operand that cannot be iterated over: `TypeError` -/
example : (runMeth (tcCx 4) TagCollection_iadd_ast (ofColl c12) [.py (.int 3)]).2 = .error .typeError := by decide +kernel
/-- the method table fails closed: without `append` in it (`tcCx 1`), `self.append(other)` is an `AttributeError`, never a value;
with nothing in it (`tcCx 0`) already `self._hasTag` is -/
example : (runMeth (tcCx 1) TagCollection_iadd_ast (ofColl c12) [operands [3]]).2 = .error (.other "AttributeError")
    ∧ (runMeth (tcCx 0) TagCollection_iadd_ast (ofColl c12) [operands [3]]).2 = .error (.other "AttributeError") := by
  decide +kernel
/-- a constructor of another class is a `NameError` -/
example : construct (tcCx 9) "TagCollection2" [] = .error (.other "NameError") := by decide +kernel

end AHP.C18Code
