/-
  C02 — the code tie of the end-tag handler: `Parser.AdvancedHTMLParser.handle_endtag` ITSELF (dumped node by node into
  `Gen.Code.parser` by harness/ahpcheck/translate_code.py on every run, interpreted by `AHP.PyAst`) does to the list of open
  elements `self._inTag` what the hand-written model's end-tag step (`handleEnd` of `Model/Builder.lean`, the `.end_` case of
  `stepT`: the model of the C02 / C03 theorems) does to its stack of open frames — for EVERY stack and EVERY name: the nearest open
  element of that name is closed with everything inside it, and a name that is not open changes nothing; the call never raises
  (the bare `except` included: it is never reached) and touches no other field of the parser object.

  The object: any record of fields `fs` whose `_inTag` is a Python list of elements.  An element is a number (`PyV.ancestor u`, as
  in `Props/C18Code.lean`); the ONLY thing the method reads from an element is `inTag[i].tagName`, which is the parameter
  `tagOf u` of the theorems (`Ctx.elemAttr`).  The hand model keeps its stack innermost FIRST and a frame carries the children
  collected so far (it attaches a child when the frame is closed, the code when it is opened — `Model/Builder.lean` says why both
  give the same tree); the Python list is outermost first and `pop()` only shortens it.  So the tie is on what both have in
  common: the elements that stay open are the same ones (`closeR … <:+ r`: a suffix of the model-ordered list, i.e. a prefix of
  the Python list — same objects, same order), and their names are the names of the model's stack after `handleEnd`.

  The theorems are about the dumped method itself (`AdvancedHTMLParser_handle_endtag_ast`): no lookup by name is involved.

  The `while` runs on fuel: `r.length` iterations suffice (`handle_endtag_code_eq_model` takes any fuel ≥ the stack length).
-/
import AHP.Gen.Code
import AHP.Lemmas.PyAstParser
import AHP.Lemmas.TotalBuilder
namespace AHP.C02Code
open AHP AHP.Gen AHP.Conv AHP.PyAst AHP.Gen.Code AHP.PyAstParser

/-- The open elements (innermost first) after an end tag `n`: without the nearest one named `n` and everything above it; as they
were when no open element has that name. -/
def closeR (tagOf : Nat → Str) (n : Str) (r : List Nat) : List Nat :=
  if n ∈ r.map tagOf then (r.dropWhile (fun u => decide (tagOf u ≠ n))).drop 1 else r

/-- the same on names: what `handleEnd` does to the names of the model's stack -/
def closeN (n : Str) (ns : List Str) : List Str :=
  if n ∈ ns then (ns.dropWhile (fun m => decide (m ≠ n))).drop 1 else ns

theorem closeR_suffix (tagOf : Nat → Str) (n : Str) (r : List Nat) : closeR tagOf n r <:+ r := by
  unfold closeR
  split
  · exact (List.drop_suffix _ _).trans (List.dropWhile_suffix _)
  · exact List.suffix_refl _

theorem closeR_names (tagOf : Nat → Str) (n : Str) (r : List Nat) :
    (closeR tagOf n r).map tagOf = closeN n (r.map tagOf) := by
  unfold closeR closeN
  split
  · rw [List.map_drop, List.dropWhile_map]; rfl
  · rfl

theorem names_pop1 (s : TState) : names (pop1 s) = (names s).drop 1 := by
  rw [names_pop1_tail, List.drop_one]

theorem names_popTo (n : Str) : ∀ (k : Nat) (s : TState), n ∈ names s → s.stack.length ≤ k →
    names (popTo n k s) = ((names s).dropWhile (fun m => decide (m ≠ n))).drop 1 := by
  intro k s hm hl
  obtain ⟨pre, post, h1, h2, h3⟩ := AHP.names_popTo n k s (by simpa [names] using hl) hm
  rw [h3, h1, dropWhile_append_cons_of_neg _ n post (by simp) pre,
    dropWhile_eq_nil_iff.mpr fun x hx => by simpa using fun e : x = n => h2 (e ▸ hx)]; rfl

theorem names_handleEnd (s : TState) (n : Str) : names (handleEnd s n) = closeN n (names s) := by
  unfold handleEnd closeN
  by_cases h : n ∈ names s
  · have hc : (s.stack.map (·.name)).contains n = true := by simpa [names] using h
    rw [if_pos hc, if_pos h]
    exact names_popTo n _ s h (Nat.le_refl _)
  · have hc : ¬ (s.stack.map (·.name)).contains n = true := by simpa [names] using h
    rw [if_neg hc, if_neg h]

/-- the statements inside the `try:` of the dump, in the pieces the lemmas are about -/
def tryBody : List Stmt :=
  [.assign "foundIt" (.const (.bool false)),
   .alias "inTag" "self" "_inTag",
   .forS "i" (.call "range" [.call "len" [.avar "inTag"]]) findBody,
   .ifS (.not (.var "foundIt")) [.ret (.const .none)] [],
   .whileS topCond popBody,
   .refCall "inTag" "pop" []]

theorem handle_endtag_body : AdvancedHTMLParser_handle_endtag_ast.body = [.tryS tryBody [.mk none [.pass]]] := rfl

theorem search_stmt (tagOf : Nat → Str) (fuel : Nat) (n : Str) (fs : List (String × Field)) (us : List Nat) (env : Env)
    (hf : fs.lookup "_inTag" = some (.list (embU us))) (hv : Vars env fs n false) :
    ∃ env', execS (parserCx tagOf fuel) env (.forS "i" (.call "range" [.call "len" [.avar "inTag"]]) findBody) = (env', .next)
      ∧ Vars env' fs n (decide (n ∈ us.map tagOf)) := by
  have hit : eval (parserCx tagOf fuel) env (.call "range" [.call "len" [.avar "inTag"]])
      = .ok (.tuple ((List.range' 0 us.length).map (fun i => PyV.int (Int.ofNat i)))) := by
    simp [eval, evalList, hv.inTag, getField, hv.self, hf, Field.toVal, parserCx_funs, builtin_len, builtin_range, pyLen, embU_length,
      List.range_eq_range']
  obtain ⟨env', h1, h2⟩ := findLoop_run tagOf fuel n fs (fun _ => true) (fun _ => rfl) us [] env (by simpa using hf) hv
  refine ⟨env', ?_, h2⟩
  simp only [execS, hit, iterItems, Val.mutable, Bool.not_false, Bool.true_or, if_true]
  simpa using h1

/-- `handle_endtag(self, tagName)` for every list of open elements (`r`: innermost first, so the Python list is `r.reverse`),
every name and every object around the list, with `r.length` iterations or more for the `while`: the list becomes
`closeR tagOf n r` (reversed), no other field changes, the call returns `None`. -/
theorem handle_endtag_run (tagOf : Nat → Str) (fuel : Nat) (r : List Nat) (fs : List (String × Field)) (n : Str)
    (hf : fs.lookup "_inTag" = some (.list (embU r.reverse))) (hfuel : r.length ≤ fuel) :
    runMeth (parserCx tagOf fuel) AdvancedHTMLParser_handle_endtag_ast fs [.py (.str n)]
      = (some (assocSet fs "_inTag" (.list (embU (closeR tagOf n r).reverse))), .ok (.py .none)) := by
  suffices h : ∀ E : Env, E.lookup "self" = some (.obj fs) → E.lookup "tagName" = some (.py (.str n)) →
      ∃ E' res, execL (parserCx tagOf fuel) E tryBody = (E', res) ∧ (res = .next ∨ res = .ret (.py .none))
        ∧ E'.lookup "self" = some (.obj (assocSet fs "_inTag" (.list (embU (closeR tagOf n r).reverse)))) by
    obtain ⟨E', res, hb, hres, hs'⟩ := h [("self", .obj fs), ("tagName", .py (.str n))] (by simp [List.lookup])
      (by simp [List.lookup])
    refine (runMeth_of "self" none [("tagName", none)] rfl rfl (res := res) ?_ hs').trans (by rcases hres with rfl | rfl <;> rfl)
    rw [handle_endtag_body]
    rcases hres with rfl | rfl
    · exact (execL_cons_next _ _ _ _ _ (tryS_next _ _ _ _ _ hb)).trans (execL_nil _ _)
    · exact execL_cons_ret (tryS_ret hb)
  intro E hs ht
  unfold tryBody
  rw [execL_assign (env := E) (x := "foundIt") (p := .bool false) (by rw [eval]; rfl),
    execL_cons_next _ _ _ _ _ (execS_alias "inTag" (o := "self") (fs := fs) (by simp [lookup_assocSet, hs]) hf)]
  have hv2 : Vars (assocSet (assocSet E "foundIt" (.py (.bool false))) "inTag" (.ref "self" "_inTag")) fs n false :=
    ⟨by simp [lookup_assocSet, hs], by simp [lookup_assocSet, ht], by simp [lookup_assocSet], by simp [lookup_assocSet]⟩
  obtain ⟨env3, h3, hv3⟩ := search_stmt tagOf fuel n fs r.reverse _ hf hv2
  have hmem : decide (n ∈ r.reverse.map tagOf) = decide (n ∈ r.map tagOf) := by simp
  rw [hmem] at hv3
  have hfound : eval (parserCx tagOf fuel) env3 (.not (.var "foundIt")) = .ok (.py (.bool (!decide (n ∈ r.map tagOf)))) := by
    rw [eval, eval_var hv3.found]; rfl
  rw [execL_cons_next _ _ _ _ _ h3, execL_guard hfound (r := .ok (.py .none)) (by rw [execL_ret]; rfl), truthy_bool]
  by_cases hm : n ∈ r.map tagOf
  · -- the name is open: pop down to it, then pop it
    simp only [hm, decide_true, Bool.not_true, Bool.false_eq_true, if_false] at hv3 ⊢
    obtain ⟨env5, h5, hv5⟩ := popLoop_run tagOf n r fuel fuel fs env3 true hm hfuel hf hv3
    obtain ⟨u, d, hd, _⟩ := dropWhile_head tagOf n r hm
    rw [hd] at hv5
    have h6 := pop_run (parserCx tagOf fuel) u d _ env5 hv5.self hv5.inTag (lookup_assocSet_eq _ _ _)
    rw [assocSet_assocSet] at h6
    have hclose : closeR tagOf n r = d := by unfold closeR; rw [if_pos hm, hd]; rfl
    refine ⟨assocSet env5 "self" (.obj (assocSet fs "_inTag" (.list (embU d.reverse)))), .next, ?_, .inl rfl,
      by rw [hclose]; exact lookup_assocSet_eq _ _ _⟩
    rw [execL_cons_next _ _ env5 _ _ (by simp only [execS, parserCx_fuel]; exact h5), execL_single, h6]
  · -- the name is not open: `return`
    simp only [hm, decide_false, Bool.not_false, if_true] at hv3 ⊢
    exact ⟨env3, _, rfl, .inr rfl, by simp [closeR, hm, assocSet_self _ _ _ hf, hv3.self]⟩

/-- **The code tie of C02's end-tag step.**  For every state `s` of the hand model's tree builder, every list `r` of open elements
(innermost first, as the model keeps them; `self._inTag` is `r.reverse`) whose names are the names of the model's stack, every
name `n`, every object `fs` around the list and every fuel ≥ the stack length: the dumped `handle_endtag` returns `None` (it never
raises), changes no field but `_inTag`, and leaves in it the list `r'` with
  * `r' <:+ r`: the elements still open are the outermost ones of before — same objects, same order;
  * their names are the names of the hand model's stack after `handleEnd s n`.  -/
theorem handle_endtag_code_eq_model (tagOf : Nat → Str) (fuel : Nat) (s : TState) (r : List Nat) (fs : List (String × Field))
    (n : Str) (hrep : r.map tagOf = s.stack.map (·.name))
    (hf : fs.lookup "_inTag" = some (.list (embU r.reverse))) (hfuel : s.stack.length ≤ fuel) :
    runMeth (parserCx tagOf fuel) AdvancedHTMLParser_handle_endtag_ast fs [.py (.str n)]
      = (some (assocSet fs "_inTag" (.list (embU (closeR tagOf n r).reverse))), .ok (.py .none))
    ∧ closeR tagOf n r <:+ r
    ∧ (closeR tagOf n r).map tagOf = (handleEnd s n).stack.map (·.name) := by
  have hlen : r.length = s.stack.length := by
    have := congrArg List.length hrep; simpa using this
  refine ⟨handle_endtag_run tagOf fuel r fs n hf (by omega), closeR_suffix tagOf n r, ?_⟩
  rw [closeR_names, hrep]
  exact (names_handleEnd s n).symm

/-- the length of the list afterwards is the length of the model's stack: with `closeR … <:+ r` this fixes the list -/
theorem handle_endtag_length (tagOf : Nat → Str) (s : TState) (r : List Nat) (n : Str)
    (hrep : r.map tagOf = s.stack.map (·.name)) : (closeR tagOf n r).length = (handleEnd s n).stack.length := by
  have h := congrArg List.length (show (closeR tagOf n r).map tagOf = (handleEnd s n).stack.map (·.name) by
    rw [closeR_names, hrep]; exact (names_handleEnd s n).symm)
  simpa using h

/-! ### the theorems are not vacuous, and the interpreter runs the dump -/

-- a broken `decide +kernel` would explain itself through the elaborator's evaluator (minutes, gigabytes on a run of the
-- interpreter): the small budget makes it fail at once; the kernel check of a correct example does not consume it
set_option maxHeartbeats 2000

private def tg : Nat → Str := fun u => if u = 1 then "div".toList else if u = 2 then "b".toList else "i".toList
private def obj (us : List Nat) : List (String × Field) := [("root", .py .none), ("_inTag", .list (embU us)), ("doctype", .py .none)]
private def fr (n : String) : Frame := ⟨n.toList, AttrState.empty, []⟩

/-- `</b>` with `div > b > i > i` open: `b` and the two `i` inside it are closed; the other fields are untouched -/
example : runMeth (parserCx tg 4) AdvancedHTMLParser_handle_endtag_ast (obj [1, 2, 3, 4]) [.py (.str "b".toList)]
    = (some (obj [1]), .ok (.py .none)) := by decide +kernel
/-- the hand model on the same stack -/
example : (handleEnd ⟨[fr "i", fr "i", fr "b", fr "div"], none⟩ "b".toList).stack.map (·.name) = ["div".toList] := by
  decide +kernel
/-- the NEAREST open element of the name is closed, not the outermost: `i > b > i` and `</i>` -/
example : runMeth (parserCx tg 3) AdvancedHTMLParser_handle_endtag_ast (obj [3, 2, 4]) [.py (.str "i".toList)]
    = (some (obj [3, 2]), .ok (.py .none)) := by decide +kernel
/-- a name that is not open: nothing changes -/
example : runMeth (parserCx tg 3) AdvancedHTMLParser_handle_endtag_ast (obj [1, 2]) [.py (.str "p".toList)]
    = (some (obj [1, 2]), .ok (.py .none)) := by decide +kernel
/-- no open element at all -/
example : runMeth (parserCx tg 0) AdvancedHTMLParser_handle_endtag_ast (obj []) [.py (.str "p".toList)]
    = (some (obj []), .ok (.py .none)) := by decide +kernel
/-- the fuel bound is sharp: with one iteration less than the stack length the interpreter gives up (`abort` is not an
exception: the bare `except` does not swallow it) -/
example : (runMeth (parserCx tg 2) AdvancedHTMLParser_handle_endtag_ast (obj [1, 2, 3]) [.py (.str "div".toList)]).2
    = .error (unsupported "while: out of fuel") := by decide +kernel
/-- the hypotheses of the tie are met by that run (`r` = the list innermost first) -/
example : [4, 3, 2, 1].map tg = (⟨[fr "i", fr "i", fr "b", fr "div"], none⟩ : TState).stack.map (·.name)
    ∧ closeR tg "b".toList [4, 3, 2, 1] = [1] := by decide +kernel
/-- the interpreter fails closed: an object without `_inTag` — the `AttributeError` is swallowed by the bare `except`, as in
Python; a list holding something else than elements is not given a meaning -/
example : runMeth (parserCx tg 3) AdvancedHTMLParser_handle_endtag_ast [("root", .py .none)] [.py (.str "p".toList)]
    = (some [("root", .py .none)], .ok (.py .none)) := by decide +kernel

end AHP.C02Code
