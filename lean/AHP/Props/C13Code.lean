/-
  C13 — the code tie of the validating parser's end-tag handler: `Validator.ValidatingAdvancedHTMLParser.handle_endtag` ITSELF
  (dumped node by node into `Gen.Code.validator` by harness/ahpcheck/translate_code.py on every run, interpreted by `AHP.PyAst`)
  has, on the list of open elements `self._inTag`, the three outcomes of the hand-written model's end-tag step (`vStepT s (.end_ n)`
  of `Model/Builder.lean`, the model of the C13 theorems) — for EVERY stack and EVERY name:

    * no open element, or none of that name: `InvalidCloseException`, nothing changed;
    * the name is open but the innermost open element has another name: `MissedCloseException`, nothing changed;
    * the innermost open element has the name: it is popped (`pop1`), the call returns `None`.

  Object, elements, the two representations of the stack: as in `Props/C02Code.lean` (an element is a number, `tagOf u` is its
  `tagName`; `r` = the open elements innermost first, `self._inTag` = `r.reverse`).  The arguments of the exception constructors
  (`tagName`, `[]`, `inTag`, `[x for x in inTag[-1 * (i+1):]]`) are evaluated — an error there would be the error of the call — and
  then dropped: an exception is its class (`PyAst.callValue`; the constructors only format a message).

  The theorems are about the dumped methods themselves (`ValidatingAdvancedHTMLParser_handle_endtag_ast`, `…_handle_starttag_ast`): no
  lookup by name is involved.

  The `while i >= 0` search runs on fuel: `r.length + 1` iterations suffice (one more than the stack length: the test that ends
  the search of an absent name).

  Second part: `handle_starttag` of the same class — the loop over the (name, value) pairs raises `InvalidAttributeNameException` at the
  first name that `isValidAttributeName` (`C08Code`) refuses, otherwise the call is the base class's `handle_starttag`, a parameter
  (`Ctx.baseMeth`): `v_handle_starttag_run` / `v_handle_starttag_code_eq_model` against the start-tag step of `vStepT`.
-/
import AHP.Lemmas.PyAstParser
import AHP.Lemmas.Builder
import AHP.Props.C08Code
namespace AHP.C13Code
open AHP AHP.Gen AHP.Conv AHP.PyAst AHP.Gen.Code AHP.PyAstParser

/-- What the dumped method does, from the open elements `r` (innermost first): the object afterwards and the result. -/
def vEnd (tagOf : Nat → Str) (n : Str) (fs : List (String × Field)) :
    List Nat → Option (List (String × Field)) × Except PyErr Val
  | [] => (some fs, .error (.other "InvalidCloseException"))
  | u :: d =>
    if n ∈ (u :: d).map tagOf then
      if tagOf u = n then (some (assocSet fs "_inTag" (.list (embU d.reverse))), .ok (.py .none))
      else (some fs, .error (.other "MissedCloseException"))
    else (some fs, .error (.other "InvalidCloseException"))

/-- What the hand model's outcome is as a run of the method: the object and the result (`r`: the open elements before). -/
def ofOutcome (fs : List (String × Field)) (r : List Nat) : Outcome TState → Option (List (String × Field)) × Except PyErr Val
  | .ok _ => (some (assocSet fs "_inTag" (.list (embU (r.drop 1).reverse))), .ok (.py .none))
  | .invalidClose => (some fs, .error (.other "InvalidCloseException"))
  | .missedClose => (some fs, .error (.other "MissedCloseException"))
  | .multipleRoot => (some fs, .error (.other "MultipleRootNodeException"))
  | .invalidAttr => (some fs, .error (.other "InvalidAttributeNameException"))

/-- the statements of the dump, in the pieces the lemmas are about -/
theorem v_handle_endtag_body : ValidatingAdvancedHTMLParser_handle_endtag_ast.body =
    [.alias "inTag" "self" "_inTag",
     .ifS (.cmp .eq (.call "len" [.avar "inTag"]) (.const (.int 0)))
       [.raise (.callv (.excClass "InvalidCloseException") [.var "tagName", .newList])] [],
     .assign "foundIt" (.const (.bool false)),
     .assign "i" (.binop .sub (.call "len" [.avar "inTag"]) (.const (.int 1))),
     .whileS backCond backBody,
     .ifS (.not (.var "foundIt")) [.raise (.callv (.excClass "InvalidCloseException") [.var "tagName", .avar "inTag"])] [],
     .ifS topCond
       [.raise (.callv (.excClass "MissedCloseException")
          [.var "tagName",
           .compFor "x" (.var "x")
             (.sliceFrom (.avar "inTag") (.binop .mul (.const (.int (-1))) (.binop .add (.var "i") (.const (.int 1)))))])] [],
     .refCall "inTag" "pop" []] := rfl

theorem exc_invalid : excOf "InvalidCloseException" = .other "InvalidCloseException" := by simp [excOf]
theorem exc_missed : excOf "MissedCloseException" = .other "MissedCloseException" := by simp [excOf]

/-- `handle_endtag(self, tagName)` of the validating parser for every list of open elements (`r`: innermost first), every name and
every object around the list, with more than `r.length` iterations for the `while`: the run is `vEnd`. -/
theorem v_handle_endtag_run (tagOf : Nat → Str) (fuel : Nat) (r : List Nat) (fs : List (String × Field)) (n : Str)
    (hf : fs.lookup "_inTag" = some (.list (embU r.reverse))) (hfuel : r.length < fuel) :
    runMeth (parserCx tagOf fuel) ValidatingAdvancedHTMLParser_handle_endtag_ast fs [.py (.str n)] = vEnd tagOf n fs r := by
  suffices h : ∀ E : Env, E.lookup "self" = some (.obj fs) → E.lookup "tagName" = some (.py (.str n)) →
      ∃ E' res fs', execL (parserCx tagOf fuel) E ValidatingAdvancedHTMLParser_handle_endtag_ast.body = (E', res)
        ∧ E'.lookup "self" = some (.obj fs') ∧ (some fs', PyAst.resultOf res) = vEnd tagOf n fs r by
    obtain ⟨E', res, fs', hb, hs', he⟩ := h [("self", .obj fs), ("tagName", .py (.str n))] (by simp [List.lookup])
      (by simp [List.lookup])
    rw [← he]
    exact runMeth_of "self" none [("tagName", none)] rfl rfl hb hs'
  intro E hs ht
  have hlist : ∀ E' : Env, E'.lookup "self" = some (.obj fs) → E'.lookup "inTag" = some (.ref "self" "_inTag") →
      eval (parserCx tagOf fuel) E' (.avar "inTag") = .ok (.list (embU r.reverse)) :=
    fun E' h h' => eval_avar h' h hf
  have hlen : ∀ E' : Env, E'.lookup "self" = some (.obj fs) → E'.lookup "inTag" = some (.ref "self" "_inTag") →
      eval (parserCx tagOf fuel) E' (.call "len" [.avar "inTag"]) = .ok (.py (.int r.length)) := by
    intro E' h h'
    rw [eval, evalList_cons (hlist E' h h') rfl]
    simp [parserCx_funs, builtin_len, pyLen, embU]
  rw [v_handle_endtag_body, execL_cons_next _ _ _ _ _ (execS_alias "inTag" hs hf)]
  generalize hE1 : assocSet E "inTag" (.ref "self" "_inTag") = E1
  have hs1 : E1.lookup "self" = some (.obj fs) := by simp [← hE1, lookup_assocSet, hs]
  have ht1 : E1.lookup "tagName" = some (.py (.str n)) := by simp [← hE1, lookup_assocSet, ht]
  have hi1 : E1.lookup "inTag" = some (.ref "self" "_inTag") := by simp [← hE1, lookup_assocSet]
  clear hE1
  have hc0 : eval (parserCx tagOf fuel) E1 (.cmp .eq (.call "len" [.avar "inTag"]) (.const (.int 0)))
      = .ok (.py (.bool (decide (r.length = 0)))) := by
    rw [eval, hlen E1 hs1 hi1]; simp [eval, Lit.toPy, pyCompare, compareB, pyEq_py, pyEqV]
  have hraise : ∀ (E' : Env) (X : String) (a : Expr) (v : Val), E'.lookup "tagName" = some (.py (.str n)) →
      eval (parserCx tagOf fuel) E' a = .ok v →
      execL (parserCx tagOf fuel) E' [.raise (.callv (.excClass X) [.var "tagName", a])] = (E', .exc (excOf X)) :=
    fun E' X a v h h' => by
      rw [execL_single, execS_raise (evalList_cons (eval_var h) (evalList_cons h' rfl))]
  rw [execL, execS_ifS hc0]
  cases r with
  | nil =>
    refine ⟨E1, .exc (.other "InvalidCloseException"), fs, ?_, hs1, rfl⟩
    rw [if_pos (by simp), hraise E1 _ _ _ ht1 (by rw [eval]), exc_invalid]
  | cons u d =>
    rw [if_neg (by simp), execL_nil]
    simp only
    have hi : eval (parserCx tagOf fuel) (assocSet E1 "foundIt" (.py (.bool false)))
        (.binop .sub (.call "len" [.avar "inTag"]) (.const (.int 1))) = .ok (.py (.int (Int.ofNat (u :: d).length - 1))) := by
      rw [eval, hlen _ (by simp [lookup_assocSet, hs1]) (by simp [lookup_assocSet, hi1])]
      simp [eval, Lit.toPy, pyBinop, numOf]
    rw [execL_assign (env := E1) (x := "foundIt") (p := .bool false) (by rw [eval]; rfl), execL_assign hi]
    generalize hE4 : assocSet (assocSet E1 "foundIt" (.py (.bool false))) "i" (.py (.int (Int.ofNat (u :: d).length - 1))) = E4
    have hv4 : Vars E4 fs n false := by
      subst hE4
      exact ⟨by simp [lookup_assocSet, hs1], by simp [lookup_assocSet, ht1], by simp [lookup_assocSet, hi1],
        by simp [lookup_assocSet]⟩
    have hi4 : E4.lookup "i" = some (.py (.int (Int.ofNat (u :: d).length - 1))) := by simp [← hE4, lookup_assocSet]
    clear hE4
    obtain ⟨env5, h5, hv5, k, hk⟩ := backLoop_run tagOf fuel n fs (u :: d) [] fuel E4 (by simpa using hf) hv4 hi4 hfuel
    rw [execL_cons_next _ _ env5 _ _ (by simp only [execS, parserCx_fuel]; exact h5)]
    have hfound : eval (parserCx tagOf fuel) env5 (.not (.var "foundIt"))
        = .ok (.py (.bool (!decide (n ∈ (u :: d).map tagOf)))) := by
      rw [eval, eval_var hv5.found]; rfl
    rw [execL, execS_ifS hfound]
    by_cases hm : n ∈ (u :: d).map tagOf
    · have hitem : seqItem (embU (u :: d).reverse) (-1) = some (.ancestor u) := by
        rw [List.reverse_cons, embU_append]; exact seqItem_last _ _
      have hcond : eval (parserCx tagOf fuel) env5 topCond = .ok (.py (.bool (!decide (tagOf u = n)))) :=
        (eval_itemIs tagOf fuel hv5 _ hf (.const (.int (-1))) (-1) u (by rw [eval]; rfl) hitem).2
      simp only [hm, decide_true, Bool.not_true, Bool.false_eq_true, if_false, execL_nil]
      rw [execL, execS_ifS hcond]
      by_cases hu : tagOf u = n
      · -- the innermost open element has the name: pop
        refine ⟨assocSet env5 "self" (.obj (assocSet fs "_inTag" (.list (embU d.reverse)))), .next, _, ?_, lookup_assocSet_eq _ _ _,
          by simp only [vEnd, hm, hu, if_true]; rfl⟩
        simp only [hu, decide_true, Bool.not_true, Bool.false_eq_true, if_false, execL_nil]
        rw [execL_single, pop_run _ u d fs env5 hv5.self hv5.inTag hf]
      · -- another element is innermost: MissedCloseException
        refine ⟨env5, .exc (.other "MissedCloseException"), fs, ?_, hv5.self,
          by simp only [vEnd, hm, hu, if_true, if_false]; rfl⟩
        have hcomp : eval (parserCx tagOf fuel) env5
            (.compFor "x" (.var "x")
              (.sliceFrom (.avar "inTag") (.binop .mul (.const (.int (-1))) (.binop .add (.var "i") (.const (.int 1))))))
            = .ok (.list (Cache.sliceFrom (embU (u :: d).reverse) (-1 * (k + 1)))) := by
          have hslice : eval (parserCx tagOf fuel) env5
              (.sliceFrom (.avar "inTag") (.binop .mul (.const (.int (-1))) (.binop .add (.var "i") (.const (.int 1)))))
              = .ok (.list (Cache.sliceFrom (embU (u :: d).reverse) (-1 * (k + 1)))) := by
            rw [eval, hlist env5 hv5.self hv5.inTag]
            simp only [eval, hk, Lit.toPy, pyBinop, numOf, pySlice]
            rfl
          rw [eval, hslice]
          simp only [collectPy_id]
        simp only [hu, decide_false, Bool.not_false, if_true]
        rw [hraise env5 _ _ _ hv5.tag hcomp, exc_missed]
    · -- no open element of that name: InvalidCloseException
      refine ⟨env5, .exc (.other "InvalidCloseException"), fs, ?_, hv5.self, by simp only [vEnd, hm, if_false]; rfl⟩
      simp only [hm, decide_false, Bool.not_false, if_true]
      rw [hraise env5 _ _ _ hv5.tag (hlist env5 hv5.self hv5.inTag), exc_invalid]

theorem vStepT_end_cons (s : TState) (f : Frame) (st : List Frame) (n : Str) (hs : s.stack = f :: st) :
    vStepT s (.end_ n)
      = if ((f :: st).map (·.name)).contains n = true then (if f.name = n then .ok (pop1 s) else .missedClose)
        else .invalidClose := by
  cases hc : ((f :: st).map (·.name)).contains n <;> by_cases hfn : f.name = n <;>
    simp only [vStepT, hs, hc, hfn, Bool.not_true, Bool.not_false, Bool.false_eq_true, if_true, if_false, ne_eq,
      not_true_eq_false, not_false_eq_true]

/-- **The code tie of C13's end-tag step.**  For every state `s` of the hand model, every list `r` of open elements (innermost first;
`self._inTag` is `r.reverse`) whose names are the names of the model's stack, every name `n`, every object `fs` around the list and
every fuel above the stack length: the dumped `handle_endtag` of the validating parser raises `InvalidCloseException` /
`MissedCloseException` exactly when `vStepT s (.end_ n)` is `.invalidClose` / `.missedClose` (the object unchanged), and otherwise
returns `None` having popped the innermost element — the names of the elements left are the names of the model's stack after the
step.  (`vStepT` on an end tag has no other outcome.) -/
theorem v_handle_endtag_code_eq_model (tagOf : Nat → Str) (fuel : Nat) (s : TState) (r : List Nat) (fs : List (String × Field))
    (n : Str) (hrep : r.map tagOf = s.stack.map (·.name))
    (hf : fs.lookup "_inTag" = some (.list (embU r.reverse))) (hfuel : s.stack.length < fuel) :
    runMeth (parserCx tagOf fuel) ValidatingAdvancedHTMLParser_handle_endtag_ast fs [.py (.str n)]
      = ofOutcome fs r (vStepT s (.end_ n))
    ∧ (∀ s', vStepT s (.end_ n) = .ok s' → (r.drop 1).map tagOf = s'.stack.map (·.name))
    ∧ vStepT s (.end_ n) ≠ .multipleRoot ∧ vStepT s (.end_ n) ≠ .invalidAttr := by
  have hlen : r.length = s.stack.length := by
    have := congrArg List.length hrep; simpa using this
  rw [v_handle_endtag_run tagOf fuel r fs n hf (by omega)]
  cases hs : s.stack with
  | nil =>
    have hr : r = [] := by
      rw [hs] at hlen; exact List.eq_nil_of_length_eq_zero hlen
    subst hr
    simp [vStepT, hs, vEnd, ofOutcome]
  | cons f st =>
    cases r with
    | nil => rw [hs] at hlen; simp at hlen
    | cons u d =>
      rw [hs] at hrep
      rw [vStepT_end_cons s f st n hs]
      have hu : tagOf u = f.name := by
        have := congrArg List.head? hrep; simpa using this
      have hd : d.map tagOf = st.map (·.name) := by
        have := congrArg List.tail hrep; simpa using this
      have hmem : (n ∈ (u :: d).map tagOf) ↔ ((f :: st).map (·.name)).contains n = true := by
        rw [hrep, List.contains_iff_mem]
      by_cases hm : n ∈ (u :: d).map tagOf
      · have hc := hmem.mp hm
        by_cases hfn : f.name = n
        · have hun : tagOf u = n := hu.trans hfn
          have hp : names (pop1 s) = st.map (·.name) := AHP.names_pop1 hs
          simp only [vEnd, if_pos hm, if_pos hc, if_pos hun, if_pos hfn, ofOutcome, List.drop_succ_cons, List.drop_zero]
          refine ⟨trivial, ?_, by simp, by simp⟩
          intro s' h
          have h' : pop1 s = s' := by simpa using h
          rw [← h', hd]; exact hp.symm
        · have hun : ¬ tagOf u = n := fun e => hfn (hu.symm.trans e)
          simp only [vEnd, if_pos hm, if_pos hc, if_neg hun, if_neg hfn, ofOutcome]
          exact ⟨trivial, by simp, by simp, by simp⟩
      · have hc : ¬ ((f :: st).map (·.name)).contains n = true := fun h => hm (hmem.mpr h)
        simp only [vEnd, if_neg hm, if_neg hc, ofOutcome]
        exact ⟨trivial, by simp, by simp, by simp⟩

/-- the attribute list a start-tag callback receives: (name, value) pairs, a value being a text or `None` (the same embedding as
`C01Code.embA`) -/
def embA (a : List Attr) : List (PyV × PyV) :=
  a.map (fun p => (PyV.str p.1, match p.2 with | some v => PyV.str v | none => PyV.none))

/-- What `handle_starttag` runs in: `isValidAttributeName` is the dumped function of Tags.py (`Gen.Code.tags`, tied to
`validAttrName` by `C08Code.isValidAttributeName_code_eq_model`), `AdvancedHTMLParser.handle_starttag(self, …)` is the parameter
`base` (what it does to the object and what it returns). -/
def vCx (parseInt : Str → Except PyErr Int) (base : MethSem) : Ctx :=
  { parseInt := parseInt
    funs := callIn parseInt tags.reverse
    baseMeth := fun m => if m = "handle_starttag" then some base else none }

theorem vCx_base (parseInt : Str → Except PyErr Int) (base : MethSem) :
    (vCx parseInt base).baseMeth "handle_starttag" = some base := by simp [vCx]

/-- the call `isValidAttributeName(attrName)` inside the method is the hand model's predicate -/
theorem vCx_valid (parseInt : Str → Except PyErr Int) (base : MethSem) (env : Env) (k : Str)
    (h : env.lookup "attrName" = some (.py (.str k))) :
    eval (vCx parseInt base) env (.call "isValidAttributeName" [.var "attrName"]) = .ok (.py (.bool (validAttrName k))) := by
  have := C08Code.isValidAttributeName_code_eq_model parseInt k
  simp only [eval, evalList, h]
  exact this

def checkBody : List Stmt :=
  [.ifS (.cmp .is (.call "isValidAttributeName" [.var "attrName"]) (.const (.bool false)))
     [.raise (.callv (.excClass "InvalidAttributeNameException") [.var "tagName", .var "attrName", .var "attrValue"])] []]

theorem exc_attr : excOf "InvalidAttributeNameException" = .other "InvalidAttributeNameException" := by simp [excOf]

/-- how the loop ends: normally when every name is valid, with the exception at the first invalid one -/
def checkRes (a : List Attr) : Res :=
  if a.all (fun p => validAttrName p.1) then .next else .exc (.other "InvalidAttributeNameException")

theorem checkLoop_run (parseInt : Str → Except PyErr Int) (base : MethSem) (same : Env → Bool) (V T : Val)
    (hsame : ∀ env, env.lookup "attributeList" = some V → same env = true) :
    ∀ (a : List Attr) (env : Env), env.lookup "attributeList" = some V → env.lookup "tagName" = some T →
    ∃ env', forLoop (fun env v => match v with
              | .tuple [x, y] => assocSet (assocSet env "attrName" (.py x)) "attrValue" (.py y) | _ => env)
          (fun env => execL (vCx parseInt base) env checkBody) same ((embA a).map (fun p => Val.tuple [p.1, p.2])) env
        = (env', checkRes a)
      ∧ ∀ x, x ≠ "attrName" → x ≠ "attrValue" → env'.lookup x = env.lookup x := by
  intro a env hV hT
  rw [embA, List.map_map]
  refine forLoop_inv _
    (fun r e => (∀ x, x ≠ "attrName" → x ≠ "attrValue" → e.lookup x = env.lookup x) ∧ checkRes r = checkRes a)
    _ _ (fun e ⟨h1, h2⟩ => ⟨by rw [← h2]; rfl, h1⟩) ?_ a env ⟨fun _ _ _ => rfl, rfl⟩
  rintro ⟨k, w⟩ r e ⟨h1, h2⟩
  dsimp only [Function.comp_apply]
  generalize (match (generalizing := false) w with | some v => PyV.str v | none => PyV.none) = w'
  have hkeep : ∀ x, x ≠ "attrName" → x ≠ "attrValue" →
      (assocSet (assocSet e "attrName" (.py (.str k))) "attrValue" (.py w')).lookup x = env.lookup x :=
    fun x x1 x2 => by rw [lookup_assocSet_ne _ _ _ _ x2, lookup_assocSet_ne _ _ _ _ x1, h1 x x1 x2]
  have hn : (assocSet (assocSet e "attrName" (.py (.str k))) "attrValue" (.py w')).lookup "attrName" = some (.py (.str k)) := by
    simp [lookup_assocSet]
  have hc := vCx_valid parseInt base _ k hn
  have hstep : execL (vCx parseInt base) (assocSet (assocSet e "attrName" (.py (.str k))) "attrValue" (.py w')) checkBody
      = (assocSet (assocSet e "attrName" (.py (.str k))) "attrValue" (.py w'),
         if validAttrName k then .next else .exc (.other "InvalidAttributeNameException")) := by
    simp only [checkBody, execL, execS]
    generalize (Expr.call "isValidAttributeName" [.var "attrName"]) = E at hc ⊢
    cases hk : validAttrName k <;>
      simp [eval, evalList, hc, hk, Lit.toPy, pyCompare, compareB, pyIs, Val.unique, Val.truthy, truthy, hn,
        lookup_assocSet_eq, hkeep "tagName" (by simp) (by simp), hT, callValue, raiseOf, exc_attr]
  refine ⟨_, _, hstep, ?_⟩
  cases hk : validAttrName k
  · exact ⟨by rw [← h2]; simp [checkRes, hk], hkeep⟩
  · exact ⟨hsame _ (by rw [hkeep _ (by simp) (by simp), hV]), hkeep,
      by rw [← h2]; simp only [checkRes, List.all_cons, hk, Bool.true_and]⟩

theorem v_handle_starttag_body : ValidatingAdvancedHTMLParser_handle_starttag_ast.body =
    [.forPair "attrName" "attrValue" (.var "attributeList") checkBody,
     .retBase "self" "handle_starttag" [.var "tagName", .var "attributeList", .var "isSelfClosing"]] := rfl

/-- `handle_starttag(self, tagName, attributeList, isSelfClosing)` of the validating parser, for every attribute list, every
object and every base-class method: with an invalid attribute name `InvalidAttributeNameException` before the base class is
called (the object unchanged); otherwise exactly what `AdvancedHTMLParser.handle_starttag(self, tagName, attributeList,
isSelfClosing)` does and returns. -/
theorem v_handle_starttag_run (parseInt : Str → Except PyErr Int) (base : MethSem) (fs : List (String × Field)) (tag : Str)
    (a : List Attr) (sc : Bool) :
    (a.all (fun p => validAttrName p.1) = false →
      runMeth (vCx parseInt base) ValidatingAdvancedHTMLParser_handle_starttag_ast fs
          [.py (.str tag), .pairs (embA a), .py (.bool sc)]
        = (some fs, .error (.other "InvalidAttributeNameException")))
    ∧ (a.all (fun p => validAttrName p.1) = true →
      ∀ fs' res, base fs [.py (.str tag), .pairs (embA a), .py (.bool sc)] = (some fs', res) →
      runMeth (vCx parseInt base) ValidatingAdvancedHTMLParser_handle_starttag_ast fs
          [.py (.str tag), .pairs (embA a), .py (.bool sc)] = (some fs', res)) := by
  have fin := fun env' res fs' => runMeth_of (cx := vCx parseInt base) (f := ValidatingAdvancedHTMLParser_handle_starttag_ast)
    (self := fs) (args := [.py (.str tag), .pairs (embA a), .py (.bool sc)]) "self" none
    [("tagName", none), ("attributeList", none), ("isSelfClosing", some (.const (.bool false)))] rfl rfl
    (env' := env') (res := res) (fs' := fs')
  rw [v_handle_starttag_body] at fin
  have hV : ([("self", Val.obj fs), ("tagName", .py (.str tag)), ("attributeList", .pairs (embA a)),
      ("isSelfClosing", .py (.bool sc))] : Env).lookup "attributeList" = some (.pairs (embA a)) := rfl
  obtain ⟨env1, h1, hkeep⟩ := checkLoop_run parseInt base
    (fun env' => decide (eval (vCx parseInt base) env' (.var "attributeList") = .ok (.pairs (embA a)))) (.pairs (embA a))
    (.py (.str tag)) (by intro env h; simp [eval, h]) a _ hV rfl
  have hfor : execS (vCx parseInt base) [("self", Val.obj fs), ("tagName", .py (.str tag)), ("attributeList", .pairs (embA a)),
      ("isSelfClosing", .py (.bool sc))] (.forPair "attrName" "attrValue" (.var "attributeList") checkBody)
      = (env1, checkRes a) := by
    rw [execS]
    simp only [eval, hV]
    exact h1
  have hs : env1.lookup "self" = some (.obj fs) := by rw [hkeep "self" (by simp) (by simp)]; rfl
  have ht : env1.lookup "tagName" = some (.py (.str tag)) := by rw [hkeep "tagName" (by simp) (by simp)]; rfl
  have hl : env1.lookup "attributeList" = some (.pairs (embA a)) := by rw [hkeep "attributeList" (by simp) (by simp)]; rfl
  have hc : env1.lookup "isSelfClosing" = some (.py (.bool sc)) := by rw [hkeep "isSelfClosing" (by simp) (by simp)]; rfl
  constructor
  · intro hall
    have hres : checkRes a = .exc (.other "InvalidAttributeNameException") := by simp [checkRes, hall]
    rw [hres] at hfor
    exact fin _ _ _ (execL_cons_exc hfor) hs
  · intro hall fs' res hb
    have hres : checkRes a = .next := by simp [checkRes, hall]
    rw [hres] at hfor
    cases res with
    | ok v =>
      have h2 : execS (vCx parseInt base) env1
          (.retBase "self" "handle_starttag" [.var "tagName", .var "attributeList", .var "isSelfClosing"])
          = (assocSet env1 "self" (.obj fs'), .ret v) := by
        simp [execS, evalList, eval, hs, ht, hl, hc, vCx_base, hb]
      exact fin _ _ _ ((execL_cons_next _ _ _ _ _ hfor).trans (execL_cons_ret h2)) (lookup_assocSet_eq _ _ _)
    | error e =>
      have h2 : execS (vCx parseInt base) env1
          (.retBase "self" "handle_starttag" [.var "tagName", .var "attributeList", .var "isSelfClosing"])
          = (assocSet env1 "self" (.obj fs'), .exc e) := by
        simp [execS, evalList, eval, hs, ht, hl, hc, vCx_base, hb]
      exact fin _ _ _ ((execL_cons_next _ _ _ _ _ hfor).trans (execL_cons_exc h2)) (lookup_assocSet_eq _ _ _)

/-- **The code tie of C13's start-tag step.**  The dumped `handle_starttag` raises `InvalidAttributeNameException` (object
unchanged, base class not called) exactly when the hand model's `vStepT` answers `.invalidAttr` to the start tag — and to the
self-closing start tag, which reaches the same method through `handle_startendtag` —, and otherwise is the base class's
`handle_starttag` on the same arguments, as `vStepT` is the plain parser's `stepT`. -/
theorem v_handle_starttag_code_eq_model (parseInt : Str → Except PyErr Int) (base : MethSem) (fs : List (String × Field))
    (s : TState) (tag : Str) (a : List Attr) (sc : Bool) :
    (a.all (fun p => validAttrName p.1) = false →
      runMeth (vCx parseInt base) ValidatingAdvancedHTMLParser_handle_starttag_ast fs
          [.py (.str tag), .pairs (embA a), .py (.bool sc)]
        = (some fs, .error (.other "InvalidAttributeNameException"))
      ∧ vStepT s (.start tag a) = .invalidAttr ∧ vStepT s (.startend tag a) = .invalidAttr)
    ∧ (a.all (fun p => validAttrName p.1) = true →
      (∀ fs' res, base fs [.py (.str tag), .pairs (embA a), .py (.bool sc)] = (some fs', res) →
        runMeth (vCx parseInt base) ValidatingAdvancedHTMLParser_handle_starttag_ast fs
          [.py (.str tag), .pairs (embA a), .py (.bool sc)] = (some fs', res))
      ∧ vStepT s (.start tag a) = stepT s (.start tag a) ∧ vStepT s (.startend tag a) = stepT s (.startend tag a)) := by
  obtain ⟨h1, h2⟩ := v_handle_starttag_run parseInt base fs tag a sc
  constructor
  · intro hall
    exact ⟨h1 hall, by simp [vStepT, hall], by simp [vStepT, hall]⟩
  · intro hall
    exact ⟨h2 hall, by simp [vStepT, stepT, hall], by simp [vStepT, stepT, hall]⟩

/-! ### the theorems are not vacuous, and the interpreter runs the dump -/

-- a broken `decide +kernel` would explain itself through the elaborator's evaluator (minutes, gigabytes on a run of the
-- interpreter): the small budget makes it fail at once; the kernel check of a correct example does not consume it
set_option maxHeartbeats 2000

private def tg : Nat → Str := fun u => if u = 1 then "div".toList else if u = 2 then "b".toList else "i".toList
private def obj (us : List Nat) : List (String × Field) := [("root", .py .none), ("_inTag", .list (embU us)), ("doctype", .py .none)]
private def fr (n : String) : Frame := ⟨n.toList, AttrState.empty, []⟩

/-- `</i>` with `div > b > i` open: the innermost element is popped -/
example : runMeth (parserCx tg 4) ValidatingAdvancedHTMLParser_handle_endtag_ast (obj [1, 2, 3]) [.py (.str "i".toList)]
    = (some (obj [1, 2]), .ok (.py .none)) := by decide +kernel
/-- `</b>` with `div > b > i` open: `MissedCloseException`, nothing changed -/
example : runMeth (parserCx tg 4) ValidatingAdvancedHTMLParser_handle_endtag_ast (obj [1, 2, 3]) [.py (.str "b".toList)]
    = (some (obj [1, 2, 3]), .error (.other "MissedCloseException")) := by decide +kernel
/-- `</p>` with `div > b > i` open: `InvalidCloseException` (the search runs to `i = -1`: four tests) -/
example : runMeth (parserCx tg 4) ValidatingAdvancedHTMLParser_handle_endtag_ast (obj [1, 2, 3]) [.py (.str "p".toList)]
    = (some (obj [1, 2, 3]), .error (.other "InvalidCloseException")) := by decide +kernel
/-- no open element: `InvalidCloseException` before any search -/
example : runMeth (parserCx tg 0) ValidatingAdvancedHTMLParser_handle_endtag_ast (obj []) [.py (.str "p".toList)]
    = (some (obj []), .error (.other "InvalidCloseException")) := by decide +kernel
/-- the fuel bound is sharp: three iterations do not suffice to find that a name is absent from a stack of three -/
example : (runMeth (parserCx tg 3) ValidatingAdvancedHTMLParser_handle_endtag_ast (obj [1, 2, 3]) [.py (.str "p".toList)]).2
    = .error (unsupported "while: out of fuel") := by decide +kernel
/-- the hand model on the same stacks -/
example : (match vStepT ⟨[fr "i", fr "b", fr "div"], none⟩ (.end_ "i".toList) with | .ok s' => s'.stack.map (·.name) | _ => [])
      = ["b".toList, "div".toList]
    ∧ (match vStepT ⟨[fr "i", fr "b", fr "div"], none⟩ (.end_ "b".toList) with | .missedClose => true | _ => false) = true
    ∧ (match vStepT ⟨[fr "i", fr "b", fr "div"], none⟩ (.end_ "p".toList) with | .invalidClose => true | _ => false) = true
    ∧ [3, 2, 1].map tg = (⟨[fr "i", fr "b", fr "div"], none⟩ : TState).stack.map (·.name) := by decide +kernel

/-- a base-class method for the examples: it notes the tag name in a field and returns the number of attributes -/
private def baseEx : MethSem := fun fs args =>
  match args with
  | [.py (.str t), .pairs kvs, .py (.bool _)] => (some (assocSet fs "last" (.py (.str t))), .ok (.py (.int kvs.length)))
  | _ => (some fs, .error .typeError)
private def pI : Str → Except PyErr Int := fun _ => .error .valueError

/-- valid names (a value may be `None`): the base class runs, on the same arguments -/
example : runMeth (vCx pI baseEx) ValidatingAdvancedHTMLParser_handle_starttag_ast (obj [1])
      [.py (.str "p".toList), .pairs (embA [("id".toList, some "x".toList), ("data-k".toList, none)]), .py (.bool false)]
    = (some (assocSet (obj [1]) "last" (.py (.str "p".toList))), .ok (.py (.int 2))) := by decide +kernel
/-- the second name is invalid: `InvalidAttributeNameException`, the base class is not called (no field `last`) -/
example : runMeth (vCx pI baseEx) ValidatingAdvancedHTMLParser_handle_starttag_ast (obj [1])
      [.py (.str "p".toList), .pairs (embA [("id".toList, some "x".toList), ("1a".toList, none)]), .py (.bool false)]
    = (some (obj [1]), .error (.other "InvalidAttributeNameException")) := by decide +kernel
/-- `isSelfClosing` has the default `False` -/
example : runMeth (vCx pI baseEx) ValidatingAdvancedHTMLParser_handle_starttag_ast (obj [])
      [.py (.str "br".toList), .pairs (embA [])]
    = (some (assocSet (obj []) "last" (.py (.str "br".toList))), .ok (.py (.int 0))) := by decide +kernel
/-- the hand model on the same attribute lists -/
example : (match vStepT ⟨[], none⟩ (.start "p".toList [("id".toList, some "x".toList), ("1a".toList, none)]) with
      | .invalidAttr => true | _ => false) = true
    ∧ (match vStepT ⟨[], none⟩ (.start "p".toList [("id".toList, some "x".toList), ("data-k".toList, none)]) with
      | .ok _ => true | _ => false) = true := by decide +kernel

end AHP.C13Code
