/-
  AHP.Lemmas.FormatLexMini — what `expand` and `mergeL` do when there is little or nothing to be done.

  With `mini` there is no `_indent`: `expand` only applies the data rule to data blocks and drops the ones that
  become empty; that keeps "no two data blocks adjacent" (`glued_expandL`), so re-tokenising glues nothing
  (`mergeL_glued`, in `FormatLex`), and the data rule is idempotent (`expandL_idem`, from `squeeze_idem`) — the tree side of
  mini² = mini (`mini_text_fixed_point`, with its known limit `C12-mini-dropped-markup`: adjacent data blocks).
  Neither `expand` nor `mergeL`, for any class, brings in an element with the reserved name (`nw_expand`, `nw_mergeL`).
  Below pre/code nothing is rewritten by any class (`expand_inPre`).
-/
import AHP.Lemmas.FormatLexDoc
namespace AHP.Fmt
open AHP

theorem expand_mini_elem (cfg : Cfg) (hm : cfg.mini = true) (c : Ctx) (p n : Str) (st : AStore) (sc : Bool)
    (kids : List FNode) :
    expand cfg c p (.elem n st sc kids)
      = [.elem n st sc (if sc then [] else expandL cfg (c.push n) n kids)] := by
  simp only [expand, indentAt_mini cfg hm, endInd_nil, dataTok, List.isEmpty_nil, if_true, List.nil_append,
    List.append_nil]

theorem expandL_dataTok (cfg : Cfg) (c : Ctx) (p s : Str) :
    expandL cfg c p (dataTok s) = if s.isEmpty then [] else dataTok (dataRule c p s) := by
  unfold dataTok
  by_cases h : s.isEmpty = true
  · simp [h, expandL]
  · simp [h, expandL, expand, expandTok, dataTok]

mutual
theorem expand_idem (cfg : Cfg) (hm : cfg.mini = true) (c : Ctx) (p : Str) :
    ∀ u : FNode, expandL cfg c p (expand cfg c p u) = expand cfg c p u
  | .tok t => by
    cases t with
    | data s =>
      simp only [expand, expandTok]
      rw [expandL_dataTok]
      by_cases h : (dataRule c p s).isEmpty = true
      · have : dataRule c p s = [] := by simpa using h
        simp [this, dataTok]
      · simp only [h, Bool.false_eq_true, if_false, dataRule_idem]
    | _ => simp [expand, expandTok, expandL]
  | .elem n st sc kids => by
    rw [expand_mini_elem cfg hm]
    simp only [expandL, List.append_nil]
    rw [expand_mini_elem cfg hm]
    cases sc with
    | true => rfl
    | false =>
      simp only [Bool.false_eq_true, if_false]
      rw [expandL_idem cfg hm (c.push n) n kids]
theorem expandL_idem (cfg : Cfg) (hm : cfg.mini = true) (c : Ctx) (p : Str) :
    ∀ ks : List FNode, expandL cfg c p (expandL cfg c p ks) = expandL cfg c p ks
  | [] => rfl
  | k :: ks => by
    simp only [expandL]
    rw [expandL_append, expand_idem cfg hm c p k, expandL_idem cfg hm c p ks]
end

theorem headIsData_expandL (cfg : Cfg) (hm : cfg.mini = true) (c : Ctx) (p : Str) (ks : List FNode)
    (h : headIsData ks = false) : headIsData (expandL cfg c p ks) = false := by
  cases ks with
  | nil => rfl
  | cons k ks =>
    cases k with
    | elem n st sc kids =>
      simp only [expandL]
      rw [expand_mini_elem cfg hm]
      rfl
    | tok t =>
      cases t with
      | data s => simp [headIsData, fisDataTok] at h
      | _ => rfl

mutual
theorem glued_expand (cfg : Cfg) (hm : cfg.mini = true) (c : Ctx) (p : Str) :
    ∀ u : FNode, u.Glued → GluedL (expand cfg c p u)
  | .tok t, _ => by
    cases t with
    | data s =>
      simp only [expand, expandTok, dataTok]
      split <;> simp [GluedL, FNode.Glued]
    | _ => simp [expand, expandTok, GluedL, FNode.Glued]
  | .elem n st sc kids, h => by
    rw [expand_mini_elem cfg hm]
    simp only [GluedL, FNode.Glued, and_true]
    cases sc with
    | true => simp [GluedL, FNoAdjL]
    | false =>
      simp only [Bool.false_eq_true, if_false]
      exact glued_expandL cfg hm (c.push n) n kids h.1 h.2
theorem glued_expandL (cfg : Cfg) (hm : cfg.mini = true) (c : Ctx) (p : Str) :
    ∀ ks : List FNode, GluedL ks → FNoAdjL ks → GluedL (expandL cfg c p ks) ∧ FNoAdjL (expandL cfg c p ks)
  | [], _, _ => by simp [expandL, GluedL, FNoAdjL]
  | k :: ks, hg, ha => by
    obtain ⟨h1, h2⟩ := noAdj_head _ _ ha
    have ih := glued_expandL cfg hm c p ks hg.2 h2
    have hk := glued_expand cfg hm c p k hg.1
    simp only [expandL]
    cases k with
    | elem n st sc kids =>
      rw [expand_mini_elem cfg hm] at hk ⊢
      refine ⟨⟨hk.1, ih.1⟩, ?_⟩
      exact noAdj_cons _ _ (by simp [fisDataTok]) ih.2
    | tok t =>
      cases t with
      | data s =>
        simp only [expand, expandTok]
        by_cases he : (dataRule c p s).isEmpty = true
        · simp only [dataTok, he, if_true, List.nil_append]
          exact ih
        · rw [dataTok_ne _ (by simpa using he)]
          refine ⟨⟨trivial, ih.1⟩, ?_⟩
          have hnd : headIsData ks = false := by
            cases hh : headIsData ks with
            | false => rfl
            | true => exact absurd ⟨rfl, hh⟩ h1
          exact noAdj_cons _ _ (by simp [headIsData_expandL cfg hm c p ks hnd]) ih.2
      | _ => exact ⟨⟨trivial, ih.1⟩, noAdj_cons _ _ (by simp [fisDataTok]) ih.2⟩
end

mutual
/-- no element of the tree carries the reserved name of the invisible wrapper -/
def FNode.NoWrapper : FNode → Prop
  | .tok _ => True
  | .elem n _ _ kids => lower n ≠ wrapper ∧ NoWrapperL kids
def NoWrapperL : List FNode → Prop
  | [] => True
  | k :: ks => k.NoWrapper ∧ NoWrapperL ks
end

mutual
theorem noWrapper_toks : ∀ u : FNode, u.TextLike → u.NoWrapper →
    ∀ t ∈ u.toks, (Tok.ofToken t).startName? ≠ some wrapper
  | .tok tk, h, _, t, ht => by
    simp only [FNode.TextLike] at h
    simp only [FNode.toks, List.mem_singleton] at ht
    subst ht
    cases t <;> simp [isTextLike] at h <;> simp [Tok.ofToken, Tok.startName?]
  | .elem n st sc kids, h, hw, t, ht => by
    unfold FNode.toks at ht
    cases sc with
    | true =>
      simp only [if_true, List.mem_singleton] at ht
      subst ht
      simp only [Tok.ofToken, Tok.startName?, ne_eq, Option.some.injEq]
      exact hw.1
    | false =>
      simp only [Bool.false_eq_true, if_false, List.mem_cons, List.mem_append, List.mem_singleton] at ht
      rcases ht with e | e | e
      · subst e
        simp only [Tok.ofToken, Tok.startName?, ne_eq, Option.some.injEq]
        exact hw.1
      · exact noWrapper_toksL kids h hw.2 t e
      · rcases e with e | e
        · subst e; simp [Tok.ofToken, Tok.startName?]
        · simp at e
theorem noWrapper_toksL : ∀ ks : List FNode, TextLikeL ks → NoWrapperL ks →
    ∀ t ∈ ftoksL ks, (Tok.ofToken t).startName? ≠ some wrapper
  | [], _, _, t, ht => by simp [ftoksL] at ht
  | k :: ks, h, hw, t, ht => by
    simp only [ftoksL, List.mem_append] at ht
    rcases ht with e | e
    · exact noWrapper_toks k h.1 hw.1 t e
    · exact noWrapper_toksL ks h.2 hw.2 t e
end

theorem nwL_append (xs ys : List FNode) : NoWrapperL (xs ++ ys) ↔ NoWrapperL xs ∧ NoWrapperL ys := by
  induction xs with
  | nil => simp [NoWrapperL]
  | cons x xs ih => simp [NoWrapperL, ih, and_assoc]

theorem nw_dataTok (s : Str) : NoWrapperL (dataTok s) := by
  unfold dataTok
  split <;> simp [NoWrapperL, FNode.NoWrapper]

mutual
theorem nw_expand (cfg : Cfg) (c : Ctx) (p : Str) : ∀ u : FNode, u.NoWrapper → NoWrapperL (expand cfg c p u)
  | .tok t, _ => by
    cases t with
    | data s => simp only [expand, expandTok]; exact nw_dataTok _
    | _ => simp [expand, expandTok, NoWrapperL, FNode.NoWrapper]
  | .elem n st sc kids, h => by
    simp only [expand]
    rw [nwL_append]
    refine ⟨nw_dataTok _, ?_, trivial⟩
    refine ⟨h.1, ?_⟩
    cases sc with
    | true => trivial
    | false =>
      simp only [Bool.false_eq_true, if_false]
      rw [nwL_append]
      exact ⟨nw_expandL cfg (c.push n) n kids h.2, nw_dataTok _⟩
theorem nw_expandL (cfg : Cfg) (c : Ctx) (p : Str) : ∀ ks : List FNode, NoWrapperL ks → NoWrapperL (expandL cfg c p ks)
  | [], _ => trivial
  | k :: ks, h => by
    simp only [expandL]
    rw [nwL_append]
    exact ⟨nw_expand cfg c p k h.1, nw_expandL cfg c p ks h.2⟩
end

theorem nw_expElem (cfg : Cfg) (c : Ctx) (n : Str) (st : AStore) (sc : Bool) (kids : List FNode)
    (h : (FNode.elem n st sc kids).NoWrapper) : (expElem cfg c n st sc kids).NoWrapper := by
  have := nw_expand cfg c [] _ h
  rw [expand_elem, nwL_append] at this
  exact this.2.1

theorem nw_pushTok (t : Token) (r : List FNode) (h : NoWrapperL r) : NoWrapperL (pushTok t r) := by
  unfold pushTok
  split
  · simp only [NoWrapperL] at h ⊢
    exact ⟨trivial, h.2⟩
  · exact ⟨trivial, h⟩

mutual
theorem nw_merge : ∀ u : FNode, u.NoWrapper → (merge u).NoWrapper
  | .tok _, _ => trivial
  | .elem n st sc kids, h => ⟨h.1, nw_mergeL kids h.2⟩
theorem nw_mergeL : ∀ ks : List FNode, NoWrapperL ks → NoWrapperL (mergeL ks)
  | [], _ => by simp [mergeL, NoWrapperL]
  | k :: ks, h => by
    cases k with
    | tok t => simp only [mergeL]; exact nw_pushTok t _ (nw_mergeL ks h.2)
    | elem n st sc kids => simp only [mergeL]; exact ⟨nw_merge (.elem n st sc kids) h.1, nw_mergeL ks h.2⟩
end

theorem noWrapper_expand (cfg : Cfg) (hm : cfg.mini = true) (c : Ctx) (p : Str) :
    ∀ u : FNode, u.NoWrapper → NoWrapperL (expand cfg c p u) := nw_expand cfg c p

theorem nw_dtToks (dt : Option Str) : ∀ t ∈ dtToks dt, (Tok.ofToken t).startName? ≠ some wrapper := by
  intro t ht
  cases dt with
  | none => simp [dtToks] at ht
  | some d =>
    by_cases hd : d.isEmpty = true
    · simp [dtToks, hd] at ht
    · simp [dtToks, hd] at ht; subst ht; simp [Tok.ofToken, Tok.startName?]

theorem nw_dtBlock (dt : Option Str) : NoWrapperL (dtBlock dt) := by
  rw [dtBlock_eq]
  exact nw_dataTok _

theorem noWrapperStart_toksM (dt : Option Str) (kids : List FNode) (hs : StrictL kids) (hnw : NoWrapperL kids) :
    NoWrapperStart ((dtToks dt ++ ftoksL kids).map Tok.ofToken) := by
  intro t ht
  simp only [List.map_append, List.mem_append, List.mem_map] at ht
  rcases ht with ⟨t0, ht0, rfl⟩ | ⟨t0, ht0, rfl⟩
  · exact nw_dtToks dt t0 ht0
  · exact noWrapper_toksL _ (strictL_textLike _ hs) hnw t0 ht0

theorem nw_front (dt : Option Str) (B : List FNode) (h : NoWrapperL B) : NoWrapperL (mergeL (dtBlock dt ++ B)) :=
  nw_mergeL _ ((nwL_append _ _).mpr ⟨nw_dtBlock dt, h⟩)

theorem nw_out (dt : Option Str) (bs : List FNode) (hs : StrictL bs) (hnw : NoWrapperL bs) :
    NoWrapperStart ((dtToks dt ++ ftoksL (mergeL (dtBlock dt ++ bs))).map Tok.ofToken) :=
  noWrapperStart_toksM dt _ (strict_front dt bs hs)
    (nw_front dt bs hnw)

theorem rep_unit (n : Nat) (s : Str) (h : ∀ c ∈ s, c = ' ' ∨ c = '\t') : ∀ c ∈ rep n s, c = ' ' ∨ c = '\t' :=
  fun c hc => h c (mem_rep hc)

theorem indentAt_isIndent (cfg : Cfg) (hm : cfg.mini = false) (hi : IndentWS cfg) (c : Ctx) (hc : c.inPre = 0) :
    IsIndent (indentAt cfg c) := by
  rw [indentAt_pretty cfg hm c hc]
  exact ⟨_, rfl, rep_unit _ _ hi⟩

mutual
theorem expand_inPre (cfg : Cfg) (c : Ctx) (p : Str) (hc : c.inPre ≠ 0) :
    ∀ u : FNode, u.Buildable → expand cfg c p u = [u]
  | .tok t, h => by
    cases t with
    | data s =>
      simp only [expand, expandTok, dataRule_id_pre c p s hc]
      exact dataTok_ne s (h.2 s rfl)
    | _ => rfl
  | .elem n st sc kids, h => by
    obtain ⟨_, _, hsc, _, hk⟩ := h
    simp only [expand, indentAt_pre cfg c hc, endInd_nil, dataTok, List.isEmpty_nil, if_true, List.nil_append,
      List.append_nil]
    cases sc with
    | true => rw [hsc rfl]; rfl
    | false =>
      simp only [Bool.false_eq_true, if_false]
      rw [expandL_inPre cfg (c.push n) n (push_inPre_ne_zero c n hc) kids hk]
theorem expandL_inPre (cfg : Cfg) (c : Ctx) (p : Str) (hc : c.inPre ≠ 0) :
    ∀ ks : List FNode, BuildableL ks → expandL cfg c p ks = ks
  | [], _ => rfl
  | k :: ks, h => by
    simp only [expandL]
    rw [expand_inPre cfg c p hc k h.1, expandL_inPre cfg c p hc ks h.2]
    rfl
end

end AHP.Fmt
