/-
  Lemmas for the code tie of utils.escapeQuotes: `str.replace` of the interpreter on a one-character
  pattern is the character-wise substitution, and the five hand-written copies of `escapeQuotes` (one per model that
  serialises attributes) are that substitution.
-/
import AHP.Model.PyAst
import AHP.Lemmas.AttrStoresStr
import AHP.Model.DomView
namespace AHP.PyAst
open AHP AHP.Gen AHP.Conv

def substQuote (q : Str) (s : Str) : Str := s.flatMap (fun c => if c = '"' then q else [c])

theorem substQuote_nil (q : Str) : substQuote q [] = [] := rfl
theorem substQuote_cons (q : Str) (c : Char) (r : Str) :
    substQuote q (c :: r) = (if c = '"' then q else [c]) ++ substQuote q r := by
  simp [substQuote]

theorem replaceFuel_quote (q : Str) : ∀ (n : Nat) (s : Str), s.length < n → replaceFuel ['"'] q n s = substQuote q s
  | 0, s, h => by omega
  | n + 1, [], _ => rfl
  | n + 1, c :: r, h => by
    have hr : r.length < n := by simp at h; omega
    rw [replaceFuel, substQuote_cons]
    by_cases hc : c = '"'
    · subst hc
      simp [List.isPrefixOf, replaceFuel_quote q n r hr]
    · have : ('"' == c) = false := by simp; exact fun h => hc h.symm
      simp [List.isPrefixOf, this, hc, replaceFuel_quote q n r hr]

theorem replaceAll_quote (q s : Str) : replaceAll ['"'] q s = substQuote q s :=
  replaceFuel_quote q _ s (by omega)

theorem fmt_escapeQuotes (s : Str) : Fmt.escapeQuotes s = substQuote "&quot;".toList s := rfl
theorem dom_escapeQuotes (s : Str) : Dom.escapeQuotes s = substQuote "&quot;".toList s := rfl

theorem tree_escQ (s : Str) : AHP.escQ s = substQuote "&quot;".toList s := (AttrStores.escQ_fmt s).symm

theorem pk_escQ (s : Str) : Pk.escQ s = substQuote "&quot;".toList s := (AttrStores.escQ_pk s).trans (tree_escQ s)

theorem attrs_escQ (s : Str) : Attrs.escQ s = substQuote "&quot;".toList s := (AttrStores.escQ_attrs s).trans (tree_escQ s)

end AHP.PyAst
