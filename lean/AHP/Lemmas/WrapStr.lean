/-
  `addStartTag` at character level against `leadDoctype` at token level (C02f): on renderings of well-formed
  token lists, `DOCTYPE_MATCH` / `addStartTagStr` on the *text* are `leadDoctype` on the *token list*; the step from
  there to `wrapToks` is in Lemmas/WrapLexFeed.
  First the two readings of `DOCTYPE_MATCH` on any text; then renderings, where what the expression matches is text
  the tokenizer reads as a white-space run and a declaration token, so the round trip of Lemmas/LexRoundTrip carries
  the match over to the tokens.
-/
import AHP.Lemmas.LexRoundTrip
import AHP.Model.Builder
import AHP.Lemmas.Tree
import AHP.Lemmas.Str
namespace AHP

theorem takeThrough_append (q : Char) (v rest : Str) (h : q ∉ v) :
    takeThrough q (v ++ q :: rest) = some (v ++ [q], rest) := by
  induction v with
  | nil => simp [takeThrough]
  | cons c cs ih =>
    have hc : c ≠ q := fun e => h (by simp [e])
    have hcs : q ∉ cs := fun e => h (by simp [e])
    simp [takeThrough, hc, ih hcs]

theorem takeThrough_some (q : Char) : ∀ (l a b : Str), takeThrough q l = some (a, b) →
    ∃ v, q ∉ v ∧ a = v ++ [q] ∧ l = v ++ q :: b
  | [], _, _, h => by cases h
  | c :: cs, a, b, h => by
    rw [takeThrough] at h
    split at h
    · rename_i hc
      obtain ⟨rfl, rfl⟩ := Prod.mk.inj (Option.some.inj h)
      exact ⟨[], List.not_mem_nil, by rw [hc]; rfl, by rw [hc]; rfl⟩
    · rename_i hc
      cases ht : takeThrough q cs with
      | none => rw [ht] at h; cases h
      | some ab =>
        rw [ht] at h
        obtain ⟨rfl, rfl⟩ := Prod.mk.inj (Option.some.inj h)
        obtain ⟨v, hv, ha, hl⟩ := takeThrough_some q cs ab.1 ab.2 ht
        exact ⟨c :: v, fun hm => (List.mem_cons.mp hm).elim (fun e => hc e.symm) hv, by rw [ha]; rfl, by rw [hl]; rfl⟩

def isNl (c : Char) : Bool := c = '\n'
def isBl (c : Char) : Bool := c = ' ' || c = '\t'

theorem wsNL_split (ws : Str) (h : wsNL ws = true) :
    ∃ nl bl, ws = nl ++ bl ∧ (∀ x ∈ nl, isNl x = true) ∧ (∀ x ∈ bl, isBl x = true) := by
  refine ⟨ws.takeWhile isNl, ws.dropWhile isNl, (List.takeWhile_append_dropWhile).symm, ?_, ?_⟩
  · intro x hx
    exact mem_takeWhile_imp _ ws x hx
  · unfold wsNL at h
    have h2 : (List.dropWhile isBl (List.dropWhile isNl ws)) = [] := by
      have : (fun c : Char => decide (c = '\n')) = isNl := rfl
      have hb : (fun c : Char => decide (c = ' ') || decide (c = '\t')) = isBl := rfl
      simpa [this, hb] using h
    generalize List.dropWhile isNl ws = l at h2
    intro x hx
    induction l with
    | nil => simp at hx
    | cons c cs ih =>
      by_cases hc : isBl c = true
      · simp only [List.dropWhile_cons, hc, if_true] at h2
        rcases List.mem_cons.mp hx with e | e
        · rw [e]; exact hc
        · exact ih h2 e
      · simp [hc] at h2

/-- what is left after `[\n]*[ \t]*` -/
def skipNlBl (s : Str) : Str := (s.dropWhile isNl).dropWhile isBl

theorem isNl_of_isBl (b : Char) (h : isBl b = true) : isNl b = false := by
  unfold isBl at h; unfold isNl
  simp at h ⊢
  rcases h with e | e <;> (rw [e]; decide)

/-- `[\n]*[ \t]*` in front of a text that starts with neither: the three parts `DOCTYPE_MATCH` sees -/
theorem nlbl_parts (nl bl rest : Str) (hnl : ∀ x ∈ nl, isNl x = true) (hbl : ∀ x ∈ bl, isBl x = true)
    (hr : ∀ c, rest.head? = some c → isNl c = false ∧ isBl c = false) :
    (nl ++ bl ++ rest).takeWhile isNl = nl ∧ ((nl ++ bl ++ rest).dropWhile isNl).takeWhile isBl = bl ∧
      skipNlBl (nl ++ bl ++ rest) = rest := by
  have h1 : ∀ c, (bl ++ rest).head? = some c → isNl c = false := fun c hc => by
    cases bl with
    | nil => exact (hr c hc).1
    | cons b bs => exact isNl_of_isBl c (hbl c (by rw [Option.some.inj hc]; exact List.mem_cons_self))
  have h2 : ∀ c, rest.head? = some c → isBl c = false := fun c hc => (hr c hc).2
  rw [skipNlBl, List.append_assoc, List.takeWhile_append_of_pos hnl, List.dropWhile_append_of_pos hnl,
    takeWhile_nil_of_head _ h1, dropWhile_id _ _ h1, List.takeWhile_append_of_pos hbl, List.dropWhile_append_of_pos hbl,
    takeWhile_nil_of_head _ h2, dropWhile_id _ _ h2, List.append_nil, List.append_nil]
  exact ⟨rfl, rfl, rfl⟩

theorem doctypePrefix_eq (s : Str) : doctypePrefix s =
    (match skipNlBl s with
     | '<' :: '!' :: r3 =>
       if lower (r3.take 7) = "doctype".toList then
         match takeThrough '>' (r3.drop 7) with
         | some (a, b) =>
           some (s.takeWhile isNl ++ (s.dropWhile isNl).takeWhile isBl ++ ('<' :: '!' :: r3.take 7) ++ a, b)
         | none => none
       else none
     | _ => none) := rfl

theorem doctypePrefix_decl (nl bl d rest : Str)
    (hnl : ∀ x ∈ nl, isNl x = true) (hbl : ∀ x ∈ bl, isBl x = true)
    (hd : lower (d.take 7) = "doctype".toList) (hgt : '>' ∉ d) :
    doctypePrefix (nl ++ bl ++ ('<' :: '!' :: d ++ '>' :: rest)) = some (nl ++ bl ++ ('<' :: '!' :: d ++ ['>']), rest) := by
  have hlen7 : 7 ≤ d.length := by
    have h2 := congrArg List.length hd
    simp [lower] at h2
    omega
  obtain ⟨e1, e2, e3⟩ := nlbl_parts nl bl ('<' :: '!' :: d ++ '>' :: rest) hnl hbl
    (fun c hc => by rw [← Option.some.inj hc]; exact ⟨by decide, by decide⟩)
  rw [doctypePrefix_eq, e1, e2, e3]
  have ht : List.take 7 (d ++ '>' :: rest) = List.take 7 d := List.take_append_of_le_length hlen7
  have hdr : List.drop 7 (d ++ '>' :: rest) = List.drop 7 d ++ '>' :: rest := List.drop_append_of_le_length hlen7
  have hgt' : '>' ∉ List.drop 7 d := fun hm => hgt (List.mem_of_mem_drop hm)
  simp only [List.cons_append, ht, hd, if_true, hdr, takeThrough_append '>' _ rest hgt']
  have : List.take 7 d ++ (List.drop 7 d ++ ['>']) = d ++ ['>'] := by
    rw [← List.append_assoc, List.take_append_drop]
  simp [this]

/-- **decidable** reading of `DOCTYPE_MATCH.match(s) is not None`: after the newlines and then the blanks comes
    `<!`, seven letters that spell `doctype` in either case, and somewhere later a `>` -/
def startsWithDoctype (s : Str) : Bool :=
  match skipNlBl s with
  | '<' :: '!' :: r3 => lower (r3.take 7) = "doctype".toList && (r3.drop 7).contains '>'
  | _ => false

/-- **explicit** reading: `s = p ++ rest` where `p` is newlines, blanks and one doctype declaration that ends at
    its first `>` -/
def DoctypeSplit (s p rest : Str) : Prop :=
  ∃ nl bl d, (∀ x ∈ nl, isNl x = true) ∧ (∀ x ∈ bl, isBl x = true) ∧
    lower (d.take 7) = "doctype".toList ∧ '>' ∉ d ∧
    p = nl ++ bl ++ ('<' :: '!' :: d ++ ['>']) ∧ s = p ++ rest

def DoctypeStart (s : Str) : Prop := ∃ p rest, DoctypeSplit s p rest

theorem gt_not_mem_of_lower (l : Str) (h : lower l = "doctype".toList) : '>' ∉ l := by
  intro hm
  have : lowerChar '>' ∈ lower l := List.mem_map_of_mem hm
  rw [h] at this
  revert this
  decide

theorem length_of_lower_doctype (l : Str) (h : lower l = "doctype".toList) : l.length = 7 := by
  have h2 := congrArg List.length h
  simpa [lower] using h2

theorem doctypePrefix_of_split (s p rest : Str) (h : DoctypeSplit s p rest) : doctypePrefix s = some (p, rest) := by
  obtain ⟨nl, bl, d, hnl, hbl, hd, hgt, hp, hs⟩ := h
  have := doctypePrefix_decl nl bl d rest hnl hbl hd hgt
  rw [hs, hp]
  simpa using this

theorem skip_decomp (s : Str) :
    s = s.takeWhile isNl ++ ((s.dropWhile isNl).takeWhile isBl ++ skipNlBl s) := by
  unfold skipNlBl
  rw [List.takeWhile_append_dropWhile, List.takeWhile_append_dropWhile]

theorem split_of_doctypePrefix (s p rest : Str) (h : doctypePrefix s = some (p, rest)) : DoctypeSplit s p rest := by
  rw [doctypePrefix_eq] at h
  have hdec := skip_decomp s
  split at h
  · rename_i r3 hr
    split at h
    · rename_i hd
      split at h
      · rename_i a b ht
        simp only [Option.some.injEq, Prod.mk.injEq] at h
        obtain ⟨hp, hb⟩ := h
        -- the first `>` after the seven letters
        obtain ⟨v, hnv, ha, hv⟩ := takeThrough_some '>' _ a b ht
        have h7 := length_of_lower_doctype _ hd
        refine ⟨s.takeWhile isNl, (s.dropWhile isNl).takeWhile isBl, r3.take 7 ++ v,
          fun x hx => mem_takeWhile_imp _ _ x hx, fun x hx => mem_takeWhile_imp _ _ x hx, ?_, ?_, ?_, ?_⟩
        · rw [List.take_append_of_le_length (by omega), List.take_take]
          simpa using hd
        · intro hm
          rcases List.mem_append.mp hm with e | e
          · exact gt_not_mem_of_lower _ hd e
          · exact hnv e
        · rw [← hp, ha]; simp
        · have hr3 : r3 = r3.take 7 ++ (v ++ '>' :: rest) := by
            rw [← hb, ← hv, List.take_append_drop]
          rw [← hp, ha]
          conv => lhs; rw [hdec, hr, hr3]
          simp
      · simp at h
    · simp at h
  · simp at h

theorem doctypePrefix_some_iff (s p rest : Str) : doctypePrefix s = some (p, rest) ↔ DoctypeSplit s p rest :=
  ⟨split_of_doctypePrefix s p rest, doctypePrefix_of_split s p rest⟩

theorem doctypeSplit_unique (s p rest p' rest' : Str) (h : DoctypeSplit s p rest) (h' : DoctypeSplit s p' rest') :
    p' = p ∧ rest' = rest := by
  have e := doctypePrefix_of_split s p rest h
  rw [doctypePrefix_of_split s p' rest' h'] at e
  simp only [Option.some.injEq, Prod.mk.injEq] at e
  exact e

theorem takeThrough_isSome (q : Char) (l : Str) : (takeThrough q l).isSome = l.contains q := by
  induction l with
  | nil => rfl
  | cons c cs ih =>
    rw [takeThrough, List.contains_cons, ← ih]
    by_cases hc : c = q
    · simp [hc]
    · rw [if_neg hc, show (q == c) = false from by simpa using Ne.symm hc, Bool.false_or]
      cases takeThrough q cs <;> rfl

theorem doctypePrefix_isSome (s : Str) : (doctypePrefix s).isSome = startsWithDoctype s := by
  rw [doctypePrefix_eq, startsWithDoctype]
  split
  · rw [← takeThrough_isSome]
    split
    · rename_i hd
      rw [decide_eq_true hd, Bool.true_and]
      cases takeThrough '>' _ <;> rfl
    · rename_i hd
      rw [decide_eq_false hd, Bool.false_and]
      rfl
  · rfl

theorem doctypePrefix_none_iff (s : Str) : doctypePrefix s = none ↔ startsWithDoctype s = false := by
  rw [← doctypePrefix_isSome, Option.isSome_eq_false_iff, Option.isNone_iff_eq_none]

theorem doctypePrefix_none_of_not (s : Str) (h : startsWithDoctype s = false) : doctypePrefix s = none :=
  (doctypePrefix_none_iff s).mpr h

theorem startsWithDoctype_of_prefix (s : Str) (p : Str × Str) (h : doctypePrefix s = some p) :
    startsWithDoctype s = true := by
  rw [← doctypePrefix_isSome, h]
  rfl

theorem startsWithDoctype_iff (s : Str) : startsWithDoctype s = true ↔ DoctypeStart s := by
  constructor
  · intro h
    cases hp : doctypePrefix s with
    | none => rw [(doctypePrefix_none_iff s).mp hp] at h; simp at h
    | some p => exact ⟨p.1, p.2, split_of_doctypePrefix s p.1 p.2 hp⟩
  · rintro ⟨p, rest, h⟩
    exact startsWithDoctype_of_prefix s _ (doctypePrefix_of_split s p rest h)

instance (s : Str) : Decidable (DoctypeStart s) := decidable_of_iff _ (startsWithDoctype_iff s)

theorem addStartTagStr_of_split (s p rest tag : Str) (h : DoctypeSplit s p rest) : addStartTagStr s tag = p ++ tag ++ rest := by
  unfold addStartTagStr
  rw [doctypePrefix_of_split s p rest h]

theorem addStartTagStr_of_not (s tag : Str) (h : startsWithDoctype s = false) : addStartTagStr s tag = tag ++ s := by
  unfold addStartTagStr
  rw [doctypePrefix_none_of_not s h]

theorem addStartTagStr_length (s tag : Str) : (addStartTagStr s tag).length = s.length + tag.length := by
  cases h : startsWithDoctype s with
  | false => rw [addStartTagStr_of_not s tag h, List.length_append, Nat.add_comm]
  | true =>
    obtain ⟨p, rest, hsp⟩ := (startsWithDoctype_iff s).mp h
    have hs : s = p ++ rest := by obtain ⟨_, _, _, _, _, _, _, _, hs⟩ := hsp; exact hs
    rw [addStartTagStr_of_split s p rest tag hsp, hs]
    simp only [List.length_append]; omega

/-- the wrapper's tags as `feed` writes them: `INVISIBLE_ROOT_TAG_START`, `INVISIBLE_ROOT_TAG_END` -/
def wrapOpen : Str := '<' :: wrapperName ++ ['>']
def wrapClose : Str := '<' :: '/' :: wrapperName ++ ['>']

theorem wrapStr_eq (s : Str) : wrapStr s = addStartTagStr s wrapOpen ++ wrapClose := rfl

/-! ## composition with the strict lexer, first half

  `DOCTYPE_MATCH` read on the *rendering* of a token list in the serialiser's image (`ListOK`) is `leadDoctype`
  read on the token list: `doctypePrefix (renderToks ts) = (leadDoctype ts).map (render both parts)`. -/

theorem skipNlBl_cons (c : Char) (r : Str) (hc1 : isNl c = false) (hc2 : isBl c = false) :
    skipNlBl (c :: r) = c :: r := by
  simp [skipNlBl, hc1, hc2]

theorem skipNlBl_ws (nl bl : Str) (c : Char) (r : Str)
    (hnl : ∀ x ∈ nl, isNl x = true) (hbl : ∀ x ∈ bl, isBl x = true) (hc1 : isNl c = false) (hc2 : isBl c = false) :
    skipNlBl (nl ++ bl ++ c :: r) = c :: r :=
  (nlbl_parts nl bl (c :: r) hnl hbl (fun d hd => by rw [← Option.some.inj hd]; exact ⟨hc1, hc2⟩)).2.2

theorem skipNlBl_all (nl bl : Str) (hnl : ∀ x ∈ nl, isNl x = true) (hbl : ∀ x ∈ bl, isBl x = true) :
    skipNlBl (nl ++ bl) = [] := by
  have := (nlbl_parts nl bl [] hnl hbl (fun _ hd => by cases hd)).2.2
  rwa [List.append_nil] at this

theorem wsNL_eq (s : Str) : wsNL s = (skipNlBl s).isEmpty := rfl

theorem startsWithDoctype_lt_only (s : Str) (h : skipNlBl s = ['<']) : startsWithDoctype s = false := by
  unfold startsWithDoctype
  rw [h]
  rfl

theorem startsWithDoctype_ws (nl bl : Str) (c : Char) (r : Str)
    (hnl : ∀ x ∈ nl, isNl x = true) (hbl : ∀ x ∈ bl, isBl x = true) (hc1 : isNl c = false) (hc2 : isBl c = false) :
    startsWithDoctype (nl ++ bl ++ c :: r) = startsWithDoctype (c :: r) := by
  unfold startsWithDoctype
  rw [skipNlBl_ws nl bl c r hnl hbl hc1 hc2, skipNlBl_cons c r hc1 hc2]

theorem alpha_ne_bang (c : Char) (h : isAlpha c = true) : c ≠ '!' := ne_of_class (by decide) h

theorem renderToks_head_of_not_data (t : Token) (rest : List Token) (h : TokOK t) (hd : isData t = false) :
    ∃ r, renderToks (t :: rest) = '<' :: r ∨ renderToks (t :: rest) = '&' :: r :=
  (startsMarkup_of_head t rest h hd).resolve_left fun e => renderTok_ne_nil t h (List.append_eq_nil_iff.mp e).1

theorem wsRun_ok (nl bl : Str) (hnl : ∀ x ∈ nl, isNl x = true) (hbl : ∀ x ∈ bl, isBl x = true) (hne : nl ++ bl ≠ []) :
    TokOK (.data (nl ++ bl)) ∧ NotSingleton (.data (nl ++ bl)) := by
  have hall : ∀ c ∈ nl ++ bl, c ≠ '<' ∧ c ≠ '&' := fun c hc => by
    rcases List.mem_append.mp hc with h | h
    · exact ⟨ne_of_class (by decide) (hnl c h), ne_of_class (by decide) (hnl c h)⟩
    · exact ⟨ne_of_class (by decide) (hbl c h), ne_of_class (by decide) (hbl c h)⟩
  exact ⟨Or.inr (Or.inr ⟨hne, hall⟩),
    fun e => (hall '<' (by rw [e]; exact List.mem_cons_self)).1 rfl, fun e => (hall '&' (by rw [e]; exact List.mem_cons_self)).2 rfl⟩

/-- the matched text reads as a white-space run (if there is one) and a declaration, and a rendering reads in one way only -/
theorem leadDoctype_of_split (ts : List Token) (h : ListOK ts) (p rest : Str) (hs : DoctypeSplit (renderToks ts) p rest) :
    ∃ pre r, leadDoctype ts = some (pre, r) ∧ renderToks pre = p ∧ renderToks r = rest := by
  obtain ⟨nl, bl, d, hnl, hbl, hd, hgt, rfl, hs⟩ := hs
  have hdecl : TokOK (.decl d) := ⟨hd, hgt⟩
  cases ts with
  | nil => simp [renderToks] at hs
  | cons t ts =>
    by_cases hw : nl ++ bl = []
    · obtain ⟨rfl, hr, _⟩ := ListOK.head_eq h hdecl trivial (R := rest) (by rw [hs, hw]; simp [renderTok])
      exact ⟨[.decl d], ts, rfl, by simp [hw, renderToks, renderTok], hr⟩
    · obtain ⟨hws, hns⟩ := wsRun_ok nl bl hnl hbl hw
      obtain ⟨rfl, hr, hts⟩ := ListOK.head_eq h hws (R := renderTok (.decl d) ++ rest)
        (follows_of_startsMarkup _ hns _ (Or.inr ⟨_, Or.inl rfl⟩)) (by rw [hs]; simp [renderTok])
      cases ts with
      | nil => simp [renderToks, renderTok] at hr
      | cons t2 ts2 =>
        obtain ⟨rfl, hr2, _⟩ := ListOK.head_eq hts hdecl trivial hr
        refine ⟨[.data (nl ++ bl), .decl d], ts2, ?_, by simp [renderToks, renderTok], hr2⟩
        simp [leadDoctype, wsNL_eq, skipNlBl_all nl bl hnl hbl]

theorem split_of_leadDoctype (ts pre r : List Token) (h : ListOK ts) (hl : leadDoctype ts = some (pre, r)) :
    DoctypeSplit (renderToks ts) (renderToks pre) (renderToks r) := by
  obtain ⟨rfl, ⟨d, rfl⟩ | ⟨ws, d, hws, rfl⟩⟩ := leadDoctype_cases hl
  · cases h with
    | cons hd _ _ => exact ⟨[], [], d, by simp, by simp, hd.1, hd.2, by simp [renderToks, renderTok], renderToks_append _ _⟩
  · obtain ⟨nl, bl, rfl, hnl, hbl⟩ := wsNL_split ws hws
    cases h with
    | cons _ _ h2 =>
      cases h2 with
      | cons hd _ _ => exact ⟨nl, bl, d, hnl, hbl, hd.1, hd.2, by simp [renderToks, renderTok], renderToks_append _ _⟩

/-- **`DOCTYPE_MATCH` on the rendering = `leadDoctype` on the tokens.**  For every token list in the
    serialiser's image (raw-text elements included) the character-level match finds exactly the rendering of
    the token-level prefix. -/
theorem doctypePrefix_renderToks (ts : List Token) (h : ListOK ts) :
    doctypePrefix (renderToks ts) = (leadDoctype ts).map (fun pr => (renderToks pr.1, renderToks pr.2)) := by
  cases hp : doctypePrefix (renderToks ts) with
  | some pr =>
    obtain ⟨pre, r, hl, h1, h2⟩ := leadDoctype_of_split ts h pr.1 pr.2 (split_of_doctypePrefix _ _ _ hp)
    rw [hl, Option.map_some, h1, h2]
  | none =>
    cases hl : leadDoctype ts with
    | none => rfl
    | some pr =>
      rw [doctypePrefix_of_split _ _ _ (split_of_leadDoctype ts pr.1 pr.2 h hl)] at hp
      cases hp

theorem addStartTagStr_renderToks (ts : List Token) (h : ListOK ts) (tag : Str) :
    addStartTagStr (renderToks ts) tag = match leadDoctype ts with
      | some (pre, r) => renderToks pre ++ tag ++ renderToks r
      | none => tag ++ renderToks ts := by
  unfold addStartTagStr
  rw [doctypePrefix_renderToks ts h]
  cases leadDoctype ts <;> rfl

theorem startsWithDoctype_listOK_other (t : Token) (rest : List Token) (h : ListOK (t :: rest))
    (hdecl : ∀ d, t ≠ .decl d) (hws : ∀ s, t = .data s → s = ['<'] ∨ s = ['&']) :
    startsWithDoctype (renderToks (t :: rest)) = false := by
  have hl : leadDoctype (t :: rest) = none := by
    unfold leadDoctype
    split
    · rename_i heq; exact absurd (List.cons.inj heq).1 (hdecl _)
    · rename_i ws _ _ heq
      rcases hws ws (List.cons.inj heq).1 with rfl | rfl <;> rfl
    · rfl
  rw [← doctypePrefix_isSome, doctypePrefix_renderToks _ h, hl]
  rfl

end AHP
