/-
  AHP.Lemmas.FragmentText — where the text blocks of a fragment come from: every top-level text node
  of the parse is the text of one text-like token of the fragment, and the text blocks `createBlocksFromHTML` returns
  are those top-level text nodes plus the leading `''` block of a multi-node fragment.  Also the loop of
  `removeChildren` on the fragment's wrapper (`locRemoveChildren_all`, behind `createElementsFromHTML`).
-/
import AHP.Lemmas.FragmentTokens
import AHP.Lemmas.DomStep
import AHP.Model.Fragment
namespace AHP
open Spec

theorem items_text_from_token : ∀ (k : Nat) (open_ : List Str) (ts : List Token) (s : Str), ts.length < k →
    Node.text s ∈ (items k open_ ts).1 → ∃ t ∈ ts, textOf t = some s := by
  intro k open_ ts s hk h
  fun_induction items k open_ ts <;> try replace hk := Nat.lt_of_succ_lt_succ hk
  case case1 => cases hk
  case case2 => cases h
  case case3 => cases h
  case case6 n a ts n' hv c sib ihc ihs =>
    -- the siblings are parsed from a suffix of the rest of the input
    obtain ⟨pre1, hp1⟩ := items_suffix _ _ _ hk
    obtain ⟨pre3, hp3⟩ := afterContent_suffix n' c.2
    simp only [List.mem_cons, reduceCtorEq, false_or] at h
    obtain ⟨t, ht, e⟩ := ihs (Nat.lt_of_le_of_lt (afterContent_items_len _ _ _ _ hk) hk) h
    exact ⟨t, List.mem_cons_of_mem _ (by rw [hp1, hp3]; simp [ht]), e⟩
  case case8 t ts h1 h2 h3 r x hx ih =>
    rcases List.mem_cons.mp h with h | h
    · cases h; exact ⟨t, List.mem_cons_self, hx⟩
    · obtain ⟨t', ht, e⟩ := ih hk h
      exact ⟨t', List.mem_cons_of_mem _ ht, e⟩
  all_goals
    rename_i ih
    try simp only [List.mem_cons, reduceCtorEq, false_or] at h
    obtain ⟨t', ht, e⟩ := ih hk h
    exact ⟨t', List.mem_cons_of_mem _ ht, e⟩

theorem topNodes_text_from_token (toks : List Token) (s : Str) (h : Node.text s ∈ topNodes toks) :
    ∃ t ∈ toks, textOf t = some s := by
  obtain ⟨pre, hp, _⟩ := wrapToks_shape toks
  obtain ⟨t, hm, e⟩ := items_text_from_token (toks.length + 1) [] (topTokens toks) s
    (by have := congrArg List.length hp; simp at this; omega) h
  exact ⟨t, hp ▸ List.mem_append_right _ hm, e⟩

theorem toFNL_text_mem : ∀ (l : List Node) (s : Str), Dom.FN.text s ∈ toFNL l → Node.text s ∈ l
  | [], _, h => by simp [toFNL] at h
  | k :: ks, s, h => by
    simp only [toFNL, List.mem_cons] at h
    rcases h with h | h
    · cases k with
      | text s' => simp only [Node.toFN, Dom.FN.text.injEq] at h; subst h; simp
      | elem n a sc kids => simp [Node.toFN] at h
    · exact List.mem_cons_of_mem _ (toFNL_text_mem ks s h)

namespace Dom

/-- `removeChildren(list(children))` on an element whose children mirror its element blocks returns
    every element block, detached, in order. -/
theorem locRemoveChildren_all (cs : List Nat) (m : Meta) (bs : List DN) (hc : m.children = cs) (he : elemIds bs = cs)
    (hn : cs.Nodup) : locRemoveChildren cs m bs = (bs.filter DN.isEl).map (fun b => some (detach b)) := by
  induction cs generalizing m bs with
  | nil =>
    have : bs.filter DN.isEl = [] := by
      induction bs with
      | nil => rfl
      | cons b bs ih => cases b <;> simp_all [List.filter, DN.isEl]
    simp [locRemoveChildren, this]
  | cons c cs ih =>
    obtain ⟨x, bs', h1, h2, h3⟩ := removeFirstEl_head c cs bs he
    simp only [List.nodup_cons] at hn
    have hloc : (locRemoveChild c m bs).1 = some ⟨{ m with children := m.children.erase c }, bs', [detach x]⟩ := by
      simp [locRemoveChild, hc, h1, detach]
    simp only [locRemoveChildren, hloc, h3, List.map_cons, List.head?_cons]
    congr 1
    exact ih _ bs' (by simp [hc]) h2 hn.2

/-- the text blocks `createBlocksFromHTML` hands out: a top-level text node of the parse, or — with several top-level
    nodes — the empty indent block `''` the wrapper element starts with (the code copies the wrapper's `blocks`) -/
theorem createBlocks_text_parsed (doc n : Nat) (p : Parsed) (hp : Spec.Parsed.plain p) (s : Str)
    (h : DN.text s ∈ createBlocksFromHTML doc n p) :
    s = [] ∨ (∃ tops, p = .multi tops ∧ FN.text s ∈ tops) ∨ p = .single (.text s) := by
  cases p with
  | single r =>
    rw [createBlocksFromHTML, createBlocks_single r hp, List.mem_singleton] at h
    cases r with
    | text s' => cases h; exact Or.inr (Or.inr rfl)
    | el name attrs sc kids => rw [mk_el] at h; cases h
  | multi tops =>
    rw [createBlocksFromHTML, createBlocks_multi, List.mem_map] at h
    obtain ⟨b, hb, e⟩ := h
    cases b with
    | el m k => simp [detach] at e
    | text s' =>
      cases (show s' = s by simpa [detach] using e)
      rcases List.mem_cons.mp hb with hb | hb
      · cases hb; exact Or.inl rfl
      · exact Or.inr (Or.inl ⟨tops, rfl, mkL_text_mem _ _ tops _ _ hb⟩)

end Dom

end AHP
