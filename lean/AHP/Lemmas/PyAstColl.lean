/-
  Lemmas for the code tie of `Tags.TagCollection` (Props/C18Code.lean): the hand model's collection (`Model/Coll.lean`:
  uids as `Nat`s) inside the interpreter's lists and sets, the object a collection is, the method table of the dump, the
  three leaf methods (`_hasTag`, `append`, `remove`) evaluated once and for all, and the two loops of the operators
  (`for other in others: if hasTag(other) is False: o.append(other)` / `… is True: o.remove(other)`) for an arbitrary
  operand list (the invariant rule `forLoop_inv`: what remains to be done with the rest, from the state now, is the whole).
-/
import AHP.Gen.Code
import AHP.Lemmas.PyAstExec
import AHP.Model.Coll
namespace AHP.PyAst
open AHP AHP.Gen AHP.Conv AHP.Gen.Code

/-- an element (an `AdvancedTag`), as a value: identified by its uid -/
def elemV (u : Nat) : PyV := .ancestor u
def uidV (u : Nat) : PyV := .int (u : Int)
def embE (l : List Nat) : List PyV := l.map elemV
def embU (l : List Nat) : List PyV := l.map uidV

theorem pyEqV_elem (a b : Nat) : pyEqV (elemV a) (elemV b) = decide (a = b) := rfl
theorem pyEqV_uid (a b : Nat) : pyEqV (uidV a) (uidV b) = decide (a = b) := by
  simp only [uidV, pyEqV]
  by_cases h : a = b
  · simp [h]
  · have : ¬ ((a : Int) = (b : Int)) := by omega
    simp [h, this]
theorem hashable_uid (a : Nat) : hashable (uidV a) = true := rfl

theorem embE_append (a b : List Nat) : embE (a ++ b) = embE a ++ embE b := by simp [embE]
theorem embU_append (a b : List Nat) : embU (a ++ b) = embU a ++ embU b := by simp [embU]
theorem embE_snoc (a : List Nat) (x : Nat) : embE a ++ [elemV x] = embE (a ++ [x]) := by simp [embE]
theorem embU_snoc (a : List Nat) (x : Nat) : embU a ++ [uidV x] = embU (a ++ [x]) := by simp [embU]

theorem sMem_emb (l : List Nat) (x : Nat) : sMem (embU l) (uidV x) = l.contains x := by
  simpa [embU] using sMem_map pyEqV_uid l x

theorem sAdd_emb (l : List Nat) (x : Nat) : sAdd (embU l) (uidV x) = embU (if l.contains x then l else l ++ [x]) := by
  rw [sAdd, sMem_emb]
  by_cases h : x ∈ l
  · simp [h]
  · simp [h, embU]

theorem sRemove_emb (l : List Nat) (x : Nat) :
    sRemove (uidV x) (embU l) = if l.contains x then some (embU (l.erase x)) else none := by
  simpa [embU] using (sRemove_map pyEqV_uid x l).trans (removeFirst_map pyEqV_uid x l)

theorem removeFirst_embE (l : List Nat) (x : Nat) :
    removeFirst (elemV x) (embE l) = if l.contains x then some (embE (l.erase x)) else none := by
  simpa [embE] using removeFirst_map pyEqV_elem x l

/-- A `TagCollection` object: the list it is (its elements) and the field `uids` (a set of uids), holding the hand model's
state. -/
def ofColl (c : Coll) : List (String × Field) :=
  [(listPart, .list (embE c.items)), ("uids", .set (embU c.uids))]

theorem ofColl_inj {c d : Coll} (h : ofColl c = ofColl d) : c = d := by
  have hinjE : ∀ a b : List Nat, embE a = embE b → a = b := by
    intro a b hab
    exact (List.map_inj_right (by intro x y hxy; simpa [elemV] using hxy)).mp hab
  have hinjU : ∀ a b : List Nat, embU a = embU b → a = b := by
    intro a b hab
    exact (List.map_inj_right (by intro x y hxy; simp only [uidV, PyV.int.injEq] at hxy; omega)).mp hab
  obtain ⟨i1, u1⟩ := c
  obtain ⟨i2, u2⟩ := d
  simp only [ofColl, List.cons.injEq, Prod.mk.injEq, Field.list.injEq, Field.set.injEq, true_and, and_true] at h
  rw [hinjE _ _ h.1, hinjU _ _ h.2]

theorem ofColl_lookup_name (c : Coll) (m : String) (h1 : m ≠ listPart) (h2 : m ≠ "uids") : (ofColl c).lookup m = none := by
  have h1' : (m == listPart) = false := by simpa using h1
  have h2' : (m == "uids") = false := by simpa using h2
  simp [ofColl, List.lookup, h1', h2']

/-- what the methods run in apart from each other: no module functions, no globals -/
def tcBase : Ctx := { parseInt := fun _ => .error .valueError, funs := fun _ => none, cls := "TagCollection" }

/-- The context of the `k+1`-th dumped method of `TagCollection` (dependency order): the `k` methods before it.
`tcCx 9`: all of them (what `uniqueTags` runs in). -/
def tcCx (k : Nat) : Ctx := { tcBase with meths := methIn tcBase (tag_collection.take k).reverse }

theorem tcCx_funs (k : Nat) (f : String) : (tcCx k).funs f = none := rfl
theorem tcCx_cls (k : Nat) : (tcCx k).cls = "TagCollection" := rfl

/-- what `remove` does, raising or not: the state it leaves and its result (`list.remove` raises `ValueError` before anything
is changed; `set.remove` raises `KeyError` after the list has lost the element) -/
def removeRun (c : Coll) (x : Nat) : Coll × Except PyErr Val :=
  if c.items.contains x then
    if c.uids.contains x then (⟨c.items.erase x, c.uids.erase x⟩, .ok (.py .none))
    else (⟨c.items.erase x, c.uids⟩, .error .keyError)
  else (c, .error .valueError)

theorem removeRun_some (c : Coll) (x : Nat) :
    c.remove x = (match (removeRun c x).2 with | .ok _ => some (removeRun c x).1 | .error _ => none) := by
  unfold Coll.remove removeRun
  by_cases h1 : x ∈ c.items <;> by_cases h2 : x ∈ c.uids <;> simp [h1, h2]

theorem hasTag_run (cx : Ctx) (c : Coll) (x : Nat) :
    runMeth cx TagCollection_hasTag_ast (ofColl c) [.py (elemV x)]
      = (some (ofColl c), .ok (.py (.bool (c.hasTag x)))) := by
  simp [runMeth, TagCollection_hasTag_ast, bindArgs, execS, getAttr_uid, getAttr_field, elemV, ofColl, listPart, Field.toVal,
    pyCompare, compareB, pyIn_py_set, hashable, Coll.hasTag, py_straight]
  have h := sMem_emb c.uids x
  simp only [uidV] at h
  simp [h]

theorem append_run (cx : Ctx) (c : Coll) (x : Nat) :
    runMeth cx TagCollection_append_ast (ofColl c) [.py (elemV x)]
      = (some (ofColl (c.append x)), .ok (.py .none)) := by
  have h := sAdd_emb c.uids x
  simp only [uidV] at h
  simp [runMeth, TagCollection_append_ast, bindArgs, execS, getAttr_uid, elemV, ofColl, listPart, baseCall_append, mutCall_append,
    mutCall_add, putField, assocSet, getField, hashable, Coll.append, h, embE, py_straight]

theorem remove_run (cx : Ctx) (c : Coll) (x : Nat) :
    runMeth cx TagCollection_remove_ast (ofColl c) [.py (elemV x)]
      = (some (ofColl (removeRun c x).1), (removeRun c x).2) := by
  have h1 := removeFirst_embE c.items x
  have h2 := sRemove_emb c.uids x
  simp only [uidV, elemV] at h1 h2
  by_cases hi : x ∈ c.items
  · by_cases hu : x ∈ c.uids <;>
      simp [runMeth, TagCollection_remove_ast, bindArgs, execS, getAttr_uid, elemV, ofColl, listPart, baseCall_remove, mutCall_remove,
        mutCall_sremove, putField, assocSet, getField, hashable, removeRun, h1, h2, hi, hu, py_straight]
  · simp [runMeth, TagCollection_remove_ast, bindArgs, execS, elemV, ofColl, listPart, baseCall_remove, mutCall_remove, removeRun, h1,
      hi, py_straight]

theorem hasTag_call (cx : Ctx) (c : Coll) (x : Nat) :
    callMeth cx TagCollection_hasTag_ast (ofColl c) [.py (elemV x)]
      = (some (ofColl c), .ok (.py (.bool (c.hasTag x)))) :=
  callMeth_of (bindArgs_pos _ _ _ rfl) rfl (hasTag_run cx c x) (fun _ h => by cases h; rfl)

theorem append_call (cx : Ctx) (c : Coll) (x : Nat) :
    callMeth cx TagCollection_append_ast (ofColl c) [.py (elemV x)]
      = (some (ofColl (c.append x)), .ok (.py .none)) :=
  callMeth_of (bindArgs_pos _ _ _ rfl) rfl (append_run cx c x) (fun _ h => by cases h; rfl)

theorem remove_call (cx : Ctx) (c : Coll) (x : Nat) :
    callMeth cx TagCollection_remove_ast (ofColl c) [.py (elemV x)]
      = (some (ofColl (removeRun c x).1), (removeRun c x).2) := by
  refine callMeth_of (bindArgs_pos _ _ _ rfl) rfl (remove_run cx c x) (fun v h => ?_)
  unfold removeRun at h
  split at h <;> first | (split at h <;> cases h <;> rfl) | cases h

/-- What the operators need of the context they run in: the three leaf methods are in its table — made in SOME context `c0`: a
leaf calls no method, so its run is the same in every context (`hasTag_call` … hold for any `cx`). -/
structure Leaves (cx : Ctx) : Prop where
  hasTag : ∃ c0, cx.meths "_hasTag" = some (callMeth c0 TagCollection_hasTag_ast)
  append : ∃ c0, cx.meths "append" = some (callMeth c0 TagCollection_append_ast)
  remove : ∃ c0, cx.meths "remove" = some (callMeth c0 TagCollection_remove_ast)

theorem tcCx_hasTag (k : Nat) (h1 : 1 ≤ k) (h2 : k ≤ 9) :
    (tcCx k).meths "_hasTag" = some (callMeth (tcCx 0) TagCollection_hasTag_ast) :=
  methIn_at tcBase tag_collection 0 TagCollection_hasTag_ast rfl (by decide +kernel) k h1
theorem tcCx_append (k : Nat) (h1 : 2 ≤ k) (h2 : k ≤ 9) :
    (tcCx k).meths "append" = some (callMeth (tcCx 1) TagCollection_append_ast) :=
  methIn_at tcBase tag_collection 1 TagCollection_append_ast rfl (by decide +kernel) k h1
theorem tcCx_remove (k : Nat) (h1 : 3 ≤ k) (h2 : k ≤ 9) :
    (tcCx k).meths "remove" = some (callMeth (tcCx 2) TagCollection_remove_ast) :=
  methIn_at tcBase tag_collection 2 TagCollection_remove_ast rfl (by decide +kernel) k h1
theorem tcCx_iadd (k : Nat) (h1 : 5 ≤ k) (h2 : k ≤ 9) :
    (tcCx k).meths "__iadd__" = some (callMeth (tcCx 4) TagCollection_iadd_ast) :=
  methIn_at tcBase tag_collection 4 TagCollection_iadd_ast rfl (by decide +kernel) k h1
theorem tcCx_init (k : Nat) (h1 : 7 ≤ k) (h2 : k ≤ 9) :
    (tcCx k).meths "__init__" = some (callMeth (tcCx 6) TagCollection_init_ast) :=
  methIn_at tcBase tag_collection 6 TagCollection_init_ast rfl (by decide +kernel) k h1

theorem leaves_tcCx (k : Nat) (h1 : 3 ≤ k) (h2 : k ≤ 9) : Leaves (tcCx k) :=
  ⟨⟨_, tcCx_hasTag k (by omega) h2⟩, ⟨_, tcCx_append k (by omega) h2⟩, ⟨_, tcCx_remove k h1 h2⟩⟩

/-! ### the loop of `__iadd__` / `__add__`: `for other in others: if hasTag(other) is False: o.append(other)` -/

/-- the body of that loop as dumped, `o` being the receiver's variable (`self` in `__iadd__`, `ret` in `__add__`) -/
def addBody (o : String) : List Stmt :=
  [.ifS (.cmp .is (.callv (.var "hasTag") [(.var "other")]) (.const (.bool false))) [.varCall o "append" [(.var "other")]] []]

theorem addBody_run (cx : Ctx) (L : Leaves cx) (o : String) (ho : o ≠ "other") (env : Env) (c : Coll) (x : Nat)
    (hO : env.lookup o = some (.obj (ofColl c))) (hH : env.lookup "hasTag" = some (.bound o "_hasTag")) :
    execL cx (assocSet env "other" (.py (elemV x))) (addBody o)
      = (assocSet (assocSet env "other" (.py (elemV x))) o (.obj (ofColl (if c.hasTag x then c else c.append x))), .next) := by
  obtain ⟨c1, hg1⟩ := L.hasTag
  obtain ⟨c2, hg2⟩ := L.append
  have hO' : (assocSet env "other" (.py (elemV x))).lookup o = some (.obj (ofColl c)) := by
    rw [lookup_assocSet_ne _ _ _ _ ho, hO]
  have hH' : (assocSet env "other" (.py (elemV x))).lookup "hasTag" = some (.bound o "_hasTag") := by
    simp [lookup_assocSet, hH]
  have hn : (ofColl c).lookup "append" = none := ofColl_lookup_name c _ (by decide) (by simp)
  by_cases hh : c.hasTag x = true
  · simp [addBody, execS, hH', hO', lookup_assocSet_eq, callBound, Val.isBound, hg1, hasTag_call, hh, Val.mutable, pyCompare,
    compareB, pyIs, Val.unique, py_straight]
    exact (assocSet_self _ _ _ hO').symm
  · have hh' : c.hasTag x = false := by simpa using hh
    simp [addBody, execS, hH', hO', lookup_assocSet_eq, callBound, Val.isBound, hg1, hasTag_call, hh', Val.mutable, pyCompare,
      compareB, pyIs, Val.unique, objCall, hn, hg2, append_call, py_straight]

theorem addLoop_run (cx : Ctx) (L : Leaves cx) (o : String) (ho : o ≠ "other") (same : Env → Bool) (V : Val)
    (hsame : ∀ env, env.lookup "others" = some V → same env = true) (ho2 : "others" ≠ o) :
    ∀ (xs : List Nat) (env : Env) (c : Coll),
    env.lookup o = some (.obj (ofColl c)) → env.lookup "hasTag" = some (.bound o "_hasTag") → env.lookup "others" = some V →
    ∃ env', forLoop (fun env v => assocSet env "other" v) (fun env => execL cx env (addBody o)) same
                ((embE xs).map Val.py) env = (env', .next)
      ∧ env'.lookup o = some (.obj (ofColl (c.iadd xs)))
      ∧ ∀ z, z ≠ o → z ≠ "other" → env'.lookup z = env.lookup z := by
  intro xs env c hO hH hV
  have hne : "hasTag" ≠ o := by intro e; subst e; exact absurd hH (by rw [hO]; simp)
  rw [embE, List.map_map]
  refine forLoop_inv (fun x => .py (elemV x))
    (fun r e => (∀ z, z ≠ o → z ≠ "other" → e.lookup z = env.lookup z)
      ∧ ∃ d, e.lookup o = some (.obj (ofColl d)) ∧ d.iadd r = c.iadd xs)
    _ _ (fun e ⟨h1, d, h2, h3⟩ => ⟨rfl, h3 ▸ h2, h1⟩) ?_ xs env ⟨fun _ _ _ => rfl, c, hO, rfl⟩
  rintro x r e ⟨h1, d, h2, h3⟩
  have hkeep : ∀ z, z ≠ o → z ≠ "other" → (assocSet (assocSet e "other" (.py (elemV x))) o
      (.obj (ofColl (if d.hasTag x then d else d.append x)))).lookup z = env.lookup z :=
    fun z hz1 hz2 => by rw [lookup_assocSet_ne _ _ _ _ hz1, lookup_assocSet_ne _ _ _ _ hz2, h1 z hz1 hz2]
  exact ⟨_, _, addBody_run cx L o ho e d x h2 (by rw [h1 _ hne (by simp), hH]),
    hsame _ (by rw [hkeep _ ho2 (by simp), hV]), hkeep, _, lookup_assocSet_eq .., h3⟩

/-! ### the loop of `__isub__` / `__sub__`: `for other in others: if hasTag(other) is True: o.remove(other)` -/

/-- one operand of `__isub__`: the state afterwards and whether `remove` raised (`ValueError`: the uid is in the set, the
element is not in the list) -/
def isubStep (c : Coll) (x : Nat) : Coll × Bool :=
  if c.hasTag x then (if c.items.contains x then (⟨c.items.erase x, c.uids.erase x⟩, false) else (c, true)) else (c, false)

/-- the operands one after the other, stopping at the first that raises: the state then, and whether one raised -/
def isubRun (c : Coll) : List Nat → Coll × Bool
  | [] => (c, false)
  | x :: xs => if (isubStep c x).2 then ((isubStep c x).1, true) else isubRun (isubStep c x).1 xs

theorem isub_eq_run (c : Coll) (xs : List Nat) :
    c.isub xs = if (isubRun c xs).2 then none else some (isubRun c xs).1 := by
  induction xs generalizing c with
  | nil => rfl
  | cons x r ih =>
    simp only [Coll.isub, isubRun, isubStep, Coll.remove, Coll.hasTag]
    by_cases h1 : x ∈ c.uids
    · by_cases h2 : x ∈ c.items
      · simp [h1, h2, ih]
      · simp [h1, h2]
    · simp [h1, ih]

def subBody (o : String) : List Stmt :=
  [.ifS (.cmp .is (.callv (.var "hasTag") [(.var "other")]) (.const (.bool true))) [.varCall o "remove" [(.var "other")]] []]

theorem subBody_run (cx : Ctx) (L : Leaves cx) (o : String) (ho : o ≠ "other") (env : Env) (c : Coll) (x : Nat)
    (hO : env.lookup o = some (.obj (ofColl c))) (hH : env.lookup "hasTag" = some (.bound o "_hasTag")) :
    execL cx (assocSet env "other" (.py (elemV x))) (subBody o)
      = (assocSet (assocSet env "other" (.py (elemV x))) o (.obj (ofColl (isubStep c x).1)),
         if (isubStep c x).2 then .exc .valueError else .next) := by
  obtain ⟨c1, hg1⟩ := L.hasTag
  obtain ⟨c2, hg2⟩ := L.remove
  have hO' : (assocSet env "other" (.py (elemV x))).lookup o = some (.obj (ofColl c)) := by
    rw [lookup_assocSet_ne _ _ _ _ ho, hO]
  have hH' : (assocSet env "other" (.py (elemV x))).lookup "hasTag" = some (.bound o "_hasTag") := by
    simp [lookup_assocSet, hH]
  have hn : (ofColl c).lookup "remove" = none := ofColl_lookup_name c _ (by decide) (by simp)
  by_cases hh : c.hasTag x = true
  · have hu : x ∈ c.uids := by simpa [Coll.hasTag] using hh
    by_cases hi : x ∈ c.items <;>
      simp [subBody, execS, hH', hO', lookup_assocSet_eq, callBound, Val.isBound, hg1, hasTag_call, hh, Val.mutable, pyCompare,
        compareB, pyIs, Val.unique, objCall, hn, hg2, remove_call, removeRun, isubStep, hu, hi, py_straight]
  · have hh' : c.hasTag x = false := by simpa using hh
    simp [subBody, execS, hH', hO', lookup_assocSet_eq, callBound, Val.isBound, hg1, hasTag_call, hh', Val.mutable, pyCompare,
      compareB, pyIs, Val.unique, isubStep, py_straight]
    exact (assocSet_self _ _ _ hO').symm

theorem subLoop_run (cx : Ctx) (L : Leaves cx) (o : String) (ho : o ≠ "other") (same : Env → Bool) (V : Val)
    (hsame : ∀ env, env.lookup "others" = some V → same env = true) (ho2 : "others" ≠ o) :
    ∀ (xs : List Nat) (env : Env) (c : Coll),
    env.lookup o = some (.obj (ofColl c)) → env.lookup "hasTag" = some (.bound o "_hasTag") → env.lookup "others" = some V →
    ∃ env', forLoop (fun env v => assocSet env "other" v) (fun env => execL cx env (subBody o)) same
                ((embE xs).map Val.py) env = (env', if (isubRun c xs).2 then .exc .valueError else .next)
      ∧ env'.lookup o = some (.obj (ofColl (isubRun c xs).1))
      ∧ ∀ z, z ≠ o → z ≠ "other" → env'.lookup z = env.lookup z := by
  intro xs env c hO hH hV
  have hne : "hasTag" ≠ o := by intro e; subst e; exact absurd hH (by rw [hO]; simp)
  rw [embE, List.map_map]
  refine forLoop_inv (fun x => .py (elemV x))
    (fun r e => (∀ z, z ≠ o → z ≠ "other" → e.lookup z = env.lookup z)
      ∧ ∃ d, e.lookup o = some (.obj (ofColl d)) ∧ isubRun d r = isubRun c xs)
    _ _ (fun e ⟨h1, d, h2, h3⟩ => ⟨by rw [← h3]; rfl, by rw [← h3]; exact h2, h1⟩) ?_ xs env ⟨fun _ _ _ => rfl, c, hO, rfl⟩
  rintro x r e ⟨h1, d, h2, h3⟩
  have hkeep : ∀ z, z ≠ o → z ≠ "other" → (assocSet (assocSet e "other" (.py (elemV x))) o
      (.obj (ofColl (isubStep d x).1))).lookup z = env.lookup z :=
    fun z hz1 hz2 => by rw [lookup_assocSet_ne _ _ _ _ hz1, lookup_assocSet_ne _ _ _ _ hz2, h1 z hz1 hz2]
  refine ⟨_, _, subBody_run cx L o ho e d x h2 (by rw [h1 _ hne (by simp), hH]), ?_⟩
  rw [isubRun] at h3
  by_cases hr : (isubStep d x).2 = true
  · rw [if_pos hr] at h3 ⊢
    exact ⟨by rw [← h3]; rfl, by rw [← h3]; exact lookup_assocSet_eq .., hkeep⟩
  · rw [if_neg hr] at h3 ⊢
    exact ⟨hsame _ (by rw [hkeep _ ho2 (by simp), hV]), hkeep, _, lookup_assocSet_eq .., h3⟩

theorem addFor_stmt (cx : Ctx) (L : Leaves cx) (o : String) (ho : o ≠ "other") (ho2 : "others" ≠ o) (ys : List Nat) (env : Env)
    (c : Coll) (hO : env.lookup o = some (.obj (ofColl c))) (hH : env.lookup "hasTag" = some (.bound o "_hasTag"))
    (hV : env.lookup "others" = some (.list (embE ys))) :
    ∃ env', execS cx env (.forS "other" (.var "others") (addBody o)) = (env', .next)
      ∧ env'.lookup o = some (.obj (ofColl (c.iadd ys)))
      ∧ ∀ z, z ≠ o → z ≠ "other" → env'.lookup z = env.lookup z := by
  obtain ⟨env', h1, h2, h3⟩ := addLoop_run cx L o ho (sameList cx "others" (embE ys)) (.list (embE ys))
    (fun _ h => sameList_of_lookup h) ho2 ys env c hO hH hV
  exact ⟨env', (execS_forVar hV).trans h1, h2, h3⟩

theorem subFor_stmt (cx : Ctx) (L : Leaves cx) (o : String) (ho : o ≠ "other") (ho2 : "others" ≠ o) (xs : List Nat) (env : Env)
    (c : Coll) (hO : env.lookup o = some (.obj (ofColl c))) (hH : env.lookup "hasTag" = some (.bound o "_hasTag"))
    (hV : env.lookup "others" = some (.list (embE xs))) :
    ∃ env', execS cx env (.forS "other" (.var "others") (subBody o))
        = (env', if (isubRun c xs).2 then .exc .valueError else .next)
      ∧ env'.lookup o = some (.obj (ofColl (isubRun c xs).1))
      ∧ ∀ z, z ≠ o → z ≠ "other" → env'.lookup z = env.lookup z := by
  obtain ⟨env', h1, h2, h3⟩ := subLoop_run cx L o ho (sameList cx "others" (embE xs)) (.list (embE xs))
    (fun _ h => sameList_of_lookup h) ho2 xs env c hO hH hV
  exact ⟨env', (execS_forVar hV).trans h1, h2, h3⟩

end AHP.PyAst
