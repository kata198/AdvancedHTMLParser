/-
  AHP.Lemmas.PickleAttrs — the dict and the attribute store of AHP/Model/Pickle.lean (C16, C17).

  1. The dict (`dset`, `ddel`, `dget`).  `dset`/`dget` are `Dict.set`/`List.lookup` and `ddel` is `Dict.del` on
     distinct keys (`dset_set`, `dget_lookup`, `ddel_del`, through the Token model's dict): the laws are those of
     `Lemmas/Dict`.  Without distinct keys `ddel` is `List.eraseP`.  `ens` is the one move
     `_ensureHtmlAttribute` and `_handleClassAttr` make on the raw dict.
  2. The attribute store `Attrs`.  `handle` (`_handleClassAttr`) is `ens` twice; its dict is known as a mapping
     (`dget_handle`) and, while `class` is not in the raw dict yet (`ClassLazy`), in closed form (`handle_of_lazy`).
     `handle` is idempotent and invisible to the views.  `WF` is closed under the mutators, the read and the
     constructor; `ClassLazy` under the mutators and the constructor, and it puts `class` last (`ClassLast`).
  3. The constructor run on `attrsList a` builds `fresh a` (what cloneNode / `__setstate__` do with an attribute list),
     which shows what `a` shows when `class` is last; whatever the position of `class`, `fresh a` answers `isTagEqual`'s
     reads (`getForEq`, the key set) and the index's (`getIdx`) as `a` does.

  Two namespaces called `Attrs` are in scope here and in the files that import this one: `AHP.Pk.Attrs` (this model's
  store; what a bare `Attrs.x` means when it exists) and `AHP.Attrs` (the attribute model of C08–C10, whose lemmas are
  reused: `Attrs.GoodDecl`, `Attrs.validName_lower`, … resolve there because `AHP.Pk.Attrs` has no such name).
-/
import AHP.Lemmas.PickleStr
namespace AHP.Pk
open AHP

/-! ### 1. dict -/

section dict
variable {α : Type}

theorem dset_set (k : Str) (v : α) (d : List (Str × α)) : dset k v d = Dict.set d k v :=
  (AttrStores.dset_eq k v d).trans (AttrStores.dictSet_eq d k v)

theorem dget_lookup (k : Str) (d : List (Str × α)) : dget k d = d.lookup k :=
  (AttrStores.dget_eq k d).trans (AttrStores.dictGet_eq d k)

theorem ddel_del (k : Str) {d : List (Str × α)} (h : (dkeys d).Nodup) : ddel k d = Dict.del d k := AttrStores.ddel_eq k h

theorem dset_of_not_mem (k : Str) (v : α) (d : List (Str × α)) (h : k ∉ dkeys d) : dset k v d = d ++ [(k, v)] := by
  rw [dset_set]; exact Dict.set_of_not_mem v h

theorem mem_dkeys_dset (k k' : Str) (v : α) (d : List (Str × α)) :
    k' ∈ dkeys (dset k v d) ↔ k' = k ∨ k' ∈ dkeys d := by
  rw [dset_set]; exact Dict.mem_keys_set v

theorem nodup_dset (k : Str) (v : α) (d : List (Str × α)) (h : (dkeys d).Nodup) : (dkeys (dset k v d)).Nodup := by
  rw [dset_set]; exact Dict.nodup_set k v h

theorem mem_dset (k : Str) (v : α) (d : List (Str × α)) (p : Str × α) (h : p ∈ dset k v d) :
    p = (k, v) ∨ p ∈ d :=
  Dict.mem_set (dset_set k v d ▸ h)

theorem mem_dkeys_iff_dget (k : Str) (d : List (Str × α)) : k ∈ dkeys d ↔ dget k d ≠ none := by
  rw [dget_lookup, Ne, Dict.lookup_eq_none_iff, Classical.not_not]; rfl

theorem mem_of_dget (k : Str) (v : α) (d : List (Str × α)) (h : dget k d = some v) : (k, v) ∈ d := by
  rw [dget_lookup] at h; exact Dict.mem_of_lookup h

/-! `ddel` removes the first entry only: without distinct keys it is `eraseP`, not `dictDel` -/

theorem ddel_eq_eraseP (k : Str) (d : List (Str × α)) : ddel k d = d.eraseP (fun p => p.1 == k) := by
  induction d with
  | nil => rfl
  | cons p r ih =>
    by_cases h : p.1 = k
    · rw [ddel, if_pos h, List.eraseP_cons_of_pos (by simpa using h)]
    · rw [ddel, if_neg h, ih, List.eraseP_cons_of_neg (by simpa using h)]

theorem ddel_of_not_mem (k : Str) (d : List (Str × α)) (h : k ∉ dkeys d) : ddel k d = d := by
  rw [ddel_eq_eraseP]
  exact List.eraseP_of_forall_not fun p hp e => h (List.mem_map.mpr ⟨p, hp, by simpa using e⟩)

theorem ddel_sublist (k : Str) (d : List (Str × α)) : (ddel k d).Sublist d := by
  rw [ddel_eq_eraseP]; exact List.eraseP_sublist

theorem nodup_ddel (k : Str) (d : List (Str × α)) (h : (dkeys d).Nodup) : (dkeys (ddel k d)).Nodup :=
  ((ddel_sublist k d).map Prod.fst).nodup h

theorem mem_ddel (k : Str) (d : List (Str × α)) (p : Str × α) (h : p ∈ ddel k d) : p ∈ d :=
  (ddel_sublist k d).subset h

theorem mem_ddel_of_ne (k : Str) (d : List (Str × α)) (p : Str × α) (hne : p.1 ≠ k) : p ∈ ddel k d ↔ p ∈ d := by
  rw [ddel_eq_eraseP]; exact List.mem_eraseP_of_neg (by simpa using hne)

theorem mem_dkeys_ddel (k k' : Str) (d : List (Str × α)) (hne : k' ≠ k) : k' ∈ dkeys (ddel k d) ↔ k' ∈ dkeys d := by
  simp only [dkeys, List.mem_map]
  constructor
  · rintro ⟨p, hp, rfl⟩; exact ⟨p, (mem_ddel_of_ne k d p hne).mp hp, rfl⟩
  · rintro ⟨p, hp, rfl⟩; exact ⟨p, (mem_ddel_of_ne k d p hne).mpr hp, rfl⟩

theorem not_mem_dkeys_ddel (k : Str) (d : List (Str × α)) (h : (dkeys d).Nodup) : k ∉ dkeys (ddel k d) := by
  rw [ddel_del k h]; exact fun hm => (Dict.mem_keys_del.mp hm).2 rfl

theorem dget_ddel_ne (k k' : Str) (d : List (Str × α)) (hne : k' ≠ k) : dget k' (ddel k d) = dget k' d := by
  induction d with
  | nil => simp [ddel]
  | cons q r ih =>
    obtain ⟨k2, v2⟩ := q
    simp only [ddel]; split
    · rename_i e; subst e; simp [dget, hne.symm]
    · simp only [dget]; split
      · rfl
      · exact ih

theorem mem_ddel_ne (k : Str) (d : List (Str × α)) (hn : (dkeys d).Nodup) (p : Str × α) (h : p ∈ ddel k d) : p.1 ≠ k :=
  fun e => not_mem_dkeys_ddel k d hn (List.mem_map.mpr ⟨p, h, e⟩)

theorem mem_dset_ne (k : Str) (v : α) (d : List (Str × α)) (hn : (dkeys d).Nodup) (p : Str × α) (h : p ∈ dset k v d)
    (hne : p ≠ (k, v)) : p ∈ d ∧ p.1 ≠ k := by
  refine ⟨(mem_dset k v d p h).resolve_left hne, fun e => hne ?_⟩
  have h2 := Dict.lookup_of_mem (nodup_dset k v d hn) (show (p.1, p.2) ∈ dset k v d from h)
  rw [e, dset_set, Dict.lookup_set_self] at h2
  exact Prod.ext e (Option.some.inj h2).symm

theorem dget_filter_ne (k k' : Str) (d : List (Str × α)) (hne : k' ≠ k) :
    dget k' (d.filter (fun p => p.1 != k)) = dget k' d := by
  rw [dget_lookup, dget_lookup, Dict.filter_bne, Dict.lookup_del_ne hne]

theorem dset_map {β : Type} (g : α → β) (k : Str) (v : α) (d : List (Str × α)) :
    (dset k v d).map (fun p => (p.1, g p.2)) = dset k (g v) (d.map (fun p => (p.1, g p.2))) := by
  rw [dset_set, dset_set]; exact Dict.set_map (fun _ => g) k v d

theorem ddel_append_single (k : Str) (d : List (Str × α)) (x : Str × α) (hx : x.1 ≠ k) :
    ddel k (d ++ [x]) = ddel k d ++ [x] := by
  induction d with
  | nil => obtain ⟨k', v'⟩ := x; simp [ddel, hx]
  | cons p r ih =>
    obtain ⟨k', v'⟩ := p
    simp only [List.cons_append, ddel]
    split
    · rfl
    · rw [ih]; rfl

end dict

/-- The move `_ensureHtmlAttribute` and `_handleClassAttr` make on the raw dict.  With `ddel` it is
    `AttrStores.ensureKey` on distinct keys only, and `ClassLazy` below is stated without them. -/
def ens {α : Type} (k : Str) (absent : Bool) (v : α) (d : List (Str × α)) : List (Str × α) :=
  if absent then ddel k d else dset k v d

section ens
variable {α : Type} {k : Str} {b : Bool} {v : α} {d : List (Str × α)}

theorem ens_noop (h : dget k d = if b then none else some v) : ens k b v d = d := by
  cases b
  · exact (dset_set k v d).trans (Dict.set_eq_self ((dget_lookup k d).symm.trans h))
  · exact ddel_of_not_mem k d (fun hm => (mem_dkeys_iff_dget k d).mp hm h)

theorem nodup_ens (h : (dkeys d).Nodup) : (dkeys (ens k b v d)).Nodup := by
  cases b
  · exact nodup_dset k v d h
  · exact nodup_ddel k d h

theorem dget_ens_self (h : (dkeys d).Nodup) : dget k (ens k b v d) = if b then none else some v := by
  cases b
  · show dget k (dset k v d) = some v
    rw [dget_lookup, dset_set, Dict.lookup_set_self]
  · exact (dget_lookup ..).trans (Dict.lookup_eq_none_iff.mpr (not_mem_dkeys_ddel k d h))

theorem dget_ens_ne {k' : Str} (hne : k' ≠ k) : dget k' (ens k b v d) = dget k' d := by
  cases b
  · show dget k' (dset k v d) = _
    rw [dget_lookup, dget_lookup, dset_set, Dict.lookup_set_ne hne]
  · exact dget_ddel_ne k k' d hne

theorem mem_dkeys_ens_ne {k' : Str} (hne : k' ≠ k) : k' ∈ dkeys (ens k b v d) ↔ k' ∈ dkeys d := by
  cases b
  · exact (mem_dkeys_dset k k' v d).trans ⟨fun h => h.resolve_left hne, Or.inr⟩
  · exact mem_dkeys_ddel k k' d hne

theorem mem_dkeys_ens_self (hb : b = false) : k ∈ dkeys (ens k b v d) := by
  subst hb; exact (mem_dkeys_dset k k v d).mpr (Or.inl rfl)

theorem mem_ens {p : Str × α} (h : p ∈ ens k b v d) : p = (k, v) ∧ b = false ∨ p ∈ d := by
  cases b
  · exact (mem_dset k v d p h).imp (⟨·, rfl⟩) id
  · exact Or.inr (mem_ddel k d p h)

theorem mem_ens_nodup (hn : (dkeys d).Nodup) {p : Str × α} (h : p ∈ ens k b v d) :
    p = (k, v) ∧ b = false ∨ p ∈ d ∧ p.1 ≠ k := by
  cases b
  · by_cases e : p = (k, v)
    · exact Or.inl ⟨e, rfl⟩
    · exact Or.inr (mem_dset_ne k v d hn p h e)
  · exact Or.inr ⟨mem_ddel k d p h, mem_ddel_ne k d hn p h⟩

theorem ens_of_not_mem (h : k ∉ dkeys d) : ens k b v d = d ++ if b then [] else [(k, v)] := by
  cases b
  · exact dset_of_not_mem k v d h
  · exact (ddel_of_not_mem k d h).trans (List.append_nil d).symm

theorem ens_snoc {x : Str × α} (hx : x.1 ≠ k) (hk : b = false → k ∈ dkeys d) :
    ens k b v (d ++ [x]) = ens k b v d ++ [x] := by
  cases b
  · show dset k v (d ++ [x]) = dset k v d ++ [x]
    rw [dset_set, dset_set]; exact Dict.set_append_of_mem v [x] (hk rfl)
  · exact ddel_append_single k d x hx

end ens

/-! ### 2. the attribute store -/

namespace Attrs

theorem sClass_ne_sStyle : sClass ≠ sStyle := by decide +kernel
theorem sStyle_ne_sClass : sStyle ≠ sClass := sClass_ne_sStyle.symm
theorem validAttrName_sClass : validAttrName sClass = true := by decide +kernel
theorem lower_sClass : lower sClass = sClass := by decide +kernel
theorem validAttrName_sStyle : validAttrName sStyle = true := by decide +kernel
theorem lower_sStyle : lower sStyle = sStyle := by decide +kernel
theorem sStyle_not_boolStr : ¬ (boolStrAttrs.contains sStyle = true) := by decide +kernel

/-- Well-formedness of an attribute store: what every store built by the constructor and the public
    mutators satisfies, plus the two string round trips the theorems take as hypotheses on the data
    (`classTokens ∘ className` and `styleToDict ∘ styleStr` reproduce the stored class list / style map). -/
structure WF (a : Attrs) : Prop where
  nodup : (dkeys a.dict).Nodup
  names : ∀ p ∈ a.dict, validAttrName p.1 = true ∧ lower p.1 = p.1
  styleKey : ∀ p ∈ a.dict, (p.1 = sStyle → p.2 = DVal.style) ∧ (p.1 ≠ sStyle → p.2 ≠ DVal.style)
  boolStr : ∀ p ∈ a.dict, boolStrAttrs.contains p.1 = true → p.1 ≠ sClass → ∃ s, p.2 = DVal.str s ∧ convBoolStr (some s) = s
  cls : classTokens (className a.cls) = a.cls
  sty : styleToDict (styleStr a.sty) = a.sty

/-- the per-entry part of `WF`: what `WF.names`, `WF.styleKey`, `WF.boolStr` say of one entry of the raw dict -/
structure RawEntryOK (p : Str × DVal) : Prop where
  valid : validAttrName p.1 = true
  low : lower p.1 = p.1
  sty : p.1 = sStyle → p.2 = DVal.style
  nsty : p.1 ≠ sStyle → p.2 ≠ DVal.style
  bs : boolStrAttrs.contains p.1 = true → p.1 ≠ sClass → ∃ s, p.2 = DVal.str s ∧ convBoolStr (some s) = s

theorem WF.raw {a : Attrs} (h : WF a) (p : Str × DVal) (hp : p ∈ a.dict) : RawEntryOK p :=
  ⟨(h.names p hp).1, (h.names p hp).2, (h.styleKey p hp).1, (h.styleKey p hp).2, h.boolStr p hp⟩

theorem WF.of_raw {a : Attrs} (hn : (dkeys a.dict).Nodup) (he : ∀ p ∈ a.dict, RawEntryOK p)
    (hc : classTokens (className a.cls) = a.cls) (hs : styleToDict (styleStr a.sty) = a.sty) : WF a :=
  ⟨hn, fun p hp => ⟨(he p hp).valid, (he p hp).low⟩, fun p hp => ⟨(he p hp).sty, (he p hp).nsty⟩,
   fun p hp => (he p hp).bs, hc, hs⟩

theorem WF.sublist {a : Attrs} (h : WF a) {d : List (Str × DVal)} (hd : d.Sublist a.dict) : WF { a with dict := d } :=
  WF.of_raw ((hd.map Prod.fst).nodup h.nodup) (fun p hp => h.raw p (hd.subset hp)) h.cls h.sty

theorem handle_ens (a : Attrs) :
    (handle a).dict = ens sStyle a.sty.isEmpty .style (ens sClass a.cls.isEmpty (.str (className a.cls)) a.dict) := rfl

theorem ensureStyle_ens (sty : List (Str × Str)) (d : List (Str × DVal)) :
    ensureStyle sty d = ens sStyle sty.isEmpty .style d := rfl

theorem handle_cls (a : Attrs) : (handle a).cls = a.cls := rfl
theorem handle_sty (a : Attrs) : (handle a).sty = a.sty := rfl

theorem nodup_ensureStyle (sty : List (Str × Str)) (d : List (Str × DVal)) (h : (dkeys d).Nodup) :
    (dkeys (ensureStyle sty d)).Nodup := nodup_ens h

theorem nodup_handle (a : Attrs) (h : (dkeys a.dict).Nodup) : (dkeys (handle a).dict).Nodup :=
  nodup_ens (nodup_ens h)

theorem dget_handle (a : Attrs) (h : (dkeys a.dict).Nodup) (k : Str) : dget k (handle a).dict =
    if k = sStyle then (if a.sty.isEmpty then none else some DVal.style)
    else if k = sClass then (if a.cls.isEmpty then none else some (DVal.str (className a.cls)))
    else dget k a.dict := by
  rw [handle_ens]
  split
  · next e => subst e; exact dget_ens_self (nodup_ens h)
  · next e =>
    rw [dget_ens_ne e]
    split
    · next e => subst e; exact dget_ens_self h
    · next e => exact dget_ens_ne e

/-- `_handleClassAttr` is idempotent: a second synchronisation finds both keys as they should be. -/
theorem handle_idem (a : Attrs) (h : (dkeys a.dict).Nodup) : handle (handle a) = handle a := by
  have e1 : ens sClass a.cls.isEmpty (.str (className a.cls)) (handle a).dict = (handle a).dict :=
    ens_noop (by rw [dget_handle a h, if_neg sClass_ne_sStyle, if_pos rfl])
  have e2 : ens sStyle a.sty.isEmpty .style (handle a).dict = (handle a).dict :=
    ens_noop (by rw [dget_handle a h, if_pos rfl])
  show ({ (handle a) with dict := ens sStyle a.sty.isEmpty DVal.style (ens sClass a.cls.isEmpty (DVal.str (className a.cls)) (handle a).dict) } : Attrs) = handle a
  rw [e1, e2]

theorem attrsList_handle (a : Attrs) (h : (dkeys a.dict).Nodup) : attrsList (handle a) = attrsList a := by
  unfold attrsList
  rw [handle_idem a h]
  rfl

theorem pieces_handle (a : Attrs) (h : (dkeys a.dict).Nodup) : pieces (handle a) = pieces a := by
  unfold pieces
  rw [handle_idem a h]
  rfl

theorem startTag_handle (n : Str) (a : Attrs) (sc : Bool) (h : (dkeys a.dict).Nodup) :
    startTag n (handle a) sc = startTag n a sc := by
  unfold startTag
  rw [pieces_handle a h]

/-- what holds of every entry of the synchronised dict of a well-formed store -/
structure EntryOK (a : Attrs) (p : Str × DVal) : Prop where
  valid : validAttrName p.1 = true
  low : lower p.1 = p.1
  cls : p.1 = sClass → p.2 = DVal.str (className a.cls)
  sty : p.1 = sStyle → p.2 = DVal.style ∧ a.sty.isEmpty = false
  nsty : p.1 ≠ sStyle → p.2 ≠ DVal.style
  bs : boolStrAttrs.contains p.1 = true → p.1 ≠ sClass → ∃ s, p.2 = DVal.str s ∧ convBoolStr (some s) = s

theorem entryOK_old (a : Attrs) (h : WF a) (p : Str × DVal) (hp : p ∈ a.dict) (h1 : p.1 ≠ sClass) (h2 : p.1 ≠ sStyle) :
    EntryOK a p :=
  ⟨(h.names p hp).1, (h.names p hp).2, fun e => absurd e h1, fun e => absurd e h2, (h.styleKey p hp).2, h.boolStr p hp⟩

theorem entryOK_class (a : Attrs) : EntryOK a (sClass, DVal.str (className a.cls)) :=
  ⟨validAttrName_sClass, lower_sClass, fun _ => rfl, fun e => absurd e sClass_ne_sStyle, fun _ => by simp,
   fun _ e => absurd rfl e⟩

theorem entryOK_style (a : Attrs) (hs : a.sty.isEmpty = false) : EntryOK a (sStyle, DVal.style) :=
  ⟨validAttrName_sStyle, lower_sStyle, fun e => absurd e sStyle_ne_sClass, fun _ => ⟨rfl, hs⟩, fun e => absurd rfl e,
   fun e => absurd e sStyle_not_boolStr⟩

theorem EntryOK.raw {a : Attrs} {p : Str × DVal} (h : EntryOK a p) : RawEntryOK p :=
  ⟨h.valid, h.low, fun e => (h.sty e).1, h.nsty, h.bs⟩

theorem handle_entries (a : Attrs) (h : WF a) (p : Str × DVal) (hp : p ∈ (handle a).dict) : EntryOK a p := by
  rw [handle_ens] at hp
  rcases mem_ens_nodup (nodup_ens h.nodup) hp with ⟨rfl, hs⟩ | ⟨h1, h2⟩
  · exact entryOK_style a hs
  · rcases mem_ens_nodup h.nodup h1 with ⟨rfl, _⟩ | ⟨h3, h4⟩
    · exact entryOK_class a
    · exact entryOK_old a h p h3 h4 h2

/-! #### `WF` is closed under the mutators, the read and the constructor -/

theorem rawEntryOK_style : RawEntryOK (sStyle, DVal.style) :=
  ⟨validAttrName_sStyle, lower_sStyle, fun _ => rfl, fun e => absurd rfl e, fun e => absurd e sStyle_not_boolStr⟩

theorem ensureStyle_raw (sty : List (Str × Str)) (d : List (Str × DVal)) (h : ∀ p ∈ d, RawEntryOK p) :
    ∀ p ∈ ensureStyle sty d, RawEntryOK p := by
  intro p hp
  rcases mem_ens (ensureStyle_ens sty d ▸ hp) with ⟨rfl, _⟩ | e
  · exact rawEntryOK_style
  · exact h p e

/-- `convertToBooleanString` is idempotent: what `spellcheck` stores is normalised -/
theorem convBoolStr_idem (v : Option Str) : convBoolStr (some (convBoolStr v)) = convBoolStr v := by
  rw [AttrStores.boolString_pk, AttrStores.boolString_pk]; exact AttrStores.boolString_idem v

/-- a valid attribute name stays valid when lower-cased (`setAttribute` checks the name as given, the store
    keeps it lower-cased) -/
theorem validAttrName_lower (k : Str) (h : validAttrName k = true) : validAttrName (lower k) = true := by
  rw [AttrStores.validName_pk, ← AttrStores.validName_attrs, Attrs.validName_lower,
    AttrStores.validName_attrs, ← AttrStores.validName_pk]
  exact h

/-- `__setitem__` by the kind of key: the `style` branch (the two parsed maps abstracted), the `class` branch, or an
    entry `w` under the lower-cased key that is not the style object and, for a `spellcheck`-like key, normalised. -/
theorem setitem_cases {a a' : Attrs} {k : Str} {v : Option Str} (e : setitem a k v = some a') :
    (∃ S1 S2, styleToDict (styleStr S2) = S2 ∧
      a' = { a with sty := S2, dict := ensureStyle S2 (ensureStyle S2 (ensureStyle S1 a.dict)) }) ∨
    (∃ s, a' = { a with cls := classTokens s }) ∨
    (lower k ≠ sStyle ∧ lower k ≠ sClass ∧ ∃ w, w ≠ DVal.style ∧
      (boolStrAttrs.contains (lower k) = true → ∃ s, w = DVal.str s ∧ convBoolStr (some s) = s) ∧
      a' = { a with dict := dset (lower k) w a.dict }) := by
  unfold setitem at e
  simp only at e
  by_cases h1 : lower k = sStyle
  · rw [if_pos h1] at e
    exact Or.inl ⟨_, _, styleToDict_idem_pk _, (Option.some.inj e).symm⟩
  · rw [if_neg h1] at e
    by_cases h2 : lower k = sClass
    · rw [if_pos h2] at e
      exact Or.inr (Or.inl ⟨_, (Option.some.inj e).symm⟩)
    · rw [if_neg h2] at e
      refine Or.inr (Or.inr ⟨h1, h2, ?_⟩)
      by_cases h3 : boolStrAttrs.contains (lower k) = true
      · rw [if_pos h3] at e
        exact ⟨.str (convBoolStr v), fun h => (nomatch h), fun _ => ⟨_, rfl, convBoolStr_idem v⟩,
          (Option.some.inj e).symm⟩
      · rw [if_neg h3] at e
        exact ⟨DVal.ofOpt v, (by cases v <;> exact fun h => (nomatch h)), fun hb => absurd hb h3,
          (Option.some.inj e).symm⟩

theorem setitem_isSome (a : Attrs) (k : Str) (v : Option Str) : ∃ a', setitem a k v = some a' := by
  unfold setitem
  simp only
  split
  · exact ⟨_, rfl⟩
  · split
    · exact ⟨_, rfl⟩
    · split <;> exact ⟨_, rfl⟩

theorem WF_styleSet (a : Attrs) (h : WF a) (S1 S2 : List (Str × Str)) (hS : styleToDict (styleStr S2) = S2) :
    WF { a with sty := S2, dict := ensureStyle S2 (ensureStyle S2 (ensureStyle S1 a.dict)) } := by
  refine WF.of_raw ?_ ?_ h.cls hS
  · exact nodup_ensureStyle S2 _ (nodup_ensureStyle S2 _ (nodup_ensureStyle S1 _ h.nodup))
  · exact ensureStyle_raw S2 _ (ensureStyle_raw S2 _ (ensureStyle_raw S1 _ h.raw))

/-- **`__setitem__` keeps the store well formed** — any valid key (in any letter case), any value: a `style`
    text is stored as parsed (`styleToDict` is idempotent through `_asStr`), a `class` text as split
    (`clsOK_classTokens`), `spellcheck` normalised, anything else verbatim. -/
theorem WF_setitem (a : Attrs) (k : Str) (v : Option Str) (h : WF a) (hk : validAttrName (lower k) = true)
    (a' : Attrs) (e : setitem a k v = some a') : WF a' := by
  rcases setitem_cases e with ⟨S1, S2, hS, rfl⟩ | ⟨s, rfl⟩ | ⟨h1, _, w, hw, hb, rfl⟩
  · exact WF_styleSet a h S1 S2 hS
  · exact WF.of_raw h.nodup h.raw (classTokens_idem _) h.sty
  · refine WF.of_raw (nodup_dset _ _ _ h.nodup) (fun p hp => ?_) h.cls h.sty
    rcases mem_dset _ _ _ _ hp with e1 | e1
    · rw [e1]; exact ⟨hk, lower_idem k, fun e => absurd e h1, fun _ => hw, fun hb' _ => hb hb'⟩
    · exact h.raw p e1

/-- **`__delitem__` keeps the store well formed** — any key -/
theorem WF_delitem (a : Attrs) (k : Str) (h : WF a) : WF (delitem a k) := by
  unfold delitem
  simp only
  split
  · have h' := h.sublist (ddel_sublist sStyle a.dict)
    exact WF.of_raw h'.nodup h'.raw h.cls (by show styleToDict (styleStr []) = []; decide)
  · split
    · exact WF.of_raw h.nodup h.raw (by show classTokens (className []) = []; decide) h.sty
    · exact h.sublist (ddel_sublist _ _)

/-- the operand of `addClass` as the model takes it (one token of `stripWordsOnly(…).split(' ')`): no space
    inside, no white space at its ends -/
def TokArg (tok : Str) : Prop := NoSp tok ∧ NoEdgeWs tok

theorem tokArg_of_tok (t : Str) (h : Tok t) : TokArg t :=
  ⟨tok_no_space t h, fun c r e => h.2 c (by rw [e]; exact List.mem_cons_self), fun i l e => h.2 l (by rw [e]; simp)⟩

theorem clsOK_snoc (cls : List Str) (tok : Str) (h : ClsOK cls) (hne : tok ≠ []) (ht : TokArg tok) :
    ClsOK (cls ++ [tok]) := by
  refine ⟨?_, ?_, ?_⟩
  · intro t htm
    rcases List.mem_append.mp htm with e | e
    · exact h.tok t e
    · simp at e; subst e; exact ⟨hne, ht.1⟩
  · intro t r e c r' et
    cases cls with
    | nil =>
      simp at e
      rw [← e.1] at et
      exact ht.2.1 c r' et
    | cons t0 r0 =>
      simp at e
      exact h.first t0 r0 rfl c r' (by rw [e.1]; exact et)
  · intro i t e j l et
    have := (List.append_inj' e rfl).2
    simp at this
    rw [← this] at et
    exact ht.2.2 j l et

/-- **`addClass` keeps the store well formed** for a token without inner space and without white space at its
    ends (the empty token and a token already present change nothing) -/
theorem WF_addClass (a : Attrs) (tok : Str) (h : WF a) (ht : TokArg tok) : WF (addClass a tok) := by
  unfold addClass
  split
  · exact h
  · rename_i hc
    have hne : tok ≠ [] := by
      intro e; rw [e] at hc; simp at hc
    refine WF.of_raw h.nodup h.raw ?_ h.sty
    exact classTokens_className_wide _ (clsOK_snoc a.cls tok ((clsOK_iff _).mp h.cls) hne ht)

/-- **the read keeps the store well formed**: `_handleClassAttr` (inside `items()/keys()/getAttributesList()`) -/
theorem WF_handle (a : Attrs) (h : WF a) : WF (handle a) :=
  WF.of_raw (nodup_handle a h.nodup) (fun p hp => (handle_entries a h p hp).raw) h.cls h.sty

theorem initGo_keeps (P : Attrs → Prop)
    (hset : ∀ a k v a', P a → validAttrName (lower k) = true → setitem a k v = some a' → P a')
    (l : List (Str × Option Str)) : ∀ (a a' : Attrs), P a → initGo a l = some a' → P a' := by
  induction l with
  | nil => intro a a' h e; cases e; exact h
  | cons x l ih =>
    intro a a' h e
    obtain ⟨k, v⟩ := x
    simp only [initGo] at e
    split at e
    · rename_i hv
      cases hs : setitem a (lower k) v with
      | none => rw [hs] at e; cases e
      | some a1 =>
        rw [hs] at e
        exact ih a1 a' (hset a (lower k) v a1 h (by rw [lower_idem]; exact hv) hs) e
    · exact ih a a' h e

theorem boolStr_of_none (d : List (Str × DVal)) (h : d.all (fun p => !boolStrAttrs.contains p.1) = true) :
    ∀ p ∈ d, boolStrAttrs.contains p.1 = true → p.1 ≠ sClass → ∃ s, p.2 = DVal.str s ∧ convBoolStr (some s) = s := by
  intro p hp hb
  have := List.all_eq_true.mp h p hp
  rw [hb] at this; cases this

theorem WF_empty : WF empty :=
  ⟨by decide +kernel, by decide +kernel, by decide +kernel, boolStr_of_none _ rfl, by decide +kernel, by decide +kernel⟩

theorem WF_init (l : List (Str × Option Str)) (a : Attrs) (e : init l = some a) : WF a :=
  initGo_keeps WF (fun a k v a' h hk e => WF_setitem a k v h hk a' e) l empty a WF_empty e

/-! #### `class` not yet in the raw dict: the position of `class` is settled -/

/-- In the synchronised dict `class`, when present, is the last entry: true of every store on which no
    attribute has been added after a read (constructor, parser, unpickled and cloned elements). -/
def ClassLast (a : Attrs) : Prop :=
  (handle a).dict = (handle a).dict.filter (fun p => p.1 != sClass) ++ (handle a).dict.filter (fun p => p.1 == sClass)

theorem classLast_handle (a : Attrs) (h : (dkeys a.dict).Nodup) (hl : ClassLast a) : ClassLast (handle a) := by
  unfold ClassLast
  rw [handle_idem a h]
  exact hl

/-- The raw dict does not hold `class` (it is synchronised lazily, by readers) and a non-empty style has its key
    (it is synchronised eagerly, by the setter).  True of every store a constructor builds — hence of parsed,
    unpickled and cloned elements — and kept by every mutator; a *read* ends it when the class list is non-empty. -/
def ClassLazy (a : Attrs) : Prop := sClass ∉ dkeys a.dict ∧ (a.sty.isEmpty = false → sStyle ∈ dkeys a.dict)

theorem classLast_append (l t : List (Str × DVal)) (hl : sClass ∉ dkeys l) (ht : ∀ p ∈ t, p.1 = sClass) :
    l ++ t = (l ++ t).filter (fun p => p.1 != sClass) ++ (l ++ t).filter (fun p => p.1 == sClass) := by
  have hne : ∀ p ∈ l, p.1 ≠ sClass := fun p hp e => hl (e ▸ List.mem_map.mpr ⟨p, hp, rfl⟩)
  rw [List.filter_append, List.filter_append, List.filter_eq_self.mpr fun p hp => by simpa using hne p hp,
    List.filter_eq_nil_iff.mpr fun p hp => by simpa using ht p hp,
    List.filter_eq_nil_iff.mpr fun p hp => by simpa using hne p hp,
    List.filter_eq_self.mpr fun p hp => by simpa using ht p hp, List.append_nil, List.nil_append]

theorem class_not_mem_ensureStyle (sty : List (Str × Str)) (d : List (Str × DVal)) (h : sClass ∉ dkeys d) :
    sClass ∉ dkeys (ensureStyle sty d) :=
  fun hm => h ((mem_dkeys_ens_ne sClass_ne_sStyle).mp hm)

theorem handle_of_lazy (a : Attrs) (h : ClassLazy a) :
    (handle a).dict = ensureStyle a.sty a.dict ++ if a.cls.isEmpty then [] else [(sClass, .str (className a.cls))] := by
  rw [handle_ens, ens_of_not_mem h.1]
  cases a.cls.isEmpty
  · exact ens_snoc sClass_ne_sStyle h.2
  · simp only [if_true, List.append_nil]; rfl

/-- **`ClassLazy` settles the position of `class`**: the synchronised dict lists it last. -/
theorem classLast_of_lazy (a : Attrs) (h : ClassLazy a) : ClassLast a := by
  unfold ClassLast
  rw [handle_of_lazy a h]
  exact classLast_append _ _ (class_not_mem_ensureStyle a.sty a.dict h.1) (by cases a.cls.isEmpty <;> simp)

theorem classLazy_empty : ClassLazy empty := ⟨by simp [empty, dkeys], by simp [empty]⟩

theorem classLazy_styleSet (a : Attrs) (h : ClassLazy a) (S1 S2 : List (Str × Str)) :
    ClassLazy { a with sty := S2, dict := ensureStyle S2 (ensureStyle S2 (ensureStyle S1 a.dict)) } :=
  ⟨class_not_mem_ensureStyle S2 _ (class_not_mem_ensureStyle S2 _ (class_not_mem_ensureStyle S1 _ h.1)),
    fun hs => mem_dkeys_ens_self hs⟩

theorem classLazy_setitem (a : Attrs) (k : Str) (v : Option Str) (h : ClassLazy a)
    (a' : Attrs) (e : setitem a k v = some a') : ClassLazy a' := by
  rcases setitem_cases e with ⟨S1, S2, _, rfl⟩ | ⟨s, rfl⟩ | ⟨_, h2, w, _, _, rfl⟩
  · exact classLazy_styleSet a h S1 S2
  · exact h
  · exact ⟨fun hm => ((mem_dkeys_dset _ _ _ _).mp hm).elim (fun e1 => h2 e1.symm) h.1,
      fun hs => (mem_dkeys_dset _ _ _ _).mpr (Or.inr (h.2 hs))⟩

theorem classLazy_delitem (a : Attrs) (k : Str) (h : ClassLazy a) : ClassLazy (delitem a k) := by
  unfold delitem
  simp only
  split
  · exact ⟨fun hm => h.1 ((mem_dkeys_ddel _ _ _ sClass_ne_sStyle).mp hm), fun hs => by simp at hs⟩
  · split
    · exact h
    · rename_i h1 h2
      exact ⟨fun hm => h.1 ((mem_dkeys_ddel _ _ _ (fun e => h2 e.symm)).mp hm),
        fun hs => (mem_dkeys_ddel _ _ _ (fun e => h1 e.symm)).mpr (h.2 hs)⟩

theorem classLazy_addClass (a : Attrs) (tok : Str) (h : ClassLazy a) : ClassLazy (addClass a tok) := by
  unfold addClass
  split
  · exact h
  · exact h

theorem classLazy_init (l : List (Str × Option Str)) (a : Attrs) (e : init l = some a) : ClassLazy a :=
  initGo_keeps ClassLazy (fun a k v a' h _ e => classLazy_setitem a k v h a' e) l empty a classLazy_empty e

/-! ### 3. the round trip through an attribute list (`cloneNode`, `__setstate__`) -/

theorem render_ofOpt (a : Attrs) (v : DVal) (h : v ≠ DVal.style) : DVal.ofOpt (render a v) = v := by
  cases v <;> simp_all [render, DVal.ofOpt]

theorem ite_mem_cons {α β : Type} (c k : α) (ks : List α) (x y : β) [Decidable (c ∈ ks)] [Decidable (k = c)]
    [Decidable (c ∈ k :: ks)] :
    (if c ∈ ks then x else if k = c then x else y) = if c ∈ k :: ks then x else y := by
  by_cases h1 : c ∈ ks <;> by_cases h2 : k = c <;> simp [h1, h2, Ne.symm]

theorem setitem_entry (a : Attrs) (hc : classTokens (className a.cls) = a.cls) (hs : styleToDict (styleStr a.sty) = a.sty)
    (acc : Attrs) (p : Str × DVal) (ok : EntryOK a p) (hd : p.1 ∉ dkeys acc.dict) :
    setitem acc p.1 (render a p.2) = some
      { dict := acc.dict ++ [p].filter (fun p => p.1 != sClass),
        cls := if p.1 = sClass then a.cls else acc.cls,
        sty := if p.1 = sStyle then a.sty else acc.sty } := by
  obtain ⟨k, v⟩ := p
  unfold setitem
  simp only [ok.low]
  by_cases c2 : k = sStyle
  · subst c2
    obtain ⟨rfl, e2⟩ := ok.sty rfl
    -- the copy's `__init__` and the setter's own call find the key as the first write left it
    have e3 : ens sStyle false DVal.style (ens sStyle false DVal.style acc.dict) = ens sStyle false DVal.style acc.dict :=
      ens_noop (by rw [dget_lookup]; exact (congrArg _ (dset_set ..)).trans (Dict.lookup_set_self ..))
    simp only [if_true, render, hs, ensureStyle_ens, e2]
    rw [e3, e3, ens_of_not_mem hd]
    simp [sStyle_ne_sClass]
  · by_cases c1 : k = sClass
    · subst c1
      obtain rfl : v = DVal.str (className a.cls) := ok.cls rfl
      simp only [sClass_ne_sStyle, if_false, if_true, render, hc]
      simp
    · simp only [c1, c2, if_false]
      have : [(k, v)].filter (fun p => p.1 != sClass) = [(k, v)] := by simp [c1]
      rw [this]
      split
      · next hbs =>
        obtain ⟨s, rfl, e2⟩ := ok.bs hbs c1
        simp only [render, e2]
        rw [dset_of_not_mem _ _ _ hd]
      · rw [render_ofOpt a v (ok.nsty c2), dset_of_not_mem _ _ _ hd]

/-- The attribute loop of `__init__` over the (rendered) entries of a synchronised dict: plain entries are
    appended in order, `class` goes to the class list, `style` to the style map and the end of the dict. -/
theorem initGo_spec (a : Attrs) (hc : classTokens (className a.cls) = a.cls) (hs : styleToDict (styleStr a.sty) = a.sty)
    (L : List (Str × DVal)) (hn : (dkeys L).Nodup) (he : ∀ p ∈ L, EntryOK a p)
    (acc : Attrs) (hd : ∀ k ∈ dkeys L, k ∉ dkeys acc.dict) :
    initGo acc (L.map (fun p => (p.1, render a p.2))) =
      some { dict := acc.dict ++ L.filter (fun p => p.1 != sClass),
             cls := if sClass ∈ dkeys L then a.cls else acc.cls,
             sty := if sStyle ∈ dkeys L then a.sty else acc.sty } := by
  induction L generalizing acc with
  | nil => simp [initGo, dkeys]
  | cons p r ih =>
    have ok := he p List.mem_cons_self
    have hn' := List.nodup_cons.mp hn
    simp only [List.map_cons, initGo, ok.low, ok.valid, if_true]
    rw [setitem_entry a hc hs acc p ok (hd _ List.mem_cons_self)]
    simp only
    rw [ih hn'.2 (fun q hq => he q (List.mem_cons_of_mem _ hq))]
    · rw [ite_mem_cons, ite_mem_cons, List.append_assoc, ← List.filter_append]; rfl
    · intro k' hk' hm
      simp only [dkeys, List.map_append, List.mem_append, List.mem_map] at hm
      rcases hm with hm | ⟨q, hq, rfl⟩
      · exact hd k' (List.mem_cons_of_mem _ hk') (List.mem_map.mpr hm)
      · exact hn'.1 (List.mem_singleton.mp (List.mem_filter.mp hq).1 ▸ hk')

/-- The store a constructor builds from `getAttributesList()` of `a`: the synchronised entries except
    `class` (which lives in the class list until the next read), same class list, same style map. -/
def fresh (a : Attrs) : Attrs :=
  { dict := (handle a).dict.filter (fun p => p.1 != sClass), cls := a.cls, sty := a.sty }

/-- `AdvancedTag(name, original.getAttributesList())` succeeds and builds `fresh a`. -/
theorem init_attrsList (a : Attrs) (h : WF a) : init (attrsList a) = some (fresh a) := by
  unfold init attrsList
  rw [initGo_spec a h.cls h.sty (handle a).dict (nodup_handle a h.nodup) (handle_entries a h) empty (by simp [empty, dkeys])]
  -- a key missing from the synchronised dict means an empty class list / style map, as in `empty`
  have hk : ∀ {β : Type} (k : Str) (l : List β), (l.isEmpty = false → k ∈ dkeys (handle a).dict) →
      (if k ∈ dkeys (handle a).dict then l else []) = l := by
    intro β k l hl
    split
    · rfl
    · next hm => cases l with
      | nil => rfl
      | cons x r => exact absurd (hl rfl) hm
  simp only [empty]
  rw [hk sClass a.cls fun hb => (mem_dkeys_ens_ne sClass_ne_sStyle).mpr (mem_dkeys_ens_self hb),
    hk sStyle a.sty fun hb => mem_dkeys_ens_self hb]
  rfl

theorem class_not_mem_fresh (a : Attrs) : sClass ∉ dkeys (fresh a).dict := by
  intro hm
  obtain ⟨p, hp, hk⟩ := List.mem_map.mp hm
  simp [fresh] at hp
  exact hp.2 hk

theorem classLazy_fresh (a : Attrs) : ClassLazy (fresh a) := by
  refine ⟨class_not_mem_fresh a, fun hs => ?_⟩
  have hs' : a.sty.isEmpty = false := hs
  have hm : sStyle ∈ dkeys (handle a).dict := mem_dkeys_ens_self hs'
  obtain ⟨p, hp, e⟩ := List.mem_map.mp hm
  refine List.mem_map.mpr ⟨p, ?_, e⟩
  simp only [fresh, List.mem_filter]
  refine ⟨hp, ?_⟩
  have : p.1 ≠ sClass := by rw [e]; exact sStyle_ne_sClass
  simpa using this

theorem WF_fresh (a : Attrs) (h : WF a) : WF (fresh a) := (WF_handle a h).sublist List.filter_sublist

/-- After the next read, the rebuilt store lists the same entries with `class` moved to the end. -/
theorem handle_fresh (a : Attrs) (h : WF a) :
    (handle (fresh a)).dict =
      (handle a).dict.filter (fun p => p.1 != sClass) ++ (handle a).dict.filter (fun p => p.1 == sClass) := by
  rw [handle_of_lazy _ (classLazy_fresh a), ensureStyle_ens, Dict.filter_key (nodup_handle a h.nodup), ← dget_lookup,
    dget_handle a h.nodup, if_neg sClass_ne_sStyle, if_pos rfl]
  congr 1
  · -- the style step finds the key as it should be
    refine ens_noop ?_
    show dget sStyle ((handle a).dict.filter _) = _
    rw [dget_filter_ne _ _ _ sStyle_ne_sClass, dget_handle a h.nodup, if_pos rfl]; rfl
  · show (if a.cls.isEmpty then _ else _) = _
    cases a.cls.isEmpty <;> rfl

theorem handle_fresh_eq (a : Attrs) (h : WF a) (hl : ClassLast a) : (handle (fresh a)).dict = (handle a).dict := by
  rw [handle_fresh a h]; exact hl.symm

theorem attrsList_fresh (a : Attrs) (h : WF a) (hl : ClassLast a) : attrsList (fresh a) = attrsList a := by
  unfold attrsList
  rw [handle_fresh_eq a h hl]
  rfl

theorem startTag_fresh (n : Str) (a : Attrs) (sc : Bool) (h : WF a) (hl : ClassLast a) :
    startTag n (fresh a) sc = startTag n a sc := by
  unfold startTag pieces
  rw [handle_fresh_eq a h hl]
  rfl

/-! #### tag equality of a rebuilt store -/

theorem styEq_refl (m : List (Str × Str)) : styEq m m = true := by
  unfold styEq
  simp only [Bool.and_eq_true, List.all_eq_true, beq_self_eq_true, implies_true, and_true, and_self]
  intro k hk
  simpa using hk

theorem GVal.eq_refl (g : GVal) : g.eq g = true := by
  cases g <;> simp [GVal.eq, styEq_refl]

theorem dget_fresh (a : Attrs) (k : Str) (hk : k ≠ sClass) : dget k (fresh a).dict = dget k (handle a).dict :=
  dget_filter_ne _ _ _ hk

theorem dget_handle_fresh (a : Attrs) (h : WF a) (k : Str) : dget k (handle (fresh a)).dict = dget k (handle a).dict := by
  rw [dget_handle _ (WF_fresh a h).nodup, dget_handle a h.nodup]
  split
  · rfl
  · split
    · rfl
    · next h1 h2 => rw [dget_fresh a k h2, dget_handle a h.nodup, if_neg h1, if_neg h2]

theorem getForEq_fresh (a : Attrs) (h : WF a) (k : Str) : getForEq (fresh a) k = getForEq a k := by
  unfold getForEq
  rw [dget_handle_fresh a h k]
  rfl

theorem mem_keys_handle_fresh (a : Attrs) (h : WF a) (k : Str) :
    k ∈ dkeys (handle (fresh a)).dict ↔ k ∈ dkeys (handle a).dict := by
  rw [mem_dkeys_iff_dget, mem_dkeys_iff_dget, dget_handle_fresh a h k]

end Attrs

theorem getIdx_fresh (a : Attrs) : Attrs.getIdx (Attrs.fresh a) = Attrs.getIdx a := by
  funext k
  unfold Attrs.getIdx
  by_cases h1 : k = sClass
  · simp [h1]
  · by_cases h2 : k = sStyle
    · simp [h2]
    · simp only [h1, h2, decide_false, Bool.or_self, Bool.false_eq_true, if_false, Attrs.getPlain]
      rw [Attrs.dget_fresh a k h1, Attrs.handle_ens, dget_ens_ne h2, dget_ens_ne h1]

end AHP.Pk
