/-
  AHP.Lemmas.AttrStoresStr — the string-level helpers of the four attribute-store models are the same functions.

  (1) `AHP` (Model/Token.lean)      (2) `AHP.Attrs` (Model/Attrs.lean)
  (3) `AHP.Pk` (Model/Pickle.lean)  (4) `AHP.Fmt` (Model/Format.lean)

  Models (1)–(3) use `strip` of Model/Basic.lean, model (4) its own `pyStrip`.  Both remove exactly the characters of
  `str.isspace()` (`isWs`, ASCII and non-ASCII), so they are one function (`pyStrip_eq`).
-/
import AHP.Model.Tree
import AHP.Model.Pickle
import AHP.Model.Format
import AHP.Lemmas.AttrsStr
namespace AHP.AttrStores
open AHP

theorem validName_attrs (n : Str) : Attrs.validName n = validAttrName n := by
  cases n <;> rfl

theorem validName_pk (n : Str) : Pk.validAttrName n = validAttrName n := by
  cases n <;> rfl

theorem validName_fmt (n : Str) : Fmt.validAttrName n = validAttrName n := by
  cases n <;> rfl

theorem collapse_nil : collapseSpaces [] = [] := collapseSpaces.eq_1

theorem collapse_space_space (r : Str) : collapseSpaces (' ' :: ' ' :: r) = collapseSpaces (' ' :: r) :=
  collapseSpaces.eq_2 r

theorem collapse_cons {c : Char} {r : Str} (h : c = ' ' → r.head? ≠ some ' ') :
    collapseSpaces (c :: r) = c :: collapseSpaces r :=
  collapseSpaces.eq_3 c r (fun _ hc hr => h hc (by rw [hr]; rfl))

theorem collapse_cons_ne {c : Char} (h : c ≠ ' ') (r : Str) : collapseSpaces (c :: r) = c :: collapseSpaces r :=
  collapse_cons (fun e => absurd e h)

theorem collapse_ind {P : Str → Prop} (nil : P []) (skip : ∀ r, P (' ' :: r) → P (' ' :: ' ' :: r))
    (keep : ∀ c r, (c = ' ' → r.head? ≠ some ' ') → P r → P (c :: r)) : ∀ s, P s :=
  collapseSpaces.induct P nil skip (fun c r h => keep c r (fun hc hr => by
    cases r with
    | nil => cases hr
    | cons d r' => exact h r' hc (by rw [Option.some.inj hr])))

theorem collapse_head (s : Str) : (collapseSpaces s).head? = s.head? := by
  induction s using collapse_ind with
  | nil => rw [collapse_nil]
  | skip r ih => rw [collapse_space_space, ih]; rfl
  | keep c r h _ => rw [collapse_cons h]; rfl

/-- (1) = (2): the two-character look-ahead and the "previous was a space" flag describe the same function. -/
theorem collapse_attrs_aux : ∀ s : Str,
    collapseSpaces s = Attrs.collapseAux false s ∧ collapseSpaces (' ' :: s) = ' ' :: Attrs.collapseAux true s
  | [] => ⟨collapse_nil, collapse_cons (fun _ h => nomatch h)⟩
  | c :: r => by
    have ih := collapse_attrs_aux r
    by_cases hc : c = ' '
    · subst hc
      rw [collapse_space_space, ih.2, Attrs.collapseAux_space_false, Attrs.collapseAux_space_true]
      exact ⟨rfl, rfl⟩
    · rw [collapse_cons (r := c :: r) (fun _ h => hc (Option.some.inj h)), collapse_cons_ne hc, ih.1,
        Attrs.collapseAux_cons_ne hc, Attrs.collapseAux_cons_ne hc]
      exact ⟨rfl, rfl⟩

theorem collapse_attrs (s : Str) : Attrs.collapseSpaces s = collapseSpaces s :=
  ((collapse_attrs_aux s).1).symm

-- The two definitions are the same recursion, and the terms are definitionally equal.  The elaborator's smart unfolding
-- does not unfold a structural recursion applied to a variable, so it is switched off for the `rfl`.
set_option smartUnfolding false in
theorem collapse_fmt_aux (b : Bool) (s : Str) : Fmt.collapseSpaces b s = Attrs.collapseAux b s := rfl

theorem collapse_fmt (s : Str) : Fmt.collapseSpaces false s = collapseSpaces s := by
  rw [collapse_fmt_aux]; exact collapse_attrs s

/-- (3) = (1): look-ahead written with a nested match. -/
theorem collapse_pk (s : Str) : Pk.collapseSp s = collapseSpaces s := by
  induction s using collapse_ind with
  | nil => rw [collapse_nil]; rfl
  | skip r ih => rw [collapse_space_space, ← ih]; simp [Pk.collapseSp]
  | keep c r h ih =>
    rw [collapse_cons h, ← ih]
    cases r with
    | nil => simp [Pk.collapseSp]
    | cons d r' =>
      by_cases hc : c = ' '
      · have hd : d ≠ ' ' := fun e => h hc (by rw [e]; rfl)
        conv => lhs; unfold Pk.collapseSp
        simp [hc, hd]
      · conv => lhs; unfold Pk.collapseSp
        simp [hc]

theorem words_attrs (s : Str) : Attrs.words s = classNamesOf (some s) := by
  unfold Attrs.words classNamesOf splitWords Attrs.stripWordsOnly stripWordsOnly
  rw [collapse_attrs]
  congr 1; funext w; cases w <;> simp

theorem classTokens_pk (s : Str) : Pk.classTokens s = classNamesOf (some s) := by
  unfold Pk.classTokens classNamesOf splitWords Pk.stripWordsOnly stripWordsOnly
  rw [collapse_pk]

theorem classNamesOf_none : classNamesOf none = classNamesOf (some []) := rfl

theorem classNamesOf_getD (v : Option Str) : classNamesOf (some (v.getD [])) = classNamesOf v := by
  cases v <;> rfl

theorem dropWhile_congr {p q : Char → Bool} : ∀ {s : Str}, (∀ c ∈ s, p c = q c) → s.dropWhile p = s.dropWhile q
  | [], _ => rfl
  | c :: r, h => by
    have hc : p c = q c := h c (List.mem_cons_self ..)
    have hr : r.dropWhile p = r.dropWhile q := dropWhile_congr (fun x hx => h x (List.mem_cons_of_mem _ hx))
    simp [List.dropWhile_cons, hc, hr]

/-- `Fmt.pyWs` is the shared `isWs` (all of `str.isspace()`), so model (4)'s `pyStrip` unfolds to `strip` -/
theorem pyStrip_eq (s : Str) : Fmt.pyStrip s = strip s := rfl

theorem classNames_fmt (s : Str) : Fmt.classNames s = classNamesOf (some s) := by
  unfold Fmt.classNames classNamesOf splitWords stripWordsOnly
  rw [collapse_fmt]; rfl

theorem boolString_attrs (v : Option Str) : Attrs.boolString v = boolString v := by
  cases v with
  | none => rfl
  | some s =>
    simp only [Attrs.boolString, boolString, Attrs.strFalse, Attrs.strTrue]
    by_cases h1 : lower s = ['f', 'a', 'l', 's', 'e'] <;> by_cases h2 : lower s = ['0'] <;> simp [h1, h2]

theorem boolString_pk (v : Option Str) : Pk.convBoolStr v = boolString v := by
  cases v <;> rfl

theorem boolString_fmt (v : Option Str) : Fmt.boolString v = boolString v := by
  cases v <;> rfl

set_option smartUnfolding false in
theorem escQ_attrs (s : Str) : Attrs.escQ s = escQ s := by rfl

set_option smartUnfolding false in
theorem escQ_pk (s : Str) : Pk.escQ s = escQ s := rfl

theorem escQ_fmt : ∀ s : Str, Fmt.escapeQuotes s = escQ s
  | [] => rfl
  | c :: r => by
    have ih := escQ_fmt r
    simp only [Fmt.escapeQuotes] at ih ⊢
    rw [List.flatMap_cons, ih]
    by_cases hc : c = '"' <;> simp [escQ, hc, str]

end AHP.AttrStores
