/-
  AHP.Lemmas.Dict — a Python `dict` as an insertion-ordered association list, once, for any key type.

  Reading is core's `List.lookup`, deleting is a `filter`, the key list is a `map`; only writing needs a definition
  (`Dict.set`: an existing key keeps its position, a new key goes last).  Every model has its own copy of these
  functions (`dictGet/dictSet/dictDel` in Model/Token and Model/Cache, `aget/aset/adel`, `dget/dset/ddel`,
  `assocSet/assocDel`, …); each copy is shown equal to the functions here where its stack begins, and the facts below
  are then used as they stand.  `Dict.delOrSet` is the step "delete the key or write it" that the attribute-store models
  take (`Attrs.delOrSet`, `AttrStores.ensureKey` are readings of it).
-/
namespace AHP.Dict

universe u v w
variable {κ : Type u} {β : Type v} {γ : Type w} [DecidableEq κ]

def set : List (κ × β) → κ → β → List (κ × β)
  | [], k, v => [(k, v)]
  | (k', v') :: r, k, v => if k' = k then (k, v) :: r else (k', v') :: set r k v

def del (d : List (κ × β)) (k : κ) : List (κ × β) := d.filter (fun p => p.1 ≠ k)

abbrev keys (d : List (κ × β)) : List κ := d.map (·.1)

/-- "delete the key or write it": the step `_handleClassAttr` and `_ensureHtmlAttribute` take on the raw dict, and what a
    property write with an empty value does -/
def delOrSet (d : List (κ × β)) (k : κ) (absent : Bool) (v : β) : List (κ × β) := if absent then del d k else set d k v

theorem set_cons_self (k : κ) (v v' : β) (r : List (κ × β)) : set ((k, v') :: r) k v = (k, v) :: r := by
  rw [set, if_pos rfl]

theorem set_cons_ne {k k' : κ} (h : k' ≠ k) (v v' : β) (r : List (κ × β)) :
    set ((k', v') :: r) k v = (k', v') :: set r k v := by
  rw [set, if_neg h]

theorem del_cons_self (k : κ) (v : β) (r : List (κ × β)) : del ((k, v) :: r) k = del r k := by
  simp [del]

theorem del_cons_ne {k k' : κ} (h : k' ≠ k) (v : β) (r : List (κ × β)) : del ((k', v) :: r) k = (k', v) :: del r k := by
  simp [del, h]

omit [DecidableEq κ] in
theorem keys_cons (k : κ) (v : β) (r : List (κ × β)) : keys ((k, v) :: r) = k :: keys r := rfl

omit [DecidableEq κ] in
theorem mem_keys_iff {k : κ} {d : List (κ × β)} : k ∈ keys d ↔ ∃ v, (k, v) ∈ d := by simp

theorem set_of_not_mem {k : κ} (v : β) : ∀ {d : List (κ × β)}, k ∉ keys d → set d k v = d ++ [(k, v)]
  | [], _ => rfl
  | (k0, v0) :: r, h => by
    have h' := not_or.mp (mt List.mem_cons.mpr h)
    rw [set_cons_ne (Ne.symm h'.1), set_of_not_mem v h'.2]; rfl

theorem keys_set_of_mem {k : κ} (v : β) : ∀ {d : List (κ × β)}, k ∈ keys d → keys (set d k v) = keys d
  | (k0, v0) :: r, h => by
    by_cases h0 : k0 = k
    · subst h0; rw [set_cons_self]; rfl
    · rw [set_cons_ne h0, keys_cons, keys_cons, keys_set_of_mem v ((List.mem_cons.mp h).resolve_left (Ne.symm h0))]

theorem keys_set (d : List (κ × β)) (k : κ) (v : β) [Decidable (k ∈ keys d)] :
    keys (set d k v) = if k ∈ keys d then keys d else keys d ++ [k] := by
  split
  · next h => exact keys_set_of_mem v h
  · next h => rw [set_of_not_mem v h, keys, List.map_append]; rfl

theorem mem_keys_set {k x : κ} (v : β) {d : List (κ × β)} : x ∈ keys (set d k v) ↔ x = k ∨ x ∈ keys d := by
  by_cases h : k ∈ keys d
  · rw [keys_set_of_mem v h]; exact ⟨Or.inr, fun h' => h'.elim (· ▸ h) id⟩
  · rw [set_of_not_mem v h, keys, List.map_append, List.mem_append, or_comm]; simp

theorem nodup_set (k : κ) (v : β) {d : List (κ × β)} (h : (keys d).Nodup) : (keys (set d k v)).Nodup := by
  by_cases hk : k ∈ keys d
  · rw [keys_set_of_mem v hk]; exact h
  · rw [set_of_not_mem v hk, keys, List.map_append]
    refine List.nodup_append.mpr ⟨h, by simp, fun a ha b hb e => hk ?_⟩
    have : a = k := e.trans (List.mem_singleton.mp hb)
    exact this ▸ ha

theorem keys_del (d : List (κ × β)) (k : κ) : keys (del d k) = (keys d).filter (fun x => x ≠ k) := by
  unfold del keys; rw [List.filter_map]; rfl

theorem mem_keys_del {k x : κ} {d : List (κ × β)} : x ∈ keys (del d k) ↔ x ∈ keys d ∧ x ≠ k := by
  rw [keys_del]; simp

theorem nodup_del (k : κ) {d : List (κ × β)} (h : (keys d).Nodup) : (keys (del d k)).Nodup :=
  keys_del d k ▸ h.filter _

theorem mem_set {k : κ} {v : β} {p : κ × β} : ∀ {d : List (κ × β)}, p ∈ set d k v → p = (k, v) ∨ p ∈ d
  | [], h => Or.inl (List.mem_singleton.mp h)
  | (k0, v0) :: r, h => by
    by_cases h0 : k0 = k
    · subst h0; rw [set_cons_self] at h
      exact (List.mem_cons.mp h).imp id (List.mem_cons_of_mem _)
    · rw [set_cons_ne h0] at h
      rcases List.mem_cons.mp h with h | h
      · exact Or.inr (h ▸ List.mem_cons_self)
      · exact (mem_set h).imp id (List.mem_cons_of_mem _)

theorem mem_del {k : κ} {p : κ × β} {d : List (κ × β)} : p ∈ del d k ↔ p ∈ d ∧ p.1 ≠ k := by
  simp [del]

theorem mem_foldl_del {ks : List κ} {d : List (κ × β)} {p : κ × β} (h : p ∈ ks.foldl del d) : p ∈ d := by
  induction ks generalizing d with
  | nil => exact h
  | cons k ks ih => exact (mem_del.mp (ih h)).1

theorem mem_keys_foldl_del (ks : List κ) (d : List (κ × β)) (x : κ) :
    x ∈ keys (ks.foldl del d) ↔ x ∈ keys d ∧ x ∉ ks := by
  induction ks generalizing d with
  | nil => simp
  | cons k ks ih => rw [List.foldl_cons, ih, mem_keys_del, List.mem_cons, not_or, and_assoc]

theorem nodup_foldl_del (ks : List κ) {d : List (κ × β)} (h : (keys d).Nodup) : (keys (ks.foldl del d)).Nodup := by
  induction ks generalizing d with
  | nil => exact h
  | cons k ks ih => exact ih (nodup_del k h)

theorem del_of_not_mem {k : κ} {d : List (κ × β)} (h : k ∉ keys d) : del d k = d :=
  List.filter_eq_self.mpr fun _ hp => decide_eq_true fun e => h (e ▸ List.mem_map_of_mem (f := (·.1)) hp)

theorem set_append_of_mem {k : κ} (v : β) : ∀ {d : List (κ × β)} (e : List (κ × β)),
    k ∈ keys d → set (d ++ e) k v = set d k v ++ e
  | (k0, v0) :: r, e, h => by
    by_cases h0 : k0 = k
    · subst h0; rw [List.cons_append, set_cons_self, set_cons_self]; rfl
    · rw [List.cons_append, set_cons_ne h0, set_cons_ne h0,
        set_append_of_mem v e ((List.mem_cons.mp h).resolve_left (Ne.symm h0))]; rfl

theorem del_idem (k : κ) (d : List (κ × β)) : del (del d k) k = del d k := by
  unfold del; rw [List.filter_filter]; simp

theorem del_comm (k k' : κ) (d : List (κ × β)) : del (del d k) k' = del (del d k') k := by
  unfold del; rw [List.filter_filter, List.filter_filter]; simp [Bool.and_comm]

theorem del_set_self (k : κ) (v : β) : ∀ d : List (κ × β), del (set d k v) k = del d k
  | [] => by simp [set, del]
  | (k0, v0) :: r => by
    by_cases h0 : k0 = k
    · subst h0; rw [set_cons_self, del_cons_self, del_cons_self]
    · rw [set_cons_ne h0, del_cons_ne h0, del_cons_ne h0, del_set_self k v r]

theorem del_set_ne {k k' : κ} (h : k ≠ k') (v : β) : ∀ d : List (κ × β), del (set d k v) k' = set (del d k') k v
  | [] => by simp [set, del, h]
  | (k0, v0) :: r => by
    by_cases h0 : k0 = k
    · subst h0; rw [set_cons_self, del_cons_ne h, del_cons_ne h, set_cons_self]
    · rw [set_cons_ne h0]
      by_cases h1 : k0 = k'
      · subst h1; rw [del_cons_self, del_cons_self, del_set_ne h v r]
      · rw [del_cons_ne h1, del_cons_ne h1, set_cons_ne h0, del_set_ne h v r]

theorem set_set_self (k : κ) (v w : β) : ∀ d : List (κ × β), set (set d k v) k w = set d k w
  | [] => by simp [set]
  | (k0, v0) :: r => by
    by_cases h0 : k0 = k
    · subst h0; rw [set_cons_self, set_cons_self, set_cons_self]
    · rw [set_cons_ne h0, set_cons_ne h0, set_cons_ne h0, set_set_self k v w r]

theorem set_set_comm {k k' : κ} (h : k ≠ k') (x y : β) : ∀ d : List (κ × β), (k ∈ keys d ∨ k' ∈ keys d) →
    set (set d k x) k' y = set (set d k' y) k x
  | [], hm => by rcases hm with hm | hm <;> cases hm
  | (k0, v0) :: r, hm => by
    by_cases h0 : k0 = k
    · subst h0; rw [set_cons_self, set_cons_ne h, set_cons_ne h, set_cons_self]
    · by_cases h1 : k0 = k'
      · subst h1; rw [set_cons_ne h0, set_cons_self, set_cons_self, set_cons_ne h0]
      · rw [set_cons_ne h0, set_cons_ne h1, set_cons_ne h1, set_cons_ne h0, set_set_comm h x y r
          (hm.imp (fun m => (List.mem_cons.mp m).resolve_left (Ne.symm h0))
            (fun m => (List.mem_cons.mp m).resolve_left (Ne.symm h1)))]

theorem set_table (f : κ → β) (k : κ) (x : β) : ∀ (K : List κ) [Decidable (k ∈ K)], K.Nodup →
    set (K.map fun j => (j, f j)) k x = (if k ∈ K then K else K ++ [k]).map fun j => (j, if j = k then x else f j)
  | [], _, _ => by simp [set]
  | a :: r, _, hn => by
    have hn' := List.nodup_cons.mp hn
    by_cases hak : a = k
    · subst hak
      rw [List.map_cons, set_cons_self, if_pos List.mem_cons_self, List.map_cons, if_pos rfl]
      exact congrArg _ (List.map_congr_left fun j hj => by rw [if_neg fun e : j = a => hn'.1 (e ▸ hj)])
    · have : Decidable (k ∈ r) := inferInstance
      rw [List.map_cons, set_cons_ne hak, set_table f k x r hn'.2]
      by_cases hr : k ∈ r
      · rw [if_pos hr, if_pos (List.mem_cons_of_mem _ hr), List.map_cons, if_neg hak]
      · rw [if_neg hr, if_neg fun h => (List.mem_cons.mp h).elim (Ne.symm hak) hr, List.cons_append, List.map_cons, if_neg hak]

theorem foldl_set_fresh : ∀ (m d : List (κ × β)), (keys m).Nodup → (∀ k ∈ keys m, k ∉ keys d) →
    m.foldl (fun d p => set d p.1 p.2) d = d ++ m
  | [], d, _, _ => (List.append_nil d).symm
  | (k, v) :: m, d, hn, hd => by
    have hn' := List.nodup_cons.mp hn
    rw [List.foldl_cons, set_of_not_mem v (hd k List.mem_cons_self), foldl_set_fresh m _ hn'.2, List.append_assoc]; rfl
    intro k' hk' hm
    rw [keys, List.map_append] at hm
    rcases List.mem_append.mp hm with hm | hm
    · exact hd k' (List.mem_cons_of_mem _ hk') hm
    · exact hn'.1 (List.mem_singleton.mp hm ▸ hk')

omit [DecidableEq κ] in
theorem keys_map (f : κ → β → γ) (d : List (κ × β)) : keys (d.map (fun p => (p.1, f p.1 p.2))) = keys d := by
  simp [keys, Function.comp_def]

theorem set_map (f : κ → β → γ) (k : κ) (v : β) : ∀ d : List (κ × β),
    (set d k v).map (fun p => (p.1, f p.1 p.2)) = set (d.map (fun p => (p.1, f p.1 p.2))) k (f k v)
  | [] => rfl
  | (k0, v0) :: r => by
    by_cases h0 : k0 = k
    · subst h0; rw [set_cons_self, List.map_cons, List.map_cons, set_cons_self]
    · rw [set_cons_ne h0, List.map_cons, List.map_cons, set_cons_ne h0, set_map f k v r]

theorem del_map (f : κ → β → γ) (k : κ) (d : List (κ × β)) :
    (del d k).map (fun p => (p.1, f p.1 p.2)) = del (d.map (fun p => (p.1, f p.1 p.2))) k := by
  unfold del; rw [List.filter_map]; rfl

theorem foldl_del_map (f : κ → β → γ) (ks : List κ) (d : List (κ × β)) :
    (ks.foldl del d).map (fun p => (p.1, f p.1 p.2)) = ks.foldl del (d.map (fun p => (p.1, f p.1 p.2))) := by
  induction ks generalizing d with
  | nil => rfl
  | cons k ks ih => rw [List.foldl_cons, List.foldl_cons, ih, del_map]

theorem nodup_delOrSet (k : κ) (b : Bool) (v : β) {d : List (κ × β)} (h : (keys d).Nodup) : (keys (delOrSet d k b v)).Nodup := by
  cases b
  · exact nodup_set k v h
  · exact nodup_del k h

theorem mem_delOrSet {k : κ} {b : Bool} {v : β} {d : List (κ × β)} {p : κ × β} (h : p ∈ delOrSet d k b v) : p = (k, v) ∨ p ∈ d := by
  cases b
  · exact mem_set h
  · exact Or.inr (mem_del.mp h).1

theorem delOrSet_map (f : κ → β → γ) (k : κ) (b : Bool) (v : β) (d : List (κ × β)) :
    (delOrSet d k b v).map (fun p => (p.1, f p.1 p.2)) = delOrSet (d.map (fun p => (p.1, f p.1 p.2))) k b (f k v) := by
  cases b
  · exact set_map f k v d
  · exact del_map f k d

theorem delOrSet_del_comm {k k' : κ} (h : k ≠ k') (b : Bool) (v : β) (d : List (κ × β)) :
    delOrSet (del d k') k b v = del (delOrSet d k b v) k' := by
  cases b
  · exact (del_set_ne h v d).symm
  · exact del_comm k' k d

theorem delOrSet_set_comm {k k' : κ} (h : k ≠ k') (b : Bool) (v w : β) (d : List (κ × β))
    (hm : b = false → k ∈ keys d ∨ k' ∈ keys d) : delOrSet (set d k' w) k b v = set (delOrSet d k b v) k' w := by
  cases b
  · exact set_set_comm (Ne.symm h) w v d ((hm rfl).symm)
  · exact del_set_ne (Ne.symm h) w d

theorem del_delOrSet (k : κ) (b : Bool) (v : β) (d : List (κ × β)) : del (delOrSet d k b v) k = del d k := by
  cases b
  · exact del_set_self k v d
  · exact del_idem k d

/-- the second step wins, unless a deletion is followed by a write of a key that was there (it moves to the end) -/
theorem delOrSet_twice (k : κ) (b b' : Bool) (v w : β) {d : List (κ × β)} (h : b = true → b' = false → k ∉ keys d) :
    delOrSet (delOrSet d k b v) k b' w = delOrSet d k b' w := by
  cases b' <;> cases b
  · exact set_set_self k v w d
  · exact congrArg (set · k w) (del_of_not_mem (h rfl rfl))
  · exact del_set_self k v d
  · exact del_idem k d

/-! ### reading (`List.lookup`, for whatever lawful `==` the key type has) -/

variable [BEq κ] [LawfulBEq κ]

omit [DecidableEq κ] in
theorem lookup_cons_ne {k k' : κ} (h : k' ≠ k) (v : β) (r : List (κ × β)) : ((k, v) :: r).lookup k' = r.lookup k' := by
  rw [List.lookup_cons, beq_false_of_ne h]

theorem lookup_eq_none_iff {k : κ} : ∀ {d : List (κ × β)}, d.lookup k = none ↔ k ∉ keys d
  | [] => by simp
  | (k0, v0) :: r => by
    by_cases e : k = k0
    · subst e; simp [List.lookup_cons_self]
    · rw [lookup_cons_ne e, lookup_eq_none_iff (d := r)]; simp [e]

theorem mem_of_lookup {k : κ} {v : β} : ∀ {d : List (κ × β)}, d.lookup k = some v → (k, v) ∈ d
  | (k', v') :: r, h => by
    by_cases e : k = k'
    · subst e; rw [List.lookup_cons_self] at h; cases h; exact List.mem_cons_self
    · rw [lookup_cons_ne e] at h; exact List.mem_cons_of_mem _ (mem_of_lookup h)

theorem mem_keys_of_lookup {k : κ} {v : β} {d : List (κ × β)} (h : d.lookup k = some v) : k ∈ keys d :=
  List.mem_map_of_mem (f := (·.1)) (mem_of_lookup h)

omit [DecidableEq κ] in
theorem lookup_of_mem {k : κ} {v : β} : ∀ {d : List (κ × β)}, (keys d).Nodup → (k, v) ∈ d → d.lookup k = some v
  | (k', v') :: r, hn, h => by
    have hn' := List.nodup_cons.mp hn
    rcases List.mem_cons.mp h with e | h
    · cases e; exact List.lookup_cons_self
    · have e : k ≠ k' := fun e => hn'.1 (e ▸ List.mem_map_of_mem (f := (·.1)) h)
      rw [lookup_cons_ne e]; exact lookup_of_mem hn'.2 h

theorem lookup_set (d : List (κ × β)) (k : κ) (v : β) (k' : κ) :
    (set d k v).lookup k' = if k' = k then some v else d.lookup k' := by
  induction d with
  | nil => by_cases e : k' = k <;> simp [set, List.lookup_cons, e, beq_false_of_ne]
  | cons p r ih =>
    obtain ⟨k0, v0⟩ := p
    by_cases h0 : k0 = k
    · subst h0; rw [set_cons_self]
      by_cases e : k' = k0
      · subst e; rw [if_pos rfl, List.lookup_cons_self]
      · rw [if_neg e, lookup_cons_ne e, lookup_cons_ne e]
    · rw [set_cons_ne h0]
      by_cases e : k' = k0
      · subst e; rw [if_neg h0, List.lookup_cons_self, List.lookup_cons_self]
      · rw [lookup_cons_ne e, lookup_cons_ne e, ih]

theorem lookup_set_self (d : List (κ × β)) (k : κ) (v : β) : (set d k v).lookup k = some v := by
  rw [lookup_set, if_pos rfl]

theorem lookup_set_ne {k k' : κ} (h : k' ≠ k) (d : List (κ × β)) (v : β) : (set d k v).lookup k' = d.lookup k' := by
  rw [lookup_set, if_neg h]

theorem lookup_del (d : List (κ × β)) (k k' : κ) : (del d k).lookup k' = if k' = k then none else d.lookup k' := by
  induction d with
  | nil => simp [del]
  | cons p r ih =>
    obtain ⟨k0, v0⟩ := p
    by_cases h0 : k0 = k
    · subst h0; rw [del_cons_self, ih]
      by_cases e : k' = k0
      · rw [if_pos e, if_pos e]
      · rw [if_neg e, if_neg e, lookup_cons_ne e]
    · rw [del_cons_ne h0]
      by_cases e : k' = k0
      · subst e; rw [if_neg h0, List.lookup_cons_self, List.lookup_cons_self]
      · rw [lookup_cons_ne e, lookup_cons_ne e, ih]

theorem lookup_del_self (d : List (κ × β)) (k : κ) : (del d k).lookup k = none := by rw [lookup_del, if_pos rfl]

theorem lookup_del_ne {k k' : κ} (h : k' ≠ k) (d : List (κ × β)) : (del d k).lookup k' = d.lookup k' := by
  rw [lookup_del, if_neg h]

theorem lookup_foldl_del (ks : List κ) (d : List (κ × β)) (k' : κ) :
    (ks.foldl del d).lookup k' = if k' ∈ ks then none else d.lookup k' := by
  induction ks generalizing d with
  | nil => rfl
  | cons k ks ih =>
    rw [List.foldl_cons, ih, lookup_del]
    by_cases h1 : k' ∈ ks
    · simp [h1]
    · by_cases h2 : k' = k <;> simp [h1, h2]

theorem lookup_map (f : κ → β → γ) (k : κ) (d : List (κ × β)) :
    (d.map (fun p => (p.1, f p.1 p.2))).lookup k = (d.lookup k).map (f k) := by
  induction d with
  | nil => rfl
  | cons p r ih =>
    obtain ⟨k0, v0⟩ := p
    by_cases e : k = k0
    · subst e; simp [List.lookup_cons_self]
    · rw [List.map_cons, lookup_cons_ne e, lookup_cons_ne e, ih]

theorem lookup_perm {a b : List (κ × β)} (hp : a.Perm b) (hn : (keys a).Nodup) (k : κ) : a.lookup k = b.lookup k := by
  rcases ha : a.lookup k with _ | v
  · exact (lookup_eq_none_iff.mpr fun m => lookup_eq_none_iff.mp ha ((hp.map _).mem_iff.mpr m)).symm
  · exact (lookup_of_mem ((hp.map _).nodup_iff.mp hn) (hp.mem_iff.mp (mem_of_lookup ha))).symm

theorem set_eq_self {k : κ} {v : β} : ∀ {d : List (κ × β)}, d.lookup k = some v → set d k v = d
  | (k0, v0) :: r, h => by
    by_cases h0 : k0 = k
    · subst h0; rw [List.lookup_cons_self] at h; cases h; exact set_cons_self ..
    · rw [lookup_cons_ne (Ne.symm h0)] at h; rw [set_cons_ne h0, set_eq_self h]

theorem lookup_delOrSet_self (k : κ) (b : Bool) (v : β) (d : List (κ × β)) :
    (delOrSet d k b v).lookup k = if b then none else some v := by
  cases b
  · exact lookup_set_self d k v
  · exact lookup_del_self d k

theorem lookup_delOrSet_ne {k k' : κ} (h : k' ≠ k) (b : Bool) (v : β) (d : List (κ × β)) :
    (delOrSet d k b v).lookup k' = d.lookup k' := by
  cases b
  · exact lookup_set_ne h d v
  · exact lookup_del_ne h d

theorem delOrSet_self {k : κ} {b : Bool} {v : β} {d : List (κ × β)} (h : d.lookup k = if b then none else some v) :
    delOrSet d k b v = d := by
  cases b
  · exact set_eq_self h
  · exact del_of_not_mem (lookup_eq_none_iff.mp h)

theorem filter_bne (k : κ) (d : List (κ × β)) : d.filter (fun p => p.1 != k) = del d k :=
  List.filter_congr fun p _ => by rw [Bool.eq_iff_iff]; simp

theorem filter_key {k : κ} : ∀ {d : List (κ × β)}, (keys d).Nodup →
    d.filter (fun p => p.1 == k) = (match d.lookup k with | some v => [(k, v)] | none => [])
  | [], _ => rfl
  | (k0, v0) :: r, hn => by
    have hn' := List.nodup_cons.mp hn
    by_cases h0 : k0 = k
    · subst h0
      have : r.filter (fun p => p.1 == k0) = [] :=
        List.filter_eq_nil_iff.mpr fun p hp hq => hn'.1 (eq_of_beq hq ▸ List.mem_map_of_mem (f := (·.1)) hp)
      rw [List.filter_cons_of_pos (by simp), this, List.lookup_cons_self]
    · rw [List.filter_cons_of_neg (by simpa using h0), lookup_cons_ne (Ne.symm h0)]; exact filter_key hn'.2

end AHP.Dict
