/-
  `Spec.build` (tree shape independent, stores by `intake`) shown through the API is `Spec.buildO` (no `intake`, no
  `stepD`): `obs_items`, `obs_single`, `obs_build`.
-/
import AHP.Lemmas.IntakeStableSpec
import AHP.Lemmas.ParserObjDoctype
import AHP.Lemmas.BuilderSpec
namespace AHP
open Spec

mutual
def Node.toO : Node → OTree
  | .text s => .text s
  | .elem n a sc kids => .elem n a.view sc (toOL kids)
def toOL : List Node → List OTree
  | [] => []
  | k :: ks => k.toO :: toOL ks
end

theorem view_eq_elemAttrs (a : List Attr) : (intake a AttrState.empty).view = Spec.elemAttrs a :=
  intake_view_eq_spec a

theorem itemsO_text {t : Token} (h1 : ∀ n, t = .end_ n → False) (h2 : ∀ n a, t = .start n a → False)
    (h3 : ∀ n a, t = .startend n a → False) (k : Nat) (open_ : List Str) (ts : List Token) :
    itemsO (k + 1) open_ (t :: ts) = match textOf t with
      | some x => (.text x :: (itemsO k open_ ts).1, (itemsO k open_ ts).2)
      | none => itemsO k open_ ts := by
  cases t with
  | end_ n => exact absurd rfl (h1 n)
  | start n a => exact absurd rfl (h2 n a)
  | startend n a => exact absurd rfl (h3 n a)
  | _ => rfl

theorem singleO_other {t : Token} (h2 : ∀ n a, t = .start n a → False) (h3 : ∀ n a, t = .startend n a → False)
    (k : Nat) (ts : List Token) : singleO (k + 1) (t :: ts) = if isOuter t then singleO k ts else none := by
  cases t with
  | start n a => exact absurd rfl (h2 n a)
  | startend n a => exact absurd rfl (h3 n a)
  | _ => rfl

theorem itemsO_eq (k : Nat) (open_ : List Str) (ts : List Token) :
    itemsO k open_ ts = (toOL (items k open_ ts).1, (items k open_ ts).2) := by
  fun_induction items k open_ ts
  case case1 => rfl
  case case2 => rfl
  case case3 h => simp only [itemsO, h, if_true]; rfl
  case case4 h ih => simp only [itemsO, h]; exact ih
  case case5 n a ts n' hv r ih =>
    simp only [itemsO, n', hv, if_true, r, ih, toOL, Node.toO, view_eq_elemAttrs]
  case case6 n a ts n' hv c sib ihc ihs =>
    simp only [n', c, sib] at ihc ihs hv ⊢
    simp only [itemsO, hv, Bool.false_eq_true, if_false, ihc, ihs, toOL, Node.toO, view_eq_elemAttrs]
  case case7 n a ts r ih => simp only [itemsO, r, ih, toOL, Node.toO, view_eq_elemAttrs]
  case case8 t ts h1 h2 h3 r x hx ih => rw [itemsO_text h1 h2 h3, hx, ih]; rfl
  case case9 t ts h1 h2 h3 r hx ih => rw [itemsO_text h1 h2 h3, hx, ih]

theorem obs_items (k : Nat) : ∀ (open_ : List Str) (ts : List Token),
    toOL (items k open_ ts).1 = (itemsO k open_ ts).1 ∧ (items k open_ ts).2 = (itemsO k open_ ts).2 :=
  fun open_ ts => by rw [itemsO_eq]; exact ⟨rfl, rfl⟩

theorem obs_single (k : Nat) : ∀ ts : List Token, (single k ts).map (·.map Node.toO) = singleO k ts := by
  induction k with
  | zero => intro ts; rfl
  | succ k ih =>
    intro ts
    cases ts with
    | nil => rfl
    | cons t ts =>
      by_cases hse : ∃ n a, t = .startend n a
      · obtain ⟨n, a, rfl⟩ := hse
        simp only [single, singleO]
        split <;> simp [Node.toO, toOL, view_eq_elemAttrs]
      by_cases hst : ∃ n a, t = .start n a
      · obtain ⟨n, a, rfl⟩ := hst
        simp only [single, singleO, itemsO_eq]
        split <;> split <;> simp [Node.toO, toOL, view_eq_elemAttrs]
      · rw [single_other (fun n a h => hst ⟨n, a, h⟩) (fun n a h => hse ⟨n, a, h⟩),
          singleO_other (fun n a h => hst ⟨n, a, h⟩) (fun n a h => hse ⟨n, a, h⟩)]
        split
        · exact ih ts
        · rfl

theorem doctypeOf_eq_read (toks : List Token) : Spec.doctypeOf toks = Spec.doctypeRead toks := by
  unfold Spec.doctypeOf; rw [← stepD_eq_spec]; exact doctype_fold_eq_read toks

theorem obs_build (toks : List Token) :
    (((Spec.build toks).1.doctype, (Spec.build toks).1.root.map Node.toO), (Spec.build toks).2) = Spec.buildO toks := by
  unfold Spec.build Spec.buildO
  rw [← obs_single]
  cases hs : single (toks.length + 1) toks with
  | some r => simp [doctypeOf_eq_read]
  | none =>
    have hi := obs_items (toks.length + 1) [] (topTokens toks)
    have hv : AttrState.empty.view = [] := by decide
    simp [doctypeOf_eq_read, Node.toO, hi.1, hv]

end AHP
