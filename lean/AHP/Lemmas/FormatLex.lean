/-
  AHP.Lemmas.FormatLex — bridge between the formatter model (`Model/Format.lean`, tokens `Fmt.Tok`, tree
  `Fmt.Node`, serialiser `outer`) and the character-level lexer of C01 (`Model/Lexer.lean`, tokens `Token`,
  rendering `renderTok` / `renderToks` of `Lemmas/LexRoundTrip.lean`), and the strict sub-language at tree level.

  * `Tok.ofToken` — the conversion between the two token types; the serialisers agree (`escapeQuotes_eq`,
    `renderAttr_eq`, `attrString_eq`, `startTagNormal_eq`).
  * The name tables: preserved content is pre/code or script/style (`isPreserve_eq`), the wrapper is in none of them.
  * `FNode` — a document tree in *lexical form* (every text block is one text-like token; the form of every tree a
    parse of strict text produces), `FNode.toNode` its image among the formatter model's trees, `FNode.toks`
    its token sequence.
  * `expand` — what the formatter's output *text* is made of, as a tree in lexical form again: every `_indent` the
    formatter gives an element becomes a data block before the start tag (and before the end tag where `getEndTag`
    writes it), data blocks are rewritten by the data rule, empty ones vanish.
    `outer_decorate_eq`: the serialisation of the decorated tree is the rendering of that tree's tokens, in the
    start-tag style of the formatter's element class (`styleOf`: normal ` >` / ` />`, slim `>` / `/>`).
    `expElem` names the element that `expand` writes; the element case of what `expand` preserves is a statement about it
    (`strict_expElem_of`, with the children's statement as hypothesis, so that it serves inside the induction and after it).
  * `mergeL` — adjacent data blocks glued (what re-tokenising does); same rendering (`render_mergeL`).
  * `FNode.Strict` — well-formed names, attribute items, text-like tokens other than the data singletons, raw-text
    content free of the closing expression, attribute stores that are re-read unchanged from their own rendering.  It
    is preserved by `expand` (`strict_expand`: the `_indent`s are white space, the data rule only moves white space)
    and by `mergeL` (`strict_mergeL`), and together with `Glued` (no two data blocks adjacent — what `mergeL`
    establishes, `glued_mergeL`) it gives `ListOK` of the token sequence (`fforest_listOK`), hence
    `lexStrict (render …) = some …` by `lexStrict_renderToksY`.
-/
import AHP.Lemmas.Format
import AHP.Lemmas.LexRoundTrip
import AHP.Lemmas.AttrStoresRender
namespace AHP.Fmt
open AHP

def Tok.ofToken : Token → Tok
  | .decl s => .decl s
  | .unknownDecl s => .unknownDecl s
  | .comment s => .comment s
  | .pi s => .pi s
  | .start n a => .start n a
  | .startend n a => .startend n a
  | .end_ n => .end_ n
  | .data s => .data s
  | .entity s => .entity s
  | .charref s => .charref s

def Tok.toToken : Tok → Token
  | .decl s => .decl s
  | .unknownDecl s => .unknownDecl s
  | .comment s => .comment s
  | .pi s => .pi s
  | .start n a => .start n a
  | .startend n a => .startend n a
  | .end_ n => .end_ n
  | .data s => .data s
  | .entity s => .entity s
  | .charref s => .charref s

theorem Tok.toToken_ofToken (t : Token) : (Tok.ofToken t).toToken = t := by cases t <;> rfl
theorem Tok.ofToken_toToken (t : Tok) : Tok.ofToken t.toToken = t := by cases t <;> rfl

theorem ofToken_decl (t : Token) (d : Str) (h : Tok.ofToken t = .decl d) : t = .decl d := by
  cases t <;> simp [Tok.ofToken] at h
  rw [h]

/-- table obligation: both models render the same attributes bare -/
theorem binaryAttrs_eq : Fmt.binaryAttrs = AHP.binaryAttrs := rfl

theorem escapeQuotes_eq (v : Str) : escapeQuotes v = escQ v := AttrStores.escQ_fmt v

theorem renderAttr_eq (p : Str × Option Str) : Fmt.renderAttr p = AHP.renderAttr p := AttrStores.renderAttr_fmt p

theorem attrString_eq (a : AStore) : attrString a = renderAttrs a.items := AttrStores.attrString_eq a

theorem startTagNormal_eq (n : Str) (st : AStore) (sc : Bool) (ind : Str) :
    startTagNormal n st sc ind
      = ind ++ renderTok (if sc then .startend n st.items else .start n st.items) := by
  unfold startTagNormal
  rw [attrString_eq]
  cases sc <;> simp [renderTok, str]

/-- how the element class of a formatter ends its start tags -/
def styleOf : Kind → TagStyle
  | .normal => TagStyle.normal
  | .slim ssc => TagStyle.slim ssc

theorem styleOf_ok (k : Kind) : (styleOf k).OK := by
  cases k with
  | normal => exact TagStyle.normal_ok
  | slim ssc => exact TagStyle.slim_ok ssc

/-- the start tag of either element class is the `_indent` followed by the rendering of the start token in the
    class's style (`AdvancedTagSlim.getStartTag`'s string surgery included) -/
theorem startTag_eq (k : Kind) (n : Str) (st : AStore) (sc : Bool) (ind : Str) :
    startTag k n st sc ind
      = ind ++ renderTokY (styleOf k) (if sc then .startend n st.items else .start n st.items) := by
  cases k with
  | normal =>
    rw [show startTag .normal n st sc ind = startTagNormal n st sc ind from rfl, startTagNormal_eq]
    simp only [styleOf, renderTokY_normal]
  | slim ssc =>
    rw [startTag_slim, attrString_eq]
    cases sc <;> cases ssc <;> simp [styleOf, TagStyle.slim, renderTokY, str]

theorem preTags_eq : preTags = [str "code", str "pre"] := rfl
theorem preserveTags_eq : preserveTags = [str "code", str "pre", str "script", str "style"] := rfl

theorem isPreserve_eq (n : Str) : isPreserve n = (isPre n || isRawText n) := by
  simp only [isPreserve, isPre, preserveTags_eq, preTags_eq, isRawText, List.contains_cons, List.contains_nil,
    Bool.or_false, str, Bool.or_assoc, Bool.beq_eq_decide_eq]

theorem raw_not_pre (n : Str) (h : isRawText n = true) : isPre n = false := by
  rcases rawName_cases n h with rfl | rfl <;> decide +kernel

theorem preserve_cases (n : Str) (h : isPreserve n = true) : isPre n = true ∨ isRawText n = true := by
  simpa [isPreserve_eq] using h

theorem pre_preserve (n : Str) (h : isPre n = true) : isPreserve n = true := by simp [isPreserve_eq, h]

theorem rawName_preserve (n : Str) (h : isRawText n = true) : isPreserve n = true := by simp [isPreserve_eq, h]

theorem not_preserve (m : Str) (h : isPreserve m = false) : isPre m = false ∧ isRawText m = false := by
  simpa [isPreserve_eq] using h

theorem preserve_false_of (m : Str) (hpre : isPre m = false) (hr : isRawText m = false) : isPreserve m = false := by
  simp [isPreserve_eq, hpre, hr]

theorem wrapper_not_raw : isRawText wrapper = false := by decide +kernel

theorem wrapper_facts : lower wrapper = wrapper ∧ Fmt.isVoid wrapper = false ∧ isRawText wrapper = false :=
  ⟨wrapper_lower, wrapper_not_void, wrapper_not_raw⟩

theorem preserve_wrapper : isPreserve wrapper = false := preserve_false_of _ isPre_wrapper wrapper_not_raw

theorem preserve_nil : isPreserve [] = false := by decide +kernel

/-- a document tree whose text blocks are lexer tokens (data run, reference, comment) and whose elements carry the
    attribute store and self-closing flag of the formatter model's `Node` -/
inductive FNode where
  | tok (t : Token)
  | elem (name : Str) (st : AStore) (sc : Bool) (kids : List FNode)
  deriving Repr, Inhabited

/-- blocks written by `handle_entityref/charref/comment` (the ghost flag of `Fmt.Node.text`) -/
def isVerb : Token → Bool
  | .entity _ => true
  | .charref _ => true
  | .comment _ => true
  | _ => false

def isTextLike : Token → Bool
  | .data _ => true
  | .entity _ => true
  | .charref _ => true
  | .comment _ => true
  | _ => false

mutual
/-- the tree of the formatter model's plain parser (element class normal, no `_indent`) -/
def FNode.toNode : FNode → Node
  | .tok t => .text (isVerb t) (renderTok t)
  | .elem n st sc kids => .elem .normal n st sc [] (toNodeL kids)
def toNodeL : List FNode → List Node
  | [] => []
  | k :: ks => k.toNode :: toNodeL ks
end

mutual
def FNode.toks : FNode → List Token
  | .tok t => [t]
  | .elem n st sc kids =>
      if sc then [.startend n st.items] else .start n st.items :: (ftoksL kids ++ [.end_ n])
def ftoksL : List FNode → List Token
  | [] => []
  | k :: ks => k.toks ++ ftoksL ks
end

theorem toNodeL_append (xs ys : List FNode) : toNodeL (xs ++ ys) = toNodeL xs ++ toNodeL ys := by
  induction xs with
  | nil => rfl
  | cons x xs ih => simp [toNodeL, ih]

theorem ftoksL_append (xs ys : List FNode) : ftoksL (xs ++ ys) = ftoksL xs ++ ftoksL ys := by
  induction xs with
  | nil => rfl
  | cons x xs ih => simp [ftoksL, ih]

theorem innerL_append (xs ys : List Node) : innerL (xs ++ ys) = innerL xs ++ innerL ys := by
  induction xs with
  | nil => rfl
  | cons x xs ih => simp [innerL, ih]

def dataTok (s : Str) : List FNode := if s.isEmpty then [] else [.tok (.data s)]

/-- what `getEndTag` writes before `</name>` -/
def endInd (name indent : Str) (kids : List Node) : Str :=
  if !indent.isEmpty && isPre name then []
  else if !indent.isEmpty && isPreserve name && lastTextEndsWith indent kids then []
  else indent

theorem endTag_eq (name indent : Str) (kids : List Node) :
    endTag name false indent kids = endInd name indent kids ++ renderTok (.end_ name) := by
  unfold endTag endInd
  simp only [Bool.false_eq_true, if_false]
  by_cases h1 : (!indent.isEmpty && isPre name) = true
  · simp [h1, renderTok, str]
  · by_cases h2 : (!indent.isEmpty && isPreserve name && lastTextEndsWith indent kids) = true
    · simp only [h1, h2, if_true]; simp [renderTok, str]
    · simp only [h1, h2]; simp [renderTok, str]

/-- the data rule on one block (`decorate` on a `handle_data` block) -/
def dataRule (c : Ctx) (parent : Str) (s : Str) : Str :=
  if c.inPre = 0 && !isPreserve parent then squeeze s else s

theorem decorate_data (cfg : Cfg) (c : Ctx) (p s : Str) :
    decorate cfg c p (.text false s) = .text false (dataRule c p s) := rfl

theorem dataRule_idem (c : Ctx) (p s : Str) : dataRule c p (dataRule c p s) = dataRule c p s := by
  unfold dataRule
  split
  · exact squeeze_idem s
  · rfl

theorem dataRule_nil (c : Ctx) (p : Str) : dataRule c p [] = [] := by
  unfold dataRule
  split
  · exact squeeze_nil
  · rfl

theorem dataRule_sq (c : Ctx) (p s : Str) (hc : c.inPre = 0) (hp : isPreserve p = false) :
    dataRule c p s = squeeze s := by
  simp [dataRule, hc, hp]

theorem dataRule_id_pre (c : Ctx) (p s : Str) (hc : c.inPre ≠ 0) : dataRule c p s = s := by
  simp [dataRule, hc]

theorem dataRule_id_preserve (c : Ctx) (p s : Str) (hp : isPreserve p = true) : dataRule c p s = s := by
  simp [dataRule, hp]

theorem eraseWS_dataRule (c : Ctx) (p s : Str) : eraseWS (dataRule c p s) = eraseWS s := by
  unfold dataRule
  split
  · exact eraseWS_squeeze s
  · rfl

def expandTok (c : Ctx) (parent : Str) : Token → List FNode
  | .data s => dataTok (dataRule c parent s)
  | t => [.tok t]

theorem expandTok_nondata (c : Ctx) (p : Str) {t : Token} (h : isData t = false) : expandTok c p t = [.tok t] := by
  cases t <;> first | rfl | simp [isData] at h

mutual
/-- the blocks the formatter's output text has in place of one block of the document -/
def expand (cfg : Cfg) (c : Ctx) (parent : Str) : FNode → List FNode
  | .tok t => expandTok c parent t
  | .elem n st sc kids =>
      dataTok (indentAt cfg c) ++
        [.elem n st sc (if sc then [] else
          expandL cfg (c.push n) n kids
            ++ dataTok (endInd n (indentAt cfg c) (decorateL cfg (c.push n) n (toNodeL kids))))]
def expandL (cfg : Cfg) (c : Ctx) (parent : Str) : List FNode → List FNode
  | [] => []
  | k :: ks => expand cfg c parent k ++ expandL cfg c parent ks
end

/-- the element `expand` writes in place of `.elem n st sc kids`, behind the block of its `_indent` -/
def expElem (cfg : Cfg) (c : Ctx) (n : Str) (st : AStore) (sc : Bool) (kids : List FNode) : FNode :=
  .elem n st sc (if sc then [] else
    expandL cfg (c.push n) n kids ++ dataTok (endInd n (indentAt cfg c) (decorateL cfg (c.push n) n (toNodeL kids))))

theorem expand_elem (cfg : Cfg) (c : Ctx) (p n : Str) (st : AStore) (sc : Bool) (kids : List FNode) :
    expand cfg c p (.elem n st sc kids) = dataTok (indentAt cfg c) ++ [expElem cfg c n st sc kids] := by
  simp only [expand, expElem]

theorem expandL_append (cfg : Cfg) (c : Ctx) (p : Str) (xs ys : List FNode) :
    expandL cfg c p (xs ++ ys) = expandL cfg c p xs ++ expandL cfg c p ys := by
  induction xs with
  | nil => rfl
  | cons x xs ih => simp [expandL, ih]

theorem render_dataTok (y : TagStyle) (s : Str) : renderToksY y (ftoksL (dataTok s)) = s := by
  unfold dataTok
  by_cases h : s.isEmpty = true
  · have : s = [] := by simpa using h
    subst this; rfl
  · simp [h, ftoksL, FNode.toks, renderToksY, renderTokY, renderTok]

theorem decorate_tok (cfg : Cfg) (c : Ctx) (p : Str) (t : Token) (h : isTextLike t = true) :
    outer (decorate cfg c p (FNode.tok t).toNode) = renderToksY (styleOf cfg.kind) (ftoksL (expandTok c p t)) := by
  cases t with
  | data s =>
    show outer (decorate cfg c p (.text false s)) = _
    rw [decorate_data]
    exact (render_dataTok ..).symm
  | entity e | charref e | comment e =>
    simp [FNode.toNode, isVerb, decorate, outer, expandTok, ftoksL, FNode.toks, renderToksY, renderTokY]
  | _ => simp [isTextLike] at h

mutual
def FNode.TextLike : FNode → Prop
  | .tok t => isTextLike t = true
  | .elem _ _ _ kids => TextLikeL kids
def TextLikeL : List FNode → Prop
  | [] => True
  | k :: ks => k.TextLike ∧ TextLikeL ks
end

mutual
/-- **the serialisers agree on decorated trees**: what the formatter's element class writes for the decorated tree
    is the rendering, in that class's start-tag style, of the tokens of `expand` -/
theorem outer_decorate_eq (cfg : Cfg) (c : Ctx) (p : Str) :
    ∀ u : FNode, u.TextLike →
      outer (decorate cfg c p u.toNode) = renderToksY (styleOf cfg.kind) (ftoksL (expand cfg c p u))
  | .tok t, h => by
    exact decorate_tok cfg c p t h
  | .elem n st sc kids, h => by
    simp only [FNode.toNode, decorate, outer, expand]
    rw [startTag_eq, ftoksL_append, renderToksY_append, render_dataTok]
    cases sc with
    | true =>
      simp [ftoksL, FNode.toks, renderToksY, endTag]
    | false =>
      have ih := innerL_decorate_eq cfg (c.push n) n kids h
      have hend : renderTokY (styleOf cfg.kind) (.end_ n) = renderTok (.end_ n) := rfl
      simp only [Bool.false_eq_true, if_false, ftoksL, FNode.toks, List.append_nil, renderToksY,
        renderToksY_append, ftoksL_append, render_dataTok, endTag_eq, ih, List.append_assoc, hend]
theorem innerL_decorate_eq (cfg : Cfg) (c : Ctx) (p : Str) :
    ∀ ks : List FNode, TextLikeL ks →
      innerL (decorateL cfg c p (toNodeL ks)) = renderToksY (styleOf cfg.kind) (ftoksL (expandL cfg c p ks))
  | [], _ => by simp [toNodeL, decorateL, innerL, expandL, ftoksL, renderToksY]
  | k :: ks, h => by
    simp only [toNodeL, decorateL, innerL, expandL, ftoksL_append, renderToksY_append]
    rw [outer_decorate_eq cfg c p k h.1, innerL_decorate_eq cfg c p ks h.2]
end

def pushTok (t : Token) (r : List FNode) : List FNode :=
  match t, r with
  | .data a, .tok (.data b) :: r' => .tok (.data (a ++ b)) :: r'
  | t, r => .tok t :: r

/-- the block is a data run (`handle_data`), the only kind of block re-tokenising glues to its neighbour -/
def fisDataTok : FNode → Bool
  | .tok (.data _) => true
  | _ => false

def headIsData : List FNode → Bool
  | k :: _ => fisDataTok k
  | [] => false

theorem pushTok_noMerge (t : Token) (r : List FNode) (h : ¬ (fisDataTok (.tok t) = true ∧ headIsData r = true)) :
    pushTok t r = .tok t :: r := by
  unfold pushTok
  split
  · exact absurd ⟨rfl, rfl⟩ h
  · rfl

theorem pushTok_notData (t : Token) (h : isData t = false) (r : List FNode) : pushTok t r = .tok t :: r := by
  unfold pushTok
  split
  · simp [isData] at h
  · rfl

theorem pushTok_elem (t : Token) (n : Str) (st : AStore) (sc : Bool) (kids r : List FNode) :
    pushTok t (.elem n st sc kids :: r) = .tok t :: .elem n st sc kids :: r := by
  unfold pushTok
  split
  · rename_i heq; simp at heq
  · rfl

theorem pushTok_data_nil (a : Str) : pushTok (.data a) [] = [.tok (.data a)] := by
  unfold pushTok
  split
  · rename_i heq; simp at heq
  · rfl

theorem pushTok_data_data (a b : Str) (r : List FNode) :
    pushTok (.data a) (.tok (.data b) :: r) = .tok (.data (a ++ b)) :: r := by
  simp [pushTok]

theorem pushTok_data_tok (a : Str) (t : Token) (h : isData t = false) (r : List FNode) :
    pushTok (.data a) (.tok t :: r) = .tok (.data a) :: .tok t :: r := by
  unfold pushTok
  split
  · rename_i heq
    simp only [List.cons.injEq, FNode.tok.injEq] at heq
    rw [heq.1] at h
    simp [isData] at h
  · rfl

mutual
def merge : FNode → FNode
  | .tok t => .tok t
  | .elem n st sc kids => .elem n st sc (mergeL kids)
def mergeL : List FNode → List FNode
  | [] => []
  | .tok t :: ks => pushTok t (mergeL ks)
  | .elem n st sc kids :: ks => .elem n st sc (mergeL kids) :: mergeL ks
end

theorem tok_not_tag (y : TagStyle) (t : Token) (h : isTextLike t = true) : renderTokY y t = renderTok t := by
  cases t <;> first | rfl | simp [isTextLike] at h

theorem render_pushTok (y : TagStyle) (t : Token) (r : List FNode) :
    renderToksY y (ftoksL (pushTok t r)) = renderTokY y t ++ renderToksY y (ftoksL r) := by
  unfold pushTok
  split
  · simp [ftoksL, FNode.toks, renderToksY, renderTokY, renderTok]
  · simp [ftoksL, FNode.toks, renderToksY]

mutual
theorem render_merge (y : TagStyle) : ∀ u : FNode, renderToksY y (merge u).toks = renderToksY y u.toks
  | .tok t => by simp [merge]
  | .elem n st sc kids => by
    simp only [merge, FNode.toks]
    cases sc with
    | true => rfl
    | false =>
      simp only [Bool.false_eq_true, if_false, renderToksY, renderToksY_append]
      rw [render_mergeL y kids]
theorem render_mergeL (y : TagStyle) : ∀ ks : List FNode,
    renderToksY y (ftoksL (mergeL ks)) = renderToksY y (ftoksL ks)
  | [] => by simp [mergeL]
  | .tok t :: ks => by
    simp only [mergeL, render_pushTok, ftoksL, FNode.toks, renderToksY_append, renderToksY, List.append_nil]
    rw [render_mergeL y ks]
  | .elem n st sc kids :: ks => by
    have h1 := render_merge y (.elem n st sc kids)
    simp only [merge] at h1
    simp only [mergeL, ftoksL, renderToksY_append]
    rw [h1, render_mergeL y ks]
end

/-- line feed, spaces, tabs: what an `_indent` of the pretty classes consists of -/
def WsStr (s : Str) : Prop := ∀ c ∈ s, c = '\n' ∨ c = ' ' ∨ c = '\t'

theorem wsStr_isWs (s : Str) (h : WsStr s) : ∀ c ∈ s, isWs c = true := by
  intro c hc
  rcases h c hc with e | e | e <;> (subst e; decide)

theorem wsStr_pyWs (s : Str) (h : WsStr s) : ∀ c ∈ s, pyWs c = true := wsStr_isWs s h

theorem wsStr_plain (s : Str) (h : WsStr s) (hne : s ≠ []) : PlainData s := by
  refine ⟨hne, ?_⟩
  intro c hc
  rcases h c hc with e | e | e <;> (subst e; decide)

theorem wsStr_append (a b : Str) (ha : WsStr a) (hb : WsStr b) : WsStr (a ++ b) := by
  intro c hc
  rcases List.mem_append.mp hc with h | h
  · exact ha c h
  · exact hb c h

/-- the indent unit is made of spaces and tabs (every shipped configuration; `mkCfg` with a string of anything
    else is outside the property) -/
def IndentWS (cfg : Cfg) : Prop := ∀ c ∈ cfg.indent, c = ' ' ∨ c = '\t'

instance (cfg : Cfg) : Decidable (IndentWS cfg) := inferInstanceAs (Decidable (∀ c ∈ cfg.indent, c = ' ' ∨ c = '\t'))

theorem rep_ws (n : Nat) (s : Str) (h : ∀ c ∈ s, c = ' ' ∨ c = '\t') : WsStr (rep n s) :=
  fun c hc => Or.inr (h c (mem_rep hc))

theorem getIndent_ws (cfg : Cfg) (h : IndentWS cfg) (level : Int) : WsStr (getIndent cfg level) := by
  unfold getIndent
  split
  · intro c hc; simp at hc
  · intro c hc
    rcases List.mem_cons.mp hc with e | e
    · exact Or.inl e
    · exact rep_ws _ _ h c e

theorem indentAt_ws (cfg : Cfg) (h : IndentWS cfg) (c : Ctx) : WsStr (indentAt cfg c) := by
  unfold indentAt
  split
  · exact getIndent_ws cfg h _
  · intro c hc; simp at hc

theorem endInd_ws (n ind : Str) (kids : List Node) (h : WsStr ind) : WsStr (endInd n ind kids) := by
  unfold endInd
  split
  · intro c hc; simp at hc
  · split
    · intro c hc; simp at hc
    · exact h

theorem endInd_nil (n : Str) (kids : List Node) : endInd n [] kids = [] := by
  simp [endInd]

theorem endInd_pre (cfg : Cfg) (c : Ctx) (m : Str) (kids : List Node) (h : c.inPre ≠ 0 ∨ isPre m = true) :
    endInd m (indentAt cfg c) kids = [] := by
  by_cases hc : c.inPre = 0
  · rcases h with h | h
    · exact absurd hc h
    · unfold endInd
      by_cases he : (indentAt cfg c).isEmpty = true
      · have : indentAt cfg c = [] := by simpa using he
        simp [this]
      · simp [he, h]
  · have : indentAt cfg c = [] := by simp [indentAt, hc]
    rw [this]
    exact endInd_nil m kids

theorem endInd_normal (m ind : Str) (kids : List Node) (hp : isPreserve m = false) : endInd m ind kids = ind := by
  simp [endInd, hp, (not_preserve m hp).1]

theorem dataRule_plain (c : Ctx) (p : Str) (s : Str) (h : PlainData s) (hne : dataRule c p s ≠ []) :
    PlainData (dataRule c p s) := by
  refine ⟨hne, ?_⟩
  intro x hx
  unfold dataRule at hx
  split at hx
  · rcases squeeze_mem s x hx with e | e
    · subst e; decide
    · exact h.2 x e
  · exact h.2 x hx

/-- the concatenated text of a block list made of non-empty data blocks only -/
def rawText : List FNode → Option Str
  | [] => some []
  | .tok (.data s) :: ks => if s.isEmpty then none else (rawText ks).map (s ++ ·)
  | _ => none

mutual
def FNode.Strict : FNode → Prop
  | .tok t => TokOK t ∧ NotSingleton t ∧ isTextLike t = true
  | .elem n st sc kids =>
      TagNameOK n ∧ (Fmt.isVoid n = true → sc = true) ∧ (sc = true → kids = []) ∧ (∀ x ∈ st.items, AttrOK x) ∧
      mkStore st.items {} = st ∧
      (if isRawText n = true then ∃ raw, rawText kids = some raw ∧ RawOK n raw else StrictL kids)
def StrictL : List FNode → Prop
  | [] => True
  | k :: ks => k.Strict ∧ StrictL ks
end

theorem FNode.Strict.kids {n : Str} {st : AStore} {sc : Bool} {kids : List FNode} (h : (FNode.elem n st sc kids).Strict)
    (hr : isRawText n = false) : StrictL kids := by
  simp only [FNode.Strict, hr, Bool.false_eq_true, if_false] at h
  exact h.2.2.2.2.2

theorem FNode.Strict.rawKids {n : Str} {st : AStore} {sc : Bool} {kids : List FNode} (h : (FNode.elem n st sc kids).Strict)
    (hr : isRawText n = true) : ∃ raw, rawText kids = some raw ∧ RawOK n raw := by
  simp only [FNode.Strict, hr, if_true] at h
  exact h.2.2.2.2.2

theorem FNode.Strict.tagName {n : Str} {st : AStore} {sc : Bool} {kids : List FNode}
    (h : (FNode.elem n st sc kids).Strict) : TagNameOK n := h.1

theorem FNode.Strict.lower_name {n : Str} {st : AStore} {sc : Bool} {kids : List FNode}
    (h : (FNode.elem n st sc kids).Strict) : lower n = n := h.tagName.2.2

theorem FNode.Strict.void_sc {n : Str} {st : AStore} {sc : Bool} {kids : List FNode}
    (h : (FNode.elem n st sc kids).Strict) : Fmt.isVoid n = true → sc = true := h.2.1

theorem FNode.Strict.sc_nil {n : Str} {st : AStore} {sc : Bool} {kids : List FNode}
    (h : (FNode.elem n st sc kids).Strict) : sc = true → kids = [] := h.2.2.1

theorem FNode.Strict.attrs {n : Str} {st : AStore} {sc : Bool} {kids : List FNode}
    (h : (FNode.elem n st sc kids).Strict) : ∀ x ∈ st.items, AttrOK x := h.2.2.2.1

theorem FNode.Strict.store {n : Str} {st : AStore} {sc : Bool} {kids : List FNode}
    (h : (FNode.elem n st sc kids).Strict) : mkStore st.items {} = st := h.2.2.2.2.1

theorem FNode.Strict.elem_cases {n : Str} {st : AStore} {sc : Bool} {kids : List FNode}
    (h : (FNode.elem n st sc kids).Strict) :
    (sc = true ∧ kids = [])
    ∨ (sc = false ∧ isRawText n = true ∧ isPre n = false ∧ ∃ raw, rawText kids = some raw ∧ RawOK n raw)
    ∨ (sc = false ∧ isRawText n = false ∧ isPre n = true ∧ StrictL kids)
    ∨ (sc = false ∧ isRawText n = false ∧ isPre n = false ∧ isPreserve n = false ∧ StrictL kids) := by
  cases sc with
  | true => exact .inl ⟨rfl, h.sc_nil rfl⟩
  | false =>
    cases hr : isRawText n with
    | true => exact .inr (.inl ⟨rfl, rfl, raw_not_pre n hr, h.rawKids hr⟩)
    | false =>
      cases hp : isPre n with
      | true => exact .inr (.inr (.inl ⟨rfl, rfl, rfl, h.kids hr⟩))
      | false => exact .inr (.inr (.inr ⟨rfl, rfl, rfl, preserve_false_of n hp hr, h.kids hr⟩))

theorem strictL_append (xs ys : List FNode) : StrictL (xs ++ ys) ↔ StrictL xs ∧ StrictL ys := by
  induction xs with
  | nil => simp [StrictL]
  | cons x xs ih => simp [StrictL, ih, and_assoc]

theorem strict_dataTok (s : Str) (h : s ≠ [] → PlainData s) : StrictL (dataTok s) := by
  unfold dataTok
  by_cases he : s.isEmpty = true
  · simp [he, StrictL]
  · have hne : s ≠ [] := by simpa using he
    have := plainData_tok s (h hne)
    simp [he, StrictL, FNode.Strict, this.1, this.2, isTextLike]

theorem rawText_cons (k : FNode) (ks : List FNode) (raw : Str) (h : rawText (k :: ks) = some raw) :
    ∃ s r', k = .tok (.data s) ∧ s ≠ [] ∧ rawText ks = some r' ∧ raw = s ++ r' := by
  cases k with
  | elem n st sc kids => simp [rawText] at h
  | tok t =>
    cases t with
    | data s =>
      simp only [rawText] at h
      by_cases he : s.isEmpty = true
      · simp [he] at h
      · simp only [he, Bool.false_eq_true, if_false, Option.map_eq_some_iff] at h
        obtain ⟨r', hr', e⟩ := h
        exact ⟨s, r', rfl, by simpa using he, hr', e.symm⟩
    | _ => simp [rawText] at h

theorem rawText_textLike : ∀ (ks : List FNode) (raw : Str), rawText ks = some raw → TextLikeL ks
  | [], _, _ => trivial
  | k :: ks, raw, h => by
    obtain ⟨s, r', rfl, _, hr', _⟩ := rawText_cons k ks raw h
    exact ⟨rfl, rawText_textLike ks r' hr'⟩

mutual
theorem strict_textLike : ∀ u : FNode, u.Strict → u.TextLike
  | .tok t, h => by simp only [FNode.Strict] at h; exact h.2.2
  | .elem n st sc kids, h => by
    obtain ⟨_, _, _, _, _, hk⟩ := h
    by_cases hr : isRawText n = true
    · simp only [hr, if_true] at hk
      obtain ⟨raw, hraw, _⟩ := hk
      exact rawText_textLike kids raw hraw
    · simp only [hr] at hk
      exact strictL_textLike kids hk
theorem strictL_textLike : ∀ ks : List FNode, StrictL ks → TextLikeL ks
  | [], _ => trivial
  | k :: ks, h => by
    exact ⟨strict_textLike k h.1, strictL_textLike ks h.2⟩
end

theorem dataTok_ne (s : Str) (h : s ≠ []) : dataTok s = [.tok (.data s)] := by
  simp [dataTok, List.isEmpty_eq_false_iff.mpr h]

theorem expandL_raw (cfg : Cfg) (c : Ctx) (n : Str) (hp : isPreserve n = true) :
    ∀ (ks : List FNode) (raw : Str), rawText ks = some raw → expandL cfg c n ks = ks
  | [], _, _ => rfl
  | k :: ks, raw, h => by
    obtain ⟨s, r', rfl, hs, hr', _⟩ := rawText_cons k ks raw h
    simp only [expandL, expand, expandTok, dataRule, hp, Bool.not_true, Bool.and_false, Bool.false_eq_true,
      if_false]
    rw [dataTok_ne s hs, expandL_raw cfg c n hp ks r' hr']
    rfl

theorem rawText_append_dataTok : ∀ (ks : List FNode) (raw e : Str), rawText ks = some raw →
    rawText (ks ++ dataTok e) = some (raw ++ e)
  | [], raw, e, h => by
    simp only [rawText, Option.some.injEq] at h
    subst h
    unfold dataTok
    by_cases he : e.isEmpty = true
    · have : e = [] := by simpa using he
      subst this; simp [rawText]
    · simp [he, rawText]
  | k :: ks, raw, e, h => by
    obtain ⟨s, r', rfl, hs, hr', rfl⟩ := rawText_cons k ks raw h
    have hse : s.isEmpty = false := List.isEmpty_eq_false_iff.mpr hs
    simp only [List.cons_append, rawText, hse, Bool.false_eq_true, if_false]
    rw [rawText_append_dataTok ks r' e hr']
    simp

theorem strict_ws (s : Str) (h : WsStr s) : StrictL (dataTok s) :=
  strict_dataTok _ (fun hne => wsStr_plain _ h hne)

theorem strict_expElem_of (cfg : Cfg) (hi : IndentWS cfg) (c : Ctx) (n : Str) (st : AStore) (sc : Bool) (kids : List FNode)
    (hs : (FNode.elem n st sc kids).Strict) (hk : isRawText n = false → StrictL (expandL cfg (c.push n) n kids)) :
    (expElem cfg c n st sc kids).Strict := by
  have he := endInd_ws n (indentAt cfg c) (decorateL cfg (c.push n) n (toNodeL kids)) (indentAt_ws cfg hi c)
  obtain ⟨hn, hv, hsc, hattrs, hstable, _⟩ := id hs
  refine ⟨hn, hv, fun h => by simp [h], hattrs, hstable, ?_⟩
  cases sc with
  | true => split <;> first | exact ⟨[], rfl, trivial⟩ | trivial
  | false =>
    simp only [Bool.false_eq_true, if_false]
    by_cases hr : isRawText n = true
    · -- script/style: the data rule leaves the content alone, the end indent is white space behind it
      obtain ⟨raw, hraw, hok⟩ := hs.rawKids hr
      rw [if_pos hr, expandL_raw cfg (c.push n) n (rawName_preserve n hr) kids raw hraw]
      exact ⟨_, rawText_append_dataTok kids raw _ hraw,
        rawOK_append_ws n raw _ (rawName_facts n hr).2.1 (rawName_noWs n hr) (wsStr_isWs _ he) hok⟩
    · rw [if_neg hr, strictL_append]
      exact ⟨hk (by simpa using hr), strict_ws _ he⟩

mutual
theorem strict_expand (cfg : Cfg) (hi : IndentWS cfg) (c : Ctx) (p : Str) :
    ∀ u : FNode, u.Strict → StrictL (expand cfg c p u)
  | .tok t, h => by
    rcases data_cases t with ⟨s, rfl⟩ | hd
    · exact strict_dataTok _ (fun hne => dataRule_plain c p s (plainData_of_tok s h.1 h.2.1) hne)
    · rw [expand, expandTok_nondata c p hd]; exact ⟨h, trivial⟩
  | .elem n st sc kids, h => by
    rw [expand_elem, strictL_append]
    exact ⟨strict_ws _ (indentAt_ws cfg hi c),
      strict_expElem_of cfg hi c n st sc kids h (fun hr => strict_expandL cfg hi (c.push n) n kids (h.kids hr)), trivial⟩
theorem strict_expandL (cfg : Cfg) (hi : IndentWS cfg) (c : Ctx) (p : Str) :
    ∀ ks : List FNode, StrictL ks → StrictL (expandL cfg c p ks)
  | [], _ => by simp [expandL, StrictL]
  | k :: ks, h => by
    simp only [expandL]
    rw [strictL_append]
    exact ⟨strict_expand cfg hi c p k h.1, strict_expandL cfg hi c p ks h.2⟩
end

theorem strict_expElem (cfg : Cfg) (hi : IndentWS cfg) (c : Ctx) (n : Str) (st : AStore) (sc : Bool) (kids : List FNode)
    (hs : (FNode.elem n st sc kids).Strict) : (expElem cfg c n st sc kids).Strict :=
  strict_expElem_of cfg hi c n st sc kids hs (fun hr => strict_expandL cfg hi (c.push n) n kids (hs.kids hr))

/-- no two data blocks are neighbours in the list -/
def FNoAdjL : List FNode → Prop
  | k₁ :: k₂ :: ks => ¬ (fisDataTok k₁ = true ∧ fisDataTok k₂ = true) ∧ FNoAdjL (k₂ :: ks)
  | _ => True

mutual
/-- at every level below, no two data blocks are neighbours: the form a parse of text gives, and what `mergeL` restores -/
def FNode.Glued : FNode → Prop
  | .tok _ => True
  | .elem _ _ _ kids => GluedL kids ∧ FNoAdjL kids
def GluedL : List FNode → Prop
  | [] => True
  | k :: ks => k.Glued ∧ GluedL ks
end

theorem strict_pushTok (t : Token) (r : List FNode) (ht : (FNode.tok t).Strict) (hr : StrictL r) :
    StrictL (pushTok t r) := by
  unfold pushTok
  split
  · rename_i a b r'
    simp only [StrictL, FNode.Strict] at ht hr ⊢
    have := plainData_tok _ (plainData_append a b (plainData_of_tok a ht.1 ht.2.1)
      (plainData_of_tok b hr.1.1 hr.1.2.1))
    exact ⟨⟨this.1, this.2, rfl⟩, hr.2⟩
  · exact ⟨ht, hr⟩

theorem rawText_pushTok (s : Str) (hs : s ≠ []) (r : List FNode) (raw : Str) (h : rawText r = some raw) :
    rawText (pushTok (.data s) r) = some (s ++ raw) := by
  have hse : s.isEmpty = false := List.isEmpty_eq_false_iff.mpr hs
  cases r with
  | nil =>
    simp only [rawText, Option.some.injEq] at h
    subst h
    simp [pushTok, rawText, hse]
  | cons k ks =>
    obtain ⟨b, r', rfl, hb, hr', rfl⟩ := rawText_cons k ks raw h
    have hab : (s ++ b).isEmpty = false := by cases s <;> simp_all
    simp [pushTok, rawText, hab, hr']

theorem rawText_mergeL : ∀ (ks : List FNode) (raw : Str), rawText ks = some raw → rawText (mergeL ks) = some raw
  | [], _, h => by simpa [mergeL] using h
  | k :: ks, raw, h => by
    obtain ⟨s, r', rfl, hs, hr', rfl⟩ := rawText_cons k ks raw h
    simp only [mergeL]
    exact rawText_pushTok s hs _ r' (rawText_mergeL ks r' hr')

mutual
theorem strict_merge : ∀ u : FNode, u.Strict → (merge u).Strict
  | .tok t, h => by simpa [merge] using h
  | .elem n st sc kids, h => by
    obtain ⟨hn, hv, hsc, hattrs, hstable, hk⟩ := h
    refine ⟨hn, hv, ?_, hattrs, hstable, ?_⟩
    · intro hs; rw [hsc hs]; simp [mergeL]
    · by_cases hr : isRawText n = true
      · simp only [hr, if_true] at hk ⊢
        obtain ⟨raw, hraw, hok⟩ := hk
        exact ⟨raw, rawText_mergeL kids raw hraw, hok⟩
      · simp only [hr] at hk ⊢
        exact strict_mergeL kids hk
theorem strict_mergeL : ∀ ks : List FNode, StrictL ks → StrictL (mergeL ks)
  | [], _ => by simp [mergeL, StrictL]
  | .tok t :: ks, h => by
    simp only [mergeL]
    exact strict_pushTok t _ h.1 (strict_mergeL ks h.2)
  | .elem n st sc kids :: ks, h => by
    have h1 := strict_merge (.elem n st sc kids) h.1
    simp only [mergeL, StrictL]
    exact ⟨h1, strict_mergeL ks h.2⟩
end

theorem glued_pushTok (t : Token) (r : List FNode) (hg : GluedL r) (ha : FNoAdjL r) :
    GluedL (pushTok t r) ∧ FNoAdjL (pushTok t r) := by
  unfold pushTok
  split
  · rename_i a b r'
    refine ⟨⟨trivial, hg.2⟩, ?_⟩
    cases r' with
    | nil => trivial
    | cons k2 ks2 => exact ⟨by simpa [fisDataTok] using ha.1, ha.2⟩
  · rename_i hno
    refine ⟨⟨trivial, hg⟩, ?_⟩
    cases r with
    | nil => trivial
    | cons k2 ks2 =>
      refine ⟨?_, ha⟩
      rintro ⟨h1, h2⟩
      cases t with
      | data a =>
        cases k2 with
        | elem n st sc kids => simp [fisDataTok] at h2
        | tok t2 =>
          cases t2 with
          | data b => exact hno a b ks2 rfl rfl
          | _ => simp [fisDataTok] at h2
      | _ => simp [fisDataTok] at h1

mutual
theorem glued_merge : ∀ u : FNode, (merge u).Glued
  | .tok t => by simp [merge, FNode.Glued]
  | .elem n st sc kids => by
    exact glued_mergeL kids
theorem glued_mergeL : ∀ ks : List FNode, GluedL (mergeL ks) ∧ FNoAdjL (mergeL ks)
  | [] => by simp [mergeL, GluedL, FNoAdjL]
  | .tok t :: ks => by
    have ih := glued_mergeL ks
    simp only [mergeL]
    exact glued_pushTok t _ ih.1 ih.2
  | .elem n st sc kids :: ks => by
    have ih := glued_mergeL ks
    have h1 := glued_merge (.elem n st sc kids)
    simp only [mergeL]
    refine ⟨⟨h1, ih.1⟩, ?_⟩
    cases hm : mergeL ks with
    | nil => trivial
    | cons k2 ks2 =>
      rw [hm] at ih
      exact ⟨by simp [fisDataTok], ih.2⟩
end

theorem noAdj_cons (k : FNode) (l : List FNode) (h : ¬ (fisDataTok k = true ∧ headIsData l = true)) (hl : FNoAdjL l) :
    FNoAdjL (k :: l) := by
  cases l with
  | nil => trivial
  | cons k2 l2 => exact ⟨by simpa [headIsData] using h, hl⟩

theorem noAdj_head (k : FNode) (l : List FNode) (h : FNoAdjL (k :: l)) :
    ¬ (fisDataTok k = true ∧ headIsData l = true) ∧ FNoAdjL l := by
  cases l with
  | nil => exact ⟨by simp [headIsData], trivial⟩
  | cons k2 l2 => exact ⟨by simpa [headIsData] using h.1, h.2⟩

mutual
theorem merge_glued : ∀ u : FNode, u.Glued → merge u = u
  | .tok t, _ => rfl
  | .elem n st sc kids, h => by
    simp only [merge]
    rw [mergeL_glued kids h.1 h.2]
theorem mergeL_glued : ∀ ks : List FNode, GluedL ks → FNoAdjL ks → mergeL ks = ks
  | [], _, _ => by simp [mergeL]
  | k :: ks, hg, ha => by
    obtain ⟨h1, h2⟩ := noAdj_head _ _ ha
    cases k with
    | tok t =>
      simp only [mergeL]
      rw [mergeL_glued ks hg.2 h2, pushTok_noMerge t ks h1]
    | elem n st sc kids =>
      have hk := merge_glued (.elem n st sc kids) hg.1
      simp only [merge] at hk
      simp only [mergeL]
      rw [hk, mergeL_glued ks hg.2 h2]
end

theorem mergeL_idem (ks : List FNode) : mergeL (mergeL ks) = mergeL ks :=
  mergeL_glued _ (glued_mergeL ks).1 (glued_mergeL ks).2

theorem rawText_noAdj (ks : List FNode) (raw : Str) (h : rawText ks = some raw) (ha : FNoAdjL ks) :
    (ks = [] ∧ raw = []) ∨ (ks = [.tok (.data raw)] ∧ raw ≠ []) := by
  cases ks with
  | nil => left; simp [rawText] at h; exact ⟨rfl, h⟩
  | cons k ks =>
    right
    obtain ⟨s, r', rfl, hs, hr', rfl⟩ := rawText_cons k ks raw h
    cases ks with
    | nil =>
      simp only [rawText, Option.some.injEq] at hr'
      subst hr'
      simp [hs]
    | cons k2 ks2 =>
      obtain ⟨s2, _, rfl, _, _, _⟩ := rawText_cons k2 ks2 r' hr'
      exact absurd ⟨rfl, rfl⟩ ha.1

/- The same three steps exist for C01's own tree type `LNode`
   (attribute state instead of store; `toks_head_markup`, `lnode_listOK`, `lforest_listOK` in `Lemmas/LexRawTree.lean`); the two
   tree types share no structure the argument could be stated over, and neither file imports the other. -/
theorem ftoks_head_markup (k : FNode) (h : k.Strict) (hd : fisDataTok k = false) (rest : List Token) :
    StartsMarkup (renderToks (k.toks ++ rest)) := by
  cases k with
  | tok t =>
    have hnd : isData t = false := by
      cases t <;> simp_all [fisDataTok, isData]
    obtain ⟨r, hr⟩ := render_head t h.1 hnd
    right
    rcases hr with hr | hr
    · exact ⟨r ++ renderToks rest, Or.inl (by simp [FNode.toks, renderToks, hr])⟩
    · exact ⟨r ++ renderToks rest, Or.inr (by simp [FNode.toks, renderToks, hr])⟩
  | elem n st sc kids =>
    right
    unfold FNode.toks
    cases sc with
    | true => exact ⟨_, Or.inl (by simp [renderToks, renderTok]; rfl)⟩
    | false => exact ⟨_, Or.inl (by simp [renderToks, renderTok]; rfl)⟩

mutual
theorem fnode_listOK (t : FNode) (h : t.Strict) (hg : t.Glued) (tail : List Token) (htail : ListOK tail)
    (hb : fisDataTok t = true → StartsMarkup (renderToks tail)) : ListOK (t.toks ++ tail) := by
  match t, h, hg with
  | .tok tk, h, _ =>
    simp only [FNode.toks, List.cons_append, List.nil_append]
    refine .cons h.1 ?_ htail
    cases tk with
    | data s => exact follows_of_startsMarkup _ h.2.1 _ (hb rfl)
    | _ => trivial
  | .elem n st sc kids, h, hg =>
    obtain ⟨hn, _, hsc, hattrs, _, hk⟩ := h
    unfold FNode.toks
    cases hs : sc with
    | true =>
      simp only [if_true, List.cons_append, List.nil_append]
      exact .cons ⟨hn, hattrs⟩ trivial htail
    | false =>
      simp only [Bool.false_eq_true, if_false, List.cons_append, List.append_assoc]
      by_cases hr : isRawText n = true
      · simp only [hr, if_true] at hk
        obtain ⟨raw, hraw, hok⟩ := hk
        rcases rawText_noAdj kids raw hraw hg.2 with ⟨rfl, _⟩ | ⟨rfl, hne⟩
        · exact .rawEmpty hr hattrs htail
        · exact .raw hr hattrs hne hok htail
      · simp only [hr] at hk
        have hr' : isRawText n = false := by simpa using hr
        refine .cons ⟨hn, hr', hattrs⟩ trivial ?_
        exact fforest_listOK kids hk hg.1 hg.2 (.end_ n :: tail) (.cons hn trivial htail)
          (startsMarkup_endTag n tail)
theorem fforest_listOK (ks : List FNode) (h : StrictL ks) (hg : GluedL ks) (hadj : FNoAdjL ks) (tail : List Token)
    (htail : ListOK tail) (hb : StartsMarkup (renderToks tail)) : ListOK (ftoksL ks ++ tail) := by
  match ks, h, hg with
  | [], _, _ => simpa [ftoksL] using htail
  | k :: ks, h, hg =>
    have hadj' : FNoAdjL ks := by
      cases ks with
      | nil => trivial
      | cons k2 ks2 => exact hadj.2
    have ih := fforest_listOK ks h.2 hg.2 hadj' tail htail hb
    unfold ftoksL
    rw [List.append_assoc]
    refine fnode_listOK k h.1 hg.1 _ ih ?_
    intro hkd
    match ks, h.2, hadj with
    | [], _, _ => simpa [ftoksL] using hb
    | k2 :: ks2, h2, hadj =>
      have hd2 : fisDataTok k2 = false := by
        cases hd : fisDataTok k2 with
        | false => rfl
        | true => exact absurd ⟨hkd, hd⟩ hadj.1
      unfold ftoksL
      rw [List.append_assoc]
      exact ftoks_head_markup k2 h2.1 hd2 _
end

end AHP.Fmt
