/-
  C14f, step level: the bracket scanner (`BRACKETED_SUBSET_RE`) on the text of a predicate in any layout,
  `NEXT_TAG_OPERATION_RE` on the head of a rendered step (`tagOp_render`), and the two loops of
  `parseXPathStrIntoOperations` (`parseExpr_render`).  Then back from the tokens to the syntax (`toSteps_ofStep`), which gives the
  result of the text half: `compileText` on the text of a written expression is `compileSteps` on its flat form
  (`compileText_render`).
-/
import AHP.Lemmas.XPathParseText
import AHP.Lemmas.XPathParseBody
namespace AHP.XPath

variable {N : Type}

/-! ### The bracket scanner -/

theorem scanQ_body (q : Char) (body rest : Str) (bs : Bool) (i r : Str) (hq : body.contains q = false)
    (he : endsBs bs body = false) (hs : scanB rest = some (i, r)) :
    scanQ q bs (body ++ q :: rest) = some (body ++ q :: i, r) := by
  induction body generalizing bs with
  | nil =>
    simp only [endsBs] at he
    simp [scanQ, he, hs, consFst]
  | cons c t ih =>
    simp only [List.contains_cons, Bool.or_eq_false_iff] at hq
    have hc : c ≠ q := by
      intro h; subst h; simp at hq
    simp only [List.cons_append, scanQ, hc, if_false]
    rw [ih _ (by simpa using hq.2) (by simpa [endsBs] using he)]
    rfl

theorem scanB_safe {s : Str} (h : BSafe s) (t i r : Str) (ht : scanB t = some (i, r)) :
    scanB (s ++ t) = some (s ++ i, r) := by
  induction h with
  | nil => simpa using ht
  | plain c s hc _ ih =>
    have hc' : c ≠ ']' ∧ c ≠ '"' ∧ c ≠ '\'' := by simpa [plainB, and_assoc] using hc
    simp [scanB, hc'.1, hc'.2.1, hc'.2.2, ih, consFst]
  | quoted q body s hq h1 h2 _ ih =>
    have hq' : q ≠ ']' := by rcases hq with rfl | rfl <;> decide +kernel
    have hqq : (q = '"' || q = '\'') = true := by rcases hq with rfl | rfl <;> decide +kernel
    have := scanQ_body q body (s ++ t) false _ _ h1 h2 ih
    simp only [List.cons_append, List.append_assoc]
    rw [scanB]
    simp only [hq', if_false]
    simp only [Bool.or_eq_true, decide_eq_true_eq] at hqq
    simp [hqq, this]

theorem bracket_safe {s : Str} (h : BSafe s) (rest : Str) :
    bracket ('[' :: (s ++ ']' :: rest)) = some (s, skipSp rest) := by
  have := scanB_safe h (']' :: rest) [] rest (by simp [scanB])
  simp [bracket, skipSp, isSpTab, List.dropWhile, this]

theorem render_bsafe (nm : Num N) (st : Style) (π : List Nat) (p : S N) (h : S.wf nm p) : BSafe (renderS st π p) :=
  (reads nm st π p h).safe.bsafe

theorem renderArgs_bsafe (nm : Num N) (st : Style) (π : List Nat) : ∀ (k : Nat) (ps : List (S N)), S.wfs nm ps →
    BSafe (renderArgs st π k ps)
  | k, ps, h => (renderArgs_safe nm st π k ps h).bsafe

/-! ### `NEXT_TAG_OPERATION_RE` on the head of a rendered step -/

/-- What may follow the tag name of a rendered step: `[`, the next lead-in, or white space before one of them. -/
def stepFollowChars : List Char := ['[', '/', ' ', '\t']

/-- the first character after a tag name, if any, is one of `stepFollowChars`: all the expressions that read the name need -/
def AfterNameHead (rest : Str) : Prop := rest = [] ∨ ∃ c r, rest = c :: r ∧ c ∈ stepFollowChars

theorem afterNameHead_head {rest : Str} (h : AfterNameHead rest) (p : Char → Bool) (hp : ∀ c ∈ stepFollowChars, p c = false) :
    ∀ c r, rest = c :: r → p c = false := by
  intro c r hr
  rcases h with h0 | ⟨c', r', hr', hc⟩
  · rw [h0] at hr; cases hr
  · rw [hr'] at hr
    obtain ⟨rfl, _⟩ := List.cons.inj hr
    exact hp _ hc

theorem tagName_render (name rest : Str) (hn : tagNameOk name = true) (hr : AfterNameHead rest) :
    tagName (name ++ rest) = some (name, rest) := by
  cases name with
  | nil => simp [tagNameOk] at hn
  | cons c r =>
    simp only [tagNameOk, Bool.or_eq_true, Bool.and_eq_true, decide_eq_true_eq, List.isEmpty_iff] at hn
    rcases hn with ⟨rfl, rfl⟩ | ⟨h1, h2⟩
    · simp [tagName]
    · have hc : c ≠ '*' := by
        intro h; subst h; revert h1; decide
      have hstop := afterNameHead_head hr isNameChar (by decide)
      simp [tagName, hc, h1, takeWhile_append_stop h2 hstop, dropWhile_append_stop h2 hstop]

theorem suffix_render {rest : Str} (hr : AfterNameHead rest) : suffix rest = (false, rest) := by
  rcases hr with rfl | ⟨c, r, rfl, hc⟩
  · simp [suffix]
  · have : c ≠ ':' := by intro e; subst e; revert hc; decide
    simp [suffix, this]

def NoColonAfter (w u : Str) : Prop := ∀ r', wordCI w u = some r' → ∀ c t, r' = c :: t → c ≠ ':'

/-- a word of letters and dashes matched against a tag name never stops in front of a colon -/
theorem wordCI_name (w : Str) (hw : ∀ x ∈ w, x ∉ stepFollowChars) (name rest : Str) (hn : ∀ c ∈ name, c ≠ ':')
    (hr : AfterNameHead rest) : NoColonAfter w (name ++ rest) := by
  -- `name ++ rest = pre ++ ':' :: t` with `pre` a spelling of `w`: where the two divisions of the text meet decides
  intro r' h c t hct hc
  subst hct hc
  obtain ⟨pre, h1, h2⟩ := wordCI_some w _ _ h
  have hcolon : ∀ t, rest ≠ ':' :: t := fun t e => by simpa using afterNameHead_head hr (· = ':') (by decide) ':' t e
  rcases List.append_eq_append_iff.1 h1 with ⟨a', rfl, h3⟩ | ⟨c', rfl, h3⟩
  · cases a' with
    | nil => exact hcolon t h3
    | cons d a'' =>
      have hd : d ∈ stepFollowChars := by
        rcases hr with h0 | ⟨d', r, hr', hd'⟩
        · rw [h0] at h3; cases h3
        · rw [hr'] at h3; rw [(List.cons.inj h3).1] at hd'; exact hd'
      refine hw d ?_ hd
      rw [← h2]
      exact List.mem_map.2 ⟨d, by simp, (by decide : ∀ e ∈ stepFollowChars, lowerChar e = e) d hd⟩
  · cases c' with
    | nil => exact hcolon t h3.symm
    | cons e c'' => exact hn ':' (by rw [← (List.cons.inj h3).1]; simp) rfl

theorem AxisTok.word_plain : ∀ a : AxisTok, ∀ x ∈ a.word, x ∉ stepFollowChars := by
  intro a
  cases a <;> decide +kernel

theorem axisName_cons_skip {u : Str} {a : AxisTok} {as : List AxisTok}
    (h : NoColonAfter a.word u) : axisName u (a :: as) = axisName u as := by
  conv => lhs; unfold axisName
  split
  · next r heq => exact absurd rfl (h _ heq ':' _ rfl)
  · rfl

theorem axisName_cons_hit {u : Str} {a : AxisTok} {as : List AxisTok} {r n rest : Str}
    (h : wordCI a.word u = some (':' :: ':' :: r)) (ht : tagName r = some (n, rest)) :
    axisName u (a :: as) = some (a, n, rest) := by
  simp [axisName, h, ht]

theorem axisName_none (u : Str) (as : List AxisTok)
    (h : ∀ a ∈ as, NoColonAfter a.word u) : axisName u as = none := by
  induction as with
  | nil => rfl
  | cons a as ih =>
    rw [axisName_cons_skip (h a (by simp))]
    exact ih (fun b hb => h b (List.mem_cons_of_mem _ hb))

theorem split_at_colon : ∀ {a b x y : Str}, ':' ∉ a → ':' ∉ b → a ++ ':' :: x = b ++ ':' :: y → a = b
  | [], [], _, _, _, _, _ => rfl
  | [], d :: b, _, _, _, hb, h => absurd (List.mem_cons.2 (.inl (List.cons.inj h).1)) hb
  | c :: a, [], _, _, ha, _, h => absurd (List.mem_cons.2 (.inl (List.cons.inj h).1.symm)) ha
  | c :: a, d :: b, _, _, ha, hb, h => by
    obtain ⟨rfl, h'⟩ := List.cons.inj h
    rw [split_at_colon (fun hm => ha (List.mem_cons_of_mem _ hm)) (fun hm => hb (List.mem_cons_of_mem _ hm)) h']

/-- against a spelling of `w` followed by a colon, a word that stops in front of a colon is `w` itself -/
theorem wordCI_colon {b w v rest r' : Str} (hv : v.map lowerChar = w) (hb : ':' ∉ b) (hw : ':' ∉ w)
    (h : wordCI b (v ++ ':' :: rest) = some (':' :: r')) : b = w := by
  obtain ⟨pre, h1, h2⟩ := wordCI_some b _ _ h
  rw [← h2, ← hv, split_at_colon (fun hm => hw (spelled_mem hv (by decide) hm))
    (fun hm => hb (spelled_mem h2 (by decide) hm)) h1]

theorem AxisTok.word_no_colon : ∀ a : AxisTok, ':' ∉ a.word := by
  intro a; cases a <;> decide +kernel

theorem AxisTok.mem_all (a : AxisTok) : a ∈ AxisTok.all := by cases a <;> decide

theorem AxisTok.word_inj {a b : AxisTok} (h : a.word = b.word) : a = b :=
  (by decide +kernel : ∀ a ∈ AxisTok.all, ∀ b ∈ AxisTok.all, a.word = b.word → a = b) a a.mem_all b b.mem_all h

theorem tagName_solid {name : Str} (h : tagNameOk name = true) :
    name ≠ [] ∧ ∀ c ∈ name, solidC c = true ∧ c ≠ ':' ∧ c ≠ '/' := by
  have hn : ∀ c, isNameChar c = true → solidC c = true ∧ c ≠ ':' ∧ c ≠ '/' := fun c hc =>
    ⟨solidC_of_attrChar (isAttrChar_of_nameChar hc), ne_of_class (p := isNameChar) (by decide) hc,
      ne_of_class (p := isNameChar) (by decide) hc⟩
  cases name with
  | nil => simp [tagNameOk] at h
  | cons c r =>
    simp only [tagNameOk, Bool.or_eq_true, Bool.and_eq_true, decide_eq_true_eq, List.isEmpty_iff] at h
    refine ⟨by simp, ?_⟩
    rcases h with ⟨rfl, rfl⟩ | ⟨h1, h2⟩
    · decide
    · intro x hx
      rcases List.mem_cons.1 hx with rfl | hx
      · exact hn _ (isNameChar_of_nameStart h1)
      · exact hn _ (List.all_eq_true.1 h2 x hx)

theorem tagNameOk_head {name : Str} (h : tagNameOk name = true) :
    ∃ c r, name = c :: r ∧ isSpTab c = false ∧ c ≠ '/' := by
  obtain ⟨hne, hs⟩ := tagName_solid h
  cases name with
  | nil => exact absurd rfl hne
  | cons c r =>
    obtain ⟨h1, _, h3⟩ := hs c (by simp)
    exact ⟨c, r, rfl, not_isSpTab_of_not_isWs (solidC_facts h1).2, h3⟩

theorem axisWord_ok : ∀ a : Axis, wordOk (axisWord a) = true := by
  intro a; cases a <;> decide +kernel

theorem ofAxis_word (a : Axis) : (AxisTok.ofAxis a).word = axisWord a := by
  cases a <;> rfl

/-- An axis in any spelling, `::` and the tag name: of the alternatives only the one with that very word gets as far
    as the `::`, in whatever order they are tried. -/
theorem axisName_spelled {a : AxisTok} {v r n rest : Str} (hv : v.map lowerChar = a.word) (ht : tagName r = some (n, rest)) :
    ∀ (as : List AxisTok), a ∈ as → axisName (v ++ (':' :: ':' :: r)) as = some (a, n, rest)
  | b :: as, hm => by
    by_cases hba : b = a
    · rw [hba]; exact axisName_cons_hit (wordCI_spelled _ v _ hv) ht
    · rw [axisName_cons_skip]
      · exact axisName_spelled hv ht as ((List.mem_cons.1 hm).resolve_left (Ne.symm hba))
      · intro r' hr' c t hct hc
        rw [hct, hc] at hr'
        exact hba (AxisTok.word_inj (wordCI_colon hv (AxisTok.word_no_colon b) (AxisTok.word_no_colon a) hr'))

theorem leadIn_render (dbl : Bool) {w : Str} (hw : w.all isSpTab = true) {c : Char} {r : Str} (hsl : c ≠ '/') :
    leadIn ((if dbl then ['/', '/'] else ['/']) ++ (w ++ c :: r)) = some (dbl, w ++ c :: r) := by
  cases dbl with
  | true => simp [leadIn, skipSp, isSpTab]
  | false =>
    simp only [Bool.false_eq_true, if_false, List.cons_append, List.nil_append, leadIn,
      skipSp_cons_of_not (show isSpTab '/' = false by decide)]
    split
    · next r' heq =>
      exfalso
      cases w with
      | nil => exact hsl (List.cons.inj heq).1
      | cons d t =>
        have hd : d = '/' := (List.cons.inj heq).1
        rcases ws_mem hw (c := d) (by simp) with e | e <;> rw [e] at hd <;> exact absurd hd (by decide)
    · rfl

/-- `NEXT_TAG_OPERATION_RE` and the name handling on `/ axis::name…` or `//name…`, any layout. -/
theorem tagOp_render (st : Style) (π : List Nat) (dbl : Bool) (axis : Option Axis) (name rest : Str)
    (hn : tagNameOk name = true) (hr : AfterNameHead rest) :
    tagOp ((if dbl then ['/', '/'] else ['/']) ++ (st.sp .lead π ++ (axisPrefix st π axis ++ (name ++ rest))))
      = some (dbl, axis.map AxisTok.ofAxis, lower name, rest) := by
  obtain ⟨c, r, hcr, hsp, hsl⟩ := tagNameOk_head hn
  have hcore : ∃ c' r', (axisPrefix st π axis ++ (name ++ rest)) = c' :: r' ∧ isSpTab c' = false ∧ c' ≠ '/' := by
    cases axis with
    | none => exact ⟨c, r ++ rest, by simp [hcr, axisPrefix], hsp, hsl⟩
    | some a =>
      obtain ⟨_, c', r', hcr', hc'⟩ := wordOk_spelled (axisWord_ok a) (spell_map st π (wordOk_lower (axisWord_ok a)))
      obtain ⟨hs, _, _, hsl'⟩ := letter_facts hc'
      exact ⟨c', r' ++ ([':', ':'] ++ (name ++ rest)), by simp [axisPrefix, hcr'], (startOk_facts hs).2.1, hsl'⟩
  obtain ⟨c', r', hcr', hsp', hsl'⟩ := hcore
  have hax : tagCore (c' :: r') = some (axis.map AxisTok.ofAxis, name, rest) := by
    rw [← hcr']
    cases axis with
    | some a =>
      have := axisName_spelled (a := .ofAxis a) (v := st.spell π (axisWord a)) (by rw [ofAxis_word]; exact spell_map st π (wordOk_lower (axisWord_ok a)))
        (tagName_render name rest hn hr) AxisTok.all (AxisTok.mem_all _)
      simp only [axisPrefix, List.append_assoc, List.cons_append, List.nil_append]
      simp [tagCore, this]
    | none =>
      have hnone : axisName (name ++ rest) AxisTok.all = none :=
        axisName_none _ _ (fun a _ r' h => wordCI_name a.word (AxisTok.word_plain a) name rest (fun c hc => ((tagName_solid hn).2 c hc).2.1) hr r' h)
      simp [tagCore, axisPrefix, hnone, tagName_render name rest hn hr]
  rw [hcr']
  simp [tagOp, leadIn_render dbl (sp_all st .lead π) hsl', skipSp_ws_cons (sp_all st .lead π) hsp', hax, suffix_render hr, finalName]

/-! ### The loops of `parseXPathStrIntoOperations` -/

/-- the text after the predicates of a step: nothing, or (after white space) the next lead-in -/
def AfterPreds (rest : Str) : Prop :=
  rest = [] ∨ ∃ w r, rest = w ++ '/' :: r ∧ w.all isSpTab = true ∧ EndsTight ('/' :: r)

/-- the text after a tag name: as `AfterPreds`, or (after white space) a predicate -/
def AfterName (R : Str) : Prop :=
  R = [] ∨ ∃ w c r, R = w ++ c :: r ∧ w.all isSpTab = true ∧ (c = '[' ∨ c = '/') ∧ EndsTight (c :: r)

theorem AfterPreds.afterName {rest : Str} (h : AfterPreds rest) : AfterName rest := by
  rcases h with h | ⟨w, r, h1, h2, h3⟩
  · exact .inl h
  · exact .inr ⟨w, '/', r, h1, h2, .inr rfl, h3⟩

theorem AfterName.skipSp_cases {R : Str} (h : AfterName R) : skipSp R = [] ∨ ∃ c r, skipSp R = c :: r ∧ (c = '[' ∨ c = '/') ∧ EndsTight (c :: r) := by
  rcases h with rfl | ⟨w, c, r, rfl, hw, hc, hE⟩
  · exact .inl rfl
  · refine .inr ⟨c, r, skipSp_ws_cons hw (by rcases hc with rfl | rfl <;> decide) r, hc, hE⟩

theorem AfterName.strip_eq {R : Str} (h : AfterName R) : strip R = skipSp R := by
  rcases h with rfl | ⟨w, c, r, rfl, hw, hc, hE⟩
  · rfl
  · rw [skipSp_ws_cons hw (by rcases hc with rfl | rfl <;> decide)]
    exact strip_ws_tight hw (by rcases hc with rfl | rfl <;> decide) hE

theorem AfterName.strip_skipSp {R : Str} (h : AfterName R) : strip (skipSp R) = skipSp R := by
  rcases h.skipSp_cases with h0 | ⟨c, r, h1, hc, hE⟩
  · rw [h0]; rfl
  · rw [h1]; exact strip_tight (by rcases hc with rfl | rfl <;> decide) hE

theorem AfterName.head {R : Str} (h : AfterName R) : AfterNameHead R := by
  rcases h with rfl | ⟨w, c, r, rfl, hw, hc, _⟩
  · exact .inl rfl
  · cases w with
    | nil => exact .inr ⟨c, r, rfl, by rcases hc with rfl | rfl <;> decide⟩
    | cons d t =>
      refine .inr ⟨d, _, rfl, ?_⟩
      rcases ws_mem hw (c := d) (by simp) with rfl | rfl <;> decide +kernel

theorem AfterName.endsTight {R : Str} (h : AfterName R) : EndsTight R := by
  rcases h with rfl | ⟨w, c, r, rfl, _, _, hE⟩
  · intro c hc; simp at hc
  · exact (endsTight_append_cons w c r).2 hE

theorem AfterPreds.bracket_none {rest : Str} (h : AfterPreds rest) : bracket (skipSp rest) = none := by
  rcases h with rfl | ⟨w, r, rfl, hw, _⟩
  · rfl
  · rw [skipSp_ws_cons hw (by decide)]
    simp [bracket, skipSp, isSpTab, List.dropWhile]

def flatPreds (ps : List (S N)) : List (List (BE N)) := (S.toPs ps).map flatten

theorem renderPreds_afterName (st : Style) (i : Nat) : ∀ (ps : List (S N)) (j : Nat) {rest : Str}, AfterPreds rest →
    AfterName (renderPreds st i j ps ++ rest)
  | [], _, _, h => by simpa [renderPreds] using h.afterName
  | p :: ps, j, rest, h => by
    have ih := renderPreds_afterName st i ps (j + 1) h
    refine .inr ⟨st.sp .brL [j, i], '[', (st.sp .brIn [j, i] ++ (renderS st [j, i] p ++ (st.sp .brOut [j, i] ++
      ']' :: renderPreds st i (j + 1) ps)) ++ rest), by simp only [renderPreds, List.append_assoc, List.cons_append],
      sp_all st _ _, .inl rfl, ?_⟩
    rw [show '[' :: (st.sp .brIn [j, i] ++ (renderS st [j, i] p ++ (st.sp .brOut [j, i] ++ ']' :: renderPreds st i (j + 1) ps)) ++ rest)
        = ('[' :: (st.sp .brIn [j, i] ++ (renderS st [j, i] p ++ st.sp .brOut [j, i]))) ++ ']' :: (renderPreds st i (j + 1) ps ++ rest) by simp,
      endsTight_append_cons]
    cases hq : renderPreds st i (j + 1) ps ++ rest with
    | nil => exact endsTight_single (by decide)
    | cons d t => rw [hq] at ih; exact endsTight_cons_of ih.endsTight (by simp)

theorem renderPreds_length (st : Style) (i : Nat) : ∀ (ps : List (S N)) (j : Nat), ps.length ≤ (renderPreds st i j ps).length
  | [], _ => by simp
  | p :: ps, j => by
    have := renderPreds_length st i ps (j + 1)
    simp only [renderPreds, List.length_cons, List.length_append]; omega

theorem parsePreds_render (nm : Num N) (st : Style) (i : Nat) : ∀ (ps : List (S N)) (j fuel : Nat) (rest : Str), S.wfs nm ps →
    AfterPreds rest → ps.length < fuel →
    parsePreds nm fuel (skipSp (renderPreds st i j ps ++ rest)) = some (flatPreds ps, skipSp rest)
  | [], j, fuel, rest, _, hr, hf => by
    obtain ⟨k, rfl⟩ : ∃ k, fuel = k + 1 := ⟨fuel - 1, by omega⟩
    simp [renderPreds, parsePreds, hr.bracket_none, flatPreds, S.toPs]
  | p :: ps, j, fuel, rest, hw, hr, hf => by
    have hh : S.wf nm p ∧ S.wfs nm ps := hw
    obtain ⟨k, rfl⟩ : ∃ k, fuel = k + 1 := ⟨fuel - 1, by omega⟩
    have hok := reads nm st [j, i] p hh.1
    have ih := parsePreds_render nm st i ps (j + 1) k rest hh.2 hr (by simp only [List.length_cons] at hf; omega)
    have hsafe : BSafe (st.sp .brIn [j, i] ++ (renderS st [j, i] p ++ st.sp .brOut [j, i])) :=
      (ws_bsafe (sp_all st _ _)).append ((render_bsafe nm st [j, i] p hh.1).append (ws_bsafe (sp_all st _ _)))
    have hb := bracket_safe hsafe (renderPreds st i (j + 1) ps ++ rest)
    have htl := renderPreds_afterName st i ps (j + 1) hr
    obtain ⟨c, r, hcr, hcs⟩ := hok.head
    have hst : strip (st.sp .brIn [j, i] ++ (renderS st [j, i] p ++ st.sp .brOut [j, i])) = renderS st [j, i] p := by
      have hE := hok.tight
      rw [hcr] at hE ⊢
      exact strip_ws_both (sp_all st _ _) (sp_all st _ _) (startOk_facts hcs).1 hE
    have hne : (renderS st [j, i] p).isEmpty = false := by rw [hcr]; rfl
    have htext : skipSp (renderPreds st i j (p :: ps) ++ rest)
        = '[' :: ((st.sp .brIn [j, i] ++ (renderS st [j, i] p ++ st.sp .brOut [j, i])) ++ ']' :: (renderPreds st i (j + 1) ps ++ rest)) := by
      simp only [renderPreds, List.append_assoc, List.cons_append]
      exact skipSp_ws_cons (sp_all st _ _) (by decide) _
    rw [htext]
    simp only [parsePreds, hb, hst, hne, htl.strip_skipSp, parseBody_render nm st [j, i] p hh.1, ih]
    simp [flatPreds, S.toPs]

theorem renderStep_shape (st : Style) (i : Nat) (s : SurfStep N) : ∃ r, renderStep st i s = '/' :: r := by
  unfold renderStep
  cases s.dbl <;> exact ⟨_, rfl⟩

/-- the text after step `i` when more steps follow -/
def stepTail (st : Style) (i : Nat) (ss : List (SurfStep N)) : Str :=
  if ss.isEmpty then [] else st.sp .stepEnd [i] ++ renderSteps st (i + 1) ss

theorem renderSteps_shape (st : Style) (i : Nat) (s : SurfStep N) (ss : List (SurfStep N)) :
    ∃ r, renderSteps st i (s :: ss) = '/' :: r := by
  obtain ⟨r, hr⟩ := renderStep_shape st i s
  exact ⟨r ++ stepTail st i ss, by simp only [renderSteps, stepTail, hr, List.cons_append]⟩

theorem renderStep_endsTight (nm : Num N) (st : Style) (i : Nat) (s : SurfStep N) (hs : s.wf nm) {tail : Str} (ht : AfterPreds tail) :
    EndsTight (renderStep st i s ++ tail) := by
  have hpt := renderPreds_afterName st i s.preds 0 ht
  have hname : EndsTight (s.name ++ (renderPreds st i 0 s.preds ++ tail)) := by
    cases hq : renderPreds st i 0 s.preds ++ tail with
    | cons d u => rw [hq] at hpt; exact (endsTight_append_cons _ d u).2 hpt.endsTight
    | nil =>
      obtain ⟨hne, hsol⟩ := tagName_solid hs.1
      simpa using endsTight_solid (fun c hc => (hsol c hc).1) hne []
  obtain ⟨c, t, hct, _⟩ := tagNameOk_head hs.1
  simp only [renderStep, List.append_assoc]
  rw [hct] at hname ⊢
  simp only [List.cons_append] at hname ⊢
  rw [← List.append_assoc, ← List.append_assoc, endsTight_append_cons]
  exact hname

theorem renderSteps_endsTight (nm : Num N) (st : Style) : ∀ (ss : List (SurfStep N)) (i : Nat), ss ≠ [] → (∀ s ∈ ss, s.wf nm) →
    EndsTight (renderSteps st i ss)
  | [], _, h, _ => absurd rfl h
  | [s], i, _, hw => by
    have := renderStep_endsTight nm st i s (hw s (by simp)) (tail := []) (.inl rfl)
    simpa [renderSteps] using this
  | s :: s2 :: ss, i, _, hw => by
    have ih := renderSteps_endsTight nm st (s2 :: ss) (i + 1) (by simp) (fun x hx => hw x (List.mem_cons_of_mem _ hx))
    obtain ⟨r, hr⟩ := renderSteps_shape st (i + 1) s2 ss
    have ht : AfterPreds (st.sp .stepEnd [i] ++ renderSteps st (i + 1) (s2 :: ss)) :=
      .inr ⟨_, r, by rw [hr], sp_all st _ _, by rw [← hr]; exact ih⟩
    have := renderStep_endsTight nm st i s (hw s (by simp)) ht
    simpa [renderSteps] using this

theorem stepTail_ok (nm : Num N) (st : Style) (i : Nat) (ss : List (SurfStep N)) (hw : ∀ s ∈ ss, s.wf nm) :
    AfterPreds (stepTail st i ss) := by
  unfold stepTail
  cases ss with
  | nil => exact .inl rfl
  | cons s2 ss2 =>
    obtain ⟨r, hr⟩ := renderSteps_shape st (i + 1) s2 ss2
    have ih := renderSteps_endsTight nm st (s2 :: ss2) (i + 1) (by simp) hw
    exact .inr ⟨st.sp .stepEnd [i], r, by simp [hr], sp_all st _ _, by rw [← hr]; exact ih⟩

/-- the flat, uncompiled form of a surface expression, in the tokenizer's types -/
def flatSurf (ss : List (SurfStep N)) : List (PStep N) :=
  (flattenSteps (ss.map SurfStep.toSStep)).map PStep.ofStep

theorem flatSurf_cons (s : SurfStep N) (ss : List (SurfStep N)) :
    flatSurf (s :: ss) = { dbl := s.dbl, axis := s.axis.map AxisTok.ofAxis, name := lower s.name, preds := flatPreds s.preds }
      :: flatSurf ss := by
  simp [flatSurf, flattenSteps, SurfStep.toSStep, PStep.ofStep, flatPreds]

theorem parseSteps_render (nm : Num N) (st : Style) : ∀ (ss : List (SurfStep N)) (i fuel : Nat), ss ≠ [] → (∀ s ∈ ss, s.wf nm) →
    ss.length < fuel → parseSteps nm fuel (renderSteps st i ss) = some (flatSurf ss)
  | [], _, _, h, _, _ => absurd rfl h
  | s :: ss, i, fuel, _, hw, hf => by
    obtain ⟨k, rfl⟩ : ∃ k, fuel = k + 1 := ⟨fuel - 1, by omega⟩
    have hs := hw s (by simp)
    have htail := stepTail_ok nm st i ss (fun x hx => hw x (List.mem_cons_of_mem _ hx))
    have htl := renderPreds_afterName st i s.preds 0 htail
    have htag := tagOp_render st [i] s.dbl s.axis s.name (renderPreds st i 0 s.preds ++ stepTail st i ss) hs.1 htl.head
    have hpl := renderPreds_length st i s.preds 0
    have hpp := parsePreds_render nm st i s.preds 0 ((renderPreds st i 0 s.preds ++ stepTail st i ss).length + 1) (stepTail st i ss)
      hs.2 htail (by simp only [List.length_append]; omega)
    have htext : renderSteps st i (s :: ss) = (if s.dbl then ['/', '/'] else ['/']) ++ (st.sp .lead [i] ++
        (axisPrefix st [i] s.axis ++ (s.name ++ (renderPreds st i 0 s.preds ++ stepTail st i ss)))) := by
      simp [renderSteps, renderStep, stepTail, List.append_assoc]
    rw [htext]
    simp only [parseSteps, htag, htl.strip_eq, hpp]
    rw [flatSurf_cons]
    cases ss with
    | nil => simp [stepTail, skipSp, flatSurf, flattenSteps]
    | cons s2 ss2 =>
      obtain ⟨r, hr⟩ := renderSteps_shape st (i + 1) s2 ss2
      have hsk : skipSp (stepTail st i (s2 :: ss2)) = renderSteps st (i + 1) (s2 :: ss2) := by
        simp only [stepTail, List.isEmpty_cons, Bool.false_eq_true, if_false, hr]
        exact skipSp_ws_cons (sp_all st _ _) (by decide) _
      have hne : (renderSteps st (i + 1) (s2 :: ss2)).isEmpty = false := by rw [hr]; rfl
      have ih := parseSteps_render nm st (s2 :: ss2) (i + 1) k (by simp) (fun x hx => hw x (List.mem_cons_of_mem _ hx))
        (by simp only [List.length_cons] at hf ⊢; omega)
      simp [hsk, hne, ih]

theorem renderSteps_length (st : Style) : ∀ (ss : List (SurfStep N)) (i : Nat), ss.length ≤ (renderSteps st i ss).length
  | [], _ => by simp
  | s :: ss, i => by
    have ih := renderSteps_length st ss (i + 1)
    obtain ⟨r, hr⟩ := renderStep_shape st i s
    simp only [renderSteps, hr, List.length_cons, List.length_append]
    split
    · next h => simp at h; subst h; simp
    · simp only [List.length_append]; omega

theorem parseExpr_render (nm : Num N) (st : Style) (ss : List (SurfStep N)) (hw : ∀ s ∈ ss, s.wf nm) :
    parseExpr nm (renderExpr st ss) = some (flatSurf ss) := by
  unfold parseExpr renderExpr
  cases ss with
  | nil =>
    have : (st.sp .start [] ++ (renderSteps st 0 ([] : List (SurfStep N)) ++ st.sp .stop [])).all isSpTab = true := by
      simp [renderSteps, List.all_append, sp_all]
    simp [strip_all_ws this, flatSurf, flattenSteps]
  | cons s ss =>
    obtain ⟨r, hr⟩ := renderSteps_shape st 0 s ss
    have hE := renderSteps_endsTight nm st (s :: ss) 0 (by simp) hw
    have hst : strip (st.sp .start [] ++ (renderSteps st 0 (s :: ss) ++ st.sp .stop [])) = renderSteps st 0 (s :: ss) := by
      rw [hr] at hE ⊢
      exact strip_ws_both (sp_all st _ _) (sp_all st _ _) (by decide) hE
    have hne : (renderSteps st 0 (s :: ss)).isEmpty = false := by rw [hr]; rfl
    have hlen := renderSteps_length st (s :: ss) 0
    rw [hst]
    simp only [hne]
    exact parseSteps_render nm st (s :: ss) 0 _ (by simp) hw (by simp only [List.length_append]; omega)

theorem toSteps_ofStep : ∀ (l : List (Step N)), toSteps (l.map PStep.ofStep) = some l
  | [] => rfl
  | s :: l => by
    have h1 : (PStep.ofStep s).toStep = some s := by
      obtain ⟨dbl, axis, name, preds⟩ := s
      cases axis with
      | none => rfl
      | some a => cases a <;> rfl
    simp [toSteps, h1, toSteps_ofStep l]

/-- `XPathExpression(text)` on the text in any layout = the compile step on the flat form of the syntax. -/
theorem compileText_render (nm : Num N) (st : Style) (ss : List (SurfStep N)) (hw : ∀ s ∈ ss, s.wf nm) :
    compileText nm (renderExpr st ss) = compileSteps nm (flattenSteps (ss.map SurfStep.toSStep)) := by
  unfold compileText
  rw [parseExpr_render nm st ss hw]
  simp [flatSurf, toSteps_ofStep]

end AHP.XPath
