/-
  Character-level round trip (C01a, second half): the strict lexer gives back the token sequence a
  well-formed token list (`ListOK`) renders to — in the serialiser's spelling of start tags (`renderToks`:
  `lexStrict_renderToks`) and in every other admissible one (`TagStyle`, `renderToksY`: `lexStrict_renderToksY`).  Both are
  instances of `lexN_renderToksY_then` (any style, any text behind the rendering that lexes), proved by induction on
  `ListOKThen X` from one equation of `lexOne` for each kind of token (`lexOne_renderY`, `lexOne_render_rawY`).  Last
  (namespace `Fmt`): `PlainData`, a data run that is one token, as the formatter stack reads `TokOK` of a data token.
-/
import AHP.Model.Lexer
import AHP.Model.Tree
import AHP.Lemmas.LexRaw
namespace AHP

/-- the text a token is written as.  The serialisers never write `<![ … ]>`: `unknownDecl` is there for the builder's
    `unknown_decl` handler only. -/
def renderTok : Token → Str
  | .start n a => ('<' :: n) ++ renderAttrs a ++ " >".toList
  | .startend n a => ('<' :: n) ++ renderAttrs a ++ " />".toList
  | .end_ n => '<' :: '/' :: n ++ ['>']
  | .data s => s
  | .entity n => '&' :: n ++ [';']
  | .charref n => '&' :: '#' :: n ++ [';']
  | .comment c => "<!--".toList ++ c ++ "-->".toList
  | .decl d => '<' :: '!' :: d ++ ['>']
  | .pi p => '<' :: '?' :: p ++ ['>']
  | .unknownDecl _ => []

def renderToks : List Token → Str
  | [] => []
  | t :: ts => renderTok t ++ renderToks ts

/-! ### how start tags end

  `getStartTag` writes ` >` and ` />`; the slim element class (`AdvancedTagSlim.getStartTag`) writes `>`, and `/>` with
  `slimSelfClosing`. -/

/-- how a start tag may end, and whether that makes it self-closing (`n…`: as `getStartTag` writes it; `s…`: as the
    slim element class writes it) -/
inductive Closer : Str → Bool → Prop
  | nOpen : Closer " >".toList false
  | nSc : Closer " />".toList true
  | sOpen : Closer ">".toList false
  | sSc : Closer "/>".toList true

structure TagStyle where
  o : Str     -- end of an open start tag
  s : Str     -- end of a self-closing start tag
  deriving Repr, DecidableEq

def TagStyle.OK (y : TagStyle) : Prop := Closer y.o false ∧ Closer y.s true

def TagStyle.normal : TagStyle := ⟨" >".toList, " />".toList⟩

theorem TagStyle.normal_ok : TagStyle.normal.OK := ⟨.nOpen, .nSc⟩

def TagStyle.slim (ssc : Bool) : TagStyle := ⟨">".toList, if ssc then "/>".toList else " />".toList⟩

theorem TagStyle.slim_ok (ssc : Bool) : (TagStyle.slim ssc).OK := by
  cases ssc
  · exact ⟨.sOpen, .nSc⟩
  · exact ⟨.sOpen, .sSc⟩

def renderTokY (y : TagStyle) : Token → Str
  | .start n a => ('<' :: n) ++ renderAttrs a ++ y.o
  | .startend n a => ('<' :: n) ++ renderAttrs a ++ y.s
  | t => renderTok t

def renderToksY (y : TagStyle) : List Token → Str
  | [] => []
  | t :: ts => renderTokY y t ++ renderToksY y ts

theorem renderTokY_normal (t : Token) : renderTokY TagStyle.normal t = renderTok t := by
  cases t <;> rfl

theorem renderToksY_normal (ts : List Token) : renderToksY TagStyle.normal ts = renderToks ts := by
  induction ts with
  | nil => rfl
  | cons t ts ih => simp [renderToksY, renderToks, renderTokY_normal, ih]

theorem renderToksY_append (y : TagStyle) (xs ys : List Token) :
    renderToksY y (xs ++ ys) = renderToksY y xs ++ renderToksY y ys := by
  induction xs with
  | nil => rfl
  | cons x xs ih => simp [renderToksY, ih]

theorem renderToks_append (xs ys : List Token) : renderToks (xs ++ ys) = renderToks xs ++ renderToks ys := by
  induction xs with
  | nil => rfl
  | cons x xs ih => simp [renderToks, ih]

theorem renderTokY_of_not_tag (y : TagStyle) (t : Token) (h1 : ∀ n a, t ≠ .start n a) (h2 : ∀ n a, t ≠ .startend n a) :
    renderTokY y t = renderTok t := by
  cases t with
  | start n a => exact absurd rfl (h1 n a)
  | startend n a => exact absurd rfl (h2 n a)
  | _ => rfl

/-! ### the serialiser's image: `TokOK`, `Follows`, `ListOK` -/

/-- every `&` is followed by a character that cannot start a reference (or ends the value) -/
def ValueOK : Str → Prop
  | [] => True
  | [_] => True
  | c :: d :: r => (c = '&' → (isAlpha d = false ∧ d ≠ '#')) ∧ ValueOK (d :: r)

def NameOK (n : Str) : Prop := n ≠ [] ∧ (∀ c ∈ n, isAttrCh c = true) ∧ lower n = n

def AttrOK : Attr → Prop
  | (n, none) => NameOK n
  | (n, some v) => NameOK n ∧ ValueOK v ∧ ¬ (v.isEmpty = true ∧ binaryAttrs.contains n = true)

def TagNameOK (n : Str) : Prop :=
  (∃ c cs, n = c :: cs ∧ isAlpha c = true) ∧ (∀ c ∈ n, isTagCh c = true) ∧ lower n = n

/-- no two consecutive dashes, no dash at the end -/
def CommentOK : Str → Prop
  | [] => True
  | [c] => c ≠ '-'
  | c :: d :: r => ¬ (c = '-' ∧ d = '-') ∧ CommentOK (d :: r)

def TokOK : Token → Prop
  | .start n a => TagNameOK n ∧ isRawText n = false ∧ ∀ x ∈ a, AttrOK x
  | .startend n a => TagNameOK n ∧ ∀ x ∈ a, AttrOK x
  | .end_ n => TagNameOK n
  | .data s => s = ['<'] ∨ s = ['&'] ∨ (s ≠ [] ∧ ∀ c ∈ s, (c ≠ '<' ∧ c ≠ '&'))
  | .entity n => (∃ c cs, n = c :: cs ∧ isAlpha c = true) ∧ ∀ c ∈ n, isEntCh c = true
  | .charref n => (n ≠ [] ∧ ∀ c ∈ n, isDigit c = true) ∨
      (∃ x hs, n = x :: hs ∧ (x = 'x' ∨ x = 'X') ∧ hs ≠ [] ∧ ∀ c ∈ hs, isHex c = true)
  | .comment c => CommentOK c
  | .decl d => lower (d.take 7) = "doctype".toList ∧ '>' ∉ d
  | .pi p => '>' ∉ p
  | .unknownDecl _ => False

def isData : Token → Bool | .data _ => true | _ => false

/-- no two adjacent data tokens (they would merge into one run) -/
def NoAdjData : List Token → Prop
  | t₁ :: t₂ :: ts => ¬ (isData t₁ = true ∧ isData t₂ = true) ∧ NoAdjData (t₂ :: ts)
  | _ => True

def NotSingleton : Token → Prop
  | .data s => s ≠ ['<'] ∧ s ≠ ['&']
  | _ => True

/-- nothing, or something that opens markup or a reference: what may follow a data run -/
def StartsMarkup (s : Str) : Prop := s = [] ∨ ∃ r, s = '<' :: r ∨ s = '&' :: r

/-- what may follow a token in a rendering: after a data run, nothing or something that opens markup or a
    reference (`StartsMarkup rest`, written out; `follows_of_startsMarkup`); after the data singleton `<`, a character
    that cannot open markup; after `&`, one that cannot start a reference -/
def Follows (t : Token) (rest : Str) : Prop :=
  match t with
  | .data s =>
    if s = ['<'] then ∃ c r, rest = c :: r ∧ isAlpha c = false ∧ c ≠ '/' ∧ c ≠ '!' ∧ c ≠ '?'
    else if s = ['&'] then ∃ c r, rest = c :: r ∧ isAlpha c = false ∧ c ≠ '#'
    else rest = [] ∨ ∃ r, rest = '<' :: r ∨ rest = '&' :: r
  | _ => True

/-- the token block a raw-text element (`script` / `style`) is read as: start tag, the content as ONE data token
    (none when the content is empty), end tag -/
def rawBlock (n : Str) (a : List Attr) (raw : Str) : List Token :=
  if raw.isEmpty then [.start n a, .end_ n] else [.start n a, .data raw, .end_ n]

/-- a token list in the serialiser's image: every token well formed and followed by something that keeps
    it a token of its own (`cons`); a raw-text element (`script` / `style`) is its start tag, at most one data
    token whose text nowhere matches the element's closing expression `</ ws* name ws* >` (`RawOK` — it may
    contain `<`, `&`, tags, comments, references: none of them is markup there), and its end tag
    (`raw` / `rawEmpty`) -/
inductive ListOK : List Token → Prop
  | nil : ListOK []
  | cons {t : Token} {ts : List Token} : TokOK t → Follows t (renderToks ts) → ListOK ts → ListOK (t :: ts)
  | raw {n : Str} {a : List Attr} {raw : Str} {ts : List Token} :
      isRawText n = true → (∀ x ∈ a, AttrOK x) → raw ≠ [] → RawOK n raw → ListOK ts →
      ListOK (.start n a :: .data raw :: .end_ n :: ts)
  | rawEmpty {n : Str} {a : List Attr} {ts : List Token} :
      isRawText n = true → (∀ x ∈ a, AttrOK x) → ListOK ts → ListOK (.start n a :: .end_ n :: ts)

/-- the tokens of a raw-text element that `TokOK` (the grammar outside raw text) does not describe: the
    element's start tag and its content -/
def RawTok : Token → Prop
  | .start n a => isRawText n = true ∧ ∀ x ∈ a, AttrOK x
  | .data s => s ≠ []
  | _ => False

/-- `ListOK` relative to the text `X` that follows the rendering (same four constructors; a raw-text element
    asks nothing of what follows its end tag) -/
inductive ListOKThen (X : Str) : List Token → Prop
  | nil : ListOKThen X []
  | cons {t : Token} {ts : List Token} :
      TokOK t → Follows t (renderToks ts ++ X) → ListOKThen X ts → ListOKThen X (t :: ts)
  | raw {n : Str} {a : List Attr} {raw : Str} {ts : List Token} :
      isRawText n = true → (∀ x ∈ a, AttrOK x) → raw ≠ [] → RawOK n raw → ListOKThen X ts →
      ListOKThen X (.start n a :: .data raw :: .end_ n :: ts)
  | rawEmpty {n : Str} {a : List Attr} {ts : List Token} :
      isRawText n = true → (∀ x ∈ a, AttrOK x) → ListOKThen X ts → ListOKThen X (.start n a :: .end_ n :: ts)

theorem listOKThen_nil {ts : List Token} (h : ListOK ts) : ListOKThen [] ts := by
  induction h with
  | nil => exact .nil
  | cons ht hf _ ih => exact .cons ht (by rwa [List.append_nil]) ih
  | raw hr ha hne hok _ ih => exact .raw hr ha hne hok ih
  | rawEmpty hr ha _ ih => exact .rawEmpty hr ha ih

/-! ### the well-formedness predicates are decidable (used by the concrete non-vacuity instances) -/

instance instDecidableValueOK : (v : Str) → Decidable (ValueOK v)
  | [] => isTrue trivial
  | [_] => isTrue trivial
  | c :: d :: r =>
    have := instDecidableValueOK (d :: r)
    inferInstanceAs (Decidable (_ ∧ _))

instance instDecidableCommentOK : (c : Str) → Decidable (CommentOK c)
  | [] => isTrue trivial
  | [c] => inferInstanceAs (Decidable (c ≠ '-'))
  | c :: d :: r =>
    have := instDecidableCommentOK (d :: r)
    inferInstanceAs (Decidable (_ ∧ _))

instance (n : Str) : Decidable (NameOK n) := inferInstanceAs (Decidable (_ ∧ _ ∧ _))

instance : (a : Attr) → Decidable (AttrOK a)
  | (n, none) => inferInstanceAs (Decidable (NameOK n))
  | (n, some v) => inferInstanceAs (Decidable (NameOK n ∧ ValueOK v ∧ ¬ (v.isEmpty = true ∧ binaryAttrs.contains n = true)))

instance headAlphaDec : (n : Str) → Decidable (∃ c cs, n = c :: cs ∧ isAlpha c = true)
  | [] => isFalse (by rintro ⟨c, cs, h, _⟩; cases h)
  | c :: cs => decidable_of_iff (isAlpha c = true)
      ⟨fun h => ⟨c, cs, rfl, h⟩, fun ⟨c', cs', e, ha⟩ => by cases e; exact ha⟩

instance hexRefDec : (n : Str) →
    Decidable (∃ x hs, n = x :: hs ∧ (x = 'x' ∨ x = 'X') ∧ hs ≠ [] ∧ ∀ c ∈ hs, isHex c = true)
  | [] => isFalse (by rintro ⟨x, hs, h, _⟩; cases h)
  | x :: hs => decidable_of_iff ((x = 'x' ∨ x = 'X') ∧ hs ≠ [] ∧ ∀ c ∈ hs, isHex c = true)
      ⟨fun h => ⟨x, hs, rfl, h⟩, fun ⟨x', hs', e, h⟩ => by cases e; exact h⟩

instance (n : Str) : Decidable (TagNameOK n) := inferInstanceAs (Decidable (_ ∧ _ ∧ _))

instance : (t : Token) → Decidable (TokOK t) := fun t => by
  cases t <;> (dsimp only [TokOK]; infer_instance)

instance : (t : Token) → Decidable (NotSingleton t) := fun t => by
  cases t <;> (dsimp only [NotSingleton]; infer_instance)

instance instDecidableNoAdjData : (ts : List Token) → Decidable (NoAdjData ts)
  | [] => isTrue trivial
  | [_] => isTrue trivial
  | t₁ :: t₂ :: ts =>
    have := instDecidableNoAdjData (t₂ :: ts)
    inferInstanceAs (Decidable (_ ∧ _))

/-! ### a run stops at its terminator; attribute values -/

theorem span_append (p : Char → Bool) (xs : Str) (c : Char) (rest : Str)
    (hx : ∀ x ∈ xs, p x = true) (hc : p c = false) :
    span p (xs ++ c :: rest) = (xs, c :: rest) := by
  induction xs with
  | nil => simp [span, hc]
  | cons x xs ih =>
    have hx1 : p x = true := hx x (by simp)
    have := ih (fun y hy => hx y (by simp [hy]))
    simp [span, hx1, this]

theorem span_all (p : Char → Bool) (xs : Str) (hx : ∀ x ∈ xs, p x = true) : span p xs = (xs, []) := by
  induction xs with
  | nil => rfl
  | cons x xs ih =>
    have hx1 : p x = true := hx x (by simp)
    have := ih (fun y hy => hx y (by simp [hy]))
    simp [span, hx1, this]

theorem dropWhile_ws_of_not (c : Char) (r : Str) (h : isWs c = false) : (c :: r).dropWhile isWs = c :: r :=
  lstrip_cons_of_not_ws h

theorem readUntil_append (q : Char) (v rest : Str) (h : q ∉ v) :
    readUntil q (v ++ q :: rest) = some (v, rest) := by
  induction v with
  | nil => simp [readUntil]
  | cons c cs ih =>
    have hc : c ≠ q := fun e => h (by simp [e])
    have hcs : q ∉ cs := fun e => h (by simp [e])
    simp [readUntil, hc, ih hcs]

theorem escQ_no_quote (v : Str) : '"' ∉ escQ v := by
  induction v with
  | nil => simp [escQ]
  | cons c cs ih =>
    unfold escQ
    split
    · intro h
      simp only [List.mem_append] at h
      rcases h with h | h
      · revert h; decide
      · exact ih h
    · rename_i hc
      intro h
      rcases List.mem_cons.mp h with e | e
      · exact hc e.symm
      · exact ih e

theorem escQ_head (d : Char) (r : Str) :
    ∃ e r', escQ (d :: r) = e :: r' ∧ (d = '"' → e = '&') ∧ (d ≠ '"' → e = d) := by
  unfold escQ
  split
  · rename_i h; exact ⟨'&', _, rfl, fun _ => rfl, fun h2 => absurd h h2⟩
  · rename_i h; exact ⟨d, _, rfl, fun h2 => absurd h2 h, fun _ => rfl⟩

theorem not_quot_prefix (d : Char) (r : Str) (hd : isAlpha d = false) : "quot;".toList.isPrefixOf (d :: r) = false := by
  have : d ≠ 'q' := by intro e; rw [e] at hd; revert hd; decide
  simp [List.isPrefixOf, this]
  intro e; exact absurd e.symm this

theorem unesc_esc (v : Str) (h : ValueOK v) : ∀ k, (escQ v).length < k → unescValue k (escQ v) = some v := by
  induction v with
  | nil => intro k hk; cases k with
    | zero => simp at hk
    | succ k => simp [escQ, unescValue]
  | cons c cs ih =>
    intro k hk
    cases k with
    | zero => simp at hk
    | succ k =>
      have hcs : ValueOK cs := by
        cases cs with
        | nil => trivial
        | cons d r => exact h.2
      by_cases hq : c = '"'
      · subst hq
        have he : escQ ('"' :: cs) = '&' :: ("quot;".toList ++ escQ cs) := by simp [escQ]
        rw [he] at hk ⊢
        have hlen : (escQ cs).length < k := by simp at hk; omega
        have hpre : "quot;".toList.isPrefixOf ("quot;".toList ++ escQ cs) = true := by
          simp [List.isPrefixOf]
        simp only [unescValue, if_true, hpre]
        have : ("quot;".toList ++ escQ cs).drop 5 = escQ cs := by simp
        rw [this, ih hcs k hlen]; rfl
      · have he : escQ (c :: cs) = c :: escQ cs := by simp [escQ, hq]
        rw [he] at hk ⊢
        have hlen : (escQ cs).length < k := by simp at hk; omega
        by_cases ha : c = '&'
        · subst ha
          simp only [unescValue, if_true]
          cases cs with
          | nil => simp [escQ]
          | cons d r =>
            have hd := h.1 rfl
            obtain ⟨e, r', her, h1, h2⟩ := escQ_head d r
            have hea : isAlpha e = false ∧ e ≠ '#' := by
              by_cases hdq : d = '"'
              · rw [h1 hdq]; decide
              · rw [h2 hdq]; exact hd
            have hnp : "quot;".toList.isPrefixOf (escQ (d :: r)) = false := by
              rw [her]; exact not_quot_prefix e r' hea.1
            rw [hnp]
            simp only [Bool.false_eq_true, if_false]
            rw [her]
            simp only [hea.1, hea.2, Bool.false_or, decide_false, Bool.false_eq_true, if_false]
            rw [← her, ih hcs k hlen]; rfl
        · simp only [unescValue, ha, if_false]
          rw [ih hcs k hlen]; rfl

/-- each attribute is introduced by exactly one space -/
def renderAttrs' : List Attr → Str
  | [] => []
  | a :: as => ' ' :: renderAttr a ++ renderAttrs' as

theorem joinWith_space (xs : List Str) (x : Str) :
    ' ' :: joinWith [' '] (x :: xs) = (' ' :: x) ++ (xs.flatMap (fun y => ' ' :: y)) := by
  induction xs generalizing x with
  | nil => simp [joinWith]
  | cons y ys ih =>
    simp only [joinWith, List.flatMap_cons]
    have := ih y
    simp only [List.cons_append] at this ⊢
    rw [← this]; simp

theorem renderAttrs_eq (as : List Attr) : renderAttrs as = renderAttrs' as := by
  unfold renderAttrs
  cases as with
  | nil => rfl
  | cons a as =>
    simp only [List.isEmpty_cons, Bool.false_eq_true, if_false, List.map_cons]
    rw [joinWith_space]
    have : ∀ l : List Attr, (l.map renderAttr).flatMap (fun y => ' ' :: y) = renderAttrs' l := by
      intro l
      induction l with
      | nil => rfl
      | cons b bs ih => simp [renderAttrs', ih]
    rw [this]; rfl

/-- how `getStartTag` ends a start tag: the two components of `TagStyle.normal` -/
def closer (sc : Bool) : Str := if sc then " />".toList else " >".toList

theorem isWs_of_attrCh (c : Char) (h : isAttrCh c = true) : isWs c = false := by
  cases hw : isWs c with
  | false => rfl
  | true => simp [isAttrCh, hw] at h

theorem ne_of_attrCh (c : Char) (h : isAttrCh c = true) : c ≠ '>' ∧ c ≠ '/' ∧ c ≠ '=' := by
  refine ⟨?_, ?_, ?_⟩ <;> (intro e; rw [e] at h; revert h; decide)

theorem dropWhile_space (c : Char) (r : Str) (h : isWs c = false) :
    (' ' :: c :: r).dropWhile isWs = c :: r := by
  have h1 : isWs ' ' = true := by decide
  rw [List.dropWhile_cons, if_pos h1, List.dropWhile_cons, if_neg (by simp [h])]

theorem closer_ok (sc : Bool) : Closer (closer sc) sc := by
  cases sc
  · exact .nOpen
  · exact .nSc

theorem lexAttrs_head {k : Nat} {s : Str} {x : List Attr × Bool × Str} (h : lexAttrs k s = some x) :
    ∃ t0 tr, s = t0 :: tr ∧ isAttrCh t0 = false ∧ ∀ r3, s.dropWhile isWs ≠ '=' :: r3 := by
  cases k with
  | zero => simp [lexAttrs] at h
  | succ k =>
    cases s with
    | nil => simp [lexAttrs] at h
    | cons t0 tr =>
      refine ⟨t0, tr, rfl, ?_, fun r3 he => ?_⟩
      · cases ha : isAttrCh t0 with
        | false => rfl
        | true =>
          obtain ⟨h1, h2, _⟩ := ne_of_attrCh t0 ha
          simp [lexAttrs, dropWhile_ws_of_not t0 tr (isWs_of_attrCh t0 ha), h1, h2] at h
      · simp [lexAttrs, he, span, isAttrCh] at h

/-- For a bare name what follows must start with a character that ends the name and must not go on with `=` (it would
    be read as the name's value); after a quoted value anything may follow. -/
theorem lexAttrs_attr (n : Str) (v : Option Str) (ha : AttrOK (n, v)) (t0 : Char) (tr : Str)
    (ht0 : isAttrCh t0 = false) (hneq : ∀ r3, (t0 :: tr).dropWhile isWs ≠ '=' :: r3) (k : Nat) :
    lexAttrs (k + 1) (' ' :: (renderAttr (n, v) ++ t0 :: tr))
      = (lexAttrs k (t0 :: tr)).map (fun x => ((n, v) :: x.1, x.2.1, x.2.2)) := by
  have hn : NameOK n := by cases v <;> simp [AttrOK] at ha <;> first | exact ha | exact ha.1
  obtain ⟨hne, hall, hlow⟩ := hn
  obtain ⟨c, n', hnn⟩ := List.exists_cons_of_ne_nil hne
  have hc : isAttrCh c = true := hall c (by rw [hnn]; simp)
  obtain ⟨hc1, hc2, _⟩ := ne_of_attrCh c hc
  have hs1 : ∀ tl : Str, ((' ' :: (n ++ tl)) : Str).dropWhile isWs = c :: (n' ++ tl) := by
    intro tl
    rw [hnn]
    exact dropWhile_space c (n' ++ tl) (isWs_of_attrCh c hc)
  have hne2 : n.isEmpty = false := by rw [hnn]; rfl
  cases v with
  | none =>
    have hsp : span isAttrCh (c :: (n' ++ t0 :: tr)) = (n, t0 :: tr) := by
      have := span_append isAttrCh n t0 tr hall ht0
      rw [hnn] at this ⊢; simpa using this
    have hl : (c :: (n' ++ t0 :: tr)).length ≠ (' ' :: (n ++ t0 :: tr)).length := by
      rw [hnn]; simp
    -- the `match` on what follows the name has a second equation with the side condition `∀ r3, … ≠ '=' :: r3`;
    -- `simp` discharges it by assumption with `hneq`, which is stated in exactly that shape
    simp only [renderAttr, lexAttrs, hs1, hc1, hc2, if_false, hsp, hl, hne2, Bool.false_eq_true]
    rw [hlow]
  | some v =>
    simp only [AttrOK] at ha
    obtain ⟨_, hv, hnb⟩ := ha
    have hra : renderAttr (n, some v) = n ++ ('=' :: '"' :: escQ v) ++ ['"'] := by
      simp only [renderAttr]
      split
      · rename_i hcond
        simp only [Bool.and_eq_true] at hcond
        exact absurd hcond hnb
      · rfl
    generalize t0 :: tr = tl
    have hstr : ' ' :: (renderAttr (n, some v) ++ tl) = ' ' :: (n ++ ('=' :: '"' :: (escQ v ++ '"' :: tl))) := by
      simp [hra]
    rw [hstr]
    have hsp : span isAttrCh (c :: (n' ++ '=' :: '"' :: (escQ v ++ '"' :: tl)))
        = (n, '=' :: '"' :: (escQ v ++ '"' :: tl)) := by
      have := span_append isAttrCh n '=' ('"' :: (escQ v ++ '"' :: tl)) hall (by decide)
      rw [hnn] at this ⊢; simpa using this
    have hl : (c :: (n' ++ '=' :: '"' :: (escQ v ++ '"' :: tl))).length
        ≠ (' ' :: (n ++ '=' :: '"' :: (escQ v ++ '"' :: tl))).length := by
      rw [hnn]; simp
    simp only [lexAttrs, hs1, hc1, hc2, if_false, hsp, hl, hne2, Bool.false_eq_true]
    have hd1 : ('=' :: '"' :: (escQ v ++ '"' :: tl)).dropWhile isWs = '=' :: '"' :: (escQ v ++ '"' :: tl) :=
      dropWhile_ws_of_not _ _ (by decide)
    have hd2 : ('"' :: (escQ v ++ '"' :: tl)).dropWhile isWs = '"' :: (escQ v ++ '"' :: tl) :=
      dropWhile_ws_of_not _ _ (by decide)
    simp only [hd1, hd2, Bool.true_or, if_true, decide_true]
    rw [readUntil_append '"' (escQ v) tl (escQ_no_quote v)]
    simp only
    rw [unesc_esc v hv _ (Nat.lt_succ_self _)]
    simp only
    rw [hlow]

/-- The fuel of `lexAttrs` counts attributes.  The attributes behind the first one lex (induction hypothesis), so they
    begin as `lexAttrs_attr` needs (`lexAttrs_head`). -/
theorem lexAttrs_render_closer (as : List Attr) (h : ∀ a ∈ as, AttrOK a) (cl : Str) (sc : Bool) (hcl : Closer cl sc)
    (rest : Str) :
    ∀ k, as.length < k → lexAttrs k (renderAttrs' as ++ cl ++ rest) = some (as, sc, rest) := by
  induction as with
  | nil =>
    intro k hk
    cases k with
    | zero => simp at hk
    | succ k => cases hcl <;> simp [renderAttrs', lexAttrs, isWs]
  | cons a as ih =>
    intro k hk
    cases k with
    | zero => simp at hk
    | succ k =>
      obtain ⟨n, v⟩ := a
      have hT := ih (fun x hx => h x (by simp [hx])) k (by simpa using hk)
      obtain ⟨t0, tr, htail, ht0, hneq⟩ := lexAttrs_head hT
      have hstr : renderAttrs' ((n, v) :: as) ++ cl ++ rest
          = ' ' :: (renderAttr (n, v) ++ (renderAttrs' as ++ cl ++ rest)) := by
        simp [renderAttrs']
      rw [hstr, htail, lexAttrs_attr n v (h _ (by simp)) t0 tr ht0 (htail ▸ hneq) k, ← htail, hT]
      rfl

theorem length_le_renderAttrs' (as : List Attr) : as.length ≤ (renderAttrs' as).length := by
  induction as with
  | nil => simp
  | cons a as ih => simp [renderAttrs'] at ih ⊢; omega

theorem lexAttrs_render (as : List Attr) (h : ∀ a ∈ as, AttrOK a) (sc : Bool) (rest : Str) :
    ∀ k, (renderAttrs' as ++ closer sc ++ rest).length < k →
      lexAttrs k (renderAttrs' as ++ closer sc ++ rest) = some (as, sc, rest) :=
  fun k hk => lexAttrs_render_closer as h (closer sc) sc (closer_ok sc) rest k (by
    have := length_le_renderAttrs' as
    simp only [List.length_append] at hk
    omega)

theorem commentCloses_none (c0 : Char) (t : Str) (h : ¬ (c0 = '-' ∧ ∃ r, t = '-' :: r)) :
    commentCloses (c0 :: t) = none := by
  unfold commentCloses
  split
  · rename_i r heq
    simp at heq
    exact absurd ⟨heq.1, r, heq.2⟩ h
  · rfl

theorem lexComment_render (c : Str) (h : CommentOK c) (rest : Str) :
    ∀ k, (c ++ '-' :: '-' :: '>' :: rest).length < k → lexComment k (c ++ '-' :: '-' :: '>' :: rest) = some (c, rest) := by
  induction c with
  | nil =>
    intro k hk
    cases k with
    | zero => simp at hk
    | succ k =>
      have : ('>' :: rest).dropWhile isWs = '>' :: rest := dropWhile_ws_of_not _ _ (by decide)
      simp [lexComment, commentCloses, this]
  | cons c0 cs ih =>
    intro k hk
    cases k with
    | zero => simp at hk
    | succ k =>
      have hlen : (cs ++ '-' :: '-' :: '>' :: rest).length < k := by simp at hk ⊢; omega
      have hcs : CommentOK cs := by
        cases cs with
        | nil => trivial
        | cons d r => exact h.2
      have hno : ¬ (c0 = '-' ∧ ∃ r, cs ++ '-' :: '-' :: '>' :: rest = '-' :: r) := by
        rintro ⟨h0, r, hr⟩
        cases cs with
        | nil => exact h h0
        | cons d r' =>
          simp at hr
          exact h.1 ⟨h0, hr.1⟩
      have ih' := ih hcs k hlen
      simp only [List.cons_append, lexComment, commentCloses_none c0 _ hno, ih']
      rfl

/-! ### equations of `lexOne`: three by leading characters alone, then one for each kind of token on the text the kind is written as -/

theorem alpha_facts : isAlpha '/' = false ∧ isAlpha '!' = false ∧ isAlpha '?' = false ∧ isAlpha '#' = false := by decide
theorem entCh_semicolon : isEntCh ';' = false := by decide
theorem digit_semicolon : isDigit ';' = false := by decide
theorem hex_semicolon : isHex ';' = false := by decide

theorem isWs_of_alpha (c : Char) (h : isAlpha c = true) : isWs c = false :=
  isWs_of_letter (by simpa [isAlpha, or_comm] using h)

theorem tagNameEnds_facts (r : Str) :
    tagNameEnds (' ' :: r) = true ∧ tagNameEnds ('>' :: r) = true ∧ tagNameEnds ('/' :: r) = true := by
  simp [tagNameEnds, isTagEnd]

theorem lexOne_text (k : Nat) (c : Char) (r : Str) (h1 : c ≠ '<') (h2 : c ≠ '&') :
    lexOne k (c :: r) = some ([.data (span isTextCh (c :: r)).1], (span isTextCh (c :: r)).2) := by
  unfold lexOne
  split
  · rename_i heq; cases heq
  · rename_i heq; injection heq with e _; exact absurd e h1
  · rename_i heq; injection heq with e _; exact absurd e h2
  · rename_i c' r' _ _ heq
    injection heq with e1 e2
    subst e1; subst e2
    rfl

theorem lexOne_commentOpen (k : Nat) (r2 : Str) :
    lexOne k ('<' :: '!' :: '-' :: '-' :: r2) = (lexComment k r2).map (fun x => ([.comment x.1], x.2)) := by
  simp [lexOne, alpha_facts]

theorem lexOne_declOpen (k : Nat) (d0 : Char) (r1 : Str) (hd : d0 ≠ '-')
    (hlow : lower ((d0 :: r1).take 7) = "doctype".toList) :
    lexOne k ('<' :: '!' :: d0 :: r1) = (readUntil '>' (d0 :: r1)).map (fun x => ([.decl x.1], x.2)) := by
  unfold lexOne
  simp only [alpha_facts, Bool.false_eq_true, if_false, show ('!' : Char) ≠ '/' by decide, if_true]
  split
  · rename_i r2 heq; injection heq with e _; exact absurd e hd
  · rw [if_pos hlow]

theorem lexOne_data (k : Nat) (s rest : Str) (h : TokOK (.data s)) (hf : Follows (.data s) rest) :
    lexOne k (s ++ rest) = some ([.data s], rest) := by
  rcases h with rfl | rfl | ⟨hne, hall⟩
  · obtain ⟨c, r, rfl, h1, h2, h3, h4⟩ := hf
    simp [lexOne, h1, h2, h3, h4]
  · -- `simp` passes the pattern `'#' :: _` of `lexOne` with `h2` from the context
    obtain ⟨c, r, rfl, h1, h2⟩ := hf
    simp [lexOne, h1]
  · -- a data run stops where `Follows` says: at the end, or in front of `<` or `&`
    obtain ⟨c, s', rfl⟩ := List.exists_cons_of_ne_nil hne
    have hc := hall c List.mem_cons_self
    have hallT : ∀ x ∈ c :: s', isTextCh x = true := fun x hx => by simp [isTextCh, hall x hx]
    have hsp : span isTextCh (c :: s' ++ rest) = (c :: s', rest) := by
      rw [Follows, if_neg (by simp [hc.1]), if_neg (by simp [hc.2])] at hf
      rcases hf with rfl | ⟨r, rfl | rfl⟩
      · rw [List.append_nil]; exact span_all _ _ hallT
      · exact span_append _ _ _ _ hallT (by decide)
      · exact span_append _ _ _ _ hallT (by decide)
    rw [List.cons_append] at hsp ⊢
    rw [lexOne_text k c _ hc.1 hc.2, hsp]

theorem lexOne_entity (k : Nat) (n rest : Str) (h : TokOK (.entity n)) :
    lexOne k ('&' :: (n ++ ';' :: rest)) = some ([.entity n], rest) := by
  obtain ⟨⟨c, cs, rfl, hca⟩, hall⟩ := h
  have hsp := span_append _ _ _ rest hall entCh_semicolon
  have : c ≠ '#' := fun e => by rw [e] at hca; cases hca
  rw [List.cons_append] at hsp ⊢
  simp [lexOne, hca, hsp]

theorem lexOne_charref (k : Nat) (n rest : Str) (h : TokOK (.charref n)) :
    lexOne k ('&' :: '#' :: (n ++ ';' :: rest)) = some ([.charref n], rest) := by
  rcases h with ⟨hne, hall⟩ | ⟨x, hs, rfl, hx, hne, hall⟩
  · obtain ⟨c, cs, rfl⟩ := List.exists_cons_of_ne_nil hne
    have hsp := span_append _ _ _ rest hall digit_semicolon
    have hx : c ≠ 'x' ∧ c ≠ 'X' := by
      constructor <;> (intro e; have := hall c List.mem_cons_self; rw [e] at this; cases this)
    rw [List.cons_append] at hsp ⊢
    simp [lexOne, hx.1, hx.2, hsp]
  · have hsp := span_append _ _ _ rest hall hex_semicolon
    have hne' : hs.isEmpty = false := by cases hs <;> simp_all
    rcases hx with rfl | rfl <;> simp [lexOne, hsp, hne']

theorem lexOne_endTag (k : Nat) (n rest : Str) (h : TagNameOK n) :
    lexOne k ('<' :: '/' :: (n ++ '>' :: rest)) = some ([.end_ n], rest) := by
  obtain ⟨⟨c, cs, rfl, hca⟩, hall, hlow⟩ := h
  have hsp := span_append _ _ _ rest hall (by decide : isTagCh '>' = false)
  have hd1 := dropWhile_ws_of_not c (cs ++ '>' :: rest) (isWs_of_alpha c hca)
  have hd2 : ('>' :: rest).dropWhile isWs = '>' :: rest := dropWhile_ws_of_not _ _ (by decide)
  rw [List.cons_append] at hsp ⊢
  simp [lexOne, alpha_facts, hd1, hca, hsp, hd2, hlow]

theorem lexOne_pi (k : Nat) (p rest : Str) (h : '>' ∉ p) :
    lexOne k ('<' :: '?' :: (p ++ '>' :: rest)) = some ([.pi p], rest) := by
  simp [lexOne, alpha_facts, readUntil_append '>' p rest h]

theorem lexOne_decl (k : Nat) (d rest : Str) (h : TokOK (.decl d)) :
    lexOne k ('<' :: '!' :: (d ++ '>' :: rest)) = some ([.decl d], rest) := by
  obtain ⟨hd, hgt⟩ := h
  have hlen7 : 7 ≤ d.length := by
    have h2 := congrArg List.length hd
    simp [lower] at h2
    omega
  have hlow : lower (List.take 7 (d ++ '>' :: rest)) = "doctype".toList := by
    rw [List.take_append_of_le_length hlen7]; exact hd
  -- a doctype declaration does not start with a dash, so this is not a comment
  obtain ⟨d0, d1, rfl⟩ : ∃ d0 d1, d = d0 :: d1 := by
    cases d with
    | nil => simp at hlen7
    | cons d0 d1 => exact ⟨d0, d1, rfl⟩
  have hd0 : d0 ≠ '-' := by
    intro e; subst e
    have := congrArg List.head? hd
    simp [lower, lowerChar] at this
  rw [List.cons_append] at hlow ⊢
  rw [lexOne_declOpen k d0 _ hd0 hlow, ← List.cons_append, readUntil_append '>' _ rest hgt]
  rfl

theorem lexOne_comment (k : Nat) (c rest : Str) (h : CommentOK c)
    (hk : (c ++ '-' :: '-' :: '>' :: rest).length < k) :
    lexOne k ('<' :: '!' :: '-' :: '-' :: (c ++ '-' :: '-' :: '>' :: rest)) = some ([.comment c], rest) := by
  rw [lexOne_commentOpen, lexComment_render c h rest k hk]
  rfl

theorem attrs_length_lt {n : Str} {a : List Attr} {cl rest : Str} {k : Nat}
    (hk : (('<' :: n) ++ renderAttrs a ++ cl ++ rest).length < k) : a.length < k := by
  have := length_le_renderAttrs' a
  simp only [List.length_append, renderAttrs_eq] at hk
  omega

theorem attrTail_head (as : List Attr) (cl : Str) (sc : Bool) (hc : Closer cl sc) (rest : Str) :
    ∃ t0 tr, renderAttrs' as ++ cl ++ rest = t0 :: tr ∧ (t0 = ' ' ∨ t0 = '>' ∨ t0 = '/') := by
  cases as with
  | cons a as => exact ⟨' ', _, rfl, .inl rfl⟩
  | nil => cases hc <;> exact ⟨_, _, rfl, by decide⟩

theorem sep_not_tagCh (t0 : Char) (h : t0 = ' ' ∨ t0 = '>' ∨ t0 = '/') : isTagCh t0 = false := by
  rcases h with e | e | e <;> (subst e; decide)

/-- The hypothesis on `k` is `lexAttrs`'s (it counts attributes); what `lexRaw` needs of `k` is the caller's
    (`lexOne_render_rawY`). -/
theorem lexOne_startTag (n : Str) (a : List Attr) (cl : Str) (sc : Bool) (rest : Str) (hn : TagNameOK n)
    (ha : ∀ x ∈ a, AttrOK x) (hcl : Closer cl sc) :
    ∀ k, a.length < k →
      lexOne k (('<' :: n) ++ renderAttrs a ++ cl ++ rest) =
        if sc = true then some ([.startend n a], rest)
        else if isRawText n = true then (lexRaw n k rest).map (fun x => (rawBlock n a x.1, x.2))
        else some ([.start n a], rest) := by
  intro k hk
  obtain ⟨⟨c, cs, rfl, hca⟩, hall, hlow⟩ := hn
  obtain ⟨t0, tr, htail, ht0⟩ := attrTail_head a cl sc hcl rest
  have hsp : span isTagCh ((c :: cs) ++ t0 :: tr) = (c :: cs, t0 :: tr) :=
    span_append _ _ _ _ hall (sep_not_tagCh t0 ht0)
  have hte : tagNameEnds (t0 :: tr) = true := by
    rcases ht0 with e | e | e <;> subst e
    · exact (tagNameEnds_facts tr).1
    · exact (tagNameEnds_facts tr).2.1
    · exact (tagNameEnds_facts tr).2.2
  have hA := lexAttrs_render_closer a ha cl sc hcl rest k hk
  have hrender : ('<' :: c :: cs) ++ renderAttrs a ++ cl ++ rest
      = '<' :: c :: (cs ++ (renderAttrs' a ++ cl ++ rest)) := by
    simp [renderAttrs_eq]
  rw [hrender, htail]
  rw [htail] at hA
  simp only [List.cons_append] at hsp
  simp only [lexOne, hca, if_true, hsp, hte, Bool.not_true, Bool.false_eq_true, if_false, hA, hlow]
  cases sc with
  | true => rfl
  | false =>
    cases isRawText (c :: cs) with
    | false => rfl
    | true => cases lexRaw (c :: cs) k rest <;> rfl

theorem lexOne_renderY (y : TagStyle) (hy : y.OK) (t : Token) (h : TokOK t) (rest : Str) (hf : Follows t rest) :
    ∀ k, (renderTokY y t ++ rest).length < k → lexOne k (renderTokY y t ++ rest) = some ([t], rest) := by
  intro k hk
  cases t with
  | unknownDecl d => exact h.elim
  | data s => exact lexOne_data k s rest h hf
  | entity n => simpa [renderTokY, renderTok] using lexOne_entity k n rest h
  | charref n => simpa [renderTokY, renderTok] using lexOne_charref k n rest h
  | end_ n => simpa [renderTokY, renderTok] using lexOne_endTag k n rest h
  | decl d => simpa [renderTokY, renderTok] using lexOne_decl k d rest h
  | pi p => simpa [renderTokY, renderTok] using lexOne_pi k p rest h
  | comment c =>
    have hk' : (c ++ '-' :: '-' :: '>' :: rest).length < k := by simp [renderTokY, renderTok] at hk ⊢; omega
    simpa [renderTokY, renderTok] using lexOne_comment k c rest h hk'
  -- only the start tags are written differently from style to style
  | start n a =>
    have := lexOne_startTag n a y.o false rest h.1 h.2.2 hy.1 k (attrs_length_lt hk)
    rwa [if_neg Bool.false_ne_true, h.2.1, if_neg Bool.false_ne_true] at this
  | startend n a =>
    have := lexOne_startTag n a y.s true rest h.1 h.2 hy.2 k (attrs_length_lt hk)
    rwa [if_pos rfl] at this

theorem lexOne_render (t : Token) (h : TokOK t) (rest : Str) (hf : Follows t rest) :
    ∀ k, (renderTok t ++ rest).length < k → lexOne k (renderTok t ++ rest) = some ([t], rest) := by
  have := lexOne_renderY TagStyle.normal TagStyle.normal_ok t h rest hf
  rwa [renderTokY_normal] at this

theorem rawName_tagNameOK (n : Str) (h : isRawText n = true) : TagNameOK n := by
  rcases rawName_cases n h with rfl | rfl <;> (char_lits; decide)

/-- start tag, content (`RawOK`: it may contain `<`, `&`, other tags, comments) and closing tag of a raw-text element are read by ONE
    step of the lexer -/
theorem lexOne_render_rawY (y : TagStyle) (hy : y.OK) (n : Str) (a : List Attr) (raw rest : Str)
    (hraw : isRawText n = true) (hattrs : ∀ x ∈ a, AttrOK x) (hok : RawOK n raw) :
    ∀ k, (renderTokY y (.start n a) ++ (raw ++ (renderTok (.end_ n) ++ rest))).length < k →
      lexOne k (renderTokY y (.start n a) ++ (raw ++ (renderTok (.end_ n) ++ rest))) = some (rawBlock n a raw, rest) := by
  intro k hk
  have hrest : raw ++ (renderTok (.end_ n) ++ rest) = raw ++ '<' :: '/' :: (n ++ '>' :: rest) := by
    simp [renderTok]
  rw [hrest] at hk ⊢
  have hR : lexRaw n k (raw ++ '<' :: '/' :: (n ++ '>' :: rest)) = some (raw, rest) :=
    lexRaw_render_rawName n raw rest hraw hok k (by simp at hk ⊢; omega)
  have := lexOne_startTag n a y.o false (raw ++ '<' :: '/' :: (n ++ '>' :: rest)) (rawName_tagNameOK n hraw) hattrs hy.1 k
    (attrs_length_lt hk)
  rwa [if_neg Bool.false_ne_true, if_pos hraw, hR] at this

theorem lexOne_render_raw (n : Str) (a : List Attr) (raw rest : Str) (hraw : isRawText n = true)
    (hattrs : ∀ x ∈ a, AttrOK x) (hok : RawOK n raw) :
    ∀ k, (renderTok (.start n a) ++ (raw ++ (renderTok (.end_ n) ++ rest))).length < k →
      lexOne k (renderTok (.start n a) ++ (raw ++ (renderTok (.end_ n) ++ rest))) = some (rawBlock n a raw, rest) :=
  lexOne_render_rawY TagStyle.normal TagStyle.normal_ok n a raw rest hraw hattrs hok

/-! ### what `ListOK` gives, and when it holds -/

/-- a rendering reads as `token ++ rest` in one way only: the tokenizer's first step returns that token -/
theorem ListOK.head_eq {t : Token} {ts : List Token} (h : ListOK (t :: ts)) {u : Token} {R : Str}
    (hu : TokOK u) (hf : Follows u R) (he : renderToks (t :: ts) = renderTok u ++ R) :
    t = u ∧ renderToks ts = R ∧ ListOK ts := by
  have h1 := lexOne_render u hu R hf _ (Nat.lt_succ_self _)
  rw [← he] at h1
  cases h with
  | cons ht hf' hts =>
    rw [renderToks, lexOne_render t ht _ hf' _ (Nat.lt_succ_self _)] at h1
    cases h1
    exact ⟨rfl, rfl, hts⟩
  | @raw n a raw ts' hr ha hne hok _ =>
    -- a raw-text element is read as one block of three tokens
    rw [show renderToks (.start n a :: .data raw :: .end_ n :: ts')
        = renderTok (.start n a) ++ (raw ++ (renderTok (.end_ n) ++ renderToks ts')) from rfl,
      lexOne_render_raw n a raw (renderToks ts') hr ha hok _ (Nat.lt_succ_self _)] at h1
    unfold rawBlock at h1
    split at h1 <;> cases h1
  | @rawEmpty n a ts' hr ha _ =>
    rw [show renderToks (.start n a :: .end_ n :: ts')
        = renderTok (.start n a) ++ ([] ++ (renderTok (.end_ n) ++ renderToks ts')) from rfl,
      lexOne_render_raw n a [] (renderToks ts') hr ha trivial _ (Nat.lt_succ_self _)] at h1
    cases h1

theorem renderTok_ne_nil (t : Token) (h : TokOK t) : renderTok t ≠ [] := by
  cases t with
  | data s =>
    rcases h with rfl | rfl | h
    · exact List.cons_ne_nil _ _
    · exact List.cons_ne_nil _ _
    · exact h.1
  | unknownDecl d => exact h.elim
  | _ => exact List.cons_ne_nil _ _

theorem ListOK.tokOK {ts : List Token} (h : ListOK ts) : ∀ t ∈ ts, TokOK t ∨ RawTok t := by
  induction h with
  | nil => intro t ht; simp at ht
  | cons h1 _ _ ih =>
    intro t ht
    rcases List.mem_cons.mp ht with e | e
    · rw [e]; exact Or.inl h1
    · exact ih t e
  | raw hr ha hne _ _ ih =>
    intro t ht
    simp only [List.mem_cons] at ht
    rcases ht with e | e | e | e
    · rw [e]; exact Or.inr ⟨hr, ha⟩
    · rw [e]; exact Or.inr hne
    · rw [e]; exact Or.inl (rawName_tagNameOK _ hr)
    · exact ih t e
  | rawEmpty hr ha _ ih =>
    intro t ht
    simp only [List.mem_cons] at ht
    rcases ht with e | e | e
    · rw [e]; exact Or.inr ⟨hr, ha⟩
    · rw [e]; exact Or.inl (rawName_tagNameOK _ hr)
    · exact ih t e

theorem ListOK.no_unknownDecl {ts : List Token} (h : ListOK ts) (x : Str) : Token.unknownDecl x ∉ ts := by
  intro hm
  rcases h.tokOK _ hm with h1 | h1
  · exact absurd h1 (by simp [TokOK])
  · exact absurd h1 (by simp [RawTok])

theorem render_head (t : Token) (h : TokOK t) (hd : isData t = false) :
    ∃ r, renderTok t = '<' :: r ∨ renderTok t = '&' :: r := by
  cases t with
  | data s => simp [isData] at hd
  | unknownDecl d => exact absurd h (by simp [TokOK])
  | start n a => exact ⟨_, Or.inl rfl⟩
  | startend n a => exact ⟨_, Or.inl rfl⟩
  | end_ n => exact ⟨_, Or.inl rfl⟩
  | entity n => exact ⟨_, Or.inr rfl⟩
  | charref n => exact ⟨_, Or.inr rfl⟩
  | comment c => exact ⟨_, Or.inl rfl⟩
  | decl d => exact ⟨_, Or.inl rfl⟩
  | pi d => exact ⟨_, Or.inl rfl⟩

theorem follows_of_startsMarkup (t : Token) (hns : NotSingleton t) (rest : Str) (h : StartsMarkup rest) :
    Follows t rest := by
  cases t with
  | data s =>
    simp only [NotSingleton] at hns
    simp only [Follows, hns.1, hns.2, if_false]
    exact h
  | _ => trivial

theorem startsMarkup_of_head (t : Token) (ts : List Token) (h : TokOK t) (hd : isData t = false) :
    StartsMarkup (renderToks (t :: ts)) := by
  obtain ⟨r, hr⟩ := render_head t h hd
  rcases hr with hr | hr
  · exact Or.inr ⟨r ++ renderToks ts, Or.inl (by simp [renderToks, hr])⟩
  · exact Or.inr ⟨r ++ renderToks ts, Or.inr (by simp [renderToks, hr])⟩

theorem startsMarkup_endTag (n : Str) (tail : List Token) : StartsMarkup (renderToks (.end_ n :: tail)) :=
  Or.inr ⟨'/' :: (n ++ '>' :: renderToks tail), Or.inl (by simp [renderToks, renderTok])⟩

theorem renderToks_follows (t : Token) (hns : NotSingleton t) (ts : List Token) (hts : ∀ x ∈ ts, TokOK x)
    (hadj : NoAdjData (t :: ts)) : Follows t (renderToks ts) := by
  cases t with
  | data s =>
    refine follows_of_startsMarkup _ hns _ ?_
    cases ts with
    | nil => exact Or.inl rfl
    | cons t2 ts2 =>
      have h2 : isData t2 = false := by
        cases hd : isData t2 with
        | false => rfl
        | true => exact absurd ⟨rfl, hd⟩ hadj.1
      exact startsMarkup_of_head t2 ts2 (hts t2 (by simp)) h2
  | _ => trivial

theorem listOK_of_noAdjData (ts : List Token) (h : ∀ t ∈ ts, TokOK t) (hns : ∀ t ∈ ts, NotSingleton t)
    (hadj : NoAdjData ts) : ListOK ts := by
  induction ts with
  | nil => exact .nil
  | cons t ts ih =>
    have hts : ∀ x ∈ ts, TokOK x := fun x hx => h x (by simp [hx])
    have hadj' : NoAdjData ts := by
      cases ts with
      | nil => trivial
      | cons t2 ts2 => exact hadj.2
    exact .cons (h t (by simp)) (renderToks_follows t (hns t (by simp)) ts hts hadj)
      (ih hts (fun x hx => hns x (by simp [hx])) hadj')

/-! ### the round trip: lexing a rendered list -/

theorem renderTokY_ne_nil (y : TagStyle) (t : Token) (h : TokOK t) : renderTokY y t ≠ [] := by
  cases t with
  | start n a => simp [renderTokY]
  | startend n a => simp [renderTokY]
  | _ => exact renderTok_ne_nil _ h

theorem renderToksY_head (y : TagStyle) (ts : List Token) :
    (renderToksY y ts).head? = (renderToks ts).head? := by
  induction ts with
  | nil => rfl
  | cons t ts ih =>
    cases t <;> simp [renderToksY, renderToks, renderTokY, renderTok, List.head?_append, ih]

theorem follows_head (t : Token) (r1 r2 : Str) (hh : r1.head? = r2.head?) (h : Follows t r1) : Follows t r2 := by
  cases r1 with
  | nil =>
    cases r2 with
    | nil => exact h
    | cons d r' => cases hh
  | cons c r =>
    cases r2 with
    | nil => cases hh
    | cons d r' =>
      injection hh with e
      subst e
      cases t <;> simpa [Follows, exists_or, exists_and_left] using h

theorem renderToksY_raw (y : TagStyle) (n : Str) (a : List Attr) (raw : Str) (ts : List Token) :
    renderToksY y (rawBlock n a raw ++ ts)
      = renderTokY y (.start n a) ++ (raw ++ (renderTok (.end_ n) ++ renderToksY y ts)) := by
  unfold rawBlock
  by_cases h : raw.isEmpty = true
  · have : raw = [] := by simpa using h
    subst this
    simp [renderToksY, renderTokY]
  · simp [h, renderToksY, renderTokY, renderTok]

theorem lexN_step {k : Nat} {s rest : Str} {ts : List Token} (h : lexOne (k + 1) s = some (ts, rest))
    (hlt : rest.length < s.length) : lexN (k + 1) s = (lexN k rest).map (ts ++ ·) := by
  have hne : s.isEmpty = false := by
    cases s with
    | nil => simp at hlt
    | cons _ _ => rfl
  simp only [lexN, hne, Bool.false_eq_true, if_false, h, hlt, if_true]

theorem lexN_raw_stepY_then (y : TagStyle) (hy : y.OK) (X : Str) (ys : List Token) (n : Str) (a : List Attr)
    (raw : Str) (ts : List Token) (hr : isRawText n = true) (ha : ∀ x ∈ a, AttrOK x) (hok : RawOK n raw)
    (ih : ∀ k, (renderToksY y ts ++ X).length < k → lexN k (renderToksY y ts ++ X) = some (ts ++ ys)) :
    ∀ k, (renderToksY y (rawBlock n a raw ++ ts) ++ X).length < k →
      lexN k (renderToksY y (rawBlock n a raw ++ ts) ++ X) = some (rawBlock n a raw ++ ts ++ ys) := by
  intro k hk
  have hassoc : renderToksY y (rawBlock n a raw ++ ts) ++ X
      = renderTokY y (.start n a) ++ (raw ++ (renderTok (.end_ n) ++ (renderToksY y ts ++ X))) := by
    rw [renderToksY_raw]; simp only [List.append_assoc]
  rw [hassoc] at hk ⊢
  cases k with
  | zero => simp at hk
  | succ k =>
    have hone := lexOne_render_rawY y hy n a raw (renderToksY y ts ++ X) hr ha hok (k + 1) hk
    rw [lexN_step hone (by simp [renderTok]; omega), ih k (by simp [renderTok] at hk ⊢; omega), List.append_assoc]
    rfl

/-- **lexing the rendering of a well-formed token list, in any admissible start-tag style and in front of a text `X`
    that lexes, gives the list back, then the tokens of `X`** -/
theorem lexN_renderToksY_then (y : TagStyle) (hy : y.OK) (X : Str) (ys : List Token)
    (hX : ∀ k, X.length < k → lexN k X = some ys) (ts : List Token) (h : ListOKThen X ts) :
    ∀ k, (renderToksY y ts ++ X).length < k → lexN k (renderToksY y ts ++ X) = some (ts ++ ys) := by
  induction h with
  | nil => exact hX
  | @cons t ts ht hf hts ih =>
    intro k hk
    cases k with
    | zero => simp at hk
    | succ k =>
      have hpos : 0 < (renderTokY y t).length := List.length_pos_iff.mpr (renderTokY_ne_nil y t ht)
      have hf' : Follows t (renderToksY y ts ++ X) :=
        follows_head t _ _ (by rw [List.head?_append, List.head?_append, renderToksY_head]) hf
      rw [renderToksY, List.append_assoc] at hk ⊢
      have hone := lexOne_renderY y hy t ht (renderToksY y ts ++ X) hf' (k + 1) hk
      rw [lexN_step hone (by simp; omega), ih k (by simp at hk ⊢; omega)]
      rfl
  | @raw n a raw ts hr ha hne hok _ ih =>
    have hb : rawBlock n a raw = [.start n a, .data raw, .end_ n] := by
      have : raw.isEmpty = false := by cases raw <;> simp_all
      simp [rawBlock, this]
    have := lexN_raw_stepY_then y hy X ys n a raw ts hr ha hok ih
    rw [hb] at this
    exact this
  | @rawEmpty n a ts hr ha _ ih => exact lexN_raw_stepY_then y hy X ys n a [] ts hr ha trivial ih

theorem lexN_nil : ∀ k, ([] : Str).length < k → lexN k [] = some [] := by
  intro k hk
  cases k with
  | zero => simp at hk
  | succ k => simp [lexN]

theorem lexN_renderToksY (y : TagStyle) (hy : y.OK) (ts : List Token) (h : ListOK ts) :
    ∀ k, (renderToksY y ts).length < k → lexN k (renderToksY y ts) = some ts := by
  have := lexN_renderToksY_then y hy [] [] lexN_nil ts (listOKThen_nil h)
  rwa [List.append_nil, List.append_nil] at this

theorem lexN_renderToks (ts : List Token) (h : ListOK ts) :
    ∀ k, (renderToks ts).length < k → lexN k (renderToks ts) = some ts := by
  have := lexN_renderToksY TagStyle.normal TagStyle.normal_ok ts h
  rwa [renderToksY_normal] at this

theorem lexStrict_renderToks (ts : List Token) (h : ListOK ts) :
    lexStrict (renderToks ts) = some ts :=
  lexN_renderToks ts h _ (Nat.lt_succ_self _)

theorem lexStrict_renderToksY (y : TagStyle) (hy : y.OK) (ts : List Token) (h : ListOK ts) :
    lexStrict (renderToksY y ts) = some ts :=
  lexN_renderToksY y hy ts h _ (Nat.lt_succ_self _)

example : lexStrict (renderToksY (TagStyle.slim true)
    [.start "div".toList [("id".toList, some "a".toList), ("hidden".toList, none)], .startend "br".toList [],
     .start "script".toList [], .data "a<b".toList, .end_ "script".toList, .end_ "div".toList])
    = lexStrict "<div id=\"a\" hidden><br/><script>a<b</script></div>".toList := by
  char_lits
  decide +kernel

/-! ### data tokens, as the formatter stack reads them (names in `AHP.Fmt`, where their users are) -/
namespace Fmt

theorem data_cases (t : Token) : (∃ s, t = .data s) ∨ isData t = false := by
  cases t <;> first | exact .inl ⟨_, rfl⟩ | exact .inr rfl

theorem tokOK_data_ne (d : Str) (h1 : TokOK (.data d)) : d ≠ [] := by
  rcases h1 with h | h | h
  · rw [h]; simp
  · rw [h]; simp
  · exact h.1

/-- a data run that is one token of the lexer: not empty, no `<`, no `&` -/
def PlainData (s : Str) : Prop := s ≠ [] ∧ ∀ c ∈ s, c ≠ '<' ∧ c ≠ '&'

theorem plainData_tok (s : Str) (h : PlainData s) : TokOK (.data s) ∧ NotSingleton (.data s) := by
  obtain ⟨hne, hall⟩ := h
  obtain ⟨c, cs, rfl⟩ := List.exists_cons_of_ne_nil hne
  have hc := hall c (by simp)
  refine ⟨Or.inr (Or.inr ⟨hne, hall⟩), ?_, ?_⟩
  · intro e; simp at e; exact hc.1 e.1
  · intro e; simp at e; exact hc.2 e.1

theorem plainData_of_tok (s : Str) (h1 : TokOK (.data s)) (h2 : NotSingleton (.data s)) : PlainData s := by
  rcases h1 with h | h | h
  · exact absurd h h2.1
  · exact absurd h h2.2
  · exact h

theorem plainData_append (a b : Str) (ha : PlainData a) (hb : PlainData b) : PlainData (a ++ b) := by
  refine ⟨by simp [ha.1], ?_⟩
  intro c hc
  rcases List.mem_append.mp hc with h | h
  · exact ha.2 c h
  · exact hb.2 c h

end Fmt

end AHP
