/-
  AHP.Lemmas.IntakeStable — every attribute store built by `intake` (`AdvancedTag.__init__` over ANY raw attribute
  list: class, style, spellcheck, duplicates, upper case, invalid names) is re-read exactly from its own listing:

      (intake (intake l AttrState.empty).view AttrState.empty).view = (intake l AttrState.empty).view

  Route: `Canon` — the invariant of the constructor loop (distinct, valid, lower-case keys, never `class`; the
  `style` key present exactly when the style map is non-empty; the style map a fixed point of render-then-parse;
  `spellcheck` holding a boolean string; the class list a fixed point of join-then-split).  `view_eq` — the listing
  of a canonical store in closed form.  `intake_canon_list` — the constructor loop over such a listing rebuilds
  dict, class list and style map.
-/
import AHP.Lemmas.IntakeStableStr
import AHP.Lemmas.AttrStoresSim
namespace AHP.AttrStores
open AHP

structure Canon (st : AttrState) : Prop where
  nodup : (keys st.d).Nodup
  names : ∀ k ∈ keys st.d, validAttrName k = true ∧ lower k = k ∧ k ≠ kClass
  styleKey : kStyle ∈ keys st.d ↔ st.style ≠ []
  styleIdem : styleToDict (styleStr st.style) = st.style
  spell : ∀ v, (kSpell, v) ∈ st.d → v = some (boolString v)
  cls : classNamesOf (some (joinWith [' '] st.classes)) = st.classes

theorem canon_empty : Canon AttrState.empty where
  nodup := by simp [AttrState.empty, keys]
  names := by simp [AttrState.empty, keys]
  styleKey := by simp [AttrState.empty, keys]
  styleIdem := by decide
  spell := by simp [AttrState.empty]
  cls := by decide

theorem canon_set {st : AttrState} (h : Canon st) {k : Str} (hv : validAttrName k = true) (hl : lower k = k)
    (v : Option Str) : Canon (st.set k v) := by
  have hnames : k ≠ kClass → ∀ w, ∀ k' ∈ keys (dictSet st.d k w), validAttrName k' = true ∧ lower k' = k' ∧ k' ≠ kClass :=
    fun hc w k' hk => ((mem_keys_dictSet w).mp hk).elim (fun e => e ▸ ⟨hv, hl, hc⟩) (h.names k')
  by_cases h1 : k = kStyle
  · subst h1
    rw [set_style]
    by_cases hm : (styleToDict (v.getD [])).isEmpty = true
    · have hm' : styleToDict (v.getD []) = [] := List.isEmpty_iff.mp hm
      simp only [hm, if_true]
      exact { h with
        nodup := nodup_dictDel _ h.nodup
        names := fun k hk => h.names k (Dict.mem_keys_del.mp hk).1
        styleKey := by
          simp only [hm']
          exact ⟨fun hk => absurd rfl (Dict.mem_keys_del.mp hk).2, fun hk => absurd rfl hk⟩
        styleIdem := by simp only [hm']; decide
        spell := fun w hw => h.spell w (Dict.mem_del.mp hw).1 }
    · simp only [hm, if_false, Bool.false_eq_true]
      exact { h with
        nodup := nodup_dictSet _ _ h.nodup
        names := hnames (Ne.symm class_ne_style) v
        styleKey := ⟨fun _ e => hm (by simp only at e; rw [e]; rfl), fun _ => (mem_keys_dictSet v).mpr (Or.inl rfl)⟩
        styleIdem := styleToDict_idem _
        spell := fun w hw => (Dict.mem_set (dictSet_eq .. ▸ hw)).elim (fun e => absurd (congrArg Prod.fst e) spell_ne_style) (h.spell w) }
  by_cases h2 : k = kClass
  · subst h2
    rw [set_class]
    exact { h with cls := classNamesOf_join_idem v }
  · rw [set_other st h1 h2]
    exact { h with
      nodup := nodup_dictSet _ _ h.nodup
      names := hnames h2 _
      styleKey := Iff.trans
        ⟨fun hk => ((mem_keys_dictSet _).mp hk).resolve_left (Ne.symm h1), fun hk => (mem_keys_dictSet _).mpr (Or.inr hk)⟩
        h.styleKey
      -- under `spellcheck` the value written is a boolean string, a fixed point of `boolString`
      spell := fun w hw => (Dict.mem_set (dictSet_eq .. ▸ hw)).elim
        (fun e => by obtain ⟨e1, e2⟩ := Prod.mk.inj e; rw [e2, if_pos e1.symm, boolString_idem]) (h.spell w) }

theorem canon_intake : ∀ (l : List Attr) {st : AttrState}, Canon st → Canon (intake l st)
  | [], _, h => h
  | p :: r, _, h => by
    rw [intake_cons, intakeStep]
    split
    · next hv => exact canon_intake r (canon_set h hv (lower_idem _) _)
    · exact canon_intake r h

/-- the dict with the style object shown as its text -/
def dS (st : AttrState) : List Attr :=
  if st.style.isEmpty then st.d else dictSet st.d kStyle (some (styleStr st.style))

/-- the `class` entry `_handleClassAttr` writes, last -/
def cP (st : AttrState) : List Attr :=
  if st.classes.isEmpty then [] else [(kClass, some (joinWith [' '] st.classes))]

theorem view_eq {st : AttrState} (h : Canon st) : st.view = dS st ++ cP st := by
  rw [view_eq_ensure]
  unfold ensureKey dS cP
  have hc : kClass ∉ keys st.d := fun m => (h.names _ m).2.2 rfl
  have hk : st.style.isEmpty = true → kStyle ∉ keys st.d := fun hs m => h.styleKey.mp m (List.isEmpty_iff.mp hs)
  by_cases hcl : st.classes.isEmpty = true <;> by_cases hs : st.style.isEmpty = true <;>
    simp only [hcl, hs, if_true, if_false, Bool.false_eq_true, List.append_nil]
  · rw [dictDel_of_not_mem hc, dictDel_of_not_mem (hk hs)]
  · rw [dictDel_of_not_mem hc]
  · rw [dictSet_of_not_mem _ hc]
    apply dictDel_of_not_mem
    intro m
    simp only [keys, List.map_append, List.mem_append, List.map_cons, List.map_nil, List.mem_singleton] at m
    rcases m with m | m
    · exact hk hs m
    · exact class_ne_style m.symm
  · rw [dictSet_of_not_mem _ hc]
    rw [dictSet_eq, dictSet_eq]
    exact Dict.set_append_of_mem _ _ (h.styleKey.mpr (mt List.isEmpty_iff.mpr hs))

theorem intake_append (xs ys : List Attr) (st : AttrState) : intake (xs ++ ys) st = intake ys (intake xs st) := by
  rw [intake_eq_foldl, intake_eq_foldl, intake_eq_foldl, List.foldl_append]

/-- what the loop needs of one listed pair: a valid lower-case name other than `class`; under `spellcheck` a
    boolean string; under `style` the rendering of a non-empty style map that is a fixed point -/
def ItemOK (m : List (Str × Str)) (p : Attr) : Prop :=
  validAttrName p.1 = true ∧ lower p.1 = p.1 ∧ p.1 ≠ kClass ∧
  (p.1 = kSpell → p.2 = some (boolString p.2)) ∧
  (p.1 = kStyle → p.2 = some (styleStr m) ∧ styleToDict (styleStr m) = m ∧ m ≠ [])

theorem step_itemOK {m : List (Str × Str)} {p : Attr} (h : ItemOK m p) {acc : List Attr} (hf : p.1 ∉ keys acc)
    (cl : List Str) (sty : List (Str × Str)) :
    intakeStep ⟨acc, cl, sty⟩ p = ⟨acc ++ [p], cl, if p.1 = kStyle then m else sty⟩ := by
  obtain ⟨k, v⟩ := p
  obtain ⟨hv, hl, hcl, hsp, hst⟩ := h
  simp only at hv hl hcl hsp hst hf
  simp only [intakeStep, hl, hv, if_true]
  by_cases h1 : k = kStyle
  · subst h1
    obtain ⟨rfl, hidem, hne⟩ := hst rfl
    rw [set_style, if_pos rfl]
    simp only [Option.getD_some, hidem, mt List.isEmpty_iff.mp hne, Bool.false_eq_true, if_false]
    rw [dictSet_of_not_mem _ hf]
  · -- what is listed under `spellcheck` is already the boolean string
    have hw : (if k = kSpell then some (boolString v) else v) = v := by
      split
      · next e => exact (hsp e).symm
      · rfl
    rw [set_other _ h1 hcl, hw, if_neg h1, dictSet_of_not_mem _ hf]

theorem intake_canon_list (m : List (Str × Str)) : ∀ (xs acc : List Attr) (cl : List Str) (sty : List (Str × Str)),
    (∀ p ∈ xs, ItemOK m p) → (keys xs).Nodup → (∀ k ∈ keys xs, k ∉ keys acc) →
    intake xs ⟨acc, cl, sty⟩ = ⟨acc ++ xs, cl, if kStyle ∈ keys xs then m else sty⟩
  | [], acc, cl, sty, _, _, _ => by simp [intake, keys]
  | p :: xs, acc, cl, sty, hok, hn, hd => by
    have hn' : p.1 ∉ keys xs ∧ (keys xs).Nodup := List.nodup_cons.mp hn
    have hd' : ∀ k ∈ keys xs, k ∉ keys (acc ++ [p]) := fun k hk hm => by
      rw [keys, List.map_append, List.mem_append] at hm
      rcases hm with hm | hm
      · exact hd k (List.mem_cons_of_mem _ hk) hm
      · rw [List.mem_singleton.mp hm] at hk; exact hn'.1 hk
    rw [intake_cons, step_itemOK (hok p (List.mem_cons_self ..)) (hd _ (List.mem_cons_self ..)),
      intake_canon_list m xs _ _ _ (fun q hq => hok q (List.mem_cons_of_mem _ hq)) hn'.2 hd', List.append_assoc]
    have hk : kStyle ∈ keys (p :: xs) ↔ p.1 = kStyle ∨ kStyle ∈ keys xs := by
      rw [keys, List.map_cons, List.mem_cons, eq_comm]; rfl
    by_cases h1 : p.1 = kStyle <;> by_cases h2 : kStyle ∈ keys xs <;> simp only [hk, h1, h2, if_true, if_false, or_self, or_true, true_or] <;> rfl

theorem dS_eq_forget {st : AttrState} (h : Canon st) : dS st = forget (fun _ => some (styleStr st.style)) st.d := by
  unfold dS
  split
  · next hs => exact (forget_of_not_mem _ (fun m => h.styleKey.mp m (List.isEmpty_iff.mp hs))).symm
  · next hs => exact dictSet_style_eq_forget h.nodup (h.styleKey.mpr (mt List.isEmpty_iff.mpr hs)) _

theorem style_mem_dS {st : AttrState} (h : Canon st) : kStyle ∈ keys (dS st) ↔ st.style ≠ [] := by
  rw [dS_eq_forget h, keys_forget]; exact h.styleKey

theorem nodup_dS {st : AttrState} (h : Canon st) : (keys (dS st)).Nodup := by
  rw [dS_eq_forget h, keys_forget]; exact h.nodup

theorem itemOK_dS {st : AttrState} (h : Canon st) : ∀ p ∈ dS st, ItemOK st.style p := by
  rw [dS_eq_forget h]
  intro p hp
  obtain ⟨q, hq, rfl⟩ := List.mem_map.mp hp
  obtain ⟨hv, hl, hc⟩ := h.names q.1 (mem_keys_of_mem hq)
  refine ⟨hv, hl, hc, fun e => ?_, fun e => ?_⟩
  · have e' : q.1 = kSpell := e
    simp only [e', if_neg spell_ne_style]
    exact h.spell _ (by obtain ⟨k, w⟩ := q; subst e'; exact hq)
  · have e' : q.1 = kStyle := e
    exact ⟨if_pos e', h.styleIdem, h.styleKey.mp (e' ▸ mem_keys_of_mem hq)⟩

theorem intake_view {st : AttrState} (h : Canon st) :
    intake st.view AttrState.empty = ⟨dS st, st.classes, st.style⟩ := by
  have h1 := intake_canon_list st.style (dS st) [] [] [] (itemOK_dS h) (nodup_dS h) (by simp [keys])
  have hsty : (if kStyle ∈ keys (dS st) then st.style else []) = st.style := by
    by_cases hs : st.style = []
    · rw [hs]; exact ite_self _
    · exact if_pos ((style_mem_dS h).mpr hs)
  rw [List.nil_append, hsty] at h1
  rw [view_eq h, intake_append, show AttrState.empty = (⟨[], [], []⟩ : AttrState) from rfl, h1]
  unfold cP
  cases hcl : st.classes with
  | nil => rfl
  | cons c r =>
    rw [← hcl, if_neg (by rw [hcl]; exact Bool.false_ne_true), intake_cons]
    simp only [intakeStep, show lower kClass = kClass by decide, show validAttrName kClass = true by decide, if_true,
      set_class, intake, h.cls]

theorem view_stable_of_canon {st : AttrState} (h : Canon st) :
    (intake st.view AttrState.empty).view = st.view := by
  rw [view_eq (canon_intake _ canon_empty), intake_view h, view_eq h]
  unfold dS cP
  simp only
  by_cases hs : st.style.isEmpty = true
  · simp only [hs, if_true]
  · simp only [hs, if_false, Bool.false_eq_true, dictSet_eq, Dict.set_set_self]

end AHP.AttrStores

namespace AHP
open AHP.AttrStores

/-- **Every `intake` image is view-stable.** For EVERY raw attribute list `l` — `class`, `style`, `spellcheck`,
    duplicate names, upper-case names, invalid names included — the store `AdvancedTag.__init__` builds from it lists
    the same name/value pairs, in the same order, after being rebuilt from its own listing. -/
theorem intake_view_stable (l : List Attr) :
    (intake (intake l AttrState.empty).view AttrState.empty).view = (intake l AttrState.empty).view :=
  view_stable_of_canon (canon_intake l canon_empty)

/-- the same for a store re-read any number of times: the listing is a fixed point from the first build on -/
theorem intake_view_canon (l : List Attr) : AttrStores.Canon (intake l AttrState.empty) :=
  canon_intake l canon_empty

end AHP
