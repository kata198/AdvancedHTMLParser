/-
  AHP.Lemmas.AttrsViews — C08: what the readers see.  `viewList e` (= `getAttributesList()`) is the one synchronised
  association list; `items()`, `keys()`, the rendered start tag and the attribute list read back from it are maps of
  it, and every per-key reader (`in`, `attributes[k]`, `attributes.get`, `getAttribute`, the DOM node) is a lookup in
  it.  What it holds under a key is a function of the class list, the style map and the raw slot (`viewList_lookup`),
  so FRAME for the state (`keeps_step`) is FRAME for every reader (`frame_lookup`, `readers_congr`).

  Names of the reader equations, for a key other than class / style: `X_look` — the reader as a function of the lookup, under
  `DictInv` alone, boolean-string keys included; `X_of_not_binStr` — the same read off for a key outside `T.binStr`;
  `X_listed` — for every such key once the stored values are normalised (`BinStrInv`).
-/
import AHP.Lemmas.AttrsInv
namespace AHP.Attrs
open AHP

theorem items_fst (e : El) :
    (items e).1 = (handleClassAttr e).dict.map (fun p => (p.1, slotVal (handleClassAttr e) p.2)) := rfl

theorem items_snd (e : El) : (items e).2 = handleClassAttr e := rfl

theorem attrsList_fst (e : El) : (attrsList e).1 = (items e).1.map (fun p => (p.1, p.2.tostrOpt)) := rfl

theorem attrsList_snd (e : El) : (attrsList e).2 = handleClassAttr e := rfl

theorem keys_fst (e : El) : (keys e).1 = akeys (handleClassAttr e).dict := rfl

theorem akeys_items (e : El) : akeys (items e).1 = akeys (handleClassAttr e).dict := by
  rw [items_fst, akeys_map]

theorem akeys_attrsList (e : El) : akeys (attrsList e).1 = akeys (handleClassAttr e).dict := by
  rw [attrsList_fst, akeys_map, akeys_items]

theorem aget_items (e : El) (k : Str) :
    aget k (items e).1 = (aget k (handleClassAttr e).dict).map (slotVal (handleClassAttr e)) := by
  rw [items_fst, aget_map]

theorem aget_attrsList (e : El) (k : Str) :
    aget k (attrsList e).1 = ((aget k (handleClassAttr e).dict).map (slotVal (handleClassAttr e))).map PyVal.tostrOpt := by
  rw [attrsList_fst, aget_map, aget_items]

/-- what a parser reads back for one rendered attribute -/
def readBackVal (T : Tables) (k : Str) (v : PyVal) : Option Str :=
  match renderItem T (k, v) with
  | .bare _ => none
  | .quoted _ w => some (unescQ w)

def RItem.name : RItem → Str
  | .bare n => n
  | .quoted n _ => n

theorem renderItem_name (T : Tables) (p : Str × PyVal) : (renderItem T p).name = p.1 := by
  unfold renderItem
  split
  · rfl
  · simp only
    split <;> (split <;> rfl)

theorem readBack_map (T : Tables) : ∀ l : List (Str × PyVal),
    readBack (l.map (renderItem T)) = l.map (fun p => (p.1, readBackVal T p.1 p.2))
  | [] => rfl
  | (k, v) :: r => by
    have hn := renderItem_name T (k, v)
    simp only [List.map_cons]
    unfold readBackVal
    rcases hr : renderItem T (k, v) with n | ⟨n, w⟩
    · rw [hr] at hn; simp only [RItem.name] at hn
      simp only [readBack, readBack_map T r, hn, readBackVal]
    · rw [hr] at hn; simp only [RItem.name] at hn
      simp only [readBack, readBack_map T r, hn, readBackVal]

theorem startTagItems_fst (T : Tables) (e : El) : (startTagItems T e).1 = (items e).1.map (renderItem T) := rfl

theorem aget_readBack (T : Tables) (e : El) (k : Str) :
    aget k (readBack (startTagItems T e).1) = (aget k (items e).1).map (readBackVal T k) := by
  rw [startTagItems_fst, readBack_map, aget_eq, aget_eq]
  exact Dict.lookup_map (readBackVal T) k (items e).1

theorem akeys_readBack (T : Tables) (e : El) : akeys (readBack (startTagItems T e).1) = akeys (handleClassAttr e).dict := by
  rw [startTagItems_fst, readBack_map]
  exact (Dict.keys_map (readBackVal T) (items e).1).trans (akeys_items e)

theorem readBackVal_str (T : Tables) (k : Str) {s : Str} (hne : s ≠ [] ∨ T.binary.contains k = false) :
    readBackVal T k (.str s) = some (unescQ (escQ s)) := by
  simp only [readBackVal, renderItem]
  by_cases hs0 : s = []
  · subst hs0
    have hne' : k ∉ T.binary := fun hm => by
      rcases hne with hne | hne
      · exact hne rfl
      · rw [List.contains_iff_mem.mpr hm] at hne; cases hne
    simp [PyVal.falsy, hne']
  · have : s.isEmpty = false := by simpa using hs0
    simp [PyVal.falsy, PyVal.tostrOpt, this]

/-- a style object is never falsy, so its (non-empty) text is always rendered between quotes -/
theorem readBackVal_style (T : Tables) (k : Str) {s : Str} (hs : s ≠ []) :
    readBackVal T k (.style s) = some (unescQ (escQ s)) := by
  have : s.isEmpty = false := by simpa using hs
  simp [readBackVal, renderItem, PyVal.falsy, PyVal.tostrOpt, this]

/-- the synchronised association list every view is a projection of: `getAttributesList()` -/
def viewList (e : El) : List (Str × Option Str) := (attrsList e).1

/-- the raw ordinary value under a key (`none` = key absent) -/
def rawLookup (k : Str) (e : El) : Option (Option Str) :=
  match aget k e.dict with
  | some (.val v) => some v
  | _ => none

theorem rawLookup_of_val {k : Str} {e : El} {v : Option Str} (h : aget k e.dict = some (.val v)) : rawLookup k e = some v := by
  unfold rawLookup; rw [h]

theorem rawLookup_of_absent {k : Str} {e : El} (h : aget k e.dict = none) : rawLookup k e = none := by
  unfold rawLookup; rw [h]

theorem slot_of_ordinary {e : El} (h : DictInv e) {k : Str} (hc : k ≠ classK) (hs : k ≠ styleK) {s : Slot}
    (hg : aget k e.dict = some s) : ∃ v, s = .val v := by
  have hm := Dict.mem_of_lookup (aget_eq .. ▸ hg)
  have := (h.slots (k, s) hm).2.2
  cases s with
  | val v => exact ⟨v, rfl⟩
  | cls x => exact absurd this hc
  | sty => exact absurd this hs

theorem viewList_ordinary {e : El} (h : DictInv e) {k : Str} (hc : k ≠ classK) (hs : k ≠ styleK) :
    aget k (viewList e) = rawLookup k e := by
  unfold viewList rawLookup
  rw [aget_attrsList, aget_other_sync e hc hs]
  rcases hg : aget k e.dict with _ | s
  · rfl
  · obtain ⟨v, rfl⟩ := slot_of_ordinary h hc hs hg
    cases v <;> rfl

theorem viewList_class (e : El) :
    aget classK (viewList e) = if e.cls.isEmpty then none else some (some e.className) := by
  unfold viewList
  rw [aget_attrsList, aget_class_sync]
  split <;> rfl

theorem viewList_style (e : El) :
    aget styleK (viewList e) = if e.sty.isEmpty then none else some (some (asStr e.sty)) := by
  unfold viewList
  rw [aget_attrsList, aget_style_sync]
  split <;> rfl

theorem viewList_lookup {e : El} (h : DictInv e) (k : Str) :
    aget k (viewList e) =
      if k = classK then (if e.cls.isEmpty then none else some (some e.className))
      else if k = styleK then (if e.sty.isEmpty then none else some (some (asStr e.sty)))
      else rawLookup k e := by
  by_cases hc : k = classK
  · rw [if_pos hc, hc, viewList_class]
  · rw [if_neg hc]
    by_cases hs : k = styleK
    · rw [if_pos hs, hs, viewList_style]
    · rw [if_neg hs, viewList_ordinary h hc hs]

theorem akeys_viewList (e : El) : akeys (viewList e) = akeys (handleClassAttr e).dict := akeys_attrsList e

theorem aget_sync_idem {e : El} (k : Str) :
    aget k (handleClassAttr (handleClassAttr e)).dict = aget k (handleClassAttr e).dict := by
  by_cases hc : k = classK
  · subst hc; rw [aget_class_sync, aget_class_sync]; rfl
  · by_cases hs : k = styleK
    · subst hs; rw [aget_style_sync, aget_style_sync]; rfl
    · rw [aget_other_sync _ hc hs]

theorem aget_viewList_sync (e : El) (k : Str) : aget k (viewList (handleClassAttr e)) = aget k (viewList e) := by
  unfold viewList
  rw [aget_attrsList, aget_attrsList, aget_sync_idem]
  rfl

theorem contains_eq_viewList {e : El} (h : DictInv e) (k : Str) :
    contains k e = (aget (lower k) (viewList e)).isSome := by
  unfold contains
  simp only
  by_cases hc : lower k = classK
  · rw [if_pos hc, hc, viewList_class]
    cases e.cls.isEmpty <;> rfl
  · rw [if_neg hc]
    by_cases hs : lower k = styleK
    · rw [hs, viewList_style, h.style]
      cases e.sty.isEmpty <;> rfl
    · rw [viewList_ordinary h hc hs]
      unfold ahas rawLookup
      rcases hg : aget (lower k) e.dict with _ | s
      · rfl
      · obtain ⟨v, rfl⟩ := slot_of_ordinary h hc hs hg
        rfl

def pyOfOpt : Option Str → PyVal
  | none => .none
  | some s => .str s

theorem getitem_look (T : Tables) {e : El} (h : DictInv e) {k : Str} (hc : lower k ≠ classK) (hs : lower k ≠ styleK) :
    getitem T k e = if T.binStr.contains (lower k) then .str (boolString (aget (lower k) (viewList e)).join)
      else pyOfOpt (aget (lower k) (viewList e)).join := by
  unfold getitem rawVal
  simp only [hc, hs, if_false]
  rw [viewList_ordinary h hc hs]
  unfold rawLookup
  rcases hg : aget (lower k) e.dict with _ | s
  · rfl
  · obtain ⟨v, rfl⟩ := slot_of_ordinary h hc hs hg
    cases v <;> rfl

theorem getitem_of_not_binStr (T : Tables) {e : El} (h : DictInv e) {k : Str} (hc : lower k ≠ classK) (hs : lower k ≠ styleK)
    (hb : T.binStr.contains (lower k) = false) :
    getitem T k e = pyOfOpt ((aget (lower k) (viewList e)).join) := by
  rw [getitem_look T h hc hs, hb]
  rfl

theorem listed_normalised {T : Tables} {e : El} (h : DictInv e) (hb : BinStrInv T e) {k : Str} (hc : k ≠ classK) (hs : k ≠ styleK)
    {v : Option Str} (hv : aget k (viewList e) = some v) : normVal T k v = v := by
  rw [viewList_ordinary h hc hs] at hv
  unfold rawLookup at hv
  split at hv
  · next w hw => exact Option.some.inj hv ▸ hb k w hw
  · cases hv

theorem binStr_listed {T : Tables} {e : El} (h : DictInv e) (hb : BinStrInv T e) {k : Str} (hc : k ≠ classK) (hs : k ≠ styleK)
    (hk : T.binStr.contains k = true) {v : Option Str} (hv : aget k (viewList e) = some v) : v = some (boolString v) := by
  have hn := listed_normalised h hb hc hs hv
  unfold normVal at hn
  rw [hk] at hn
  exact hn.symm

theorem keys_contains (e : El) (k : Str) : (keys e).1.contains k = (aget k (viewList e)).isSome := by
  rw [keys_fst, ← akeys_viewList, Bool.eq_iff_iff, List.contains_iff_mem]
  exact ahas_iff_mem.symm

theorem mapGetOpt_look (T : Tables) {e : El} (h : DictInv e) {k : Str} (hc : lower k ≠ classK) (hs : lower k ≠ styleK) :
    (mapGetOpt T k e).1 = if (aget (lower k) (viewList e)).isSome then some (getitem T k e) else none := by
  have hg : getitem T (lower k) (handleClassAttr e) = getitem T k e := by
    rw [getitem_look T (dictInv_handleClassAttr h) (by rw [lower_idem]; exact hc) (by rw [lower_idem]; exact hs),
      getitem_look T h hc hs, lower_idem, aget_viewList_sync]
  unfold mapGetOpt
  simp only [hc, hs, if_false]
  rw [keys_contains, ← hg]
  split <;> rfl

/-- the symbolic-default reader is the modelled reader: `get(k, d)` is `getD d` of it, state included -/
theorem mapGet_eq_opt (T : Tables) (k : Str) (d : PyVal) (e : El) :
    mapGet T k d e = (((mapGetOpt T k e).1).getD d, (mapGetOpt T k e).2) := by
  unfold mapGet mapGetOpt
  simp only
  split
  · rfl
  · split
    · rfl
    · split <;> rfl

theorem getAttribute_eq_opt (T : Tables) (k : Str) (d : PyVal) (e : El) :
    getAttribute T k d e = (((getAttributeOpt T k e).1).getD d, (getAttributeOpt T k e).2) := by
  unfold getAttribute getAttributeOpt
  split
  · split <;> rfl
  · exact mapGet_eq_opt T k d e

theorem getAttributeOpt_snd (T : Tables) (k : Str) (e : El) :
    (getAttributeOpt T k e).2 = e ∨ (getAttributeOpt T k e).2 = handleClassAttr e := by
  have h := getAttribute_snd T k .none e
  rw [getAttribute_eq_opt] at h
  exact h

theorem domItem_eq (T : Tables) {e : El} (h : DictInv e) (k : Str) :
    domItem T k e = (aget (lower k) (viewList e)).map (fun _ => (lower k, getitem T k e)) := by
  have hg : getitem T (lower k) e = getitem T k e := by unfold getitem; rw [lower_idem]
  unfold domItem
  simp only
  rw [contains_eq_viewList h, lower_idem, hg]
  cases aget (lower k) (viewList e) <;> rfl

theorem mapGet_look (T : Tables) {e : El} (h : DictInv e) {k : Str} (hc : lower k ≠ classK) (hs : lower k ≠ styleK) (d : PyVal) :
    (mapGet T k d e).1 = if (aget (lower k) (viewList e)).isSome then getitem T k e else d := by
  rw [mapGet_eq_opt, mapGetOpt_look T h hc hs]
  split <;> rfl

theorem mapGet_of_not_binStr (T : Tables) {e : El} (h : DictInv e) {k : Str} (hc : lower k ≠ classK) (hs : lower k ≠ styleK)
    (hb : T.binStr.contains (lower k) = false) (d : PyVal) :
    (mapGet T k d e).1 = match aget (lower k) (viewList e) with
      | none => d
      | some v => pyOfOpt v := by
  rw [mapGet_look T h hc hs, getitem_of_not_binStr T h hc hs hb]
  rcases aget (lower k) (viewList e) with _ | v <;> rfl

theorem getitem_listed (T : Tables) {e : El} (h : DictInv e) (hb : BinStrInv T e) {k : Str} (hc : lower k ≠ classK)
    (hs : lower k ≠ styleK) {v : Option Str} (hv : aget (lower k) (viewList e) = some v) : getitem T k e = pyOfOpt v := by
  rw [getitem_look T h hc hs, hv]
  cases hk : T.binStr.contains (lower k) with
  | true =>
    show PyVal.str (boolString v) = pyOfOpt v
    conv => rhs; rw [binStr_listed h hb hc hs hk hv]
    rfl
  | false => rfl

theorem mapGetOpt_listed (T : Tables) {e : El} (h : DictInv e) (hb : BinStrInv T e) {k : Str} (hc : lower k ≠ classK)
    (hs : lower k ≠ styleK) : (mapGetOpt T k e).1 = (aget (lower k) (viewList e)).map pyOfOpt := by
  rw [mapGetOpt_look T h hc hs]
  cases hg : aget (lower k) (viewList e) with
  | none => rfl
  | some v => exact congrArg some (getitem_listed T h hb hc hs hg)

theorem mapGet_listed (T : Tables) {e : El} (h : DictInv e) (hb : BinStrInv T e) {k : Str} (hc : lower k ≠ classK)
    (hs : lower k ≠ styleK) (d : PyVal) :
    (mapGet T k d e).1 = match aget (lower k) (viewList e) with
      | none => d
      | some v => pyOfOpt v := by
  rw [mapGet_eq_opt, mapGetOpt_listed T h hb hc hs]
  cases aget (lower k) (viewList e) <;> rfl

theorem boolOfString_true : boolOfString (.str strTrue) = true := by decide

theorem boolOfString_false : boolOfString (.str strFalse) = false := by decide

theorem lookup_of_keeps {e e' : El} (h : DictInv e) (h' : DictInv e') {k : Str} (hk : Keeps k e e') :
    aget k (viewList e') = aget k (viewList e) := by
  rw [viewList_lookup h', viewList_lookup h]
  by_cases h1 : k = classK
  · subst h1; simp only [if_true, El.className, hk.1 rfl]
  · by_cases h2 : k = styleK
    · subst h2; simp only [h1, if_false, if_true, hk.2.1 rfl]
    · simp only [h1, h2, if_false, rawLookup, hk.2.2 h1 h2]

theorem lookup_congr {e e' : El} (h : DictInv e) (h' : DictInv e') {k : Str} (hc : e'.cls = e.cls) (hs : e'.sty = e.sty)
    (hd : k ≠ classK → k ≠ styleK → aget k e'.dict = aget k e.dict) : aget k (viewList e') = aget k (viewList e) :=
  lookup_of_keeps h h' ⟨fun _ => hc, fun _ => hs, hd⟩

theorem frame_lookup (T : Tables) (op : Op) {e : El} (h : DictInv e) {k : Str} (hk : k ∉ addresses T op) :
    aget k (viewList (step T e op).2) = aget k (viewList e) :=
  lookup_of_keeps h (dictInv_step T op h) (keeps_step T op e hk)

theorem readers_congr (T : Tables) {e e' : El} (h : DictInv e) (h' : DictInv e')
    {k : Str} (hc : lower k ≠ classK) (hs : lower k ≠ styleK)
    (hsame : aget (lower k) (viewList e') = aget (lower k) (viewList e)) (d : PyVal) :
    getitem T k e' = getitem T k e ∧ (mapGet T k d e').1 = (mapGet T k d e).1 ∧
    (getAttribute T k d e').1 = (getAttribute T k d e).1 ∧ hasAttribute k e' = hasAttribute k e ∧
    contains k e' = contains k e ∧ domItem T k e' = domItem T k e := by
  have hget : getitem T k e' = getitem T k e := by rw [getitem_look T h' hc hs, getitem_look T h hc hs, hsame]
  have hcont : contains k e' = contains k e := by rw [contains_eq_viewList h', contains_eq_viewList h, hsame]
  have hmg : (mapGet T k d e').1 = (mapGet T k d e).1 := by
    rw [mapGet_look T h' hc hs, mapGet_look T h hc hs, hsame, hget]
  refine ⟨hget, hmg, ?_, ?_, hcont, by rw [domItem_eq T h', domItem_eq T h, hsame, hget]⟩
  · unfold getAttribute
    cases T.binary.contains k with
    | true =>
      simp only [if_true]
      rw [hcont, hget]
      cases contains k e <;> rfl
    | false => exact hmg
  · unfold hasAttribute
    rw [contains_eq_viewList h', contains_eq_viewList h, lower_idem, hsame]

end AHP.Attrs
