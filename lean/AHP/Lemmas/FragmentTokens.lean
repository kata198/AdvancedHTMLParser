/-
  AHP.Lemmas.FragmentTokens — which of `single` / `multi` the document parser produces for a token list (C20 on
  token lists instead of an assumed `Parsed` input).

  The specification of tree construction (AHP/Spec/Build.lean) decides "single-root document" with `Spec.single`: outer
  tokens, one element, outer tokens.  Here that is restated over the NODES of the fragment: `topNodes toks` are the
  top-level nodes the recursive-descent specification assigns to the token list, a node is *significant* when it is
  an element or text that is not blank, and

      `Spec.single … toks = oneRoot (sigNodes (topNodes toks))`

  i.e. a single root exactly when the only significant top-level node is an element; nothing parsed when there is
  no significant node; the wrapper otherwise (two or more significant nodes, or one that is text).

  `Node.toFN` / `parsedOf` turn what the builder model's `feedTokens` reports into the `Parsed` input of the
  fragment model (C20's `parsed toks`).
-/
import AHP.Lemmas.BuilderSpec
import AHP.Lemmas.TotalBuilder
import AHP.Model.Dom
namespace AHP
open Spec

def Node.significant : Node → Bool
  | .text s => !isBlank s
  | .elem _ _ _ _ => true

def sigNodes (l : List Node) : List Node := l.filter Node.significant

/-- the top-level nodes of the fragment (a leading doctype declaration, and white space of the shape
    `[\n]*[ \t]*` in front of it, are not content: `Spec.topTokens`) -/
def topNodes (toks : List Token) : List Node := (items (toks.length + 1) [] (topTokens toks)).1

/-- what the significant top-level nodes amount to: `some none` = nothing, `some (some r)` = exactly one and it
    is an element, `none` = anything else (several, or a single text) -/
def oneRoot : List Node → Option (Option Node)
  | [] => some none
  | [.elem n a sc kids] => some (some (.elem n a sc kids))
  | _ => none

theorem oneRoot_text (s : Str) (l : List Node) : oneRoot (.text s :: l) = none := by
  cases l <;> rfl

theorem oneRoot_elem_cons (n : Str) (a : AttrState) (sc : Bool) (kids : List Node) (x : Node) (l : List Node) :
    oneRoot (.elem n a sc kids :: x :: l) = none := rfl

theorem oneRoot_some (l : List Node) (r : Node) (h : oneRoot l = some (some r)) : l = [r] ∧ r.isText = false := by
  match l, h with
  | [.elem n a sc kids], h => simp [oneRoot] at h; rw [← h]; exact ⟨rfl, rfl⟩
  | [.text _], h | .text _ :: _ :: _, h | .elem _ _ _ _ :: _ :: _, h => simp [oneRoot] at h

theorem oneRoot_none_iff (l : List Node) : oneRoot l = some none ↔ l = [] := by
  match l with
  | [] | [.elem _ _ _ _] | [.text _] | .text _ :: _ :: _ | .elem _ _ _ _ :: _ :: _ => simp [oneRoot]

theorem oneRoot_multi_iff (l : List Node) :
    oneRoot l = none ↔ (2 ≤ l.length ∨ ∃ s, l = [.text s]) := by
  match l with
  | [] | [.elem _ _ _ _] | [.text _] | .text _ :: _ :: _ | .elem _ _ _ _ :: _ :: _ => simp [oneRoot]

theorem isBlank_of_head_not_ws (c : Char) (r : Str) (h : isWs c = false) : isBlank (c :: r) = false := by
  unfold isBlank strip
  have hl : lstrip (c :: r) = c :: r := by simp [lstrip, List.dropWhile, h]
  rw [hl]
  cases hr : rstrip (c :: r) with
  | nil =>
    unfold rstrip at hr
    have h0 : (c :: r).reverse.dropWhile isWs = [] := by
      have := congrArg List.reverse hr
      simpa using this
    have := dropWhile_eq_nil_iff.mp h0 c (by simp)
    rw [h] at this; cases this
  | cons x xs => rfl

theorem sig_text_eq_not_isOuter (t : Token) (s : Str) (h : textOf t = some s) : Node.significant (.text s) = !isOuter t := by
  cases t with
  | data d =>
    simp only [textOf] at h
    split at h
    · cases h
    · rename_i hd
      cases h
      simp [Node.significant, isOuter, hd]
  | entity e | charref e =>
    cases h
    simp [Node.significant, isOuter, isBlank_of_head_not_ws '&' _ (by decide)]
  | comment e =>
    cases h
    show Node.significant (.text ('<' :: ("!--".toList ++ e ++ "-->".toList))) = _
    simp [Node.significant, isOuter, isBlank_of_head_not_ws '<' _ (by decide)]
  | _ => simp [textOf] at h

theorem sig_items_outer (k : Nat) (t : Token) (ts : List Token) (ho : isOuter t = true) :
    sigNodes (items (k + 1) [] (t :: ts)).1 = sigNodes (items k [] ts).1 := by
  cases t with
  | start n a | startend n a | entity n | charref n | comment n => simp [isOuter] at ho
  | end_ n | decl n | unknownDecl n | pi n => simp [items, textOf]
  | data d =>
    simp only [items]
    cases ht : textOf (.data d) with
    | none => rfl
    | some s =>
      simp [sigNodes, sig_text_eq_not_isOuter _ s ht, ho]

theorem sig_items_inner (k : Nat) (t : Token) (ts : List Token) (ho : isOuter t = false)
    (h1 : ∀ n a, t ≠ .start n a) (h2 : ∀ n a, t ≠ .startend n a) :
    ∃ s, sigNodes (items (k + 1) [] (t :: ts)).1 = .text s :: sigNodes (items k [] ts).1 := by
  have h3 : ∀ n, t ≠ .end_ n := by intro n e; rw [e] at ho; simp [isOuter] at ho
  rw [items_text h3 h1 h2 k [] ts]
  cases ht : textOf t with
  | none =>
    cases t <;> simp [textOf] at ht <;> simp [isOuter] at ho
    · exact absurd rfl (h1 _ _)
    · exact absurd rfl (h2 _ _)
    · rename_i d
      simp [ht, isBlank, strip, lstrip, rstrip] at ho
  | some s =>
    exact ⟨s, by simp [sigNodes, sig_text_eq_not_isOuter t s ht, ho]⟩

theorem epilog_iff (k : Nat) : ∀ ts : List Token, ts.length < k →
    (epilogOk ts = true ↔ sigNodes (items k [] ts).1 = []) := by
  induction k with
  | zero => intro ts h; simp at h
  | succ k ih =>
    intro ts hk
    cases ts with
    | nil => simp [epilogOk, items, sigNodes]
    | cons t ts =>
      have hk' : ts.length < k := by simp at hk; omega
      have he : epilogOk (t :: ts) = (isOuter t && epilogOk ts) := by simp [epilogOk]
      by_cases ho : isOuter t = true
      · rw [he, ho, Bool.true_and, sig_items_outer k t ts ho]
        exact ih ts hk'
      · have ho' : isOuter t = false := by simpa using ho
        rw [he, ho', Bool.false_and]
        constructor
        · intro h; cases h
        · intro h
          exfalso
          cases t with
          | start n a =>
            simp only [items] at h
            split at h <;> simp [sigNodes, List.filter_cons, Node.significant] at h
          | startend n a => simp [items, sigNodes, List.filter_cons, Node.significant] at h
          | _ =>
            obtain ⟨s, e⟩ := sig_items_inner k _ ts ho' (by intros; simp) (by intros; simp)
            rw [e] at h; cases h

private theorem oneRoot_after (el : Node) (hel : ∃ n a sc kids, el = .elem n a sc kids) (rest : List Node) (b : Bool)
    (hb : b = true ↔ rest = []) : (if b then some (some el) else none) = oneRoot (el :: rest) := by
  obtain ⟨n, a, sc, kids, e⟩ := hel
  subst e
  cases b with
  | true => have := hb.mp rfl; subst this; rfl
  | false =>
    cases rest with
    | nil => have := hb.mpr rfl; cases this
    | cons x xs => rfl

/-- **single root ⟺ the only significant top-level node is an element.** `Spec.single` — "outer tokens, one
    element, outer tokens" — read off the top-level nodes of the recursive-descent specification. -/
theorem single_eq_oneRoot (k : Nat) : ∀ toks : List Token, toks.length < k →
    single k toks = oneRoot (sigNodes (items k [] toks).1) := by
  induction k with
  | zero => intro ts h; simp at h
  | succ k ih =>
    intro toks hk
    cases toks with
    | nil => simp [single, items, sigNodes, oneRoot]
    | cons t ts =>
      have hk' : ts.length < k := by simp at hk; omega
      cases t with
      | start n a =>
        simp only [single, items]
        split
        · simp only [sigNodes, List.filter_cons, Node.significant, if_true]
          exact oneRoot_after _ ⟨_, _, _, _, rfl⟩ _ _ (epilog_iff k ts hk')
        · simp only [sigNodes, List.filter_cons, Node.significant, if_true]
          have hl := (items_rest k [lower n] ts hk').2
          have hl2 := afterContent_len (lower n) (items k [lower n] ts).2
          exact oneRoot_after _ ⟨_, _, _, _, rfl⟩ _ _ (epilog_iff k _ (by omega))
      | startend n a =>
        simp only [single, items, sigNodes, List.filter_cons, Node.significant, if_true]
        exact oneRoot_after _ ⟨_, _, _, _, rfl⟩ _ _ (epilog_iff k ts hk')
      | _ =>
        simp only [single]
        split
        · rename_i ho
          rw [sig_items_outer k _ ts ho]
          exact ih ts hk'
        · rename_i ho
          obtain ⟨s, e⟩ := sig_items_inner k _ ts (by simpa using ho) (by intros; simp) (by intros; simp)
          rw [e, oneRoot_text]

theorem sig_items_outer_prefix (k : Nat) (r : List Token) : ∀ pre : List Token, (∀ t ∈ pre, isOuter t = true) →
    sigNodes (items (k + pre.length) [] (pre ++ r)).1 = sigNodes (items k [] r).1
  | [], _ => rfl
  | t :: pre, h => by
    rw [List.length_cons, ← Nat.add_assoc, List.cons_append, sig_items_outer _ t _ (h t (by simp))]
    exact sig_items_outer_prefix k r pre (fun x hx => h x (by simp [hx]))

theorem sigNodes_topTokens (toks : List Token) :
    sigNodes (items (toks.length + 1) [] toks).1 = sigNodes (topNodes toks) := by
  obtain ⟨pre, hs, hpre, _⟩ := wrapToks_shape toks
  unfold topNodes
  generalize topTokens toks = r at hs ⊢
  subst hs
  have e : (pre ++ r).length + 1 = r.length + 1 + pre.length := by rw [List.length_append]; omega
  rw [items_fuel ((pre ++ r).length + 1) (r.length + 1) [] r (by omega) (by omega), e]
  exact sig_items_outer_prefix _ r pre (wrapToks_pre_outer hpre)

/-- **which of single / multi the specification builds**, over the top-level nodes of the fragment -/
theorem single_eq_oneRoot_top (toks : List Token) :
    single (toks.length + 1) toks = oneRoot (sigNodes (topNodes toks)) := by
  rw [single_eq_oneRoot (toks.length + 1) toks (Nat.lt_succ_self _), sigNodes_topTokens]

theorem single_root_name (k : Nat) : ∀ (toks : List Token) (r : Node), single k toks = some (some r) →
    ∃ n a' sc kids, r = .elem (lower n) a' sc kids ∧ ∃ a, Token.start n a ∈ toks ∨ Token.startend n a ∈ toks := by
  intro toks r h
  -- the cases of `fun_induction single` are its equations in order, each `if` split: 3, 5 a start tag that is the root,
  -- 7 a self-closed one, 9 an outer token in front; every other case answers `none` or `some none`
  fun_induction single k toks
  case case3 n a _ _ _ _ | case5 n a _ _ _ _ _ => cases h; exact ⟨n, _, _, _, rfl, a, Or.inl List.mem_cons_self⟩
  case case7 n a _ _ => cases h; exact ⟨n, _, _, _, rfl, a, Or.inr List.mem_cons_self⟩
  case case9 ih =>
    obtain ⟨n, a', sc, kids, e, a, hm⟩ := ih h
    exact ⟨n, a', sc, kids, e, a, hm.imp (List.mem_cons_of_mem _) (List.mem_cons_of_mem _)⟩
  all_goals cases h

mutual
/-- a tree of the builder as the fragment model takes it: attributes as the views list them -/
def Node.toFN : Node → Dom.FN
  | .text s => .text s
  | .elem n a sc kids => .el n a.view sc (toFNL kids)
def toFNL : List Node → List Dom.FN
  | [] => []
  | k :: ks => k.toFN :: toFNL ks
end

/-- what the document parser hands to the fragment constructors: the single root of a first-pass document, the
    blocks of the wrapper of a second-pass document; `none` = nothing was parsed (`root is None`, the fragment
    APIs raise `AttributeError`) or the parse raised -/
def parsedOf : FeedResult → Option Dom.Parsed
  | .doc ⟨_, some root⟩ false => some (.single root.toFN)
  | .doc ⟨_, some (.elem _ _ _ kids)⟩ true => some (.multi (toFNL kids))
  | _ => none

end AHP
