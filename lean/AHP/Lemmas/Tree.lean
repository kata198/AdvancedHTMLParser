/-
  AHP.Lemmas.Tree — facts about `Model/Tree.lean` alone, below the builder: what `leadDoctype` splits off, and the test
  `wsNL` for text of the shape `[\n]*[ \t]*` (such text is blank; the formatter model's test `Fmt.doctypeLead` is the
  same function).
-/
import AHP.Model.Tree
import AHP.Model.Format
import AHP.Lemmas.Str
namespace AHP

theorem leadDoctype_cases {toks pre r : List Token} (h : leadDoctype toks = some (pre, r)) :
    toks = pre ++ r ∧ ((∃ d, pre = [.decl d]) ∨ ∃ ws d, wsNL ws = true ∧ pre = [.data ws, .decl d]) := by
  unfold leadDoctype at h
  split at h
  · cases h; exact ⟨rfl, Or.inl ⟨_, rfl⟩⟩
  · split at h
    · rename_i hws
      cases h; exact ⟨rfl, Or.inr ⟨_, _, hws, rfl⟩⟩
    · cases h
  · cases h

private theorem wsNL_all (ws : Str) : wsNL ws = true → ∀ c ∈ ws, isWs c = true := by
  induction ws with
  | nil => intro _ c hc; cases hc
  | cons c cs ih =>
    intro h x hx
    unfold wsNL at h
    by_cases hc : c = '\n'
    · subst hc
      have h' : wsNL cs = true := by simpa [wsNL, List.dropWhile_cons] using h
      rcases List.mem_cons.mp hx with e | e
      · rw [e]; decide
      · exact ih h' x e
    · have h2 : (c :: cs).dropWhile (fun c => c = ' ' || c = '\t') = [] := by
        simpa [List.dropWhile_cons, hc] using h
      have := dropWhile_eq_nil_iff.mp h2 x hx
      simp at this
      rcases this with e | e <;> subst e <;> decide

theorem wsNL_isBlank (ws : Str) (h : wsNL ws = true) : isBlank ws = true := by
  unfold isBlank strip lstrip
  rw [dropWhile_eq_nil_iff.mpr (wsNL_all ws h)]
  rfl

theorem wsNL_eq_doctypeLead (s : Str) : wsNL s = Fmt.doctypeLead s := by
  unfold wsNL Fmt.doctypeLead
  rw [Bool.eq_iff_iff, List.isEmpty_iff, dropWhile_eq_nil_iff, List.all_eq_true]

end AHP
