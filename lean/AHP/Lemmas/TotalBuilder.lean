/-
  Totality lemmas for the plain parser's stack machine (C03).

  * the open names after an end tag (`names_handleEnd`), by the closing loop as an induction (`popTo_induct`); the bare
    `try/except` of `handle_endtag` is dead code (`handleEndE_eq`: the IndexError it would swallow never happens);
  * `Bottom w`: the outermost open element is called `w`.  No token except `end w` can close it, so from such a
    state every token sequence without `end w` is accepted (`runT_bottom`), whatever it contains;
  * outer tokens (blank text, declarations, processing instructions, end tags) are accepted in every state, hence the
    general wrapped pass (`runT_wrapped_general`);
  * `wrapToks` puts only outer tokens in front of the wrapper (`wrapToks_pre_outer`), so the second pass as `feed` builds it is
    accepted (`runT_wrapToks_ok`).
-/
import AHP.Lemmas.Builder
import AHP.Lemmas.Str
namespace AHP
open Spec

theorem stepT_inside_ok (s : TState) (h : s.stack ≠ []) (t : Token) : ∃ s', stepT s t = .ok s' := by
  cases t with
  | start n a => simp only [stepT]; rw [handleStart_inside s h]; split <;> exact ⟨_, rfl⟩
  | startend n a => simp only [stepT]; rw [handleStart_inside s h]; split <;> exact ⟨_, rfl⟩
  | end_ n => exact ⟨_, rfl⟩
  | _ => exact ⟨_, stepT_text_inside h (fun _ h => by cases h) (fun _ _ h => by cases h) (fun _ _ h => by cases h)⟩

/-- The closing loop of `handle_endtag` as an induction: with `n` open and fuel for the whole stack, either the
    innermost open element is `n` and the loop stops, or it is closed and the loop goes on with `n` still open. -/
theorem popTo_induct {n : Str} {M : Nat → TState → Prop}
    (hit : ∀ k s f fs, s.stack = f :: fs → f.name = n → M (k + 1) s)
    (skip : ∀ k s f fs, s.stack = f :: fs → f.name ≠ n → M k (pop1 s) → M (k + 1) s) :
    ∀ (k : Nat) (s : TState), (names s).length ≤ k → n ∈ names s → M k s := by
  intro k
  induction k with
  | zero =>
    intro s hk hm
    rw [List.length_eq_zero_iff.mp (Nat.le_zero.mp hk)] at hm; cases hm
  | succ k ih =>
    intro s hk hm
    cases hs : s.stack with
    | nil => simp [names, hs] at hm
    | cons f fs =>
      have hn : names s = f.name :: fs.map (·.name) := by simp [names, hs]
      by_cases hf : f.name = n
      · exact hit k s f fs hs hf
      · refine skip k s f fs hs hf (ih (pop1 s) ?_ ?_)
        · rw [names_pop1 hs]; rw [hn] at hk; simpa using Nat.le_of_succ_le_succ hk
        · rw [names_pop1 hs]; rw [hn] at hm
          exact (List.mem_cons.mp hm).resolve_left (fun h => hf h.symm)

theorem names_popTo (n : Str) : ∀ (k : Nat) (s : TState), (names s).length ≤ k → n ∈ names s →
    ∃ pre post, names s = pre ++ n :: post ∧ n ∉ pre ∧ names (popTo n k s) = post := by
  apply popTo_induct
  · intro k s f fs hs hf
    refine ⟨[], fs.map (·.name), by simp [names, hs, hf], by simp, ?_⟩
    rw [popTo_hit n k s f fs hs hf, names_pop1 hs]
  · intro k s f fs hs hf ⟨pre, post, h1, h2, h3⟩
    refine ⟨f.name :: pre, post, ?_, ?_, by rw [popTo_skip n k s f fs hs hf]; exact h3⟩
    · rw [names_pop1 hs] at h1; simp [names, hs, h1]
    · intro hmem
      rcases List.mem_cons.mp hmem with h | h
      · exact hf h.symm
      · exact h2 h

theorem names_handleEnd (s : TState) (n : Str) :
    (n ∉ names s ∧ handleEnd s n = s) ∨
    (∃ pre post, names s = pre ++ n :: post ∧ n ∉ pre ∧ names (handleEnd s n) = post) := by
  unfold handleEnd
  by_cases h : (s.stack.map (·.name)).contains n = true
  · right
    simp only [h, if_true]
    have hm : n ∈ names s := by simpa [names] using h
    exact names_popTo n s.stack.length s (by simp [names]) hm
  · left
    simp only [h, Bool.false_eq_true, if_false]
    exact ⟨by simpa [names] using h, trivial⟩

theorem popToE_eq (n : Str) : ∀ (k : Nat) (s : TState), (names s).length ≤ k → n ∈ names s →
    popToE n k s = some (popTo n k s) := by
  apply popTo_induct
  · intro k s f fs hs hf; simp [popToE, popTo, hs, hf]
  · intro k s f fs hs hf ih; simp only [popToE, popTo, hs, hf, if_false]; exact ih

theorem handleEndE_eq (s : TState) (n : Str) : handleEndE s n = some (handleEnd s n) := by
  unfold handleEndE handleEnd
  by_cases h : (s.stack.map (·.name)).contains n = true
  · simp only [h, if_true]
    exact popToE_eq n s.stack.length s (by simp [names]) (by simpa [names] using h)
  · simp only [h, Bool.false_eq_true, if_false]

/-! ### `Bottom w`: the outermost open element is called `w` -/

def Bottom (w : Str) (s : TState) : Prop := (names s).getLast? = some w

theorem Bottom.stack_ne {w : Str} {s : TState} (h : Bottom w s) : s.stack ≠ [] := by
  intro e
  unfold Bottom names at h
  rw [e] at h; simp at h

theorem bottom_addNode {w : Str} {s : TState} (h : Bottom w s) (c : Node) : Bottom w (addNode s c) := by
  unfold Bottom at *; rw [names_addNode]; exact h

theorem bottom_push {w : Str} {s : TState} (h : Bottom w s) (f : Frame) :
    Bottom w { s with stack := f :: s.stack } := by
  unfold Bottom at *
  have : names { s with stack := f :: s.stack } = f.name :: names s := rfl
  rw [this]; exact getLast?_cons_of_some _ _ _ h

theorem bottom_handleEnd {w : Str} {s : TState} (h : Bottom w s) (n : Str) (hne : n ≠ w) :
    Bottom w (handleEnd s n) := by
  rcases names_handleEnd s n with ⟨_, he⟩ | ⟨pre, post, h1, _, h3⟩
  · rw [he]; exact h
  · unfold Bottom at *
    rw [h3]; rw [h1] at h
    exact getLast?_split w n hne pre post h

theorem stepT_bottom {w : Str} {s : TState} (h : Bottom w s) (t : Token) (ht : t ≠ .end_ w) :
    ∃ s', stepT s t = .ok s' ∧ Bottom w s' := by
  obtain ⟨s', hs⟩ := stepT_inside_ok s h.stack_ne t
  refine ⟨s', hs, ?_⟩
  rcases stepT_ok_cases hs with rfl | ⟨x, _, rfl⟩ | ⟨n, a, _, rfl⟩ | ⟨n, a, _, _, rfl⟩ | ⟨n, rfl, rfl⟩
  · exact h
  · exact bottom_addNode h _
  · exact bottom_addNode h _
  · exact bottom_push h _
  · exact bottom_handleEnd h n (fun e => ht (by rw [e]))

theorem runT_bottom {w : Str} (ts : List Token) : ∀ {s : TState}, Bottom w s → (∀ t ∈ ts, t ≠ .end_ w) →
    ∃ s', runT s ts = .ok s' ∧ Bottom w s' := by
  induction ts with
  | nil => intro s h _; exact ⟨s, rfl, h⟩
  | cons t ts ih =>
    intro s h hw
    obtain ⟨s1, h1, h2⟩ := stepT_bottom h t (hw t List.mem_cons_self)
    obtain ⟨s2, h3, h4⟩ := ih h2 (fun x hx => hw x (List.mem_cons_of_mem _ hx))
    exact ⟨s2, by simp only [runT, h1]; exact h3, h4⟩

theorem stepT_outer_ok (s : TState) (t : Token) (ho : isOuter t = true) : ∃ s', stepT s t = .ok s' := by
  by_cases he : s.stack = []
  · exact ⟨s, stepT_outer_empty s he t ho⟩
  · exact stepT_inside_ok s he t

theorem runT_outer_ok (ts : List Token) : ∀ s : TState, (∀ t ∈ ts, isOuter t = true) → ∃ s', runT s ts = .ok s' := by
  induction ts with
  | nil => intro s _; exact ⟨s, rfl⟩
  | cons t ts ih =>
    intro s h
    obtain ⟨s1, h1⟩ := stepT_outer_ok s t (h t List.mem_cons_self)
    obtain ⟨s2, h2⟩ := ih s1 (fun x hx => h x (List.mem_cons_of_mem _ hx))
    exact ⟨s2, by simp only [runT, h1]; exact h2⟩

theorem runT_outer_empty (ts : List Token) (s : TState) (he : s.stack = [])
    (h : ∀ t ∈ ts, isOuter t = true) : runT s ts = .ok s := by
  induction ts with
  | nil => rfl
  | cons t ts ih =>
    simp only [runT, stepT_outer_empty s he t (h t List.mem_cons_self)]
    exact ih (fun x hx => h x (List.mem_cons_of_mem _ hx))

/-- **the general wrapped pass.**  Outer tokens, then a start tag of `w` (the wrapper), then ANY tokens
    without `end w`, then outer tokens (the closing `end w` is one): never MultipleRootNodeException. -/
theorem runT_wrapped_general (w : Str) (hl : lower w = w) (hv : AHP.isVoid w = false)
    (pre ts post : List Token) (a : List Attr)
    (hpre : ∀ t ∈ pre, isOuter t = true) (hw : ∀ t ∈ ts, t ≠ .end_ w) (hpost : ∀ t ∈ post, isOuter t = true) :
    ∃ s', runT TState.init (pre ++ .start w a :: (ts ++ post)) = .ok s' := by
  have h0 := runT_outer_empty pre TState.init rfl hpre
  rw [runT_append_ok pre _ _ _ h0]
  let s1 : TState := ⟨[⟨w, intake a AttrState.empty, []⟩], none⟩
  have hs : stepT TState.init (.start w a) = .ok s1 := by
    show handleStart TState.init w a false = _
    rw [handleStart_init, hl, ← isVoid_eq, hv]; rfl
  have hb : Bottom w s1 := by simp [Bottom, names, s1]
  obtain ⟨s2, h2, _⟩ := runT_bottom ts hb hw
  obtain ⟨s3, h3⟩ := runT_outer_ok post s2 hpost
  refine ⟨s3, ?_⟩
  simp only [runT, hs]
  rw [runT_append_ok ts post s1 s2 h2]; exact h3

theorem wrapToks_pre_outer {pre : List Token}
    (h : pre = [] ∨ (∃ d, pre = [.decl d]) ∨ ∃ ws d, wsNL ws = true ∧ pre = [.data ws, .decl d]) :
    ∀ t ∈ pre, isOuter t = true := by
  rcases h with rfl | ⟨d, rfl⟩ | ⟨ws, d, hws, rfl⟩
  · simp
  · simp [isOuter]
  · simp [isOuter, wsNL_isBlank _ hws]

theorem runT_wrapToks_ok (toks : List Token) (hw : ∀ t ∈ toks, t ≠ Token.end_ wrapperName) :
    ∃ s', runT TState.init (wrapToks toks) = .ok s' := by
  obtain ⟨pre, e, hpre, h⟩ := wrapToks_shape toks
  rw [h]
  exact runT_wrapped_general wrapperName wrapper_lower wrapper_not_void pre _ [.end_ wrapperName] []
    (wrapToks_pre_outer hpre) (fun t ht => hw t (by rw [e]; exact List.mem_append_right _ ht)) (by simp [isOuter])

theorem start_mem_wrapToks (toks : List Token) : Token.start wrapperName [] ∈ wrapToks toks := by
  obtain ⟨pre, _, _, h⟩ := wrapToks_shape toks
  rw [h]; simp

end AHP
