/-
  AHP.Lemmas.AttrStoresDict — the insertion-ordered dicts and the style parsers of the four models.

  `dictGet`/`dictSet`/`dictDel` of Model/Token.lean are `List.lookup`, `Dict.set`, `Dict.del` of `Lemmas/Dict`
  (`dictGet_eq`, `dictSet_eq`, `dictDel_eq`), whose laws are used through these equalities or, where several proofs
  need one, repeated under this model's names.  `Attrs.aset/adel` and `Pk.dset` are the same functions as
  `dictSet`/`dictDel`; `Pk.ddel` (removes the first entry only) and `Fmt.dictSet` (rewrites every entry with the key)
  are the same functions on dicts whose keys are pairwise distinct — which is what a Python dict is.
  `ensureKey` is the move both `_ensureHtmlAttribute` and `_handleClassAttr` make on the dict (`Dict.delOrSet`: `ensureKey_eq`).
-/
import AHP.Lemmas.AttrStoresStr
import AHP.Lemmas.AttrsStyle
namespace AHP.AttrStores
open AHP

/-- unfolds to `Dict.keys d`, so the laws of `Lemmas/Dict` apply to it as they stand -/
def keys {β : Type} (d : List (Str × β)) : List Str := d.map (·.1)

theorem mem_keys_of_mem {β : Type} {p : Str × β} {d : List (Str × β)} (h : p ∈ d) : p.1 ∈ keys d :=
  List.mem_map_of_mem h

theorem mem_takeWhile {p : Char → Bool} {x : Char} : ∀ {s : Str}, x ∈ s.takeWhile p → x ∈ s
  | _, h => (List.takeWhile_sublist p).subset h

theorem dictSet_eq {β : Type} (d : List (Str × β)) (k : Str) (v : β) : dictSet d k v = Dict.set d k v := by
  induction d with
  | nil => rfl
  | cons p r ih => rw [dictSet, Dict.set, ih]

theorem dictDel_eq {β : Type} (d : List (Str × β)) (k : Str) : dictDel d k = Dict.del d k := rfl

theorem dictGet_eq {β : Type} (d : List (Str × β)) (k : Str) : dictGet d k = d.lookup k := by
  induction d with
  | nil => rfl
  | cons p r ih =>
    obtain ⟨k', v⟩ := p
    by_cases h : k' = k
    · subst h; rw [dictGet, if_pos rfl, List.lookup_cons_self]
    · rw [dictGet, if_neg h, ih, Dict.lookup_cons_ne (Ne.symm h)]

theorem dictSet_cons_same {β : Type} (k : Str) (v v' : β) (r : List (Str × β)) :
    dictSet ((k, v') :: r) k v = (k, v) :: r := by
  rw [dictSet, if_pos rfl]

theorem dictSet_cons_ne {β : Type} {k k' : Str} (h : k' ≠ k) (v v' : β) (r : List (Str × β)) :
    dictSet ((k', v') :: r) k v = (k', v') :: dictSet r k v := by
  rw [dictSet, if_neg h]

theorem dictDel_cons_same {β : Type} (k : Str) (v : β) (r : List (Str × β)) :
    dictDel ((k, v) :: r) k = dictDel r k := Dict.del_cons_self k v r

theorem dictDel_cons_ne {β : Type} {k k0 : Str} (h : k0 ≠ k) (v : β) (r : List (Str × β)) :
    dictDel ((k0, v) :: r) k = (k0, v) :: dictDel r k := Dict.del_cons_ne h v r

theorem aset_eq_dictSet {β : Type} (k : Str) (v : β) (d : List (Str × β)) : Attrs.aset k v d = dictSet d k v :=
  (Attrs.aset_eq k v d).trans (dictSet_eq d k v).symm

set_option smartUnfolding false in
theorem aget_eq_dictGet {β : Type} (k : Str) (d : List (Str × β)) : Attrs.aget k d = dictGet d k := rfl

theorem adel_eq_dictDel {β : Type} (k : Str) (d : List (Str × β)) : Attrs.adel k d = dictDel d k := rfl

theorem fdel_eq {β : Type} (k : Str) (d : List (Str × β)) : Fmt.dictDel d k = dictDel d k := rfl

set_option smartUnfolding false in
theorem dset_eq {β : Type} (k : Str) (v : β) (d : List (Str × β)) : Pk.dset k v d = dictSet d k v := rfl

set_option smartUnfolding false in
theorem dget_eq {β : Type} (k : Str) (d : List (Str × β)) : Pk.dget k d = dictGet d k := rfl

theorem mem_keys_dictSet {β : Type} {k x : Str} (v : β) {d : List (Str × β)} :
    x ∈ keys (dictSet d k v) ↔ x = k ∨ x ∈ keys d := by
  rw [dictSet_eq]; exact Dict.mem_keys_set v

theorem nodup_dictSet {β : Type} (k : Str) (v : β) {d : List (Str × β)} (h : (keys d).Nodup) :
    (keys (dictSet d k v)).Nodup := by
  rw [dictSet_eq]; exact Dict.nodup_set k v h

theorem nodup_dictDel {β : Type} (k : Str) {d : List (Str × β)} (h : (keys d).Nodup) :
    (keys (dictDel d k)).Nodup := Dict.nodup_del k h

theorem dictDel_of_not_mem {β : Type} {k : Str} {d : List (Str × β)} (h : k ∉ keys d) : dictDel d k = d :=
  Dict.del_of_not_mem h

theorem dictSet_of_not_mem {β : Type} {k : Str} (v : β) {d : List (Str × β)} (h : k ∉ keys d) :
    dictSet d k v = d ++ [(k, v)] := by
  rw [dictSet_eq]; exact Dict.set_of_not_mem v h

theorem dictGet_dictSet {β : Type} (k k' : Str) (v : β) (d : List (Str × β)) :
    dictGet (dictSet d k v) k' = if k = k' then some v else dictGet d k' := by
  rw [dictGet_eq, dictGet_eq, dictSet_eq, Dict.lookup_set]
  by_cases h : k = k'
  · rw [if_pos h, if_pos h.symm]
  · rw [if_neg h, if_neg (Ne.symm h)]

theorem dictGet_dictDel {β : Type} (k k' : Str) (d : List (Str × β)) :
    dictGet (dictDel d k) k' = if k = k' then none else dictGet d k' := by
  rw [dictGet_eq, dictGet_eq, dictDel_eq, Dict.lookup_del]
  by_cases h : k = k'
  · rw [if_pos h, if_pos h.symm]
  · rw [if_neg h, if_neg (Ne.symm h)]

theorem map_dictSet {β γ : Type} (g : Str → β → γ) (k : Str) (v : β) (d : List (Str × β)) :
    (dictSet d k v).map (fun p => (p.1, g p.1 p.2)) = dictSet (d.map (fun p => (p.1, g p.1 p.2))) k (g k v) := by
  rw [dictSet_eq, dictSet_eq]; exact Dict.set_map g k v d

theorem map_dictDel {β γ : Type} (g : Str → β → γ) (k : Str) (d : List (Str × β)) :
    (dictDel d k).map (fun p => (p.1, g p.1 p.2)) = dictDel (d.map (fun p => (p.1, g p.1 p.2))) k :=
  Dict.del_map g k d

theorem dictGet_find {β : Type} (k : Str) : ∀ d : List (Str × β),
    dictGet d k = (d.find? (fun p => p.1 = k)).map (·.2)
  | [] => rfl
  | (k0, v0) :: r => by
    by_cases h : k0 = k
    · simp [dictGet, h]
    · simp [dictGet, h, dictGet_find k r]

theorem ddel_eq {β : Type} (k : Str) : ∀ {d : List (Str × β)}, (keys d).Nodup → Pk.ddel k d = dictDel d k
  | [], _ => rfl
  | (k', v') :: r, h => by
    have hn : k' ∉ keys r ∧ (keys r).Nodup := List.nodup_cons.mp h
    by_cases hk : k' = k
    · subst hk
      rw [dictDel_cons_same, dictDel_of_not_mem hn.1, Pk.ddel, if_pos rfl]
    · rw [dictDel_cons_ne hk, ← ddel_eq k hn.2, Pk.ddel, if_neg hk]

theorem any_key_iff {β : Type} {k : Str} {d : List (Str × β)} :
    d.any (fun p => decide (p.1 = k)) = true ↔ k ∈ keys d := by
  simp only [List.any_eq_true, decide_eq_true_eq, keys, List.mem_map]

/-- on a dict that has the key, `dictSet` is the formatter's "rewrite every entry with the key" -/
theorem dictSet_eq_map {β : Type} {k : Str} (v : β) : ∀ {d : List (Str × β)}, (keys d).Nodup → k ∈ keys d →
    dictSet d k v = d.map (fun p => if p.1 = k then (k, v) else p)
  | (k', v') :: r, h, hm => by
    have hn : k' ∉ keys r ∧ (keys r).Nodup := List.nodup_cons.mp h
    by_cases hk : k' = k
    · subst hk
      rw [dictSet_cons_same, List.map_cons, if_pos rfl,
        map_eq_self (fun p hp => if_neg (fun e : p.1 = k' => hn.1 (e ▸ mem_keys_of_mem hp)))]
    · rw [dictSet_cons_ne hk, List.map_cons, if_neg hk,
        dictSet_eq_map v hn.2 ((List.mem_cons.mp hm).resolve_left (Ne.symm hk))]

theorem fset_eq {β : Type} (k : Str) (v : β) {d : List (Str × β)} (h : (keys d).Nodup) :
    Fmt.dictSet d k v = dictSet d k v := by
  unfold Fmt.dictSet
  by_cases hm : k ∈ keys d
  · rw [if_pos (any_key_iff.mpr hm), dictSet_eq_map v h hm]
  · rw [if_neg (fun e => hm (any_key_iff.mp e)), dictSet_of_not_mem v hm]

/-- `_ensureHtmlAttribute`, and the same move `_handleClassAttr` makes for `class`: the key is in the dict exactly
    while its special value is non-empty -/
def ensureKey {σ : Type} (k : Str) (absent : Bool) (v : σ) (d : List (Str × σ)) : List (Str × σ) :=
  if absent then dictDel d k else dictSet d k v

theorem ensureKey_eq {σ : Type} (k : Str) (b : Bool) (v : σ) (d : List (Str × σ)) : ensureKey k b v d = Dict.delOrSet d k b v := by
  cases b
  · exact dictSet_eq d k v
  · rfl

theorem nodup_ensureKey {σ : Type} {k : Str} {b : Bool} {v : σ} {d : List (Str × σ)} (h : (keys d).Nodup) :
    (keys (ensureKey k b v d)).Nodup := by
  rw [ensureKey_eq]; exact Dict.nodup_delOrSet k b v h

theorem mem_ensureKey {σ : Type} {k : Str} {b : Bool} {v : σ} {d : List (Str × σ)} {p : Str × σ}
    (h : p ∈ ensureKey k b v d) : p = (k, v) ∨ p ∈ d :=
  Dict.mem_delOrSet (ensureKey_eq k b v d ▸ h)

theorem map_ensureKey {σ τ : Type} (g : Str → σ → τ) (k : Str) (b : Bool) (v : σ) (d : List (Str × σ)) :
    (ensureKey k b v d).map (fun p => (p.1, g p.1 p.2)) = ensureKey k b (g k v) (d.map (fun p => (p.1, g p.1 p.2))) := by
  rw [ensureKey_eq, ensureKey_eq]; exact Dict.delOrSet_map g k b v d

theorem ensureKey_idem {σ : Type} (k : Str) (b : Bool) (v : σ) (d : List (Str × σ)) :
    ensureKey k b v (ensureKey k b v d) = ensureKey k b v d := by
  rw [ensureKey_eq, ensureKey_eq]; exact Dict.delOrSet_twice k b b v v (fun h h' => absurd (h.symm.trans h') (by decide))

set_option smartUnfolding false in
theorem splitColon_eq (s : Str) : Pk.splitColon s = Attrs.findColon s := rfl

theorem findColon_index : ∀ s : Str,
    Attrs.findColon s = (indexOf? ':' s).map (fun i => (s.take i, s.drop (i + 1)))
  | [] => rfl
  | c :: r => by
    by_cases hc : c = ':'
    · simp [Attrs.findColon, indexOf?, hc]
    · simp only [Attrs.findColon, indexOf?, hc, if_false, findColon_index r]
      cases indexOf? ':' r <;> simp

theorem findColon_while : ∀ s : Str,
    Attrs.findColon s =
      if s.contains ':' then some (s.takeWhile (· ≠ ':'), (s.dropWhile (· ≠ ':')).drop 1) else none
  | [] => by simp [Attrs.findColon]
  | c :: r => by
    by_cases hc : c = ':'
    · subst hc; simp [Attrs.findColon]
    · have hc' : ¬ (':' = c) := fun e => hc e.symm
      simp only [Attrs.findColon, hc, if_false, findColon_while r]
      by_cases hm : ':' ∈ r
      · simp [hm, hc]
      · simp [hm, hc']

theorem styleToDict_attrs (s : Str) : Attrs.styleToDict s = styleToDict s := by
  unfold Attrs.styleToDict styleToDict
  congr 1
  funext d item
  unfold Attrs.styleItem
  rw [findColon_index]
  cases indexOf? ':' item <;> simp [aset_eq_dictSet]

theorem styleToDict_pk (s : Str) : Pk.styleToDict s = styleToDict s := by
  rw [← styleToDict_attrs]
  unfold Pk.styleToDict Attrs.styleToDict
  congr 1
  funext d item
  unfold Attrs.styleItem
  rw [splitColon_eq]
  cases Attrs.findColon item with
  | none => rfl
  | some p => simp [dset_eq, aset_eq_dictSet]

theorem styleStr_attrs (m : List (Str × Str)) : Attrs.asStr m = styleStr m := rfl
theorem styleStr_pk (m : List (Str × Str)) : Pk.styleStr m = styleStr m := rfl
theorem styleStr_fmt (m : List (Str × Str)) : Fmt.styleStr m = styleStr m := rfl

theorem nodup_styleToDict (s : Str) : (keys (styleToDict s)).Nodup := by
  rw [← styleToDict_attrs]; exact (Attrs.styRT_styleToDict s).1

/-- Parsing the rendering of a parsed style gives the same map: the copy `tag.style = StyleAttribute(…)`
    makes through the string form changes nothing. -/
theorem styleToDict_idem (s : Str) : styleToDict (styleStr (styleToDict s)) = styleToDict s := by
  have := Attrs.styleToDict_render_idem s
  rwa [styleStr_attrs, styleToDict_attrs, styleToDict_attrs] at this

/-- model (4) writes with its own `dictSet`, so its fold is compared item by item under the invariant that the keys are
    distinct -/
def fmtStep (d : List (Str × Str)) (item : Str) : List (Str × Str) :=
  if item.contains ':' then
    Fmt.dictSet d (lower (Fmt.pyStrip (item.takeWhile (· ≠ ':')))) (Fmt.pyStrip ((item.dropWhile (· ≠ ':')).drop 1))
  else d

theorem fmt_styleToDict_eq (v : Str) : Fmt.styleToDict v = (splitChar ';' (Fmt.pyStrip v)).foldl fmtStep [] := rfl

theorem fmtStep_eq {d : List (Str × Str)} (item : Str) (hd : (keys d).Nodup) :
    fmtStep d item = Attrs.styleItem d item := by
  unfold fmtStep Attrs.styleItem
  rw [findColon_while]
  by_cases hm : ':' ∈ item
  · simp only [List.contains_eq_mem, hm, decide_true, if_true]
    rw [pyStrip_eq, pyStrip_eq, fset_eq _ _ hd, aset_eq_dictSet]
  · simp [hm]

theorem nodup_styleItem {d : List (Str × Str)} (hd : (keys d).Nodup) (item : Str) :
    (keys (Attrs.styleItem d item)).Nodup := by
  unfold Attrs.styleItem
  cases Attrs.findColon item with
  | none => exact hd
  | some p => simp only; rw [aset_eq_dictSet]; exact nodup_dictSet _ _ hd

theorem foldl_fmtStep_eq : ∀ (items : List Str) {d : List (Str × Str)}, (keys d).Nodup →
    items.foldl fmtStep d = items.foldl Attrs.styleItem d
  | [], _, _ => rfl
  | it :: r, d, hd => by
    simp only [List.foldl_cons]
    rw [fmtStep_eq it hd]
    exact foldl_fmtStep_eq r (nodup_styleItem hd it)

theorem styleToDict_fmt (v : Str) : Fmt.styleToDict v = styleToDict v := by
  rw [fmt_styleToDict_eq, pyStrip_eq, ← styleToDict_attrs]
  unfold Attrs.styleToDict
  exact foldl_fmtStep_eq _ (by simp [keys])

/-- `isWs_lowerChar` (Lemmas/Str.lean) under model (4)'s name of the predicate -/
theorem pyWs_lowerChar (c : Char) : Fmt.pyWs (lowerChar c) = Fmt.pyWs c :=
  isWs_lowerChar c

end AHP.AttrStores
