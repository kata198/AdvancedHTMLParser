/-
  AHP.Lemmas.AttrStoresSim — the constructor loops of the four models build the same store.

  Model (1) (`AttrState`, Model/Token.lean) keeps the most: the raw text under the `style` key.  The other
  three keep a marker there (`Slot.sty`, `DVal.style`, `some []`): `toA`, `toP`, `toF` forget the raw text
  and are otherwise the identity.  Every constructor step commutes with them (`initStep_toA`, `setitem_toP`,
  `set_toF`), hence so do the loops; the listing of the image is the listing of the original
  (`attrsList_toA`, `attrsList_toP`, `items_toF`, through `view_of_conv`: the two synchronising writes erase
  whatever stood under `style`, `sync_forget`).  The only state invariant needed is that the keys of the
  dict are pairwise distinct (`Inv`), which every step keeps.
-/
import AHP.Lemmas.AttrStoresDict
import AHP.Lemmas.AttrsPrim
namespace AHP.AttrStores
open AHP

/-! The three special names are lists of characters, as in Model/Attrs.lean: a comparison with one of them evaluates
    without decoding a string literal (cf. `char_lits`, Lemmas/Ws.lean).  The spellings of the other models
    (`"class".toList`, `Pk.sClass`, `str "class"`, `Spec.kClass`) are rewritten into them where a proof begins. -/

abbrev kStyle : Str := Attrs.styleK
abbrev kClass : Str := Attrs.classK
def kSpell : Str := ['s', 'p', 'e', 'l', 'l', 'c', 'h', 'e', 'c', 'k']

theorem tok_style : "style".toList = kStyle := String.toList_ofList
theorem tok_class : "class".toList = kClass := String.toList_ofList
theorem tok_spell : "spellcheck".toList = kSpell := String.toList_ofList
theorem pk_style : Pk.sStyle = kStyle := String.toList_ofList
theorem pk_class : Pk.sClass = kClass := String.toList_ofList
theorem str_style : str "style" = kStyle := String.toList_ofList
theorem str_class : str "class" = kClass := String.toList_ofList
theorem class_ne_style : kClass ≠ kStyle := Attrs.classK_ne_styleK
theorem spell_ne_style : kSpell ≠ kStyle := by decide
theorem spell_ne_class : kSpell ≠ kClass := by decide

/-! `constants.TAG_ITEM_BINARY_ATTRIBUTES_STRING_ATTR` as models (3) and (4) read it from the generated tables is the one
    name model (1) has inline. -/

theorem pk_boolStr : Pk.boolStrAttrs = [kSpell] := congrArg (fun k => [k]) tok_spell
theorem fmt_boolStr : Fmt.binaryStringAttrs = [kSpell] := congrArg (fun k => [k]) tok_spell
theorem pk_binary : Pk.binaryAttrs = binaryAttrs := rfl
theorem fmt_binary : Fmt.binaryAttrs = binaryAttrs := rfl

theorem getD_match (v : Option Str) : (match v with | some s => s | none => []) = v.getD [] := by
  cases v <;> rfl

/-- the dict is a Python dict: no key twice -/
def Inv (st : AttrState) : Prop := (keys st.d).Nodup

theorem inv_empty : Inv AttrState.empty := by simp [Inv, AttrState.empty, keys]

/-- the body of the loop of `intake` -/
def intakeStep (st : AttrState) (p : Attr) : AttrState :=
  if validAttrName (lower p.1) then st.set (lower p.1) p.2 else st

theorem intake_cons (p : Attr) (r : List Attr) (st : AttrState) : intake (p :: r) st = intake r (intakeStep st p) := by
  obtain ⟨k, v⟩ := p
  simp only [intake, intakeStep]
  split <;> rfl

theorem intake_eq_foldl : ∀ (l : List Attr) (st : AttrState), intake l st = l.foldl intakeStep st
  | [], _ => rfl
  | p :: r, st => by rw [intake_cons, List.foldl_cons, intake_eq_foldl r]

theorem set_unfold (st : AttrState) (k : Str) (v : Option Str) :
    st.set k v =
      if k = kStyle then
        { st with d := (if (styleToDict (v.getD [])).isEmpty then dictDel st.d k else dictSet st.d k v),
                  style := styleToDict (v.getD []) }
      else if k = kClass then { st with classes := classNamesOf v }
      else if k = kSpell then { st with d := dictSet st.d k (some (boolString v)) }
      else { st with d := dictSet st.d k v } := by
  unfold AttrState.set
  rw [tok_style, tok_class, tok_spell]
  cases v <;> rfl

theorem set_style (st : AttrState) (v : Option Str) :
    st.set kStyle v =
      { st with d := (if (styleToDict (v.getD [])).isEmpty then dictDel st.d kStyle else dictSet st.d kStyle v),
                style := styleToDict (v.getD []) } := by
  rw [set_unfold]; simp only [if_true]

theorem set_class (st : AttrState) (v : Option Str) : st.set kClass v = { st with classes := classNamesOf v } := by
  rw [set_unfold]; simp only [class_ne_style, if_false, if_true]

theorem set_other (st : AttrState) {k : Str} (h1 : k ≠ kStyle) (h2 : k ≠ kClass) (v : Option Str) :
    st.set k v = { st with d := dictSet st.d k (if k = kSpell then some (boolString v) else v) } := by
  rw [set_unfold, if_neg h1, if_neg h2]
  split <;> rfl

theorem set_fields (st : AttrState) (k : Str) (v : Option Str) :
    st.set k v =
      ⟨if k = kStyle then ensureKey kStyle (styleToDict (v.getD [])).isEmpty v st.d
        else if k = kClass then st.d else dictSet st.d k (if k = kSpell then some (boolString v) else v),
       if k = kClass then classNamesOf v else st.classes,
       if k = kStyle then styleToDict (v.getD []) else st.style⟩ := by
  by_cases h1 : k = kStyle
  · subst h1; rw [set_style, if_pos rfl, if_pos rfl, if_neg (Ne.symm class_ne_style)]; rfl
  by_cases h2 : k = kClass
  · subst h2; rw [set_class, if_neg h1, if_neg h1, if_pos rfl, if_pos rfl]
  · rw [set_other st h1 h2, if_neg h1, if_neg h1, if_neg h2, if_neg h2]

theorem set_d (st : AttrState) (k : Str) (v : Option Str) :
    (st.set k v).d = if k = kStyle then ensureKey kStyle (styleToDict (v.getD [])).isEmpty v st.d
      else if k = kClass then st.d else dictSet st.d k (if k = kSpell then some (boolString v) else v) :=
  congrArg AttrState.d (set_fields st k v)

theorem set_classes (st : AttrState) (k : Str) (v : Option Str) :
    (st.set k v).classes = if k = kClass then classNamesOf v else st.classes :=
  congrArg AttrState.classes (set_fields st k v)

theorem set_sty (st : AttrState) (k : Str) (v : Option Str) :
    (st.set k v).style = if k = kStyle then styleToDict (v.getD []) else st.style :=
  congrArg AttrState.style (set_fields st k v)

theorem inv_set {st : AttrState} (h : Inv st) (k : Str) (v : Option Str) : Inv (st.set k v) := by
  rw [Inv, set_d]
  split
  · exact nodup_ensureKey h
  · split
    · exact h
    · exact nodup_dictSet _ _ h

theorem inv_step {st : AttrState} (h : Inv st) (p : Attr) : Inv (intakeStep st p) := by
  unfold intakeStep; split
  · exact inv_set h _ _
  · exact h

theorem inv_intake : ∀ (l : List Attr) {st : AttrState}, Inv st → Inv (intake l st)
  | [], _, h => h
  | p :: r, _, h => by rw [intake_cons]; exact inv_intake r (inv_step h p)

/-- the dict with the value under `style` replaced by a marker and every other value embedded -/
def conv {σ : Type} (sty : σ) (emb : Option Str → σ) (d : List (Str × Option Str)) : List (Str × σ) :=
  d.map (fun p => (p.1, if p.1 = kStyle then sty else emb p.2))

theorem conv_set_style {σ : Type} (sty : σ) (emb : Option Str → σ) (d : List (Str × Option Str)) (v : Option Str) :
    conv sty emb (dictSet d kStyle v) = dictSet (conv sty emb d) kStyle sty := by
  have := map_dictSet (fun k v => if k = kStyle then sty else emb v) kStyle v d
  simpa [conv] using this

theorem conv_set_ne {σ : Type} (sty : σ) (emb : Option Str → σ) (d : List (Str × Option Str)) {k : Str}
    (hk : k ≠ kStyle) (v : Option Str) :
    conv sty emb (dictSet d k v) = dictSet (conv sty emb d) k (emb v) := by
  have := map_dictSet (fun k v => if k = kStyle then sty else emb v) k v d
  simpa [conv, hk] using this

theorem conv_set_other {σ : Type} (sty : σ) (emb : Option Str → σ) (d : List (Str × Option Str)) {k : Str}
    (hk : k ≠ kStyle) (c : Prop) [Decidable c] (x y : Option Str) :
    conv sty emb (dictSet d k (if c then x else y))
      = if c then dictSet (conv sty emb d) k (emb x) else dictSet (conv sty emb d) k (emb y) := by
  split <;> exact conv_set_ne _ _ _ hk _

theorem conv_del {σ : Type} (sty : σ) (emb : Option Str → σ) (d : List (Str × Option Str)) (k : Str) :
    conv sty emb (dictDel d k) = dictDel (conv sty emb d) k :=
  map_dictDel (fun k v => if k = kStyle then sty else emb v) k d

theorem keys_conv {σ : Type} (sty : σ) (emb : Option Str → σ) (d : List (Str × Option Str)) :
    keys (conv sty emb d) = keys d := by
  simp [keys, conv, Function.comp_def]

theorem map_conv {σ : Type} (sty : σ) (emb : Option Str → σ) (sh : σ → Option Str) (hemb : ∀ v, sh (emb v) = v)
    (d : List (Str × Option Str)) :
    (conv sty emb d).map (fun p => (p.1, sh p.2)) = d.map (fun p => (p.1, if p.1 = kStyle then sh sty else p.2)) := by
  rw [conv, List.map_map]
  apply List.map_congr_left
  intro p _
  by_cases h : p.1 = kStyle <;> simp [h, hemb]

theorem view_eq_ensure (st : AttrState) :
    st.view = ensureKey kStyle st.style.isEmpty (some (styleStr st.style))
      (ensureKey kClass st.classes.isEmpty (some (joinWith [' '] st.classes)) st.d) := by
  rw [AttrState.view, tok_class, tok_style]; rfl

/-- the value under `style` overwritten by `f`, everything else untouched -/
def forget (f : Option Str → Option Str) (d : List (Str × Option Str)) : List (Str × Option Str) :=
  d.map (fun p => (p.1, if p.1 = kStyle then f p.2 else p.2))

theorem keys_forget (f : Option Str → Option Str) (d : List (Str × Option Str)) : keys (forget f d) = keys d := by
  simp [keys, forget, Function.comp_def]

theorem forget_of_not_mem (f : Option Str → Option Str) {d : List (Str × Option Str)} (h : kStyle ∉ keys d) :
    forget f d = d :=
  map_eq_self fun p hp => by rw [if_neg (fun e : p.1 = kStyle => h (e ▸ mem_keys_of_mem hp))]

theorem dictSet_style_eq_forget {d : List (Str × Option Str)} (hn : (keys d).Nodup) (hm : kStyle ∈ keys d)
    (w : Option Str) : dictSet d kStyle w = forget (fun _ => w) d := by
  rw [dictSet_eq_map w hn hm]
  exact List.map_congr_left fun p _ => by by_cases e : p.1 = kStyle <;> simp [e]

/-- a constant put over whatever stands under `style` is a write of that constant where the key is present, and a
    later write or delete of the key erases a write -/
theorem ensure_style_forget {d : List (Str × Option Str)} (h : (keys d).Nodup) (x : Option Str) (b : Bool)
    (w : Option Str) : ensureKey kStyle b w (forget (fun _ => x) d) = ensureKey kStyle b w d := by
  by_cases hm : kStyle ∈ keys d
  · rw [← dictSet_style_eq_forget h hm, dictSet_eq]
    cases b
    · show dictSet _ _ _ = dictSet _ _ _
      rw [dictSet_eq, dictSet_eq, Dict.set_set_self]
    · exact Dict.del_set_self ..
  · rw [forget_of_not_mem _ hm]

/-- The two synchronising writes of `_handleClassAttr` erase whatever was stored under `style`. -/
theorem sync_forget {d : List (Str × Option Str)} (h : (keys d).Nodup) (x : Option Str) (a b : Bool)
    (c w : Option Str) :
    ensureKey kStyle b w (ensureKey kClass a c (forget (fun _ => x) d))
      = ensureKey kStyle b w (ensureKey kClass a c d) := by
  have hc : ensureKey kClass a c (forget (fun _ => x) d) = forget (fun _ => x) (ensureKey kClass a c d) := by
    have := map_ensureKey (fun k v => if k = kStyle then x else v) kClass a c d
    rw [if_neg class_ne_style] at this
    exact this.symm
  rw [hc, ensure_style_forget (nodup_ensureKey h)]

/-- A store that keeps a marker under `style` (`conv`) and shows its entries to a reader through `sh` lists what
    model (1) lists. -/
theorem view_of_conv {σ : Type} {st : AttrState} (h : Inv st) (sty : σ) (emb : Option Str → σ) (sh : σ → Option Str)
    (hemb : ∀ v, sh (emb v) = v) {c w : σ} (hc : sh c = some (joinWith [' '] st.classes))
    (hw : sh w = some (styleStr st.style)) :
    (ensureKey kStyle st.style.isEmpty w (ensureKey kClass st.classes.isEmpty c (conv sty emb st.d))).map
      (fun p => (p.1, sh p.2)) = st.view := by
  rw [map_ensureKey (fun _ => sh), map_ensureKey (fun _ => sh), map_conv sty emb sh hemb, hc, hw, view_eq_ensure]
  exact sync_forget h (sh sty) _ _ _ _

/-- model (1)'s store as an element of model (2): `Slot.sty` under `style` -/
def toA (tag : Str) (sc : Bool) (st : AttrState) : Attrs.El :=
  { tag := tag, sc := sc, dict := conv Attrs.Slot.sty Attrs.Slot.val st.d, cls := st.classes, sty := st.style }

/-- the one row of the tables handed to model (2) that the constructor consults: `T.binStr`
    (`TAG_ITEM_BINARY_ATTRIBUTES_STRING_ATTR`) holds `spellcheck` and nothing else -/
def TablesOK (T : Attrs.Tables) : Prop := ∀ k : Str, T.binStr.contains k = decide (k = kSpell)

theorem initStep_toA {T : Attrs.Tables} (hT : TablesOK T) (tag : Str) (sc : Bool) (st : AttrState) (p : Attr) :
    Attrs.initStep T (toA tag sc st) p = toA tag sc (intakeStep st p) := by
  simp only [Attrs.initStep, intakeStep, validName_attrs]
  by_cases hv : validAttrName (lower p.1) = true
  · have hl := lower_idem p.1
    generalize lower p.1 = k at hv hl
    rw [if_pos hv, if_pos hv]
    by_cases h1 : k = kStyle
    · rw [Attrs.mapSet_style T (hl.trans h1), h1, set_style]
      simp only [Attrs.ensureStyle, toA, styleToDict_attrs]
      split
      · rw [adel_eq_dictDel, conv_del]
      · rw [aset_eq_dictSet, conv_set_style]
    by_cases h2 : k = kClass
    · rw [Attrs.mapSet_class T (hl.trans h2), h2, set_class]
      simp only [toA, words_attrs, classNamesOf_getD]
    · rw [Attrs.mapSet_ordinary T ((validName_attrs k).trans hv) (hl.symm ▸ h2) (hl.symm ▸ h1), set_other st h1 h2]
      simp only [toA, hl, Attrs.normVal, hT k, decide_eq_true_eq, aset_eq_dictSet, boolString_attrs]
      rw [conv_set_ne _ _ _ h1]
  · rw [if_neg hv, if_neg hv]

/-- what a reader is shown for a slot -/
def slotStr (sty : List (Str × Str)) : Attrs.Slot → Option Str
  | .val v => v
  | .cls s => some s
  | .sty => some (styleStr sty)

theorem slotStr_cls (sty : List (Str × Str)) (s : Str) : slotStr sty (.cls s) = some s := rfl
theorem slotStr_sty (sty : List (Str × Str)) : slotStr sty .sty = some (styleStr sty) := rfl

theorem slotStr_eq_slotView (sty : List (Str × Str)) (s : Attrs.Slot) : slotStr sty s = Attrs.slotView sty s := by
  cases s <;> rfl

theorem attrsList_eq_map (e : Attrs.El) :
    (Attrs.attrsList e).1 = (Attrs.handleClassAttr e).dict.map (fun p => (p.1, slotStr e.sty p.2)) :=
  (Attrs.attrsList_eq_slotView e).trans
    (List.map_congr_left fun p _ => congrArg (Prod.mk p.1) (slotStr_eq_slotView _ _).symm)

theorem attrsList_toA (tag : Str) (sc : Bool) {st : AttrState} (h : Inv st) :
    (Attrs.attrsList (toA tag sc st)).1 = st.view := by
  rw [attrsList_eq_map]
  simp only [Attrs.handleClassAttr, toA, Attrs.El.className, adel_eq_dictDel, aset_eq_dictSet]
  exact view_of_conv h Attrs.Slot.sty Attrs.Slot.val (slotStr st.style) (fun _ => rfl) rfl rfl

/-- model (1)'s store as a store of model (3): `DVal.style` under `style` -/
def toP (st : AttrState) : Pk.Attrs :=
  { dict := conv Pk.DVal.style Pk.DVal.ofOpt st.d, cls := st.classes, sty := st.style }

theorem ensure_eq {m : List (Str × Str)} {d : List (Str × Pk.DVal)} (hd : (keys d).Nodup) :
    Pk.Attrs.ensureStyle m d = ensureKey kStyle m.isEmpty Pk.DVal.style d := by
  unfold Pk.Attrs.ensureStyle ensureKey
  rw [pk_style, ddel_eq _ hd, dset_eq]

theorem setitem_unfold (a : Pk.Attrs) (k : Str) (v : Option Str) :
    Pk.Attrs.setitem a k v =
      if lower k = kStyle then
        some { a with
          sty := Pk.styleToDict (Pk.styleStr (Pk.styleToDict (v.getD []))),
          dict := Pk.Attrs.ensureStyle (Pk.styleToDict (Pk.styleStr (Pk.styleToDict (v.getD []))))
                    (Pk.Attrs.ensureStyle (Pk.styleToDict (Pk.styleStr (Pk.styleToDict (v.getD []))))
                      (Pk.Attrs.ensureStyle (Pk.styleToDict (v.getD [])) a.dict)) }
      else if lower k = kClass then some { a with cls := Pk.classTokens (v.getD []) }
      else if Pk.boolStrAttrs.contains (lower k) then
        some { a with dict := Pk.dset (lower k) (.str (Pk.convBoolStr v)) a.dict }
      else some { a with dict := Pk.dset (lower k) (Pk.DVal.ofOpt v) a.dict } := by
  unfold Pk.Attrs.setitem
  cases v <;> rfl

theorem setitem_toP {st : AttrState} (h : Inv st) {k : Str} (hl : lower k = k) (v : Option Str) :
    Pk.Attrs.setitem (toP st) k v = some (toP (st.set k v)) := by
  have hd : (keys (toP st).dict).Nodup := by simp only [toP, keys_conv]; exact h
  rw [setitem_unfold]
  simp only [hl]
  by_cases h1 : k = kStyle
  · subst h1
    rw [set_style]
    simp only [if_true, styleToDict_pk, styleStr_pk, styleToDict_idem, ensure_eq hd, ensure_eq (nodup_ensureKey hd),
      ensureKey_idem]
    simp only [toP, ensureKey]
    split
    · simp only [conv_del]
    · simp only [conv_set_style]
  by_cases h2 : k = kClass
  · subst h2
    rw [set_class]
    simp only [class_ne_style, if_false, if_true, toP, classTokens_pk, classNamesOf_getD]
  · rw [set_other st h1 h2]
    simp only [h1, h2, if_false, pk_boolStr, contains_single, decide_eq_true_eq, toP, dset_eq, boolString_pk,
      conv_set_other _ _ _ h1]
    split <;> rfl

theorem initGo_toP : ∀ (l : List Attr) {st : AttrState}, Inv st →
    Pk.Attrs.initGo (toP st) l = some (toP (intake l st))
  | [], _, _ => rfl
  | (k, v) :: r, st, h => by
    rw [intake_cons]
    unfold Pk.Attrs.initGo intakeStep
    rw [validName_pk]
    by_cases hv : validAttrName (lower k) = true
    · simp only [hv, if_true, setitem_toP h (lower_idem k) v]
      exact initGo_toP r (inv_set h _ _)
    · simp only [hv, if_false, Bool.false_eq_true]
      exact initGo_toP r h

/-- `tostr(value)` of a raw entry -/
def dvalStr (sty : List (Str × Str)) : Pk.DVal → Option Str
  | .none => none
  | .str s => some s
  | .style => some (styleStr sty)

theorem dvalStr_str (sty : List (Str × Str)) (s : Str) : dvalStr sty (.str s) = some s := rfl
theorem dvalStr_style (sty : List (Str × Str)) : dvalStr sty .style = some (styleStr sty) := rfl

theorem render_eq (a : Pk.Attrs) (v : Pk.DVal) : Pk.Attrs.render a v = dvalStr a.sty v := by
  cases v <;> rfl

theorem handle_toP {st : AttrState} (h : Inv st) :
    (Pk.Attrs.handle (toP st)).dict =
      ensureKey kStyle st.style.isEmpty Pk.DVal.style
        (ensureKey kClass st.classes.isEmpty (Pk.DVal.str (joinWith [' '] st.classes)) (toP st).dict) := by
  have hd : (keys (toP st).dict).Nodup := by simp only [toP, keys_conv]; exact h
  unfold Pk.Attrs.handle
  simp only [pk_class, Pk.className, dset_eq, ddel_eq _ hd]
  exact ensure_eq (nodup_ensureKey hd)

theorem attrsList_toP {st : AttrState} (h : Inv st) : Pk.Attrs.attrsList (toP st) = st.view := by
  unfold Pk.Attrs.attrsList
  rw [handle_toP h]
  have e : (fun p : Str × Pk.DVal => (p.1, Pk.Attrs.render (toP st) p.2))
      = (fun p => (p.1, dvalStr st.style p.2)) := by
    funext p; rw [render_eq]; rfl
  rw [e]
  exact view_of_conv h Pk.DVal.style Pk.DVal.ofOpt (dvalStr st.style) (fun v => by cases v <;> rfl) rfl rfl

/-- model (1)'s store as a store of model (4): `some []` under `style` -/
def toF (st : AttrState) : Fmt.AStore :=
  { dict := conv (some []) id st.d, classes := st.classes, style := st.style }

theorem conv_fmt (d : List (Str × Option Str)) : conv (some []) id d = forget (fun _ => some []) d := rfl

theorem set_toF {st : AttrState} (h : Inv st) (p : Attr) :
    (toF st).set p.1 p.2 = toF (intakeStep st p) := by
  have hd : (keys (toF st).dict).Nodup := by simp only [toF, keys_conv]; exact h
  obtain ⟨k0, v⟩ := p
  unfold Fmt.AStore.set intakeStep
  simp only [validName_fmt, str_style, str_class]
  cases hv : validAttrName (lower k0) with
  | false => simp only [Bool.not_false, if_true, Bool.false_eq_true, if_false]
  | true =>
  simp only [Bool.not_true, Bool.false_eq_true, if_false, if_true]
  generalize lower k0 = k
  by_cases h1 : k = kStyle
  · subst h1
    rw [set_style]
    simp only [if_true, styleToDict_fmt, styleStr_fmt, styleToDict_idem, fdel_eq, fset_eq _ _ hd]
    simp only [toF]
    split
    · simp only [conv_del]
    · simp only [conv_set_style]
  by_cases h2 : k = kClass
  · subst h2
    rw [set_class]
    simp only [class_ne_style, if_false, if_true, toF, classNames_fmt, classNamesOf_getD]
  · rw [set_other st h1 h2]
    simp only [h1, h2, if_false, fmt_boolStr, contains_single, decide_eq_true_eq, fset_eq _ _ hd, boolString_fmt]
    simp only [toF, conv_set_other _ _ _ h1, id]
    split <;> rfl

theorem mkStore_toF : ∀ (l : List Attr) {st : AttrState}, Inv st →
    Fmt.mkStore l (toF st) = toF (intake l st)
  | [], _, _ => rfl
  | (k, v) :: r, st, h => by
    rw [intake_cons]
    unfold Fmt.mkStore
    rw [set_toF h (k, v)]
    exact mkStore_toF r (inv_step h _)

theorem empty_toF : ({} : Fmt.AStore) = toF AttrState.empty := rfl

theorem items_toF {st : AttrState} (h : Inv st) : (toF st).items = st.view := by
  have hd : (keys (toF st).dict).Nodup := by simp only [toF, keys_conv]; exact h
  rw [view_eq_ensure, ← sync_forget h (some [])]
  unfold Fmt.AStore.items
  simp only [str_class, str_style, fdel_eq, fset_eq _ _ hd]
  have hd1 : (keys (if (toF st).classes.isEmpty then dictDel (toF st).dict kClass
      else dictSet (toF st).dict kClass (some (joinWith [' '] (toF st).classes)))).Nodup := nodup_ensureKey hd
  rw [fset_eq _ _ hd1, styleStr_fmt]
  rfl

end AHP.AttrStores
