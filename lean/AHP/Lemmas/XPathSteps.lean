/-
  C14c/C14d: de-duplication, the predicate filter and the step driver against the specification `specSteps`, for any
  compiled form that stands for the syntax (`StepsFor`; the uncompiled flat form is one); the entry points reduced to
  the step driver `evaluate` on the start collection of the receiver.
-/
import AHP.Lemmas.XPath
namespace AHP.XPath

variable {N : Type}

theorem mem_dedup {x : Nat} {l : List Nat} : x ∈ dedup l ↔ x ∈ l := by
  induction l with
  | nil => simp [dedup]
  | cons y ys ih =>
    simp only [dedup, List.mem_cons, List.mem_filter, ih]
    by_cases h : x = y
    · simp [h]
    · simp [h]

theorem nodup_dedup (l : List Nat) : (dedup l).Nodup := by
  induction l with
  | nil => simp [dedup]
  | cons y ys ih =>
    simp only [dedup]
    refine List.nodup_cons.mpr ⟨?_, ih.filter _⟩
    simp

theorem dedup_of_nodup {l : List Nat} (h : l.Nodup) : dedup l = l := by
  induction l with
  | nil => rfl
  | cons y ys ih =>
    have ⟨h1, h2⟩ := List.nodup_cons.mp h
    simp only [dedup, ih h2]
    congr 1
    apply List.filter_eq_self.mpr
    intro a ha
    have : a ≠ y := fun e => h1 (e ▸ ha)
    simpa using this

theorem go_eq_specFilter (nm : Num N) (d : Doc) (l : List (BE N)) (p : P N)
    (h : ∀ i, evalLevel nm (d.ctx i) l = evalP nm (d.ctx i) p) :
    ∀ cur, filterByBody.go nm d l cur = specFilter nm d p cur := by
  intro cur
  induction cur with
  | nil => rfl
  | cons i rest ih =>
    simp only [filterByBody.go, specFilter, specKeep, h, ih]
    cases (evalP nm (d.ctx i) p).bind (keepTag nm d i) <;> cases specFilter nm d p rest <;> rfl

theorem specFilter_sublist (nm : Num N) (d : Doc) (p : P N) :
    ∀ (cur r : List Nat), specFilter nm d p cur = some r → r.Sublist cur := by
  intro cur
  induction cur with
  | nil => intro r h; simp only [specFilter, Option.some.injEq] at h; subst h; exact List.Sublist.slnil
  | cons i rest ih =>
    intro r h
    simp only [specFilter] at h
    cases hk : specKeep nm d p i with
    | none => simp [hk] at h
    | some b =>
      cases hr : specFilter nm d p rest with
      | none => simp [hk, hr] at h
      | some r' =>
        simp only [hk, hr, Option.some.injEq] at h
        subst h
        have := ih r' hr
        cases b
        · exact List.Sublist.cons _ this
        · exact List.Sublist.cons_cons _ this

theorem specFilter_nodup (nm : Num N) (d : Doc) (p : P N) {cur r : List Nat} (hn : cur.Nodup)
    (h : specFilter nm d p cur = some r) : r.Nodup :=
  (specFilter_sublist nm d p cur r h).nodup hn

theorem specPreds_nodup (nm : Num N) (d : Doc) :
    ∀ (ps : List (P N)) (cur r : List Nat), cur.Nodup → specPreds nm d ps cur = some r → r.Nodup := by
  intro ps
  induction ps with
  | nil => intro cur r hn h; simp only [specPreds, Option.some.injEq] at h; subst h; exact hn
  | cons p ps ih =>
    intro cur r hn h
    simp only [specPreds] at h
    cases hf : specFilter nm d p cur with
    | none => simp [hf] at h
    | some r' =>
      cases r' with
      | nil => simp only [hf, Option.some.injEq] at h; subst h; exact List.nodup_nil
      | cons x xs =>
        simp only [hf] at h
        exact ih _ r (specFilter_nodup nm d p hn hf) h

def LevelFor (nm : Num N) (l : List (BE N)) (p : P N) : Prop :=
  l ≠ [] ∧ ∀ c, evalLevel nm c l = evalP nm c p

/-- two lists related element by element -/
inductive AllFor {α β : Type} (R : α → β → Prop) : List α → List β → Prop
  | nil : AllFor R [] []
  | cons {a : α} {b : β} {as : List α} {bs : List β} : R a b → AllFor R as bs → AllFor R (a :: as) (b :: bs)

theorem AllFor.map_left {α β : Type} {R : α → β → Prop} (f : β → α) :
    ∀ bs : List β, (∀ b ∈ bs, R (f b) b) → AllFor R (bs.map f) bs
  | [], _ => .nil
  | b :: bs, h => .cons (h b List.mem_cons_self) (map_left f bs fun c hc => h c (List.mem_cons_of_mem _ hc))

/-- A hand-written `mapM` (`g`, with `f` on the elements) over the images of a list: the results are related to the
    originals one by one, or some original is hopeless. -/
theorem AllFor.of_mapM {α β γ : Type} {f : α → Option β} {g : List α → Option (List β)} (hnil : g [] = some [])
    (hcons : ∀ a as, g (a :: as) = match f a, g as with | some b, some bs => some (b :: bs) | _, _ => none)
    {R : β → γ → Prop} {H : γ → Prop} (src : γ → α) : ∀ cs : List γ,
    (∀ c ∈ cs, match f (src c) with | some b => R b c | none => H c) →
    match g (cs.map src) with
    | some bs => AllFor R bs cs
    | none => ∃ c ∈ cs, H c
  | [], _ => by rw [List.map_nil, hnil]; exact .nil
  | c :: cs, h => by
    have hc := h c List.mem_cons_self
    have ih := of_mapM hnil hcons src cs (fun c' hc' => h c' (List.mem_cons_of_mem _ hc'))
    rw [List.map_cons, hcons]
    cases hf : f (src c) with
    | none => rw [hf] at hc; exact ⟨c, List.mem_cons_self, hc⟩
    | some b =>
      rw [hf] at hc
      cases hg : g (cs.map src) with
      | none => rw [hg] at ih; obtain ⟨c', hm, hh⟩ := ih; exact ⟨c', List.mem_cons_of_mem _ hm, hh⟩
      | some bs => rw [hg] at ih; exact .cons hc ih

def PredsFor (nm : Num N) : List (List (BE N)) → List (P N) → Prop := AllFor (LevelFor nm)

def StepFor (nm : Num N) (c : Step N) (s : SStep N) : Prop :=
  c.dbl = s.dbl ∧ c.axis = s.axis ∧ c.name = s.name ∧ PredsFor nm c.preds s.preds

def StepsFor (nm : Num N) : List (Step N) → List (SStep N) → Prop := AllFor (StepFor nm)

theorem filterByBody_for (nm : Num N) (d : Doc) (l : List (BE N)) (p : P N) (h : LevelFor nm l p)
    (cur : List Nat) (hn : cur.Nodup) : filterByBody nm d l cur = specFilter nm d p cur := by
  unfold filterByBody
  cases cur with
  | nil => rfl
  | cons i rest =>
    have hne : l.isEmpty = false := by
      cases hl : l with
      | nil => exact absurd hl h.1
      | cons _ _ => rfl
    simp only [List.isEmpty_cons, Bool.false_eq_true, ite_false, hne]
    rw [go_eq_specFilter nm d l p (fun i => h.2 (d.ctx i))]
    cases hs : specFilter nm d p (i :: rest) with
    | none => rfl
    | some r =>
      simp only [Option.map_some]
      rw [dedup_of_nodup (specFilter_nodup nm d p hn hs)]

theorem levelFor_flatten (nm : Num N) (p : P N) (hw : P.wf 3 p = true) : LevelFor nm (flatten p) p :=
  ⟨flatten_ne_nil p, fun c => (flatOK nm c p 3 hw).evalLevel⟩

theorem filterByBody_eq_spec (nm : Num N) (d : Doc) (p : P N) (hw : P.wf 3 p = true)
    (cur : List Nat) (hn : cur.Nodup) :
    filterByBody nm d (flatten p) cur = specFilter nm d p cur :=
  filterByBody_for nm d _ p (levelFor_flatten nm p hw) cur hn

theorem runPreds_for (nm : Num N) (d : Doc) {ls : List (List (BE N))} {ps : List (P N)} (h : PredsFor nm ls ps) :
    ∀ cur : List Nat, cur.Nodup → runPreds nm d ls cur = specPreds nm d ps cur := by
  induction h with
  | nil => intro _ _; rfl
  | cons hl _ ih =>
    intro cur hn
    simp only [runPreds, specPreds]
    rw [filterByBody_for nm d _ _ hl cur hn]
    cases hs : specFilter nm d _ cur with
    | none => rfl
    | some r =>
      cases r with
      | nil => rfl
      | cons x xs => exact ih _ (specFilter_nodup nm d _ hn hs)

/-- The find-function the parser picks is the specification's axis, given that the recursive
    descendant walk agrees with the ancestor-based definition (C14c: true of every well-formed document). -/
theorem stepFn_eq_specAxis (d : Doc) (hdesc : ∀ i, d.desc i = specDesc d i) (first : Bool) (c : Step N) (s : SStep N)
    (h1 : c.dbl = s.dbl) (h2 : c.axis = s.axis) (h3 : c.name = s.name) :
    stepFn d first c = specAxis d first s := by
  funext i
  unfold stepFn specAxis
  rw [h1, h2, h3]
  cases s.axis with
  | some a =>
    cases a <;>
      simp only [axisFn, oneLevel, multiLevel, multiLevelOrSelf, parentLevel, ancestorLevel, ancestorOrSelfLevel,
        specSelf, hdesc]
    cases d.parent i with
    | none => rfl
    | some p => simp only [Option.toList, List.filter]; cases nameOk d s.name p <;> rfl
  | none =>
    cases s.dbl <;> cases first <;>
      simp [oneLevel, oneLevelOrSelf, multiLevel, multiLevelOrSelf, specSelf, hdesc]

theorem stepFn_flatten (d : Doc) (hdesc : ∀ i, d.desc i = specDesc d i) (first : Bool) (s : SStep N) (i : Nat) :
    stepFn d first { dbl := s.dbl, axis := s.axis, name := s.name, preds := s.preds.map flatten } i
      = specAxis d first s i :=
  congrFun (stepFn_eq_specAxis d hdesc first _ s rfl rfl rfl) i

theorem runSteps_for (nm : Num N) (d : Doc) (hdesc : ∀ i, d.desc i = specDesc d i) {cs : List (Step N)}
    {ss : List (SStep N)} (h : StepsFor nm cs ss) :
    ∀ (first : Bool) (cur : List Nat), runSteps nm d first cs cur = specSteps nm d first ss cur := by
  induction h with
  | nil => intro _ _; rfl
  | @cons c s _ _ hc _ ih =>
    intro first cur
    obtain ⟨h1, h2, h3, hp⟩ := hc
    simp only [runSteps, specSteps, applyFind]
    rw [stepFn_eq_specAxis d hdesc first c s h1 h2 h3]
    cases hd : dedup (cur.flatMap (specAxis d first s)) with
    | nil => rfl
    | cons x xs =>
      simp only
      rw [runPreds_for nm d hp _ (hd ▸ nodup_dedup _)]
      cases specPreds nm d s.preds (x :: xs) with
      | none => rfl
      | some r =>
        cases r with
        | nil => rfl
        | cons y ys => exact ih false _

theorem stepsFor_flatten (nm : Num N) (ss : List (SStep N)) (h : ∀ s ∈ ss, ∀ p ∈ s.preds, P.wf 3 p = true) :
    StepsFor nm (flattenSteps ss) ss :=
  AllFor.map_left _ ss fun s hs =>
    ⟨rfl, rfl, rfl, AllFor.map_left flatten s.preds fun p hp => levelFor_flatten nm p (h s hs p hp)⟩

theorem runSteps_eq_spec (nm : Num N) (d : Doc) (hdesc : ∀ i, d.desc i = specDesc d i) (ss : List (SStep N))
    (hw : ∀ s ∈ ss, ∀ p ∈ s.preds, P.wf 3 p = true) (first : Bool) (cur : List Nat) :
    runSteps nm d first (flattenSteps ss) cur = specSteps nm d first ss cur :=
  runSteps_for nm d hdesc (stepsFor_flatten nm ss hw) first cur

section
variable (compile : Str → Option (List (Step N))) (nm : Num N)

theorem evaluate_nil_start (d : Doc) (steps : List (Step N)) : evaluate nm d steps [] = some [] := by
  cases steps <;> simp [evaluate, dedup, runSteps, applyFind]

theorem parserEntry_run (d : Doc) (wrapper : Bool) (text : Str) (e : ParserEntry) (he : e ≠ .evaluate .other) :
    e.run compile nm d wrapper text = evalParser compile nm d wrapper text := by
  cases e with
  | evaluate w =>
    cases w with
    | other => exact absurd rfl he
    | default | self =>
      simp only [ParserEntry.run, parserEvaluate, parserGetElementsByXPathExpression, evalParser, exprEvaluate,
        PathRoot.start]
      cases compile text <;> simp
  | _ =>
    simp only [ParserEntry.run, parserGetElementsByXPath, parserGetElementsByXPathExpression, textEvaluate, evalParser,
      exprEvaluate, PathRoot.start]
    cases compile text <;> rfl

theorem parserEntry_other (d : Doc) (wrapper : Bool) (text : Str) :
    (ParserEntry.evaluate .other).run compile nm d wrapper text = none := by
  simp [ParserEntry.run, parserEvaluate]

theorem tagEntry_run (d : Doc) (i : Nat) (text : Str) (e : TagEntry) :
    e.run compile nm d i text = evalElement compile nm d i text := by
  cases e <;>
    simp only [TagEntry.run, tagGetElementsByXPath, tagGetElementsByXPathExpression, textEvaluate, evalElement,
      exprEvaluate, PathRoot.start] <;>
    cases compile text <;> rfl

/-- the two collection methods answer `[]` for an empty collection without compiling; everything else compiles
    first -/
theorem collEntry_run (d : Doc) (ms : List Nat) (text : Str) (e : CollEntry)
    (h : ms ≠ [] ∨ (compile text).isSome = true ∨ e.isMethod = false) :
    e.run compile nm d ms text = evalColl compile nm d ms text := by
  have key : collGetElementsByXPathExpression compile nm d ms text = evalColl compile nm d ms text ∨
      (ms = [] ∧ compile text = none) := by
    simp only [collGetElementsByXPathExpression, evalColl, exprEvaluate, PathRoot.start]
    cases ms with
    | nil =>
      cases hc : compile text with
      | none => exact Or.inr ⟨rfl, rfl⟩
      | some cs => left; simp [evaluate_nil_start]
    | cons x xs =>
      left
      cases compile text <;> simp
  cases e with
  | getElementsByXPathExpression | getElementsByXPath =>
    rcases key with k | ⟨k1, k2⟩
    · exact k
    · rcases h with h | h | h
      · exact absurd k1 h
      · rw [k2] at h; cases h
      · cases h
  | exprEvaluate | exprEvaluateList b =>
    simp only [CollEntry.run, textEvaluate, evalColl, exprEvaluate, PathRoot.start]
    cases compile text <;> rfl

end
end AHP.XPath
