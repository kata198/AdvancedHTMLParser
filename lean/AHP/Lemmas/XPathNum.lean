/-
  AHP.Lemmas.XPathNum — laws for the number structure of the XPath model, and an exact instance.

  `Num N` (AHP.Model.XPath) is "what the engine needs of Python's `float`" with no laws: the C14 theorems that relate
  model and specification hold for every instance.  The value-level clauses of the property ("the n-th among …",
  "numeric comparison is numeric") speak about *particular* numbers — the natural numbers written as decimal
  literals — so they need the instance to treat those as Python does.  `LawfulNum nm` says exactly that much:

    * `float("123")` is the number 123 (`parse` of a decimal integer literal is `ofNat` of its value);
    * `int(float(n)) == n` (`toIndex (ofNat n) = n`);
    * `==`, `<`, `<=` on such numbers are the order of the natural numbers.

  Python's `float` satisfies these for every `n < 2^53` (the tie compares the driver's `Float` instance with the
  library); an exact instance satisfies them outright: `ratNum`, rationals as numerator / positive denominator,
  used in the `example`s of Props/C14.lean.
-/
import AHP.Model.XPathRender
import AHP.Lemmas.Str
namespace AHP.XPath

def digitsVal (ds : List (Fin 10)) : Nat := ds.foldl (fun n d => n * 10 + d.val) 0

/-- a decimal integer literal (`\d+`): the text of the digits -/
def natLit (ds : List (Fin 10)) : Str := ds.map digitChar

structure LawfulNum {N : Type} (nm : Num N) : Prop where
  parse_natLit : ∀ ds : List (Fin 10), ds ≠ [] → nm.parse (natLit ds) = some (nm.ofNat (digitsVal ds))
  toIndex_ofNat : ∀ n : Nat, nm.toIndex (nm.ofNat n) = some (some (Int.ofNat n))
  eq_ofNat : ∀ a b : Nat, nm.eq (nm.ofNat a) (nm.ofNat b) = decide (a = b)
  lt_ofNat : ∀ a b : Nat, nm.lt (nm.ofNat a) (nm.ofNat b) = decide (a < b)
  le_ofNat : ∀ a b : Nat, nm.le (nm.ofNat a) (nm.ofNat b) = decide (a ≤ b)

/-- `num / (den1 + 1)`; not normalised, compared by cross-multiplication -/
structure Q where
  num : Int
  den1 : Nat
  deriving Repr, DecidableEq, Inhabited

namespace Q
def den (q : Q) : Int := Int.ofNat (q.den1 + 1)
def ofNat (n : Nat) : Q := ⟨Int.ofNat n, 0⟩
def over (n d : Int) : Q := ⟨n, d.toNat - 1⟩
def add (a b : Q) : Q := over (a.num * b.den + b.num * a.den) (a.den * b.den)
def sub (a b : Q) : Q := over (a.num * b.den - b.num * a.den) (a.den * b.den)
def mul (a b : Q) : Q := over (a.num * b.num) (a.den * b.den)
/-- `none` = ZeroDivisionError -/
def div (a b : Q) : Option Q :=
  if b.num = 0 then none
  else if 0 < b.num then some (over (a.num * b.den) (a.den * b.num))
  else some (over (-(a.num * b.den)) (a.den * (-b.num)))
/-- Python `x % y`: `x - y * floor(x / y)` (sign of the divisor) -/
def mod (a b : Q) : Option Q :=
  if b.num = 0 then none
  else some (sub a (mul b ⟨Int.fdiv (a.num * b.den) (b.num * a.den), 0⟩))
def eq (a b : Q) : Bool := a.num * b.den == b.num * a.den
def lt (a b : Q) : Bool := decide (a.num * b.den < b.num * a.den)
def le (a b : Q) : Bool := decide (a.num * b.den ≤ b.num * a.den)
def toIndex (q : Q) : Option (Option Int) :=
  if q.num % q.den = 0 then some (some (q.num / q.den)) else some none
/-- `str(float)` of an integral value (`3.0`); others are not modelled -/
def toStr (q : Q) : Option Str :=
  if q.num % q.den = 0 then some ((toString (q.num / q.den)).toList ++ ['.', '0']) else none

def digVal (c : Char) : Nat := c.toNat - 48
def natOfDigits (s : Str) : Nat := s.foldl (fun n c => n * 10 + digVal c) 0

/-- `float(str)` on the plain decimal forms `[ws][+-]digits[.digits][ws]`, `.5`, `5.`; everything else (exponents,
    inf, nan, underscores, empty) is a ValueError here -/
def parse (s : Str) : Option Q :=
  let t := strip s
  let neg := match t with
    | '-' :: _ => true
    | _ => false
  let body := match t with
    | '-' :: r => r
    | '+' :: r => r
    | r => r
  let ip := body.takeWhile isDigit
  let sg : Int := if neg then -1 else 1
  match body.dropWhile isDigit with
  | [] => if ip.isEmpty then none else some ⟨sg * Int.ofNat (natOfDigits ip), 0⟩
  | '.' :: f =>
    if f.all isDigit && !(ip.isEmpty && f.isEmpty) then some ⟨sg * Int.ofNat (natOfDigits (ip ++ f)), 10 ^ f.length - 1⟩
    else none
  | _ => none
end Q

def ratNum : Num Q where
  parse := Q.parse
  ofNat := Q.ofNat
  add := Q.add
  sub := Q.sub
  mul := Q.mul
  div := Q.div
  mod := Q.mod
  eq := Q.eq
  lt := Q.lt
  le := Q.le
  toIndex := Q.toIndex
  toStr := Q.toStr

theorem isDigit_digitChar : ∀ d : Fin 10, isDigit (digitChar d) = true := by decide +kernel
theorem digitChar_ne_minus : ∀ d : Fin 10, digitChar d ≠ '-' := by decide +kernel
theorem digitChar_ne_dot : ∀ d : Fin 10, digitChar d ≠ '.' := by decide +kernel
theorem isWs_digitChar : ∀ d : Fin 10, isWs (digitChar d) = false := by decide +kernel
theorem all_isDigit_map (ds : List (Fin 10)) : (ds.map digitChar).all isDigit = true := by
  induction ds with
  | nil => rfl
  | cons d ds ih => simp [isDigit_digitChar d, ih]
theorem digitChar_digVal (d : Fin 10) : Q.digVal (digitChar d) = d.val := by revert d; decide +kernel
theorem digitChar_ne_plus (d : Fin 10) : digitChar d ≠ '+' := by revert d; decide +kernel

theorem natOfDigits_natLit (ds : List (Fin 10)) : Q.natOfDigits (natLit ds) = digitsVal ds := by
  have key : ∀ (ds : List (Fin 10)) (a : Nat),
      (natLit ds).foldl (fun n c => n * 10 + Q.digVal c) a = ds.foldl (fun n d => n * 10 + d.val) a := by
    intro ds
    induction ds with
    | nil => intro a; rfl
    | cons d ds ih =>
      intro a
      simp only [natLit, List.map_cons, List.foldl_cons, digitChar_digVal]
      exact ih _
  exact key ds 0

theorem natLit_all_digit (ds : List (Fin 10)) : ∀ c ∈ natLit ds, isDigit c = true := by
  intro c hc
  obtain ⟨d, _, rfl⟩ := List.mem_map.1 hc
  exact isDigit_digitChar d

theorem strip_natLit (ds : List (Fin 10)) : strip (natLit ds) = natLit ds :=
  strip_noWs fun c hc => by
    obtain ⟨d, _, rfl⟩ := List.mem_map.1 hc
    exact isWs_digitChar d

theorem ratNum_parse_natLit (ds : List (Fin 10)) (h : ds ≠ []) :
    Q.parse (natLit ds) = some (Q.ofNat (digitsVal ds)) := by
  cases ds with
  | nil => exact absurd rfl h
  | cons d ds =>
    have hall : (natLit (d :: ds)).takeWhile isDigit = natLit (d :: ds) ∧ (natLit (d :: ds)).dropWhile isDigit = [] :=
      ⟨takeWhile_eq_self (natLit_all_digit (d :: ds)), dropWhile_eq_nil_iff.mpr (natLit_all_digit (d :: ds))⟩
    have hcons : natLit (d :: ds) = digitChar d :: natLit ds := rfl
    unfold Q.parse
    simp only [strip_natLit]
    have hbody : (match natLit (d :: ds) with
        | '-' :: r => r
        | '+' :: r => r
        | r => r) = natLit (d :: ds) := by
      rw [hcons]
      split
      · rename_i r heq; exact absurd (List.cons.inj heq).1 (digitChar_ne_minus d)
      · rename_i r heq; exact absurd (List.cons.inj heq).1 (digitChar_ne_plus d)
      · rfl
    have hneg : (match natLit (d :: ds) with
        | '-' :: _ => true
        | _ => false) = false := by
      rw [hcons]
      split
      · rename_i r heq; exact absurd (List.cons.inj heq).1 (digitChar_ne_minus d)
      · rfl
    simp only [hbody, hneg, hall.1, hall.2]
    rw [natOfDigits_natLit]
    simp [Q.ofNat, natLit]

theorem ratNum_lawful : LawfulNum ratNum where
  parse_natLit := ratNum_parse_natLit
  toIndex_ofNat := by
    intro n
    simp [ratNum, Q.toIndex, Q.ofNat, Q.den]
  eq_ofNat := by
    intro a b
    by_cases h : a = b
    · simp [ratNum, Q.eq, Q.ofNat, Q.den, h]
    · have : ¬ ((a : Int) = (b : Int)) := fun e => h (Int.ofNat.inj e)
      simp [ratNum, Q.eq, Q.ofNat, Q.den, h, this]
  lt_ofNat := by
    intro a b
    simp [ratNum, Q.lt, Q.ofNat, Q.den]
  le_ofNat := by
    intro a b
    simp [ratNum, Q.le, Q.ofNat, Q.den]

example : natLit [1, 0] = ['1', '0'] ∧ digitsVal [1, 0] = 10 := by decide

end AHP.XPath
