/-
  AHP.Lemmas.StripIE — `utils.stripIEConditionals` (AHP/Model/StripIE.lean) on characters: the greedy matcher against the
  declarative reading of the patterns, the `findall` / `replace` scanners, and the texts on which the result is known
  (no match; one match, `stripIE_one`; several conditionals, `stripIE_segs`).  The property theorems are in Props/C02.lean.
-/
import AHP.Model.StripIE
import AHP.Lemmas.Str
namespace AHP

/-- decidable: somewhere in the text stands `<!--` ws* `[` ws* `if` (ws = blank, tab, CR, LF) — the part of
    `IE_CONDITIONAL_PATTERN` in front of `.*-->` -/
def hasIEMarker (s : Str) : Bool := occurs ieOpenerPat s

/-- decidable: `-->` stands somewhere in the text -/
def hasArrow : Str → Bool
  | [] => false
  | c :: cs => arrow.isPrefixOf (c :: cs) || hasArrow cs

theorem matchItems_nil (s : Str) : matchItems [] s = some ([], s) := by
  cases s <;> rfl

theorem matchItems_one_nil (cs : List Char) (ps : List PItem) : matchItems (.one cs :: ps) [] = none := rfl

theorem matchItems_one_cons (cs : List Char) (ps : List PItem) (x : Char) (s : Str) :
    matchItems (.one cs :: ps) (x :: s) =
      if cs.contains x then
        match matchItems ps s with
        | some (m, r) => some (x :: m, r)
        | none => none
      else none := rfl

theorem matchItems_star (cs : List Char) (ps : List PItem) (s : Str) :
    matchItems (.star cs :: ps) s =
      match matchItems ps (s.dropWhile cs.contains) with
      | some (m, r) => some (s.takeWhile cs.contains ++ m, r)
      | none => none := by
  cases s <;> rfl

theorem matchItems_one_isSome (cs : List Char) (ps : List PItem) (x : Char) (s : Str) :
    (matchItems (.one cs :: ps) (x :: s)).isSome = (cs.contains x && (matchItems ps s).isSome) := by
  rw [matchItems_one_cons]
  cases hc : cs.contains x
  · simp
  · cases hm : matchItems ps s with
    | none => simp
    | some mr => obtain ⟨m, r⟩ := mr; simp

theorem matchItems_stop (e : Char) (b : Str) : ∀ (ps : List PItem), (∀ it ∈ ps, it.cls.contains e = false) →
    ∀ x : Str, matchItems ps (x ++ e :: b) = (matchItems ps x).map (fun mr => (mr.1, mr.2 ++ e :: b)) := by
  intro ps
  induction ps with
  | nil => intro _ x; simp [matchItems_nil]
  | cons it ps ih =>
    intro he x
    have he' : ∀ it ∈ ps, it.cls.contains e = false := fun i hi => he i (List.mem_cons_of_mem _ hi)
    have hit := he it List.mem_cons_self
    cases it with
    | one cs =>
      simp only [PItem.cls] at hit
      cases x with
      | nil =>
        rw [List.nil_append, matchItems_one_cons, matchItems_one_nil, hit]
        rfl
      | cons y x' =>
        rw [List.cons_append, matchItems_one_cons, matchItems_one_cons, ih he' x']
        cases hc : cs.contains y
        · simp
        · cases hm : matchItems ps x' with
          | none => simp
          | some mr => obtain ⟨m, r⟩ := mr; simp
    | star cs =>
      simp only [PItem.cls] at hit
      rw [matchItems_star, matchItems_star, dropWhile_append_cons_of_neg _ e b hit, takeWhile_append_cons_of_neg _ e b hit,
        ih he' (x.dropWhile cs.contains)]
      cases hm : matchItems ps (x.dropWhile cs.contains) with
      | none => simp
      | some mr => obtain ⟨m, r⟩ := mr; simp

theorem matchItems_stop_isSome (e : Char) (b : Str) (ps : List PItem) (he : ∀ it ∈ ps, it.cls.contains e = false)
    (x : Str) : (matchItems ps (x ++ e :: b)).isSome = (matchItems ps x).isSome := by
  rw [matchItems_stop e b ps he x]
  cases matchItems ps x <;> rfl

theorem matchItems_star_run (cs : List Char) (ps : List PItem) (w : Str) (e : Char) (b : Str)
    (hw : ∀ c ∈ w, cs.contains c = true) (he : cs.contains e = false) :
    matchItems (.star cs :: ps) (w ++ e :: b) = (matchItems ps (e :: b)).map (fun mr => (w ++ mr.1, mr.2)) := by
  rw [matchItems_star, List.dropWhile_append_of_pos hw, List.takeWhile_append_of_pos hw,
    List.dropWhile_cons_of_neg (by rw [he]; exact Bool.false_ne_true),
    List.takeWhile_cons_of_neg (by rw [he]; exact Bool.false_ne_true), List.append_nil]
  cases hm : matchItems ps (e :: b) with
  | none => rfl
  | some mr => obtain ⟨m, r⟩ := mr; rfl

theorem occurs_nil_one (cs : List Char) (ps : List PItem) : occurs (.one cs :: ps) [] = false := rfl

theorem occurs_cons (ps : List PItem) (c : Char) (s : Str) :
    occurs ps (c :: s) = ((matchItems ps (c :: s)).isSome || occurs ps s) := rfl

theorem occurs_append_stop (cs0 : List Char) (tl : List PItem) (e : Char) (b : Str)
    (he : ∀ it ∈ tl, it.cls.contains e = false) :
    ∀ x : Str, occurs (.one cs0 :: tl) (x ++ e :: b) = (occurs (.one cs0 :: tl) x || occurs (.one cs0 :: tl) (e :: b)) := by
  intro x
  induction x with
  | nil => simp [occurs_nil_one]
  | cons c x' ih =>
    rw [List.cons_append, occurs_cons, occurs_cons, ih, matchItems_one_isSome, matchItems_one_isSome,
      matchItems_stop_isSome e b tl he x', Bool.or_assoc]

theorem occurs_cons_not_first (cs0 : List Char) (tl : List PItem) (e : Char) (b : Str) (he : cs0.contains e = false) :
    occurs (.one cs0 :: tl) (e :: b) = occurs (.one cs0 :: tl) b := by
  rw [occurs_cons, matchItems_one_isSome, he]
  simp

theorem occurs_split (cs0 : List Char) (tl : List PItem) (e : Char) (b : Str)
    (he0 : cs0.contains e = false) (he : ∀ it ∈ tl, it.cls.contains e = false) (x : Str) :
    occurs (.one cs0 :: tl) (x ++ e :: b) = (occurs (.one cs0 :: tl) x || occurs (.one cs0 :: tl) b) := by
  rw [occurs_append_stop cs0 tl e b he x, occurs_cons_not_first cs0 tl e b he0]

theorem occurs_false_of_not_mem_first (cs0 : List Char) (tl : List PItem) :
    ∀ s : Str, (∀ c ∈ s, cs0.contains c = false) → occurs (.one cs0 :: tl) s = false := by
  intro s
  induction s with
  | nil => intro _; rfl
  | cons c cs ih =>
    intro h
    rw [occurs_cons, matchItems_one_isSome, h c List.mem_cons_self, ih (fun x hx => h x (List.mem_cons_of_mem _ hx))]
    rfl

def ieTail : List PItem := .one ['!'] :: .one ['-'] :: .one ['-'] :: ieCondPat

theorem ieOpenerPat_eq : ieOpenerPat = .one ['<'] :: ieTail := rfl

/-- a character outside `! - [ i f` and the white space class stops every item after the first -/
def IEStop (e : Char) : Prop := ∀ it ∈ ieTail, it.cls.contains e = false

instance (e : Char) : Decidable (IEStop e) := by unfold IEStop; exact inferInstance

theorem ieStop_lt : IEStop '<' := by decide
theorem ieStop_gt : IEStop '>' := by decide
theorem ieStop_amp : IEStop '&' := by decide
theorem ieStop_semi : IEStop ';' := by decide
theorem ieStop_quote : IEStop '"' := by decide

theorem hasIEMarker_cons (c : Char) (s : Str) :
    hasIEMarker (c :: s) = ((matchItems ieOpenerPat (c :: s)).isSome || hasIEMarker s) := rfl

theorem hasIEMarker_append_stop (e : Char) (he : IEStop e) (x b : Str) :
    hasIEMarker (x ++ e :: b) = (hasIEMarker x || hasIEMarker (e :: b)) :=
  occurs_append_stop ['<'] ieTail e b he x

theorem hasIEMarker_split (e : Char) (he : IEStop e) (hlt : e ≠ '<') (x b : Str) :
    hasIEMarker (x ++ e :: b) = (hasIEMarker x || hasIEMarker b) := by
  apply occurs_split ['<'] ieTail e b _ he x
  simp [hlt]

/-- behind a character that stops every opener (`>`, `;`): no opener reaches across -/
theorem hasIEMarker_stop_step (z : Char) (hz : IEStop z) (hlt : z ≠ '<') (y R : Str) :
    hasIEMarker (y ++ z :: R) = (hasIEMarker (y ++ [z]) || hasIEMarker R) := by
  rw [hasIEMarker_split z hz hlt y R, hasIEMarker_split z hz hlt y [], show hasIEMarker [] = false from rfl,
    Bool.or_false]

theorem hasIEMarker_no_lt (s : Str) (h : '<' ∉ s) : hasIEMarker s = false := by
  apply occurs_false_of_not_mem_first
  intro c hc
  have : c ≠ '<' := fun e => h (e ▸ hc)
  simp [this]

theorem ieOpener_not_bang (c : Char) (r : Str) (hc : c ≠ '!') : (matchItems ieOpenerPat ('<' :: c :: r)).isSome = false := by
  rw [ieOpenerPat_eq, matchItems_one_isSome]
  unfold ieTail
  rw [matchItems_one_isSome]
  simp [hc]

theorem hasIEMarker_cons_ne (c : Char) (s : Str) (hc : c ≠ '<') : hasIEMarker (c :: s) = hasIEMarker s := by
  apply occurs_cons_not_first
  simp [hc]

theorem hasIEMarker_append_no_lt (y : Str) : ∀ x : Str, (∀ c ∈ x, c ≠ '<') → hasIEMarker (x ++ y) = hasIEMarker y := by
  intro x
  induction x with
  | nil => intro _; rfl
  | cons c cs ih =>
    intro h
    rw [List.cons_append, hasIEMarker_cons_ne c _ (h c List.mem_cons_self)]
    exact ih (fun d hd => h d (List.mem_cons_of_mem _ hd))

theorem hasIEMarker_lt_cons (c : Char) (s : Str) (hc : c ≠ '!') : hasIEMarker ('<' :: c :: s) = hasIEMarker (c :: s) := by
  rw [hasIEMarker_cons, ieOpener_not_bang c s hc]
  rfl

/-- explicit reading of the opener: `<!--`, white space, `[`, white space, `if` -/
def IsIEOpener (op : Str) : Prop :=
  ∃ w1 w2 : Str, (∀ c ∈ w1, reWs.contains c = true) ∧ (∀ c ∈ w2, reWs.contains c = true) ∧
    op = "<!--".toList ++ w1 ++ '[' :: w2 ++ "if".toList

theorem isIEOpener_head (op : Str) (h : IsIEOpener op) : ∃ r, op = '<' :: r := by
  obtain ⟨w1, w2, _, _, rfl⟩ := h
  exact ⟨_, rfl⟩

/-! ### the declarative reading of an item sequence (regular-expression semantics of the prefix)

  `Matches ps m`: the text `m` is matched by the item sequence in *some* way (each `one` takes a character of its
  class, each `star` any run of characters of its class).  A backtracking matcher finds a match at a position
  iff there is `m` with `Matches ps m` in front of the text there.  For sequences in which every star is
  followed by a `one` of a disjoint class (`Det`; the three patterns of `utils.py` are of this kind) the greedy
  `matchItems` finds it, and it is the only one. -/

inductive Matches : List PItem → Str → Prop
  | nil : Matches [] []
  | one (cs : List Char) (ps : List PItem) (c : Char) (m : Str) :
      cs.contains c = true → Matches ps m → Matches (.one cs :: ps) (c :: m)
  | star (cs : List Char) (ps : List PItem) (w m : Str) :
      (∀ c ∈ w, cs.contains c = true) → Matches ps m → Matches (.star cs :: ps) (w ++ m)

def Det : List PItem → Prop
  | [] => True
  | .one _ :: ps => Det ps
  | .star cs :: .one cs' :: ps => (∀ c ∈ cs', cs.contains c = false) ∧ Det (.one cs' :: ps)
  | .star _ :: _ => False

theorem matchItems_sound : ∀ (ps : List PItem) (z m r : Str), matchItems ps z = some (m, r) → Matches ps m ∧ z = m ++ r
  | [], z, m, r, h => by
    rw [matchItems_nil] at h
    obtain ⟨rfl, rfl⟩ := Prod.mk.inj (Option.some.inj h)
    exact ⟨.nil, rfl⟩
  | .one cs :: ps, [], _, _, h => by cases h
  | .one cs :: ps, x :: z', m, r, h => by
    rw [matchItems_one_cons] at h
    split at h
    · rename_i hc
      cases hm : matchItems ps z' with
      | none => rw [hm] at h; cases h
      | some mr =>
        rw [hm] at h
        obtain ⟨rfl, rfl⟩ := Prod.mk.inj (Option.some.inj h)
        obtain ⟨h1, h2⟩ := matchItems_sound ps z' _ _ hm
        exact ⟨.one cs ps x _ hc h1, by rw [h2]; rfl⟩
    · cases h
  | .star cs :: ps, z, m, r, h => by
    rw [matchItems_star] at h
    cases hm : matchItems ps (z.dropWhile cs.contains) with
    | none => rw [hm] at h; cases h
    | some mr =>
      rw [hm] at h
      obtain ⟨rfl, rfl⟩ := Prod.mk.inj (Option.some.inj h)
      obtain ⟨h1, h2⟩ := matchItems_sound ps _ _ _ hm
      exact ⟨.star cs ps _ _ (fun c hc => mem_takeWhile_imp _ z c hc) h1,
        by rw [List.append_assoc, ← h2, List.takeWhile_append_dropWhile]⟩

theorem matchItems_complete : ∀ (ps : List PItem) (m : Str), Matches ps m → Det ps →
    ∀ r : Str, matchItems ps (m ++ r) = some (m, r) := by
  intro ps m hm
  induction hm with
  | nil => intro _ r; rw [List.nil_append, matchItems_nil]
  | one cs ps c m hc _ ih =>
    intro hd r
    rw [List.cons_append, matchItems_one_cons, hc, ih hd r]
    rfl
  | star cs ps w m hw hm ih =>
    intro hd r
    cases hm with
    | nil => exact absurd hd (by simp [Det])
    | star cs' ps' w' m' _ _ => exact absurd hd (by simp [Det])
    | one cs' ps' c m' hc hm' =>
      have hdis : cs.contains c = false := hd.1 c (List.contains_iff_mem.mp hc)
      have := ih hd.2 r
      rw [List.append_assoc, List.cons_append, matchItems_star_run cs _ w c (m' ++ r) hw hdis]
      rw [List.cons_append] at this
      rw [this]
      rfl

/-- **greedy = declarative** for the deterministic sequences -/
theorem matchItems_iff (ps : List PItem) (hd : Det ps) (z m r : Str) :
    matchItems ps z = some (m, r) ↔ Matches ps m ∧ z = m ++ r :=
  ⟨matchItems_sound ps z m r, fun ⟨h1, h2⟩ => by rw [h2]; exact matchItems_complete ps m h1 hd r⟩

theorem matches_unique (ps : List PItem) (hd : Det ps) (m₁ r₁ m₂ r₂ : Str) (h₁ : Matches ps m₁) (h₂ : Matches ps m₂)
    (he : m₁ ++ r₁ = m₂ ++ r₂) : m₁ = m₂ ∧ r₁ = r₂ := by
  have a := matchItems_complete ps m₁ h₁ hd r₁
  have b := matchItems_complete ps m₂ h₂ hd r₂
  rw [he, b] at a
  simp at a
  exact ⟨a.1.symm, a.2.symm⟩

theorem det_ieOpenerPat : Det ieOpenerPat := ⟨by decide, by decide, trivial⟩
theorem det_endHtmlPat : Det endHtmlPat := ⟨by decide, by decide, trivial⟩
theorem det_startHtmlPat : Det startHtmlPat := ⟨by decide, by decide, trivial⟩

theorem matches_condPat (m : Str) (h : Matches ieCondPat m) :
    ∃ w1 w2 : Str, (∀ c ∈ w1, reWs.contains c = true) ∧ (∀ c ∈ w2, reWs.contains c = true) ∧
      m = w1 ++ '[' :: w2 ++ "if".toList := by
  unfold ieCondPat at h
  cases h with
  | star _ _ w1 m1 hw1 h =>
  cases h with
  | one _ _ c1 m2 hc1 h =>
  cases h with
  | star _ _ w2 m3 hw2 h =>
  cases h with
  | one _ _ c2 m4 hc2 h =>
  cases h with
  | one _ _ c3 m5 hc3 h =>
  cases h
  simp at hc1 hc2 hc3
  subst hc1 hc2 hc3
  exact ⟨w1, w2, hw1, hw2, by simp⟩

theorem matches_of_isIEOpener (op : Str) (h : IsIEOpener op) : Matches ieOpenerPat op := by
  obtain ⟨w1, w2, h1, h2, rfl⟩ := h
  have e : "<!--".toList ++ w1 ++ '[' :: w2 ++ "if".toList = '<' :: '!' :: '-' :: '-' :: (w1 ++ '[' :: (w2 ++ ['i', 'f'])) := by
    simp
  rw [e]
  exact .one _ _ _ _ rfl (.one _ _ _ _ rfl (.one _ _ _ _ rfl (.one _ _ _ _ rfl (.star _ _ w1 _ h1
    (.one _ _ _ _ rfl (.star _ _ w2 _ h2 (.one _ _ _ _ rfl (.one _ _ _ _ rfl .nil))))))))

theorem matches_opener_iff (op : Str) : Matches ieOpenerPat op ↔ IsIEOpener op := by
  refine ⟨fun h => ?_, matches_of_isIEOpener op⟩
  unfold ieOpenerPat at h
  cases h with
  | one _ _ c1 m1 hc1 h =>
  cases h with
  | one _ _ c2 m2 hc2 h =>
  cases h with
  | one _ _ c3 m3 hc3 h =>
  cases h with
  | one _ _ c4 m4 hc4 h =>
  obtain ⟨w1, w2, hw1, hw2, rfl⟩ := matches_condPat _ h
  simp at hc1 hc2 hc3 hc4
  subst hc1 hc2 hc3 hc4
  exact ⟨w1, w2, hw1, hw2, by simp⟩

theorem matchItems_opener (op r : Str) (h : IsIEOpener op) : matchItems ieOpenerPat (op ++ r) = some (op, r) :=
  matchItems_complete _ _ (matches_of_isIEOpener op h) det_ieOpenerPat r

theorem occurs_iff (ps : List PItem) (s : Str) :
    occurs ps s = true ↔ ∃ a x, s = a ++ x ∧ (matchItems ps x).isSome = true := by
  induction s with
  | nil =>
    exact ⟨fun h => ⟨[], [], rfl, h⟩, fun ⟨a, x, h1, h2⟩ => by
      obtain ⟨rfl, rfl⟩ := List.append_eq_nil_iff.mp h1.symm; exact h2⟩
  | cons c cs ih =>
    rw [occurs_cons, Bool.or_eq_true, ih]
    constructor
    · rintro (h | ⟨a, x, h1, h2⟩)
      · exact ⟨[], _, rfl, h⟩
      · exact ⟨c :: a, x, by rw [h1]; rfl, h2⟩
    · rintro ⟨a, x, h1, h2⟩
      cases a with
      | nil => exact Or.inl (h1 ▸ h2)
      | cons a0 a' => exact Or.inr ⟨a', x, (List.cons.inj h1).2, h2⟩

theorem hasIEMarker_iff (s : Str) : hasIEMarker s = true ↔ ∃ a op b, IsIEOpener op ∧ s = a ++ op ++ b := by
  unfold hasIEMarker
  rw [occurs_iff]
  constructor
  · rintro ⟨a, x, rfl, h2⟩
    cases hm : matchItems ieOpenerPat x with
    | none => rw [hm] at h2; cases h2
    | some mr =>
      obtain ⟨h1, rfl⟩ := matchItems_sound _ _ mr.1 mr.2 hm
      exact ⟨a, mr.1, mr.2, (matches_opener_iff _).mp h1, (List.append_assoc _ _ _).symm⟩
  · rintro ⟨a, op, b, hop, rfl⟩
    exact ⟨a, op ++ b, List.append_assoc _ _ _, by rw [matchItems_opener op b hop]; rfl⟩

theorem throughLastArrow_of_no_arrow : ∀ l : Str, hasArrow l = false → throughLastArrow l = none
  | [], _ => rfl
  | c :: cs, h => by
    rw [hasArrow, Bool.or_eq_false_iff] at h
    rw [throughLastArrow, throughLastArrow_of_no_arrow cs h.2, h.1]
    rfl

theorem throughLastArrow_append (l : Str) (h : hasArrow l = false) :
    ∀ x : Str, throughLastArrow (x ++ arrow ++ l) = some (x ++ arrow, l) := by
  have hl : throughLastArrow l = none := throughLastArrow_of_no_arrow l h
  have h1 : throughLastArrow ('>' :: l) = none := by
    unfold throughLastArrow; rw [hl]; simp [arrow, List.isPrefixOf]
  have h2 : throughLastArrow ('-' :: '>' :: l) = none := by
    unfold throughLastArrow; rw [h1]; simp [arrow, List.isPrefixOf]
  intro x
  induction x with
  | nil =>
    show throughLastArrow ('-' :: '-' :: '>' :: l) = _
    unfold throughLastArrow; rw [h2]; simp [arrow, List.isPrefixOf]
  | cons c cs ih =>
    show throughLastArrow (c :: (cs ++ arrow ++ l)) = _
    unfold throughLastArrow
    rw [ih]
    rfl

theorem hasArrow_last : ∀ l : Str, hasArrow l = true → ∃ x b, l = x ++ arrow ++ b ∧ hasArrow b = false
  | [], h => by cases h
  | c :: cs, h => by
    cases hcs : hasArrow cs with
    | true =>
      obtain ⟨x, b, rfl, hb⟩ := hasArrow_last cs hcs
      exact ⟨c :: x, b, rfl, hb⟩
    | false =>
      rw [hasArrow, hcs, Bool.or_false] at h
      obtain ⟨t, ht⟩ := List.isPrefixOf_iff_prefix.mp h
      have ht' : '-' :: '-' :: '>' :: t = c :: cs := ht
      obtain ⟨rfl, rfl⟩ := List.cons.inj ht'
      simp only [hasArrow, Bool.or_eq_false_iff] at hcs
      exact ⟨[], t, rfl, hcs.2.2⟩

theorem throughLastArrow_none_iff (l : Str) : throughLastArrow l = none ↔ hasArrow l = false := by
  refine ⟨fun h => ?_, throughLastArrow_of_no_arrow l⟩
  cases hh : hasArrow l with
  | false => rfl
  | true =>
    obtain ⟨x, b, rfl, hb⟩ := hasArrow_last l hh
    rw [throughLastArrow_append b hb x] at h
    cases h

theorem throughLastArrow_some (l a b : Str) (h : throughLastArrow l = some (a, b)) :
    ∃ body, a = body ++ arrow ∧ l = a ++ b ∧ hasArrow b = false := by
  cases hh : hasArrow l with
  | false => rw [throughLastArrow_of_no_arrow l hh] at h; cases h
  | true =>
    obtain ⟨x, b', rfl, hb⟩ := hasArrow_last l hh
    rw [throughLastArrow_append b' hb x] at h
    obtain ⟨rfl, rfl⟩ := Prod.mk.inj (Option.some.inj h)
    exact ⟨x, rfl, rfl, hb⟩

/-! ### the two scanners

  `replace` and `findall` walk the text and test every position; both pass over a stretch at no position of which
  the test succeeds. -/

def MatchShaped (m : Str) : Prop := ∃ op body, IsIEOpener op ∧ '\n' ∉ body ∧ m = op ++ body ++ arrow

def NoMatchIn (s : Str) : Prop := ∀ y x, s = y ++ x → ieMatchAt x = none

def NoMatchBefore (pre tail : Str) : Prop := ∀ y x, pre = y ++ x → x ≠ [] → ieMatchAt (x ++ tail) = none

theorem ieFindAllAux_zero_cons (c : Char) (cs : Str) :
    ieFindAllAux 0 (c :: cs) =
      match ieMatchAt (c :: cs) with
      | some m => m :: ieFindAllAux (m.length - 1) cs
      | none => ieFindAllAux 0 cs := rfl

theorem removeAux_zero_cons (m : Str) (c : Char) (cs : Str) :
    removeAux m 0 (c :: cs) =
      if m.isPrefixOf (c :: cs) then removeAux m (m.length - 1) cs else c :: removeAux m 0 cs := rfl

theorem ieFindAllAux_skip (y : Str) : ∀ x : Str, ieFindAllAux x.length (x ++ y) = ieFindAllAux 0 y := by
  intro x
  induction x with
  | nil => rfl
  | cons c cs ih => exact ih

theorem removeAux_skip (m y : Str) : ∀ x : Str, removeAux m x.length (x ++ y) = removeAux m 0 y := by
  intro x
  induction x with
  | nil => rfl
  | cons c cs ih => exact ih

theorem removeAux_pass (m tail : Str) : ∀ pre : Str,
    (∀ y x, pre = y ++ x → x ≠ [] → m.isPrefixOf (x ++ tail) = false) →
    removeAux m 0 (pre ++ tail) = pre ++ removeAux m 0 tail := by
  intro pre
  induction pre with
  | nil => intro _; rfl
  | cons c pre' ih =>
    intro h
    have h0 := h [] (c :: pre') rfl (List.cons_ne_nil _ _)
    rw [List.cons_append] at h0 ⊢
    rw [removeAux_zero_cons, h0, ih (fun y x hyx hx => h (c :: y) x (by rw [hyx]; rfl) hx)]
    rfl

theorem removeAux_none (m z : Str) (h : ∀ y x, z = y ++ x → m.isPrefixOf x = false) : removeAux m 0 z = z := by
  have := removeAux_pass m [] z (fun y x hyx _ => by rw [List.append_nil]; exact h y x hyx)
  rwa [List.append_nil, show removeAux m 0 [] = [] from rfl, List.append_nil] at this

theorem ieFindAllAux_pass (tail : Str) : ∀ pre : Str, NoMatchBefore pre tail →
    ieFindAllAux 0 (pre ++ tail) = ieFindAllAux 0 tail := by
  intro pre
  induction pre with
  | nil => intro _; rfl
  | cons c pre' ih =>
    intro h
    have h0 := h [] (c :: pre') rfl (List.cons_ne_nil _ _)
    rw [List.cons_append] at h0 ⊢
    rw [ieFindAllAux_zero_cons, h0]
    exact ih (fun y x hyx hx => h (c :: y) x (by rw [hyx]; rfl) hx)

theorem ieFindAllAux_none (s : Str) (h : NoMatchIn s) : ieFindAllAux 0 s = [] := by
  have := ieFindAllAux_pass [] s (fun y x hyx _ => by rw [List.append_nil]; exact h y x hyx)
  rwa [List.append_nil] at this

theorem ieMatchAt_none (s : Str) (h : (matchItems ieOpenerPat s).isSome = false) : ieMatchAt s = none := by
  unfold ieMatchAt
  cases hm : matchItems ieOpenerPat s with
  | none => rfl
  | some mr => rw [hm] at h; simp at h

theorem hasIEMarker_suffix : ∀ y x : Str, hasIEMarker (y ++ x) = false → hasIEMarker x = false := by
  intro y
  induction y with
  | nil => exact fun _ h => h
  | cons c cs ih =>
    intro x h
    rw [List.cons_append, hasIEMarker_cons, Bool.or_eq_false_iff] at h
    exact ih x h.2

theorem hasIEMarker_of_append_left (a b : Str) (h : hasIEMarker (a ++ b) = false) : hasIEMarker a = false := by
  cases ha : hasIEMarker a with
  | false => rfl
  | true =>
    obtain ⟨x, op, y, hop, rfl⟩ := (hasIEMarker_iff a).mp ha
    have : hasIEMarker (x ++ op ++ y ++ b) = true :=
      (hasIEMarker_iff _).mpr ⟨x, op, y ++ b, hop, by simp⟩
    rw [this] at h
    exact absurd h (by simp)

theorem no_opener_at (y x : Str) (h : hasIEMarker (y ++ x) = false) : (matchItems ieOpenerPat x).isSome = false := by
  have := hasIEMarker_suffix y x h
  cases x with
  | nil => rfl
  | cons c cs => rw [hasIEMarker_cons, Bool.or_eq_false_iff] at this; exact this.1

theorem no_opener_in_pre (c : Char) (pre' y : Str) (h : hasIEMarker (c :: pre') = false) :
    (matchItems ieOpenerPat (c :: (pre' ++ '<' :: y))).isSome = false := by
  rw [hasIEMarker_cons, Bool.or_eq_false_iff] at h
  rw [ieOpenerPat_eq, matchItems_one_isSome, matchItems_stop_isSome '<' y ieTail ieStop_lt pre',
    ← matchItems_one_isSome, ← ieOpenerPat_eq]
  exact h.1

theorem noMatchIn_of_no_marker (s : Str) (h : hasIEMarker s = false) : NoMatchIn s :=
  fun y x hyx => ieMatchAt_none x (no_opener_at y x (hyx ▸ h))

theorem no_opener_before_lt (pre tail : Str) (h : hasIEMarker pre = false) (ht : tail.head? = some '<')
    (y x : Str) (hyx : pre = y ++ x) (hx : x ≠ []) : (matchItems ieOpenerPat (x ++ tail)).isSome = false := by
  obtain ⟨t, rfl⟩ := List.head?_eq_some_iff.mp ht
  obtain ⟨c, x', rfl⟩ := List.exists_cons_of_ne_nil hx
  exact no_opener_in_pre c x' t (hasIEMarker_suffix y _ (hyx ▸ h))

theorem noMatchBefore_of_no_marker (pre tail : Str) (h : hasIEMarker pre = false) (ht : tail.head? = some '<') :
    NoMatchBefore pre tail :=
  fun y x hyx hx => ieMatchAt_none _ (no_opener_before_lt pre tail h ht y x hyx hx)

theorem addHtmlIfMissing_of_not (s : Str) (h : occurs endHtmlPat s = false ∨ occurs startHtmlPat s = true) :
    addHtmlIfMissing s = s := by
  unfold addHtmlIfMissing
  rcases h with h | h <;> simp [h]

/-- **no match anywhere, nothing to strip** (an opener without `-->` on its line is harmless) -/
theorem stripIE_of_noMatchIn (s : Str) (h : NoMatchIn s) : stripIE s = s := by
  unfold stripIE ieFindAll
  rw [ieFindAllAux_none s h]
  rfl

theorem stripIE_of_no_marker (s : Str) (h : hasIEMarker s = false) : stripIE s = s :=
  stripIE_of_noMatchIn s (noMatchIn_of_no_marker s h)

theorem takeWhile_line (body t : Str) (hbody : '\n' ∉ body) :
    (body ++ arrow ++ t).takeWhile (· ≠ '\n') = body ++ arrow ++ t.takeWhile (· ≠ '\n') := by
  apply List.takeWhile_append_of_pos
  intro c hc
  rcases List.mem_append.mp hc with h | h
  · exact decide_eq_true (fun e => hbody (e ▸ h))
  · simp only [arrow, List.mem_cons, List.not_mem_nil, or_false] at h
    rcases h with rfl | rfl | rfl <;> decide

/-- `IE_CONDITIONAL_PATTERN` matches `op body -->` at the start of `op body --> post` when `body` stays on the
    line and no further `-->` stands on the rest of that line -/
theorem ieMatchAt_cond (op body post : Str) (hop : IsIEOpener op) (hbody : '\n' ∉ body)
    (hline : hasArrow (post.takeWhile (· ≠ '\n')) = false) :
    ieMatchAt (op ++ body ++ arrow ++ post) = some (op ++ body ++ arrow) := by
  unfold ieMatchAt
  rw [List.append_assoc, List.append_assoc, matchItems_opener op _ hop]
  simp only
  rw [← List.append_assoc, takeWhile_line body post hbody, throughLastArrow_append _ hline body]
  simp

theorem takeWhile_dropWhile_nil (p : Char → Bool) : ∀ l : Str, (l.dropWhile p).takeWhile p = [] := by
  intro l
  induction l with
  | nil => rfl
  | cons c cs ih =>
    by_cases hc : p c = true
    · simp only [List.dropWhile_cons, hc, if_true]; exact ih
    · simp [hc]

/-- **one match, explicitly**: `IE_CONDITIONAL_PATTERN.match(z)` gives `m` iff `m` is an opener, a body that
    stays on the line, and `-->`, in front of a rest whose first line has no further `-->` -/
theorem ieMatchAt_iff (z m : Str) : ieMatchAt z = some m ↔
    ∃ op body rest, IsIEOpener op ∧ '\n' ∉ body ∧ m = op ++ body ++ arrow ∧ z = m ++ rest ∧
      hasArrow (rest.takeWhile (· ≠ '\n')) = false := by
  constructor
  · intro h
    unfold ieMatchAt at h
    split at h
    · cases h
    · rename_i op r hm
      split at h
      · cases h
      · rename_i a b ht
        obtain rfl := Option.some.inj h
        obtain ⟨hop, rfl⟩ := matchItems_sound _ _ _ _ hm
        obtain ⟨body, rfl, hl, hb⟩ := throughLastArrow_some _ _ b ht
        -- the line of `r` is `body --> b`; what follows `b` starts at the line break
        have hall : ∀ c ∈ body ++ arrow ++ b, (fun c : Char => decide (c ≠ '\n')) c = true :=
          fun c hc => mem_takeWhile_imp _ r c (hl ▸ hc)
        refine ⟨op, body, b ++ r.dropWhile (· ≠ '\n'), (matches_opener_iff op).mp hop, ?_, (List.append_assoc _ _ _).symm,
          ?_, ?_⟩
        · intro hn
          have := hall '\n' (by simp [hn])
          simp at this
        · conv => lhs; rw [← List.takeWhile_append_dropWhile (p := (· ≠ '\n')) (l := r), hl]
          simp
        · rw [List.takeWhile_append_of_pos (fun c hc => hall c (List.mem_append_right _ hc)),
            takeWhile_dropWhile_nil, List.append_nil]
          exact hb
  · rintro ⟨op, body, rest, hop, hbody, rfl, rfl, hline⟩
    exact ieMatchAt_cond op body rest hop hbody hline

theorem ieMatchAt_ne_nil (z m : Str) (h : ieMatchAt z = some m) : m ≠ [] := by
  obtain ⟨op, _, _, hop, _, rfl, _, _⟩ := (ieMatchAt_iff z m).mp h
  obtain ⟨r, rfl⟩ := isIEOpener_head op hop
  simp

theorem ieFindAllAux_match (m post : Str) (h : ieMatchAt (m ++ post) = some m) :
    ieFindAllAux 0 (m ++ post) = m :: ieFindAllAux 0 post := by
  obtain ⟨m0, m1, rfl⟩ := List.exists_cons_of_ne_nil (ieMatchAt_ne_nil _ _ h)
  rw [List.cons_append] at h ⊢
  rw [ieFindAllAux_zero_cons, h]
  exact congrArg _ (ieFindAllAux_skip post m1)

theorem removeAux_match (m post : Str) (hne : m ≠ []) : removeAux m 0 (m ++ post) = removeAux m 0 post := by
  obtain ⟨m0, m1, rfl⟩ := List.exists_cons_of_ne_nil hne
  have hp : (m0 :: m1).isPrefixOf (m0 :: (m1 ++ post)) = true := List.isPrefixOf_iff_prefix.mpr ⟨post, rfl⟩
  rw [List.cons_append, removeAux_zero_cons, hp, if_pos rfl]
  exact removeAux_skip _ post m1

theorem removeAll_ne_nil (m s : Str) (hne : m ≠ []) : removeAll m s = removeAux m 0 s := by
  cases m with
  | nil => exact absurd rfl hne
  | cons _ _ => rfl

theorem removeAux_length_le (m : Str) : ∀ (s : Str) (k : Nat), (removeAux m k s).length ≤ s.length := by
  intro s
  induction s with
  | nil => intro k; cases k <;> simp [removeAux]
  | cons c cs ih =>
    intro k
    cases k with
    | succ k => have := ih k; simp only [removeAux, List.length_cons]; omega
    | zero =>
      rw [removeAux_zero_cons]
      split
      · have := ih (m.length - 1); simp only [List.length_cons]; omega
      · have := ih 0; simp only [List.length_cons]; omega

theorem removeAll_length_le (m s : Str) : (removeAll m s).length ≤ s.length := by
  unfold removeAll
  split
  · exact Nat.le_refl _
  · exact removeAux_length_le m s 0

theorem foldl_removeAll_length_le (ms : List Str) : ∀ s : Str,
    (ms.foldl (fun acc m => removeAll m acc) s).length ≤ s.length := by
  induction ms with
  | nil => intro s; exact Nat.le_refl _
  | cons m ms ih =>
    intro s
    exact Nat.le_trans (ih (removeAll m s)) (removeAll_length_le m s)

theorem matchShaped_of_match (z m : Str) (h : ieMatchAt z = some m) : MatchShaped m := by
  obtain ⟨op, body, _, hop, hb, hm, _, _⟩ := (ieMatchAt_iff z m).mp h
  exact ⟨op, body, hop, hb, hm⟩

theorem hasArrow_append_right (y : Str) (h : hasArrow y = true) : ∀ x : Str, hasArrow (x ++ y) = true := by
  intro x
  induction x with
  | nil => exact h
  | cons c cs ih => rw [List.cons_append, hasArrow, ih, Bool.or_true]

/-- wherever a match-shaped string stands, the pattern matches (possibly more than that string) -/
theorem ieMatchAt_isSome_of_shaped (m t : Str) (h : MatchShaped m) : (ieMatchAt (m ++ t)).isSome = true := by
  obtain ⟨op, body, hop, hbody, rfl⟩ := h
  unfold ieMatchAt
  rw [List.append_assoc, List.append_assoc, matchItems_opener op _ hop]
  simp only
  rw [← List.append_assoc, takeWhile_line body t hbody]
  have hA : hasArrow (body ++ arrow ++ t.takeWhile (· ≠ '\n')) = true := by
    rw [List.append_assoc]
    exact hasArrow_append_right _ (by simp [hasArrow, arrow, List.isPrefixOf]) body
  cases ht : throughLastArrow (body ++ arrow ++ t.takeWhile (· ≠ '\n')) with
  | none => rw [(throughLastArrow_none_iff _).mp ht] at hA; exact absurd hA (by simp)
  | some ab => rfl

theorem not_prefix_of_no_match (m z : Str) (hm : MatchShaped m) (h : ieMatchAt z = none) : m.isPrefixOf z = false :=
  Bool.eq_false_iff.mpr (fun hp => by
    obtain ⟨t, rfl⟩ := List.isPrefixOf_iff_prefix.mp hp
    have := ieMatchAt_isSome_of_shaped m t hm
    rw [h] at this
    exact absurd this (by simp))

theorem noMatchIn_of_findAll_nil : ∀ s : Str, ieFindAllAux 0 s = [] → NoMatchIn s := by
  intro s
  induction s with
  | nil =>
    intro _ y x h
    rw [(List.append_eq_nil_iff.mp h.symm).2]; rfl
  | cons c cs ih =>
    intro h y x hyx
    rw [ieFindAllAux_zero_cons] at h
    cases hm : ieMatchAt (c :: cs) with
    | some m => rw [hm] at h; simp at h
    | none =>
      rw [hm] at h
      cases y with
      | nil => rw [List.nil_append] at hyx; rw [← hyx]; exact hm
      | cons y0 y' => exact ih h y' x (List.cons.inj hyx).2

theorem findAll_cons_split : ∀ (s m : Str) (ms : List Str), ieFindAllAux 0 s = m :: ms →
    ∃ pre post, s = pre ++ m ++ post ∧ NoMatchBefore pre (m ++ post) ∧ ieMatchAt (m ++ post) = some m ∧
      ms = ieFindAllAux 0 post := by
  intro s
  induction s with
  | nil => intro m ms h; simp [ieFindAllAux] at h
  | cons c cs ih =>
    intro m ms h
    cases hm : ieMatchAt (c :: cs) with
    | some m' =>
      obtain ⟨_, _, rest, _, _, _, hz, _⟩ := (ieMatchAt_iff _ _).mp hm
      rw [hz] at hm h
      rw [ieFindAllAux_match _ _ hm] at h
      obtain ⟨rfl, hms⟩ := List.cons.inj h
      exact ⟨[], rest, hz, fun y x hyx hx => absurd (List.append_eq_nil_iff.mp hyx.symm).2 hx, hm, hms.symm⟩
    | none =>
      rw [ieFindAllAux_zero_cons, hm] at h
      obtain ⟨pre, post, hs, hpre, hat, hms⟩ := ih m ms h
      refine ⟨c :: pre, post, by rw [hs]; rfl, ?_, hat, hms⟩
      intro y x hyx hx
      cases y with
      | nil =>
        rw [List.nil_append] at hyx
        rw [← hyx, List.cons_append, ← List.append_assoc, ← hs]
        exact hm
      | cons y0 y' => exact hpre y' x (List.cons.inj hyx).2 hx

theorem removeAux_noMatch (m : Str) (hm : MatchShaped m) (z : Str) (h : NoMatchIn z) : removeAux m 0 z = z :=
  removeAux_none m z (fun y x hyx => not_prefix_of_no_match m x hm (h y x hyx))

theorem removeAux_before (m tail : Str) (hm : MatchShaped m) (pre : Str) (h : NoMatchBefore pre tail) :
    removeAux m 0 (pre ++ tail) = pre ++ removeAux m 0 tail :=
  removeAux_pass m tail pre (fun y x hyx hx => not_prefix_of_no_match m _ hm (h y x hyx hx))

theorem stripIE_of_findAll (s m : Str) (ms : List Str) (h : ieFindAll s = m :: ms) :
    stripIE s = addHtmlIfMissing ((m :: ms).foldl (fun acc m => removeAll m acc) s) := by
  unfold stripIE
  rw [h]
  rfl

/-- **one match**: `findall` finds `m`, `replace` cuts out that occurrence and no other -/
theorem stripIE_one (pre m post : Str) (hpre : NoMatchBefore pre (m ++ post)) (hat : ieMatchAt (m ++ post) = some m)
    (hpost : NoMatchIn post) : stripIE (pre ++ m ++ post) = addHtmlIfMissing (pre ++ post) := by
  have hshape := matchShaped_of_match _ _ hat
  have hne := ieMatchAt_ne_nil _ _ hat
  have hfind : ieFindAll (pre ++ m ++ post) = [m] := by
    unfold ieFindAll
    rw [List.append_assoc, ieFindAllAux_pass _ pre hpre, ieFindAllAux_match _ _ hat, ieFindAllAux_none post hpost]
  rw [stripIE_of_findAll _ _ _ hfind, List.foldl_cons, List.foldl_nil, removeAll_ne_nil m _ hne, List.append_assoc,
    removeAux_before m _ hshape pre hpre, removeAux_match m post hne, removeAux_noMatch m hshape post hpost]

theorem stripIE_of_single_match (s m : Str) (h : ieFindAll s = [m]) :
    ∃ pre post, s = pre ++ m ++ post ∧ NoMatchBefore pre (m ++ post) ∧ ieMatchAt (m ++ post) = some m ∧
      NoMatchIn post ∧ stripIE s = addHtmlIfMissing (pre ++ post) := by
  obtain ⟨pre, post, rfl, hpre, hat, hms⟩ := findAll_cons_split s m [] h
  have hpost := noMatchIn_of_findAll_nil post hms.symm
  exact ⟨pre, post, rfl, hpre, hat, hpost, stripIE_one pre m post hpre hat hpost⟩

theorem stripIE_of_cond (pre op body post : Str) (hop : IsIEOpener op) (hbody : '\n' ∉ body)
    (hpre : hasIEMarker pre = false) (hpost : hasIEMarker post = false)
    (hline : hasArrow (post.takeWhile (· ≠ '\n')) = false) :
    stripIE (pre ++ (op ++ body ++ arrow) ++ post) = addHtmlIfMissing (pre ++ post) := by
  obtain ⟨op', rfl⟩ := isIEOpener_head op hop
  exact stripIE_one pre _ post (noMatchBefore_of_no_marker pre _ hpre rfl) (ieMatchAt_cond _ body post hop hbody hline)
    (noMatchIn_of_no_marker post hpost)

/-! ## several conditional comments: `g₀ c₁ g₁ … cₖ gₖ`

  `findall` finds `c₁ … cₖ` (each is what the pattern matches at its place, no opener in the gaps); the removals
  are done one after the other on the whole text, every occurrence each time.  They do not disturb one another
  when (a) the gaps, joined, contain no opener — so cutting out a conditional makes no new one —, (b) no opener
  stands inside a conditional behind its own, (c) no conditional is a proper prefix of another (equal ones are
  fine: the first removal takes them all).  Then the result is the gaps joined, up to the html-tag rule. -/

/-- (conditional, text behind it) pairs -/
abbrev Segs := List (Str × Str)

def segText : Segs → Str
  | [] => []
  | (c, g) :: L => c ++ g ++ segText L

def joinGaps : Segs → Str
  | [] => []
  | (_, g) :: L => g ++ joinGaps L

/-- the segment structure after `replace(m, '')`: pairs whose conditional is `m` give their gap to what precedes -/
def dropSeg (m : Str) : Str → Segs → Str × Segs
  | pre, [] => (pre, [])
  | pre, (c, g) :: L =>
    if c = m then dropSeg m (pre ++ g) L
    else (pre, (c, (dropSeg m g L).1) :: (dropSeg m g L).2)

/-- at every conditional the pattern matches exactly that conditional -/
def MatchOK : Segs → Prop
  | [] => True
  | (c, g) :: L => ieMatchAt (c ++ (g ++ segText L)) = some c ∧ MatchOK L

instance : (L : Segs) → Decidable (MatchOK L)
  | [] => isTrue trivial
  | (_, _) :: L => have := instDecidableMatchOK L; inferInstanceAs (Decidable (_ ∧ _))

/-- neither is a proper prefix of the other -/
def Incomp (a b : Str) : Prop := (a.isPrefixOf b = true → a = b) ∧ (b.isPrefixOf a = true → b = a)

instance (a b : Str) : Decidable (Incomp a b) := by unfold Incomp; exact inferInstance

theorem dropSeg_cons_eq (m pre c g : Str) (L : Segs) (h : c = m) :
    dropSeg m pre ((c, g) :: L) = dropSeg m (pre ++ g) L := by
  conv => lhs; unfold dropSeg
  simp [h]

theorem dropSeg_cons_ne (m pre c g : Str) (L : Segs) (h : c ≠ m) :
    dropSeg m pre ((c, g) :: L) = (pre, (c, (dropSeg m g L).1) :: (dropSeg m g L).2) := by
  conv => lhs; unfold dropSeg
  simp [h]

theorem dropSeg_pre (m x : Str) : ∀ (L : Segs) (g : Str),
    dropSeg m (x ++ g) L = (x ++ (dropSeg m g L).1, (dropSeg m g L).2) := by
  intro L
  induction L with
  | nil => intro g; rfl
  | cons cg L ih =>
    intro g
    obtain ⟨c, g1⟩ := cg
    by_cases hc : c = m
    · rw [dropSeg_cons_eq _ _ _ _ _ hc, dropSeg_cons_eq _ _ _ _ _ hc, List.append_assoc, ih (g ++ g1)]
    · rw [dropSeg_cons_ne _ _ _ _ _ hc, dropSeg_cons_ne _ _ _ _ _ hc]

theorem dropSeg_join (m : Str) : ∀ (L : Segs) (pre : Str),
    (dropSeg m pre L).1 ++ joinGaps (dropSeg m pre L).2 = pre ++ joinGaps L := by
  intro L
  induction L with
  | nil => intro pre; rfl
  | cons cg L ih =>
    intro pre
    obtain ⟨c, g⟩ := cg
    by_cases hc : c = m
    · rw [dropSeg_cons_eq _ _ _ _ _ hc, ih (pre ++ g), List.append_assoc]
      rfl
    · rw [dropSeg_cons_ne _ _ _ _ _ hc]
      show pre ++ ((dropSeg m g L).1 ++ joinGaps (dropSeg m g L).2) = _
      rw [ih g]
      rfl

theorem dropSeg_mem (m : Str) : ∀ (L : Segs) (pre : Str) (cg : Str × Str), cg ∈ (dropSeg m pre L).2 →
    cg.1 ≠ m ∧ ∃ cg' ∈ L, cg'.1 = cg.1 := by
  intro L
  induction L with
  | nil => intro pre cg h; simp [dropSeg] at h
  | cons cg0 L ih =>
    intro pre cg h
    obtain ⟨c, g⟩ := cg0
    by_cases hc : c = m
    · rw [dropSeg_cons_eq _ _ _ _ _ hc] at h
      obtain ⟨h1, cg', h2, h3⟩ := ih _ cg h
      exact ⟨h1, cg', List.mem_cons_of_mem _ h2, h3⟩
    · rw [dropSeg_cons_ne _ _ _ _ _ hc] at h
      rcases List.mem_cons.mp h with e | e
      · rw [e]
        exact ⟨hc, (c, g), List.mem_cons_self, rfl⟩
      · obtain ⟨h1, cg', h2, h3⟩ := ih _ cg e
        exact ⟨h1, cg', List.mem_cons_of_mem _ h2, h3⟩

/-- what one removal needs of the text: no opener in the gaps joined; every conditional is of the shape of a
    match and has no opener behind its own -/
def SegInv (pre : Str) (L : Segs) : Prop :=
  hasIEMarker (pre ++ joinGaps L) = false ∧ ∀ cg ∈ L, MatchShaped cg.1 ∧ hasIEMarker (cg.1.drop 1) = false

/-- a conditional is `<` and a text that ends in `>`: no opener reaches from it into what follows -/
theorem matchShaped_cons (m : Str) (h : MatchShaped m) :
    ∃ m₁, m = '<' :: m₁ ∧ ∀ X, hasIEMarker (m₁ ++ X) = (hasIEMarker m₁ || hasIEMarker X) := by
  obtain ⟨op, body, hop, _, rfl⟩ := h
  obtain ⟨op', rfl⟩ := isIEOpener_head op hop
  refine ⟨op' ++ body ++ ['-', '-'] ++ ['>'], by simp [arrow], fun X => ?_⟩
  rw [List.append_assoc _ ['>'] X]
  exact hasIEMarker_stop_step '>' ieStop_gt (by decide) _ X

theorem removeAux_markerless (m : Str) (hm : MatchShaped m) (z : Str) (h : hasIEMarker z = false) :
    removeAux m 0 z = z :=
  removeAux_noMatch m hm z (noMatchIn_of_no_marker z h)

/-- **one `replace` on a segmented text**: the conditionals equal to `m` go, everything else stays -/
theorem removeAux_segs (m : Str) (hm : MatchShaped m) : ∀ (L : Segs) (pre : Str), SegInv pre L →
    (∀ cg ∈ L, Incomp m cg.1) →
    removeAux m 0 (pre ++ segText L) = (dropSeg m pre L).1 ++ segText (dropSeg m pre L).2 := by
  intro L
  induction L with
  | nil =>
    intro pre hinv _
    have := hinv.1
    simp only [joinGaps, List.append_nil] at this
    simpa only [segText, List.append_nil, dropSeg] using removeAux_markerless m hm pre this
  | cons cg L ih =>
    intro pre ⟨hmark, hconds⟩ hinc
    obtain ⟨c, g⟩ := cg
    obtain ⟨hcs, hcin⟩ := hconds (c, g) List.mem_cons_self
    obtain ⟨c₁, rfl, hc₁⟩ := matchShaped_cons c hcs
    have hrest : hasIEMarker (g ++ joinGaps L) = false := hasIEMarker_suffix pre _ hmark
    have hL : ∀ cg ∈ L, MatchShaped cg.1 ∧ hasIEMarker (cg.1.drop 1) = false :=
      fun cg h => hconds cg (List.mem_cons_of_mem _ h)
    have hincL : ∀ cg ∈ L, Incomp m cg.1 := fun cg h => hinc cg (List.mem_cons_of_mem _ h)
    -- up to the conditional nothing matches
    rw [show segText (('<' :: c₁, g) :: L) = ('<' :: c₁) ++ (g ++ segText L) from List.append_assoc _ _ _,
      removeAux_before m _ hm pre (noMatchBefore_of_no_marker pre _ (hasIEMarker_of_append_left _ _ hmark) rfl)]
    by_cases hcm : '<' :: c₁ = m
    · -- the conditional is `m`: it goes, its gap joins what precedes
      rw [dropSeg_cons_eq m pre _ g L hcm, dropSeg_pre m pre L g, List.append_assoc, ← hcm,
        removeAux_match _ _ (List.cons_ne_nil _ _), hcm, ih g ⟨hrest, hL⟩ hincL]
    · -- another conditional stays; behind its `<` the scan goes on with the rest of it as part of the gap
      have hp : m.isPrefixOf ('<' :: c₁ ++ (g ++ segText L)) = false := Bool.eq_false_iff.mpr fun hp =>
        (prefix_cases m _ _ hp).elim (fun h1 => hcm ((hinc _ List.mem_cons_self).1 h1).symm)
          (fun h1 => hcm ((hinc _ List.mem_cons_self).2 h1))
      have hin : hasIEMarker ((c₁ ++ g) ++ joinGaps L) = false := by
        rw [List.append_assoc, hc₁, hrest, Bool.or_false]; exact hcin
      rw [List.cons_append, removeAux_zero_cons, ← List.cons_append, hp, if_neg Bool.false_ne_true, ← List.append_assoc,
        ih (c₁ ++ g) ⟨hin, hL⟩ hincL, dropSeg_pre m c₁ L g, dropSeg_cons_ne m pre _ g L hcm]
      simp [segText]

theorem foldl_removeAll_segs : ∀ (ms : List Str) (pre : Str) (L : Segs), SegInv pre L →
    (∀ m ∈ ms, MatchShaped m ∧ ∀ cg ∈ L, Incomp m cg.1) → (∀ cg ∈ L, cg.1 ∈ ms) →
    ms.foldl (fun acc m => removeAll m acc) (pre ++ segText L) = pre ++ joinGaps L := by
  intro ms
  induction ms with
  | nil =>
    intro pre L _ _ hall
    cases L with
    | nil => rfl
    | cons cg L => exact absurd (hall cg List.mem_cons_self) (by simp)
  | cons m ms ih =>
    intro pre L hinv hms hall
    obtain ⟨hm, hinc⟩ := hms m List.mem_cons_self
    have hne : m ≠ [] := by
      obtain ⟨_, h, _⟩ := matchShaped_cons m hm
      rw [h]; exact List.cons_ne_nil _ _
    rw [List.foldl_cons, removeAll_ne_nil m _ hne, removeAux_segs m hm L pre hinv hinc]
    have hsub : ∀ cg ∈ (dropSeg m pre L).2, cg.1 ≠ m ∧ ∃ cg' ∈ L, cg'.1 = cg.1 := dropSeg_mem m L pre
    rw [ih (dropSeg m pre L).1 (dropSeg m pre L).2 ?_ ?_ ?_, dropSeg_join]
    · refine ⟨by rw [dropSeg_join]; exact hinv.1, ?_⟩
      intro cg hcg
      obtain ⟨_, cg', h1, h2⟩ := hsub cg hcg
      rw [← h2]; exact hinv.2 cg' h1
    · intro m2 hm2
      obtain ⟨hs, hi⟩ := hms m2 (List.mem_cons_of_mem _ hm2)
      refine ⟨hs, ?_⟩
      intro cg hcg
      obtain ⟨_, cg', h1, h2⟩ := hsub cg hcg
      rw [← h2]; exact hi cg' h1
    · intro cg hcg
      obtain ⟨hne, cg', h1, h2⟩ := hsub cg hcg
      have := hall cg' h1
      rw [h2] at this
      rcases List.mem_cons.mp this with e | e
      · exact absurd e hne
      · exact e

theorem matchOK_shaped : ∀ L : Segs, MatchOK L → ∀ cg ∈ L, MatchShaped cg.1 := by
  intro L
  induction L with
  | nil => intro _ cg h; simp at h
  | cons cg0 L ih =>
    intro h cg hcg
    obtain ⟨c, g⟩ := cg0
    rcases List.mem_cons.mp hcg with e | e
    · rw [e]; exact matchShaped_of_match _ _ h.1
    · exact ih h.2 cg e

theorem ieFindAll_segs : ∀ (L : Segs) (pre : Str), hasIEMarker (pre ++ joinGaps L) = false → MatchOK L →
    ieFindAllAux 0 (pre ++ segText L) = L.map (·.1) := by
  intro L
  induction L with
  | nil =>
    intro pre h _
    simp only [segText, joinGaps, List.append_nil] at h ⊢
    exact ieFindAllAux_none pre (noMatchIn_of_no_marker pre h)
  | cons cg L ih =>
    intro pre h hok
    obtain ⟨c, g⟩ := cg
    obtain ⟨hat, hokL⟩ := hok
    obtain ⟨_, hc, _⟩ := matchShaped_cons c (matchShaped_of_match _ _ hat)
    have hrest : hasIEMarker (g ++ joinGaps L) = false := hasIEMarker_suffix pre _ h
    show ieFindAllAux 0 (pre ++ (c ++ g ++ segText L)) = c :: L.map (·.1)
    rw [List.append_assoc c, ieFindAllAux_pass _ pre
      (noMatchBefore_of_no_marker pre _ (hasIEMarker_of_append_left _ _ h) (by rw [hc]; rfl)),
      ieFindAllAux_match _ _ hat, ih g hrest hokL]

/-- **several conditionals**: the result is the gaps joined, up to the html-tag rule -/
theorem stripIE_segs (g0 : Str) (L : Segs) (hne : L ≠ []) (hok : MatchOK L)
    (hgaps : hasIEMarker (g0 ++ joinGaps L) = false)
    (hin : ∀ cg ∈ L, hasIEMarker (cg.1.drop 1) = false)
    (hinc : ∀ a ∈ L, ∀ b ∈ L, Incomp a.1 b.1) :
    stripIE (g0 ++ segText L) = addHtmlIfMissing (g0 ++ joinGaps L) := by
  have hshape := matchOK_shaped L hok
  obtain ⟨cg, L', rfl⟩ := List.exists_cons_of_ne_nil hne
  rw [stripIE_of_findAll _ _ _ (ieFindAll_segs _ g0 hgaps hok)]
  refine congrArg addHtmlIfMissing
    (foldl_removeAll_segs ((cg :: L').map fun x : Str × Str => x.1) g0 _ ⟨hgaps, fun cg h => ⟨hshape cg h, hin cg h⟩⟩ ?_ ?_)
  · intro m hm
    obtain ⟨a, ha, rfl⟩ := List.mem_map.mp hm
    exact ⟨hshape a ha, fun cg hcg => hinc a ha cg hcg⟩
  · intro cg hcg
    exact List.mem_map.mpr ⟨cg, hcg, rfl⟩

end AHP
