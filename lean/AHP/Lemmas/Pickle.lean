/-
  AHP.Lemmas.Pickle — element trees of AHP/Model/Pickle.lean (C17): the copy an unpickling builds.

  `relabel` is the specification of the copy (fresh consecutive object ids in document order, rebuilt attribute stores,
  caches recomputed, one owner); `loadKids` the blocks as `loadL` returns them before `appendBlock` attaches them.
  `load_spec` / `loadL_spec`: on well-formed trees (`WFT`) `load ∘ getstate` is `relabel`; `Parser.roundTrip_eq` the same
  for a parser with its index.  Then what the copy keeps: serialisation, uids, object ids, the per-element view
  `elView`, the structural invariant `OK` (given `ScOK`, the part a copy can only inherit), and the domain: the copy of
  a `WFT` tree is in `WFTz` (`WFT` with `ClassLazy` for `ClassLast`), which implies `WFT`.
  Statements about trees come in pairs, for a block list and for a tree: the first by `DN.forest_induct`
  (`Lemmas/PickleTree.lean`), the second its instance at `[t]`.  The attribute store and the dict are in
  `Lemmas/PickleAttrs.lean`.
-/
import AHP.Lemmas.PickleAttrs
import AHP.Lemmas.PickleTree
namespace AHP.Pk
open AHP

namespace DN

def ownerOf : DN → Option Nat
  | .text _ => none
  | .el _ _ _ _ _ _ _ _ _ ow => ow

/-- what `appendBlock` stores for a block: a text as itself, an element with parent and owner set -/
def attach (o : Nat) (ow : Option Nat) : DN → DN
  | .text s => .text s
  | c => reown ow (setParent (some o) c)

theorem oid_attach (o : Nat) (ow : Option Nat) (c : DN) : (attach o ow c).oid = c.oid := by
  cases c <;> simp [attach, reown, setParent, oid]

/-- `__setstate__`'s loop: re-appending the blocks one by one builds the three lists side by side. -/
theorem foldl_appendBlock (kids : List DN) (o u : Nat) (nm : Str) (a : Attrs) (sc : Bool) (bl : List DN) (ch : List Nat)
    (tx : Str) (p ow : Option Nat) :
    kids.foldl appendBlock (.el o u nm a sc bl ch tx p ow) =
      .el o u nm a (if kids.isEmpty then sc else false) (bl ++ kids.map (attach o ow)) (ch ++ elemIds kids) (tx ++ textOf kids) p ow := by
  induction kids generalizing sc bl ch tx with
  | nil => simp [elemIds, textOf]
  | cons k ks ih =>
    cases k with
    | text s =>
      simp only [List.foldl_cons, appendBlock, appendText]
      rw [ih]
      simp [attach, elemIds, textOf]
    | el o2 u2 n2 a2 sc2 b2 c2 t2 p2 w2 =>
      simp only [List.foldl_cons, appendBlock, appendChild]
      rw [ih]
      simp [attach, elemIds, textOf, oid]

end DN

/-! #### the specification of the copy -/

mutual
/-- The specification of an unpickled copy: the same tree with fresh consecutive object ids in document
    order, rebuilt attribute stores, parent / children / text caches recomputed from the block lists and
    one owner throughout. -/
def relabel (par own : Option Nat) : DN → Nat → DN × Nat
  | .text s, n => (.text s, n)
  | .el _ u nm a sc blocks _ _ _ _, n =>
    let r := relabelL (some n) own blocks (n + 1)
    (.el n u nm (Attrs.fresh a) sc r.1 (DN.elemIds r.1) (DN.textOf r.1) par own, r.2)
def relabelL (par own : Option Nat) : List DN → Nat → List DN × Nat
  | [], n => ([], n)
  | b :: bs, n =>
    let r1 := relabel par own b n
    let r2 := relabelL par own bs r1.2
    (r1.1 :: r2.1, r2.2)
end

/-- the blocks as `loadL` returns them: every element still a root with the owner its own state named -/
def loadKids (ρ : Option Nat → Option Nat) : List DN → Nat → List DN × Nat
  | [], n => ([], n)
  | b :: bs, n =>
    let r1 := relabel none (ρ (DN.ownerOf b)) b n
    let r2 := loadKids ρ bs r1.2
    (r1.1 :: r2.1, r2.2)

theorem relabelL_snd (par own : Option Nat) (bs : List DN) (n : Nat) : (relabelL par own bs n).2 = n + DN.sizeL bs := by
  induction bs using DN.forest_induct generalizing par n with
  | nil => rfl
  | text s bs ih => simp only [relabelL, relabel, DN.sizeL, DN.size, ih]; omega
  | el o u nm a sc blocks ch tx p ow bs ihb ih => simp only [relabelL, relabel, DN.sizeL, DN.size, ihb, ih]; omega
theorem relabel_snd (par own : Option Nat) (t : DN) (n : Nat) : (relabel par own t n).2 = n + DN.size t := by
  simpa only [relabelL, DN.sizeL, Nat.add_zero] using relabelL_snd par own [t] n

theorem elemIds_reownL (ow : Option Nat) (bs : List DN) : DN.elemIds (DN.reownL ow bs) = DN.elemIds bs := by
  induction bs with
  | nil => simp [DN.reownL, DN.elemIds]
  | cons b bs ih => cases b <;> simp [DN.reownL, DN.reown, DN.elemIds, ih]

theorem textOf_reownL (ow : Option Nat) (bs : List DN) : DN.textOf (DN.reownL ow bs) = DN.textOf bs := by
  induction bs with
  | nil => simp [DN.reownL, DN.textOf]
  | cons b bs ih => cases b <;> simp [DN.reownL, DN.reown, DN.textOf, ih]

theorem reownL_relabelL (par o ow : Option Nat) (bs : List DN) (n : Nat) :
    DN.reownL ow (relabelL par o bs n).1 = (relabelL par ow bs n).1 := by
  induction bs using DN.forest_induct generalizing par n with
  | nil => rfl
  | text s bs ih => simp only [relabelL, relabel, DN.reownL, DN.reown, ih]
  | el o1 u nm a sc blocks ch tx p w bs ihb ih =>
    simp only [relabelL, relabel, DN.reownL, DN.reown, relabelL_snd, ih, ← ihb, elemIds_reownL, textOf_reownL]
theorem reown_relabel (par o ow : Option Nat) (t : DN) (n : Nat) :
    DN.reown ow (relabel par o t n).1 = (relabel par ow t n).1 := by
  simpa only [relabelL, DN.reownL, List.cons.injEq, and_true] using reownL_relabelL par o ow [t] n

theorem setParent_relabel (par p own : Option Nat) (t : DN) (n : Nat) :
    DN.setParent p (relabel par own t n).1 = (relabel p own t n).1 := by
  cases t <;> simp [relabel, DN.setParent]

theorem attach_relabel (o : Nat) (ow ow' : Option Nat) (t : DN) (n : Nat) :
    DN.attach o ow (relabel none ow' t n).1 = (relabel (some o) ow t n).1 := by
  cases t with
  | text s => simp [relabel, DN.attach]
  | el o1 u nm a sc blocks ch tx p w =>
    have h1 := setParent_relabel none (some o) ow' (.el o1 u nm a sc blocks ch tx p w) n
    have h2 := reown_relabel (some o) ow' ow (.el o1 u nm a sc blocks ch tx p w) n
    rw [← h2, ← h1]
    simp only [relabel, DN.attach]

theorem attach_loadKids (ρ : Option Nat → Option Nat) (o : Nat) (ow : Option Nat) (bs : List DN) (n : Nat) :
    (loadKids ρ bs n).1.map (DN.attach o ow) = (relabelL (some o) ow bs n).1 ∧ (loadKids ρ bs n).2 = (relabelL (some o) ow bs n).2 := by
  induction bs generalizing n with
  | nil => simp [loadKids, relabelL]
  | cons b bs ih =>
    simp only [loadKids, relabelL, List.map_cons]
    rw [attach_relabel, relabel_snd, relabel_snd]
    exact ⟨by rw [(ih _).1], (ih _).2⟩

theorem elemIds_map_attach (o : Nat) (ow : Option Nat) (ks : List DN) : DN.elemIds (ks.map (DN.attach o ow)) = DN.elemIds ks := by
  induction ks with
  | nil => rfl
  | cons k ks ih => cases k <;> simp [DN.attach, DN.reown, DN.setParent, DN.elemIds, ih]

theorem textOf_map_attach (o : Nat) (ow : Option Nat) (ks : List DN) : DN.textOf (ks.map (DN.attach o ow)) = DN.textOf ks := by
  induction ks with
  | nil => rfl
  | cons k ks ih => cases k <;> simp [DN.attach, DN.reown, DN.setParent, DN.textOf, ih]

/-! #### well-formed trees (the hypotheses of the round-trip theorem) -/

mutual
/-- The domain of C17: every element has a lower-case name and a well-formed attribute store in which `class`, once
    synchronised, is the last entry (`ClassLast`).  `WFTz` below (z for lazy) has `ClassLazy` — `class` not yet in the
    raw dict — in the place of `ClassLast`: it implies `WFT` and, unlike `WFT`, is closed under edits. -/
def WFT : DN → Prop
  | .text _ => True
  | .el _ _ n a _ blocks _ _ _ _ => lower n = n ∧ Attrs.WF a ∧ Attrs.ClassLast a ∧ WFTL blocks
def WFTL : List DN → Prop
  | [] => True
  | b :: bs => WFT b ∧ WFTL bs
end

/-! #### `load ∘ getstate` is `relabel`; what the copy keeps -/

mutual
/-- Unpickling computes exactly the specified copy (and never raises) on well-formed trees. -/
theorem load_spec (ρ : Option Nat → Option Nat) (t : DN) (h : WFT t) (n : Nat) :
    load ρ (getstate t) n = some (relabel none (ρ (DN.ownerOf t)) t n) := by
  match t, h with
  | .text s, _ => simp [getstate, load, relabel]
  | .el o u nm a sc blocks ch tx p ow, h =>
    simp only [WFT] at h
    obtain ⟨hn, ha, _, hb⟩ := h
    simp only [getstate, load]
    rw [loadL_spec ρ blocks hb (n + 1)]
    simp only [DN.mk, Attrs.init_attrsList a ha, hn, DN.setStateFields]
    rw [DN.foldl_appendBlock]
    simp only [DN.setSc, relabel, DN.ownerOf, List.nil_append]
    have hk := attach_loadKids ρ n (ρ ow) blocks (n + 1)
    rw [← hk.1, ← hk.2, elemIds_map_attach, textOf_map_attach]
theorem loadL_spec (ρ : Option Nat → Option Nat) (bs : List DN) (h : WFTL bs) (n : Nat) :
    loadL ρ (getstateL bs) n = some (loadKids ρ bs n) := by
  match bs, h with
  | [], _ => simp [getstateL, loadL, loadKids]
  | b :: bs, h =>
    simp only [WFTL] at h
    simp only [getstateL, loadL, loadKids]
    rw [load_spec ρ b h.1 n]
    simp only
    rw [loadL_spec ρ bs h.2 _]
end

/-- the root of the parser object `n` that `pickle.loads(pickle.dumps(p))` returns: the copy of `r` made of the
    objects after `n`, a reference to the old parser resolved to the new one -/
def Parser.copyRoot (p : Parser) (r : DN) (n : Nat) : DN :=
  (relabel none (if DN.ownerOf r = some p.oid then some n else DN.ownerOf r) r (n + 1)).1

theorem Parser.roundTrip_eq (p : Parser) (r : DN) (hr : p.root = some r) (h : WFT r) (n : Nat) :
    p.roundTrip n = some ({ oid := n, root := some (p.copyRoot r n), doctype := p.doctype, hasReset := true,
                            index := p.index.map (Index.remap ((DN.oids r).zip (DN.oids (p.copyRoot r n)))) },
                          n + 1 + DN.size r) := by
  unfold Parser.roundTrip Parser.copyRoot
  simp only [hr, load_spec _ r h (n + 1), relabel_snd]

theorem htmlL_relabelL (par own : Option Nat) (bs : List DN) (h : WFTL bs) (n : Nat) :
    DN.htmlL (relabelL par own bs n).1 = DN.htmlL bs := by
  induction bs using DN.forest_induct generalizing par n with
  | nil => rfl
  | text s bs ih => simp only [relabelL, relabel, DN.htmlL, DN.html, ih _ h.2]
  | el o u nm a sc blocks ch tx p ow bs ihb ih =>
    obtain ⟨⟨_, ha, hl, hb⟩, hbs⟩ := h
    simp only [relabelL, relabel, DN.htmlL, DN.html, Attrs.startTag_fresh nm a sc ha hl, ihb _ hb, ih _ hbs]
theorem html_relabel (par own : Option Nat) (t : DN) (h : WFT t) (n : Nat) : DN.html (relabel par own t n).1 = DN.html t := by
  simpa only [relabelL, DN.htmlL, List.append_nil] using htmlL_relabelL par own [t] ⟨h, trivial⟩ n

theorem uidsL_relabelL (par own : Option Nat) (bs : List DN) (n : Nat) : DN.uidsL (relabelL par own bs n).1 = DN.uidsL bs := by
  induction bs using DN.forest_induct generalizing par n with
  | nil => rfl
  | text s bs ih => simp only [relabelL, relabel, DN.uidsL, DN.uids, ih]
  | el o u nm a sc blocks ch tx p ow bs ihb ih => simp only [relabelL, relabel, DN.uidsL, DN.uids, ihb, ih]
theorem uids_relabel (par own : Option Nat) (t : DN) (n : Nat) : DN.uids (relabel par own t n).1 = DN.uids t := by
  simpa only [relabelL, DN.uidsL, List.append_nil] using uidsL_relabelL par own [t] n

theorem oidsL_relabelL (par own : Option Nat) (bs : List DN) (n : Nat) :
    DN.oidsL (relabelL par own bs n).1 = List.range' n (DN.sizeL bs) := by
  induction bs using DN.forest_induct generalizing par n with
  | nil => rfl
  | text s bs ih => simp only [relabelL, relabel, DN.oidsL, DN.oids, DN.sizeL, DN.size, ih, List.nil_append, Nat.zero_add]
  | el o u nm a sc blocks ch tx p ow bs ihb ih =>
    simp only [relabelL, relabel, DN.oidsL, DN.oids, DN.sizeL, DN.size, relabelL_snd, ihb, ih]
    rw [Nat.add_comm 1, Nat.add_assoc, ← List.range'_append_1, List.range'_succ, Nat.add_comm 1]
theorem oids_relabel (par own : Option Nat) (t : DN) (n : Nat) : DN.oids (relabel par own t n).1 = List.range' n (DN.size t) := by
  simpa only [relabelL, DN.oidsL, DN.sizeL, List.append_nil, Nat.add_zero] using oidsL_relabelL par own [t] n

/-! #### the structural invariant

  The clauses of C04's invariant (`Dom.OK`, Lemmas/Dom.lean) for this model's elements; no lemma relates the two.
  `noContent`: `outerHTML` / `innerHTML` of a self-closing tag do not look at the blocks, so anything but empty text in them
  would be missing from the serialisation. -/

def noContent : List DN → Prop
  | [] => True
  | .text s :: bs => s = [] ∧ noContent bs
  | .el .. :: _ => False

mutual
def OK (par own : Option Nat) : DN → Prop
  | .text _ => True
  | .el o _ _ _ sc blocks ch tx p ow =>
    p = par ∧ ow = own ∧ ch = DN.elemIds blocks ∧ tx = DN.textOf blocks ∧ (sc = true → noContent blocks) ∧
    OKL (some o) own blocks
def OKL (par own : Option Nat) : List DN → Prop
  | [] => True
  | b :: bs => OK par own b ∧ OKL par own bs
end

mutual
/-- the part of the invariant that the copy inherits from the original rather than re-establishes -/
def ScOK : DN → Prop
  | .text _ => True
  | .el _ _ _ _ sc blocks _ _ _ _ => (sc = true → noContent blocks) ∧ ScOKL blocks
def ScOKL : List DN → Prop
  | [] => True
  | b :: bs => ScOK b ∧ ScOKL bs
end

theorem ScOKL_of_OKL (par own : Option Nat) (bs : List DN) (h : OKL par own bs) : ScOKL bs := by
  induction bs using DN.forest_induct generalizing par with
  | nil => trivial
  | text s bs ih => exact ⟨trivial, ih _ h.2⟩
  | el o u nm a sc blocks ch tx p ow bs ihb ih => exact ⟨⟨h.1.2.2.2.2.1, ihb _ h.1.2.2.2.2.2⟩, ih _ h.2⟩
theorem ScOK_of_OK (par own : Option Nat) (t : DN) (h : OK par own t) : ScOK t :=
  (ScOKL_of_OKL par own [t] ⟨h, trivial⟩).1

theorem noContent_relabelL (par own : Option Nat) (bs : List DN) (n : Nat) (h : noContent bs) :
    noContent (relabelL par own bs n).1 := by
  induction bs generalizing n with
  | nil => simp [relabelL, noContent]
  | cons b bs ih =>
    cases b with
    | text s =>
      simp only [noContent] at h
      simp only [relabelL, relabel, noContent]
      exact ⟨h.1, ih _ h.2⟩
    | el => simp [noContent] at h

theorem OKL_relabelL (par own : Option Nat) (bs : List DN) (h : ScOKL bs) (n : Nat) : OKL par own (relabelL par own bs n).1 := by
  induction bs using DN.forest_induct generalizing par n with
  | nil => trivial
  | text s bs ih => exact ⟨trivial, ih _ h.2 _⟩
  | el o u nm a sc blocks ch tx p ow bs ihb ih =>
    exact ⟨⟨rfl, rfl, rfl, rfl, fun hs => noContent_relabelL _ _ _ _ (h.1.1 hs), ihb _ h.1.2 _⟩, ih _ h.2 _⟩
theorem OK_relabel (par own : Option Nat) (t : DN) (h : ScOK t) (n : Nat) : OK par own (relabel par own t n).1 :=
  (OKL_relabelL par own [t] ⟨h, trivial⟩ n).1

/-! #### the closed domain: `class` still lazy -/

mutual
/-- `WFT` with `ClassLazy` in the place of `ClassLast`: the trees constructors, the parser, unpickling and
    cloning build, and every tree reached from them by edits -/
def WFTz : DN → Prop
  | .text _ => True
  | .el _ _ n a _ blocks _ _ _ _ => lower n = n ∧ Attrs.WF a ∧ Attrs.ClassLazy a ∧ WFTzL blocks
def WFTzL : List DN → Prop
  | [] => True
  | b :: bs => WFTz b ∧ WFTzL bs
end

theorem WFTL_of_WFTzL (bs : List DN) (h : WFTzL bs) : WFTL bs := by
  induction bs using DN.forest_induct with
  | nil => trivial
  | text s bs ih => exact ⟨trivial, ih h.2⟩
  | el o u nm a sc blocks ch tx p ow bs ihb ih =>
    exact ⟨⟨h.1.1, h.1.2.1, Attrs.classLast_of_lazy a h.1.2.2.1, ihb h.1.2.2.2⟩, ih h.2⟩
theorem WFT_of_WFTz (t : DN) (h : WFTz t) : WFT t := (WFTL_of_WFTzL [t] ⟨h, trivial⟩).1

theorem WFTzL_relabelL (par own : Option Nat) (bs : List DN) (h : WFTL bs) (n : Nat) : WFTzL (relabelL par own bs n).1 := by
  induction bs using DN.forest_induct generalizing par n with
  | nil => trivial
  | text s bs ih => exact ⟨trivial, ih _ h.2 _⟩
  | el o u nm a sc blocks ch tx p ow bs ihb ih =>
    exact ⟨⟨h.1.1, Attrs.WF_fresh a h.1.2.1, Attrs.classLazy_fresh a, ihb _ h.1.2.2.2 _⟩, ih _ h.2 _⟩
theorem WFTz_relabel (par own : Option Nat) (t : DN) (h : WFT t) (n : Nat) : WFTz (relabel par own t n).1 :=
  (WFTzL_relabelL par own [t] ⟨h, trivial⟩ n).1

theorem WFT_relabel (par own : Option Nat) (t : DN) (h : WFT t) (n : Nat) : WFT (relabel par own t n).1 :=
  WFT_of_WFTz _ (WFTz_relabel par own t h n)
theorem WFTL_relabelL (par own : Option Nat) (bs : List DN) (h : WFTL bs) (n : Nat) : WFTL (relabelL par own bs n).1 :=
  WFTL_of_WFTzL _ (WFTzL_relabelL par own bs h n)

/-! #### the per-element view -/

/-- what the public views show of one element, apart from identities and content: name, attribute list, flag -/
def elView : DN → Str × List (Str × Option Str) × Bool
  | .text s => (s, [], false)
  | .el _ _ nm a sc _ _ _ _ _ => (nm, Attrs.attrsList a, sc)

theorem viewsL_relabelL (par own : Option Nat) (bs : List DN) (h : WFTL bs) (n : Nat) :
    (DN.elemsL (relabelL par own bs n).1).map elView = (DN.elemsL bs).map elView := by
  induction bs using DN.forest_induct generalizing par n with
  | nil => rfl
  | text s bs ih => simp only [relabelL, relabel, DN.elemsL, DN.elems, List.map_append, ih _ h.2]
  | el o u nm a sc blocks ch tx p ow bs ihb ih =>
    obtain ⟨⟨_, ha, hl, hb⟩, hbs⟩ := h
    simp only [relabelL, relabel, DN.elemsL, DN.elems, List.map_append, List.map_cons, elView,
      Attrs.attrsList_fresh a ha hl, ihb _ hb, ih _ hbs]
theorem views_relabel (par own : Option Nat) (t : DN) (h : WFT t) (n : Nat) :
    (DN.elems (relabel par own t n).1).map elView = (DN.elems t).map elView := by
  simpa only [relabelL, DN.elemsL, List.append_nil] using viewsL_relabelL par own [t] ⟨h, trivial⟩ n

end AHP.Pk
