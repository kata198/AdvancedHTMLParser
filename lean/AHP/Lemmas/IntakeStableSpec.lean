/-
  AHP.Lemmas.IntakeStableSpec — the constructor loop `intake` against the independent specification `Spec.attrs`
  (Spec/Attrs.lean): "names in first-occurrence order, each with its last value" IS the insertion-ordered dict the loop
  maintains (`attrs_eq_dictOf`); the store after the loop is related to that dict of the live attribute list (`Rel`,
  `rel_intake`); the listing of such a store is `Spec.normalise` of the dict (`view_eq_normalise`), hence
  `intake_view_eq_spec` and its two special cases.

  `Spec.attrs` / `Spec.normalise` are written from the property text for C02, without `dictSet`; the declarative
  `createdList` of `Lemmas/AttrsCreate.lean` describes the same listing for model (2) with its tables as a parameter
  (C08).  The two are related through the models only (`intake_view_eq_attrs`).
-/
import AHP.Spec.Attrs
import AHP.Lemmas.IntakeStable
namespace AHP.AttrStores
open AHP

theorem spec_kClass : Spec.kClass = kClass := String.toList_ofList
theorem spec_kStyle : Spec.kStyle = kStyle := String.toList_ofList
theorem spec_kSpell : Spec.kSpell = kSpell := String.toList_ofList

/-! The two readings differ in how the five character tests (`a–z`, `A–Z`, `0–9`, `_`, `-`) are bracketed, and the model
    tests the first character once more among the rest. -/

theorem nameChar_eq (d : Char) : Spec.nameChar d = (isAlnum d || d = '-' || d = '_') := by
  simp only [Spec.nameChar, Spec.nameStart, isAlnum, isAlpha, isDigit]
  ac_rfl

theorem validName_eq : ∀ n : Str, Spec.validName n = validAttrName n
  | [] => rfl
  | c :: cs => by
    have hall : (fun d => isAlnum d || decide (d = '-') || decide (d = '_')) = Spec.nameChar :=
      funext fun d => (nameChar_eq d).symm
    have hs : (isAlpha c || decide (c = '_')) = Spec.nameStart c := rfl
    rw [Spec.validName, validAttrName, hall, hs, List.all_cons]
    -- a character that may start a name may also continue one
    cases h : Spec.nameStart c
    · rfl
    · rw [Spec.nameChar, h]; rfl

def dictStep (d : List Attr) (p : Attr) : List Attr :=
  if validAttrName (lower p.1) then dictSet d (lower p.1) p.2 else d

def dictOf (l : List Attr) : List Attr := l.foldl dictStep []

theorem dictOf_snoc (l : List Attr) (p : Attr) : dictOf (l ++ [p]) = dictStep (dictOf l) p := by
  simp [dictOf, List.foldl_append]

theorem nodup_dictOf (l : List Attr) : (keys (dictOf l)).Nodup := by
  induction l using snoc_induction with
  | h0 => simp [dictOf, keys]
  | hs l p ih =>
    rw [dictOf_snoc]
    unfold dictStep
    split
    · exact nodup_dictSet _ _ ih
    · exact ih

theorem keys_dictOf (l : List Attr) : ∀ k ∈ keys (dictOf l), ∃ p ∈ l, k = lower p.1 := by
  induction l using snoc_induction with
  | h0 => simp [dictOf, keys]
  | hs l p ih =>
    intro k hk
    rw [dictOf_snoc] at hk
    unfold dictStep at hk
    split at hk
    · rcases (mem_keys_dictSet _).mp hk with e | m
      · exact ⟨p, by simp, e⟩
      · obtain ⟨q, hq, e⟩ := ih k m
        exact ⟨q, by simp [hq], e⟩
    · obtain ⟨q, hq, e⟩ := ih k hk
      exact ⟨q, by simp [hq], e⟩

theorem firstOcc_snoc (ks : List Str) (k : Str) :
    Spec.firstOcc (ks ++ [k]) = if (Spec.firstOcc ks).contains k then Spec.firstOcc ks else Spec.firstOcc ks ++ [k] := by
  simp [Spec.firstOcc, List.foldl_append]

theorem nodup_firstOcc (ks : List Str) : (Spec.firstOcc ks).Nodup := by
  induction ks using snoc_induction with
  | h0 => simp [Spec.firstOcc]
  | hs ks k ih =>
    rw [firstOcc_snoc]
    split
    · exact ih
    · next hc =>
      rw [List.nodup_append]
      refine ⟨ih, by simp, ?_⟩
      intro a ha b hb e
      simp only [List.mem_singleton] at hb
      subst hb; subst e
      exact hc (by simpa using ha)

theorem lastVal_snoc (ps : List Attr) (p : Attr) (k : Str) :
    Spec.lastVal (ps ++ [p]) k = if p.1 = k then p.2 else Spec.lastVal ps k := by
  simp [Spec.lastVal, List.foldl_append]

theorem named_snoc (l : List Attr) (p : Attr) :
    Spec.named (l ++ [p]) = Spec.named l ++ (if Spec.validName (lower p.1) then [(lower p.1, p.2)] else []) := by
  unfold Spec.named
  rw [List.map_append, List.filter_append]
  congr 1
  simp only [List.map_cons, List.map_nil, List.filter_cons, List.filter_nil]

theorem dictSet_table (g : Str → Option Str) (k : Str) (v : Option Str) : ∀ K : List Str, K.Nodup →
    dictSet (K.map (fun k' => (k', g k'))) k v
      = (if K.contains k then K else K ++ [k]).map (fun k' => (k', if k = k' then v else g k'))
  | K, hn => by
    rw [dictSet_eq, Dict.set_table g k v K hn, List.contains_eq_mem]
    have e : (fun j => (j, if j = k then v else g j)) = fun k' => (k', if k = k' then v else g k') :=
      funext fun j => by by_cases h : j = k <;> simp [h, Ne.symm]
    rw [e]
    by_cases h : k ∈ K <;> simp [h]

/-- **the specification is the insertion-ordered dict**: the names in the order of their first occurrence, each
    with the value of its last occurrence, is what one `dictSet` per valid lower-cased name builds -/
theorem attrs_eq_dictOf (l : List Attr) : Spec.attrs l = dictOf l := by
  induction l using snoc_induction with
  | h0 => simp [Spec.attrs, Spec.named, Spec.firstOcc, dictOf]
  | hs l p ih =>
    rw [dictOf_snoc, ← ih]
    unfold dictStep
    rw [← validName_eq]
    unfold Spec.attrs
    rw [named_snoc]
    by_cases hv : Spec.validName (lower p.1) = true
    · simp only [hv, if_true, List.map_append, List.map_cons, List.map_nil]
      rw [firstOcc_snoc]
      rw [dictSet_table (Spec.lastVal (Spec.named l)) (lower p.1) p.2 _ (nodup_firstOcc _)]
      apply List.map_congr_left
      intro k' _
      rw [lastVal_snoc]
    · simp only [hv, if_false, Bool.false_eq_true, List.append_nil]

theorem dictOf_filter_style (L : List Attr) :
    dictOf (L.filter (fun q => !Spec.isStyleAttr q)) = dictDel (dictOf L) kStyle := by
  induction L using snoc_induction with
  | h0 => simp [dictOf, dictDel]
  | hs L q ih =>
    rw [List.filter_append, dictOf_snoc]
    by_cases hq : Spec.isStyleAttr q = true
    · have hl : lower q.1 = kStyle := by
        unfold Spec.isStyleAttr at hq; exact of_decide_eq_true hq
      have hv : validAttrName kStyle = true := by decide
      simp only [List.filter_cons, hq, Bool.not_true, Bool.false_eq_true, if_false, List.filter_nil, List.append_nil]
      rw [ih]
      simp only [dictStep, hl, hv, if_true]
      rw [dictSet_eq]; exact (Dict.del_set_self kStyle _ _).symm
    · have hq' : Spec.isStyleAttr q = false := by simpa using hq
      have hl : lower q.1 ≠ kStyle := by
        unfold Spec.isStyleAttr at hq'; exact of_decide_eq_false hq'
      simp only [List.filter_cons, hq', Bool.not_false, if_true, List.filter_nil]
      rw [dictOf_snoc, ih]
      unfold dictStep
      split
      · rw [dictSet_eq, dictSet_eq]; exact (Dict.del_set_ne hl ..).symm
      · rfl

theorem liveStyle_snoc (l : List Attr) (p : Attr) :
    Spec.liveStyle (l ++ [p]) = if Spec.deadStyle p then (Spec.liveStyle l).filter (fun q => !Spec.isStyleAttr q)
      else Spec.liveStyle l ++ [p] := by
  simp [Spec.liveStyle, List.foldl_append]

/-- `spellcheck` is stored as a boolean string -/
def spellMap (p : Attr) : Attr := (p.1, if p.1 = kSpell then some (boolString p.2) else p.2)

/-- the store's dict: the specification's dict without `class`, `spellcheck` as boolean string (the raw text
    stays under `style` until a reader synchronises it) -/
def enc (D : List Attr) : List Attr := (dictDel D kClass).map spellMap

def clsOf (D : List Attr) : List Str :=
  match dictGet D kClass with
  | some v => classNamesOf v
  | none => []

def styOf (D : List Attr) : List (Str × Str) :=
  match dictGet D kStyle with
  | some v => styleToDict (v.getD [])
  | none => []

theorem enc_dictSet (D : List Attr) (k : Str) (v : Option Str) :
    enc (dictSet D k v)
      = if k = kClass then enc D else dictSet (enc D) k (if k = kSpell then some (boolString v) else v) := by
  unfold enc
  rw [dictSet_eq D, dictDel_eq]
  split
  · next hk => rw [hk, Dict.del_set_self]; rfl
  · next hk =>
    rw [Dict.del_set_ne hk, ← dictSet_eq]
    exact map_dictSet (fun k v => if k = kSpell then some (boolString v) else v) k v _

theorem enc_del (D : List Attr) (k : Str) : enc (dictDel D k) = dictDel (enc D) k := by
  unfold enc
  rw [show dictDel (dictDel D k) kClass = dictDel (dictDel D kClass) k from Dict.del_comm ..]
  exact map_dictDel (fun k v => if k = kSpell then some (boolString v) else v) k _

/-- the store `st` the constructor loop has built against the specification's dict `D` of the same (live) attribute
    list: dict, class list and style map of `st` are the three readings `enc`, `clsOf`, `styOf` of `D`; a `style` entry
    of `D` has at least one declaration; the keys of `D` are distinct -/
structure Rel (st : AttrState) (D : List Attr) : Prop where
  d : st.d = enc D
  cls : st.classes = clsOf D
  sty : st.style = styOf D
  live : ∀ v, dictGet D kStyle = some v → styleToDict (v.getD []) ≠ []
  nodup : (keys D).Nodup

theorem rel_empty : Rel AttrState.empty [] where
  d := rfl
  cls := rfl
  sty := rfl
  live := by simp [dictGet]
  nodup := by simp [keys]

/-- `spell_ne_class` (Lemmas/AttrStoresSim.lean) -/
theorem spell_ne_class' : kSpell ≠ kClass := spell_ne_class

theorem clsOf_dictSet (D : List Attr) (k : Str) (v : Option Str) :
    clsOf (dictSet D k v) = if k = kClass then classNamesOf v else clsOf D := by
  unfold clsOf; rw [dictGet_dictSet]
  by_cases h : k = kClass
  · rw [if_pos h, if_pos h]
  · rw [if_neg h, if_neg h]

theorem styOf_dictSet (D : List Attr) (k : Str) (v : Option Str) :
    styOf (dictSet D k v) = if k = kStyle then styleToDict (v.getD []) else styOf D := by
  unfold styOf; rw [dictGet_dictSet]
  by_cases h : k = kStyle
  · rw [if_pos h, if_pos h]
  · rw [if_neg h, if_neg h]

/-- a write into the specification's dict changes each of its three readings by the conditional by which `set` changes
    the field (`set_fields`) -/
theorem rel_set_valid {st : AttrState} {D : List Attr} (h : Rel st D) (k : Str) (v : Option Str)
    (hdead : ¬ (k = kStyle ∧ (styleToDict (v.getD [])).isEmpty = true)) : Rel (st.set k v) (dictSet D k v) where
  d := by
    rw [set_d, enc_dictSet, h.d]
    split
    · next e => rw [if_neg (e ▸ Attrs.styleK_ne_classK), ensureKey, if_neg fun e' => hdead ⟨e, e'⟩, e,
        if_neg (Ne.symm spell_ne_style)]
    · rfl
  cls := by rw [set_classes, clsOf_dictSet, h.cls]
  sty := by rw [set_sty, styOf_dictSet, h.sty]
  live := fun w hw => by
    rw [dictGet_dictSet] at hw
    split at hw
    · next e => exact Option.some.inj hw ▸ fun e' => hdead ⟨e, by rw [e']; rfl⟩
    · exact h.live w hw
  nodup := nodup_dictSet k v h.nodup

theorem rel_set_dead {st : AttrState} {D : List Attr} (h : Rel st D) (v : Option Str)
    (hm : (styleToDict (v.getD [])).isEmpty = true) : Rel (st.set kStyle v) (dictDel D kStyle) where
  d := by rw [set_d, if_pos rfl, ensureKey, if_pos hm, h.d, enc_del]
  cls := by
    rw [set_classes, if_neg Attrs.styleK_ne_classK, h.cls, clsOf, clsOf, dictGet_dictDel,
      if_neg Attrs.styleK_ne_classK]
  sty := by rw [set_sty, if_pos rfl, styOf, dictGet_dictDel, if_pos rfl]; exact List.isEmpty_iff.mp hm
  live := fun w hw => by rw [dictGet_dictDel, if_pos rfl] at hw; cases hw
  nodup := nodup_dictDel _ h.nodup

theorem rel_intake (l : List Attr) : Rel (intake l AttrState.empty) (dictOf (Spec.liveStyle l)) := by
  induction l using snoc_induction with
  | h0 => exact rel_empty
  | hs l p ih =>
    rw [intake_append, intake_cons]
    simp only [intake]
    rw [liveStyle_snoc]
    unfold intakeStep
    by_cases hdead : Spec.deadStyle p = true
    · have hd := hdead
      simp only [Spec.deadStyle, Spec.isStyleAttr, Bool.and_eq_true] at hd
      have hd1 : lower p.1 = kStyle := of_decide_eq_true hd.1
      have hv : validAttrName (lower p.1) = true := by rw [hd1]; decide
      simp only [hdead, if_true, hv]
      rw [dictOf_filter_style, hd1]
      exact rel_set_dead ih p.2 hd.2
    · have hdead' : Spec.deadStyle p = false := by simpa using hdead
      simp only [hdead', Bool.false_eq_true, if_false]
      rw [dictOf_snoc]
      unfold dictStep
      by_cases hv : validAttrName (lower p.1) = true
      · simp only [hv, if_true]
        apply rel_set_valid ih
        rintro ⟨e1, e2⟩
        simp [Spec.deadStyle, Spec.isStyleAttr, spec_kStyle, e1, e2] at hdead'
      · simp only [hv, if_false, Bool.false_eq_true]
        exact ih

/-- what `Spec.normItem` shows for a listed pair that it keeps -/
def normKept (p : Attr) : Attr :=
  (p.1, if p.1 = kStyle then some (styleStr (styleToDict (p.2.getD []))) else (spellMap p).2)

theorem normItem_of_live {p : Attr} (h : p.1 = kStyle → styleToDict (p.2.getD []) ≠ []) :
    Spec.normItem p = some (normKept p) := by
  unfold Spec.normItem normKept spellMap
  rw [spec_kStyle, spec_kSpell]
  by_cases h1 : p.1 = kStyle
  · rw [if_pos h1, if_pos h1, if_neg (mt List.isEmpty_iff.mp (h h1))]
  · rw [if_neg h1, if_neg h1]
    split <;> rfl

/-- `nodup_dictDel` (Lemmas/AttrStoresDict.lean) at `Attr` -/
theorem keys_dictDel_nodup {D : List Attr} (k : Str) (h : (keys D).Nodup) : (keys (dictDel D k)).Nodup :=
  nodup_dictDel k h

theorem view_eq_normalise {st : AttrState} {D : List Attr} (hc : Canon st) (h : Rel st D) :
    st.view = Spec.normalise D := by
  have hcw : Spec.classWordsOf D = st.classes := by
    rw [h.cls]
    unfold Spec.classWordsOf clsOf
    rw [dictGet_find, spec_kClass]
    cases D.find? (fun p => decide (p.1 = kClass)) <;> rfl
  -- the text of a `style` entry is the one `styOf` reads, and it has a declaration
  have hsty : ∀ p ∈ dictDel D kClass, p.1 = kStyle → dictGet D kStyle = some p.2 := fun p hp e => by
    obtain ⟨k, w⟩ := p
    subst e
    rw [← aget_eq_dictGet]; exact Attrs.aget_of_mem_nodup h.nodup (Dict.mem_del.mp hp).1
  have hbody : dS st = (D.filter (fun p => p.1 ≠ Spec.kClass)).filterMap Spec.normItem := by
    rw [show D.filter (fun p => decide (p.1 ≠ Spec.kClass)) = dictDel D kClass from rfl,
      filterMap_eq_map_of fun p hp => normItem_of_live fun e => h.live _ (hsty p hp e),
      dS_eq_forget hc, h.d, enc, forget, List.map_map]
    apply List.map_congr_left
    intro p hp
    by_cases e : p.1 = kStyle
    · simp only [Function.comp, spellMap, normKept, e, if_true, h.sty, styOf, hsty p hp e]
    · simp only [Function.comp, spellMap, normKept, e, if_false]
  rw [view_eq hc, hbody, Spec.normalise, hcw]
  unfold cP
  split
  · exact List.append_nil _
  · rw [spec_kClass]

end AHP.AttrStores

namespace AHP
open AHP.AttrStores

theorem liveStyle_of_no_dead (l : List Attr) (h : ∀ p ∈ l, Spec.deadStyle p = false) : Spec.liveStyle l = l := by
  induction l using snoc_induction with
  | h0 => rfl
  | hs l p ih =>
    rw [liveStyle_snoc, h p (by simp)]
    simp only [Bool.false_eq_true, if_false]
    rw [ih (fun q hq => h q (by simp [hq]))]

theorem normalise_plain (D : List Attr) (h : ∀ k ∈ keys D, k ≠ kClass ∧ k ≠ kStyle ∧ k ≠ kSpell) :
    Spec.normalise D = D := by
  unfold Spec.normalise
  simp only
  have hcw : Spec.classWordsOf D = [] := by
    unfold Spec.classWordsOf
    rw [spec_kClass]
    have : D.find? (fun p => decide (p.1 = kClass)) = none := by
      rw [List.find?_eq_none]
      intro p hp
      have := (h p.1 (mem_keys_of_mem hp)).1
      simp [this]
    rw [this]
  have hfil : D.filter (fun p => decide (p.1 ≠ Spec.kClass)) = D := by
    apply List.filter_eq_self.mpr
    intro p hp
    have := (h p.1 (mem_keys_of_mem hp)).1
    rw [spec_kClass]
    exact decide_eq_true this
  have hmap : D.filterMap Spec.normItem = D := by
    have : ∀ p ∈ D, Spec.normItem p = some p := by
      intro p hp
      obtain ⟨_, h2, h3⟩ := h p.1 (mem_keys_of_mem hp)
      simp [Spec.normItem, spec_kStyle, spec_kSpell, h2, h3]
    exact filterMap_self_of _ _ this
  rw [hcw, hfil, hmap]
  rfl

/-- **C02 (attribute clause, in general).** The listing of the store the constructor builds from ANY raw attribute
    list is the documented normalisation of the independently specified attribute set (`Spec.attrs`: lower-cased
    valid names in first-occurrence order, each with its last value), taken over the list without the `style`
    attributes that a declaration-less `style` attribute behind them cancelled (`Spec.liveStyle`). -/
theorem intake_view_eq_spec (l : List Attr) :
    (intake l AttrState.empty).view = Spec.normalise (Spec.attrs (Spec.liveStyle l)) := by
  rw [attrs_eq_dictOf]
  exact view_eq_normalise (canon_intake l canon_empty) (rel_intake l)

theorem intake_view_eq_spec_live (l : List Attr) (h : ∀ p ∈ l, Spec.deadStyle p = false) :
    (intake l AttrState.empty).view = Spec.normalise (Spec.attrs l) := by
  rw [intake_view_eq_spec, liveStyle_of_no_dead l h]

/-- **C02 (attribute clause, plain names).** For every raw attribute list without `class` / `style` / `spellcheck`
    (any letter case; duplicates, invalid names allowed) the store lists exactly `Spec.attrs l`. -/
theorem intake_view_eq_spec_plain (l : List Attr)
    (h : ∀ p ∈ l, lower p.1 ≠ kClass ∧ lower p.1 ≠ kStyle ∧ lower p.1 ≠ kSpell) :
    (intake l AttrState.empty).view = Spec.attrs l := by
  have hdead : ∀ p ∈ l, Spec.deadStyle p = false := by
    intro p hp
    have := (h p hp).2.1
    simp [Spec.deadStyle, Spec.isStyleAttr, spec_kStyle, this]
  rw [intake_view_eq_spec_live l hdead]
  apply normalise_plain
  intro k hk
  rw [attrs_eq_dictOf] at hk
  obtain ⟨p, hp, e⟩ := keys_dictOf l k hk
  rw [e]; exact h p hp

end AHP
