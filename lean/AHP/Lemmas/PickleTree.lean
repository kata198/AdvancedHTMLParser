/-
  AHP.Lemmas.PickleTree — what needs only the element type `DN` of AHP/Model/Pickle.lean: induction over block lists and
  the two caches of a block list over `++`.
-/
import AHP.Model.Pickle
namespace AHP.Pk
open AHP

namespace DN

theorem elemIds_append (xs ys : List DN) : elemIds (xs ++ ys) = elemIds xs ++ elemIds ys := by
  induction xs with
  | nil => rfl
  | cons b bs ih => cases b <;> simp [elemIds, ih]

theorem textOf_append (xs ys : List DN) : textOf (xs ++ ys) = textOf xs ++ textOf ys := by
  induction xs with
  | nil => rfl
  | cons b bs ih => cases b <;> simp [textOf, ih]

mutual
theorem forest_cons {Q : List DN → Prop} (nil : Q []) (text : ∀ s bs, Q bs → Q (.text s :: bs))
    (el : ∀ o u n a sc blocks ch tx p ow bs, Q blocks → Q bs → Q (.el o u n a sc blocks ch tx p ow :: bs)) :
    ∀ (t : DN) (bs : List DN), Q bs → Q (t :: bs)
  | .text s, bs, h => text s bs h
  | .el o u n a sc blocks ch tx p ow, bs, h => el o u n a sc blocks ch tx p ow bs (forest_induct nil text el blocks) h
/-- Induction over block lists: a list is empty, starts with a text, or starts with an element, whose blocks and whose
    successors are lists the statement holds of.  The statements about a tree `t` are those about the list `[t]`. -/
theorem forest_induct {Q : List DN → Prop} (nil : Q []) (text : ∀ s bs, Q bs → Q (.text s :: bs))
    (el : ∀ o u n a sc blocks ch tx p ow bs, Q blocks → Q bs → Q (.el o u n a sc blocks ch tx p ow :: bs)) :
    ∀ bs, Q bs
  | [] => nil
  | t :: bs => forest_cons nil text el t bs (forest_induct nil text el bs)
end

end DN

end AHP.Pk
