/-
  AHP.Lemmas.FormatLexDoc — document level, all four formatter classes, single- and multi-root documents.

  * The plain parser of the formatter model (`Fmt.Plain`) rebuilds a strict tree from its token sequence
    (`plain_fnode` / `plain_fforest` / `plain_root`), and the canonical skeleton `cskel` (`skel` with empty data blocks
    dropped and adjacent data blocks joined) does not see what `expand` and `mergeL` do (`cskL_expand…`, `cskL_mergeL`).
  * Single root: the formatter's output text is the rendering of `outToks`, a token list in the domain of the strict
    lexer (`doc_render`, `listOK_out`, `doc_lex`), and the plain parser builds from those tokens the tree `outRoot`, with the
    same doctype (`doc_reparse`, an instance of `plain_feed_single`).
  * Multi-root: the plain parser's tree is the invisible wrapper element around the top-level blocks; `getHTML` writes the
    blocks only.  Re-parsing the output text must fail in the first pass (several roots / text outside the root) and
    build the wrapper in the second — `topScan` tracks exactly what makes the first pass fail and is invariant under
    `expandL` / `mergeL` (`reparse_blocks_multi`, `doc_reparse_multi`).
  * At the level of blocks a single-root document is the multi-root one with the block list `[u]` (`plainBlocks`,
    `outBlocks_eq_M`, `docToks_eq`); `doc_lex_blocks` is the lexing half for both root shapes at once.
  * `cskel_outRoot`, `cskel_outM`: the re-parsed tree has the canonical skeleton of the input, stated directly.  `Props/C11`
    reaches the same conclusion through the finer skeleton `pskel` of `FormatLexExact` (`cskel_of_pskel`).
  * `format_text`: for any token sequence whose plain-parser tree is a strict document, `getHTML` of the formatter is the
    rendering of `docToks`.
  * The stack of open element names along a token list (`tagStack`, `stAfter`, `noPre`): what the layout and the text-run
    statements of the later files scan with.
  The docstrings label the two halves of C11 at string level.  **(a)**: the output text is the rendering of a token list
  ("rendering") that lies in the lexer's domain ("domain"), so it lexes back.  **(b)**: the plain parser builds from those
  tokens a document with the same doctype ("core") and the same skeleton ("skeleton").
-/
import AHP.Lemmas.FormatLex
namespace AHP.Fmt
open AHP

mutual
/-- what `Plain.run` rebuilds from the tokens of the tree (`plain_fnode`); weaker than `Strict` -/
def FNode.Buildable : FNode → Prop
  | .tok t => isTextLike t = true ∧ (∀ d, t = .data d → d ≠ [])
  | .elem n st sc kids =>
      lower n = n ∧ (Fmt.isVoid n = true → sc = true) ∧ (sc = true → kids = []) ∧ mkStore st.items {} = st ∧
      BuildableL kids
def BuildableL : List FNode → Prop
  | [] => True
  | k :: ks => k.Buildable ∧ BuildableL ks
end

theorem FNode.Buildable.sc_nil {n : Str} {st : AStore} {sc : Bool} {kids : List FNode}
    (h : (FNode.elem n st sc kids).Buildable) : sc = true → kids = [] := h.2.2.1

theorem FNode.Buildable.kids {n : Str} {st : AStore} {sc : Bool} {kids : List FNode}
    (h : (FNode.elem n st sc kids).Buildable) : BuildableL kids := h.2.2.2.2

mutual
theorem strict_buildable : ∀ u : FNode, u.Strict → u.Buildable
  | .tok t, h => by
    refine ⟨h.2.2, ?_⟩
    intro d e; subst e
    exact tokOK_data_ne d h.1
  | .elem n st sc kids, h => by
    refine ⟨h.lower_name, h.void_sc, h.sc_nil, h.store, ?_⟩
    have hk := h.2.2.2.2.2
    by_cases hr : isRawText n = true
    · simp only [hr, if_true] at hk
      obtain ⟨raw, hraw, _⟩ := hk
      exact rawText_buildable kids raw hraw
    · simp only [hr] at hk
      exact strictL_buildable kids hk
theorem strictL_buildable : ∀ ks : List FNode, StrictL ks → BuildableL ks
  | [], _ => trivial
  | k :: ks, h => by
    exact ⟨strict_buildable k h.1, strictL_buildable ks h.2⟩
theorem rawText_buildable : ∀ (ks : List FNode) (raw : Str), rawText ks = some raw → BuildableL ks
  | [], _, _ => trivial
  | k :: ks, raw, h => by
    obtain ⟨s, r', rfl, hs, hr', _⟩ := rawText_cons k ks raw h
    refine ⟨⟨rfl, ?_⟩, rawText_buildable ks r' hr'⟩
    intro d e
    cases e
    exact hs
end

theorem plain_step_tok (f : Frame) (fs : List Frame) (cl : Option Node) (dt : Option Str) (lv ip : Int) (t : Token)
    (h : (FNode.tok t).Buildable) :
    Plain.step ⟨f :: fs, cl, dt, lv, ip⟩ (Tok.ofToken t)
      = .ok ⟨{ f with rev := (FNode.tok t).toNode :: f.rev } :: fs, cl, dt, lv, ip⟩ := by
  simp only [FNode.Buildable] at h
  cases t with
  | data d =>
    have hne : d.isEmpty = false := by
      have := h.2 d rfl
      cases d <;> simp_all
    simp [Tok.ofToken, Plain.step, Plain.handleData, hne, appendText, FNode.toNode, isVerb, renderTok]
  | entity e | charref e =>
    simp [Tok.ofToken, Plain.step, handleVerbatim, appendText, FNode.toNode, isVerb, renderTok]
  | comment e =>
    simp [Tok.ofToken, Plain.step, handleVerbatim, appendText, FNode.toNode, isVerb, renderTok, str]
  | _ => simp [isTextLike] at h

theorem plain_run_cons_ok (t : Tok) (ts : List Tok) (s s' : St) (h : Plain.step s t = .ok s') :
    Plain.run (t :: ts) s = Plain.run ts s' := by
  simp [Plain.run, h]

theorem plain_end (g : Frame) (fs : List Frame) (cl : Option Node) (dt : Option Str) (lv ip : Int) :
    Plain.step ⟨g :: fs, cl, dt, lv, ip⟩ (.end_ g.name)
      = .ok ⟨(attach g.close fs cl).1, (attach g.close fs cl).2, dt, lv, ip⟩ := by
  simp [Plain.step, Plain.handleEnd, Plain.endLoop, Plain.pop]

theorem plain_end_root (g : Frame) (cl : Option Node) (dt : Option Str) (lv ip : Int) :
    Plain.step ⟨[g], cl, dt, lv, ip⟩ (.end_ g.name) = .ok ⟨[], some g.close, dt, lv, ip⟩ :=
  plain_end g [] cl dt lv ip

/-- an element whose children are built as `hkids` says is built and attached: to the innermost open element, or as
    the root when nothing is open and nothing was parsed yet (`hnr`) -/
theorem plain_elem (n : Str) (st : AStore) (sc : Bool) (kids : List FNode) (h : (FNode.elem n st sc kids).Buildable)
    (cl : Option Node) (dt : Option Str) (lv ip : Int)
    (hkids : ∀ g gs rest, Plain.run ((ftoksL kids).map Tok.ofToken ++ rest) ⟨g :: gs, cl, dt, lv, ip⟩
      = Plain.run rest ⟨{ g with rev := (toNodeL kids).reverse ++ g.rev } :: gs, cl, dt, lv, ip⟩)
    (fs : List Frame) (hnr : fs = [] → cl = none) (rest : List Tok) :
    Plain.run ((FNode.elem n st sc kids).toks.map Tok.ofToken ++ rest) ⟨fs, cl, dt, lv, ip⟩
      = Plain.run rest ⟨(attach (FNode.elem n st sc kids).toNode fs cl).1,
          (attach (FNode.elem n st sc kids).toNode fs cl).2, dt, lv, ip⟩ := by
  obtain ⟨hl, hv, hsc, hstable, _⟩ := h
  have hroot : (!(St.noRoot ⟨fs, cl, dt, lv, ip⟩) && fs.isEmpty) = false := by
    cases fs with
    | nil => simp [St.noRoot, hnr rfl]
    | cons f r => simp
  unfold FNode.toks
  cases hs : sc with
  | true =>
    have : kids = [] := hsc hs
    subst this
    simp only [if_true, List.map_cons, List.map_nil, List.cons_append, List.nil_append]
    apply plain_run_cons_ok
    simp [Tok.ofToken, Plain.step, Plain.handleStart, hl, hstable, hroot, FNode.toNode, toNodeL]
  | false =>
    have hnv : Fmt.isVoid n = false := by
      cases hvv : Fmt.isVoid n with
      | false => rfl
      | true => have := hv hvv; simp_all
    simp only [Bool.false_eq_true, if_false, List.map_cons, List.map_append, List.map_nil, List.cons_append,
      List.append_assoc, List.nil_append]
    have hstart : Plain.step ⟨fs, cl, dt, lv, ip⟩ (Tok.ofToken (.start n st.items))
        = .ok ⟨⟨.normal, n, st, [], []⟩ :: fs, cl, dt, lv, ip⟩ := by
      simp [Tok.ofToken, Plain.step, Plain.handleStart, hl, hnv, hstable, hroot]
    rw [plain_run_cons_ok _ _ _ _ hstart, hkids]
    simp only [List.append_nil]
    have hend := plain_end ⟨.normal, n, st, [], (toNodeL kids).reverse⟩ fs cl dt lv ip
    rw [plain_run_cons_ok _ _ _ _ (by simpa [Tok.ofToken] using hend)]
    simp [Frame.close, FNode.toNode]

mutual
theorem plain_fnode (u : FNode) (h : u.Buildable) (f : Frame) (fs : List Frame) (cl : Option Node) (dt : Option Str)
    (lv ip : Int) (rest : List Tok) :
    Plain.run (u.toks.map Tok.ofToken ++ rest) ⟨f :: fs, cl, dt, lv, ip⟩
      = Plain.run rest ⟨{ f with rev := u.toNode :: f.rev } :: fs, cl, dt, lv, ip⟩ := by
  match u, h with
  | .tok t, h =>
    simp only [FNode.toks, List.map_cons, List.map_nil, List.cons_append, List.nil_append]
    exact plain_run_cons_ok _ _ _ _ (plain_step_tok f fs cl dt lv ip t h)
  | .elem n st sc kids, h =>
    have hk : BuildableL kids := h.kids
    exact plain_elem n st sc kids h cl dt lv ip (fun g gs r => plain_fforest kids hk g gs cl dt lv ip r) (f :: fs)
      (fun e => nomatch e) rest
theorem plain_fforest (ks : List FNode) (h : BuildableL ks) (f : Frame) (fs : List Frame) (cl : Option Node)
    (dt : Option Str) (lv ip : Int) (rest : List Tok) :
    Plain.run ((ftoksL ks).map Tok.ofToken ++ rest) ⟨f :: fs, cl, dt, lv, ip⟩
      = Plain.run rest ⟨{ f with rev := (toNodeL ks).reverse ++ f.rev } :: fs, cl, dt, lv, ip⟩ := by
  match ks, h with
  | [], _ => simp [ftoksL, toNodeL]
  | k :: ks, h =>
    simp only [ftoksL, List.map_append, List.append_assoc]
    rw [plain_fnode k h.1 f fs cl dt lv ip, plain_fforest ks h.2]
    simp [toNodeL]
end

theorem plain_root (n : Str) (st : AStore) (sc : Bool) (kids : List FNode) (h : (FNode.elem n st sc kids).Buildable)
    (dt : Option Str) (lv ip : Int) (rest : List Tok) :
    Plain.run ((FNode.elem n st sc kids).toks.map Tok.ofToken ++ rest) ⟨[], none, dt, lv, ip⟩
      = Plain.run rest ⟨[], some (FNode.elem n st sc kids).toNode, dt, lv, ip⟩ :=
  plain_elem n st sc kids h none dt lv ip
    (fun g gs r => plain_fforest kids h.kids g gs none dt lv ip r) []
    (fun _ => rfl) rest

def pushText (e : Str) (r : List Node) : List Node :=
  if e.isEmpty then r else
    match r with
    | .text false e' :: r' => .text false (e ++ e') :: r'
    | _ => .text false e :: r

mutual
/-- empty data blocks dropped, adjacent data blocks joined, at every level -/
def canon : Node → Node
  | .text v s => .text v s
  | .elem k n st sc ind kids => .elem k n st sc ind (canonL kids)
def canonL : List Node → List Node
  | [] => []
  | .text false s :: xs => pushText s (canonL xs)
  | .text true s :: xs => .text true s :: canonL xs
  | .elem k n st sc ind kids :: xs => .elem k n st sc ind (canonL kids) :: canonL xs
end

/-- **the document modulo formatting and text segmentation**: `skel` (element class and `_indent` forgotten, data
    blocks with all white space removed, references and comments verbatim), then data blocks that became empty
    dropped and adjacent data blocks joined.  A function of `skel`: trees with equal `skel` have equal `cskel`. -/
def cskel (t : Node) : Node := canon (skel t)

def canonCons : Node → List Node → List Node
  | .text false s, r => pushText s r
  | y, r => y :: r

theorem canonL_cons (x : Node) (xs : List Node) : canonL (x :: xs) = canonCons (canon x) (canonL xs) := by
  cases x with
  | text v s => cases v <;> simp [canonL, canon, canonCons]
  | elem k n st sc ind kids => simp [canonL, canon, canonCons]

theorem pushText_nil (r : List Node) : pushText [] r = r := by simp [pushText]

theorem pushText_pushText (a b : Str) (r : List Node) : pushText a (pushText b r) = pushText (a ++ b) r := by
  by_cases ha : a.isEmpty = true
  · have : a = [] := by simpa using ha
    subst this; simp [pushText_nil]
  · by_cases hb : b.isEmpty = true
    · have : b = [] := by simpa using hb
      subst this; simp [pushText_nil]
    · have hab : (a ++ b).isEmpty = false := by cases a <;> simp_all
      cases r with
      | nil => simp [pushText, ha, hb, hab]
      | cons x r' =>
        cases x with
        | elem k n st sc ind kids => simp [pushText, ha, hb, hab]
        | text v e' => cases v <;> simp [pushText, ha, hb, hab]

theorem skelL_append (xs ys : List Node) : skelL (xs ++ ys) = skelL xs ++ skelL ys := by
  induction xs with
  | nil => rfl
  | cons x xs ih => simp [skelL, ih]

def cskL (ks : List FNode) : List Node := canonL (skelL (toNodeL ks))

theorem cskL_cons (k : FNode) (ks : List FNode) : cskL (k :: ks) = canonCons (canon (skel k.toNode)) (cskL ks) := by
  simp only [cskL, toNodeL, skelL, canonL_cons]

theorem cskL_cons_congr (k : FNode) (xs ys : List FNode) (h : cskL xs = cskL ys) : cskL (k :: xs) = cskL (k :: ys) := by
  rw [cskL_cons, cskL_cons, h]

theorem cskL_data (s : Str) (ks : List FNode) : cskL (.tok (.data s) :: ks) = pushText (eraseWS s) (cskL ks) := by
  rw [cskL_cons]
  simp [FNode.toNode, isVerb, renderTok, skel, canon, canonCons]

theorem cskL_dataTok (s : Str) (ks : List FNode) : cskL (dataTok s ++ ks) = pushText (eraseWS s) (cskL ks) := by
  unfold dataTok
  by_cases h : s.isEmpty = true
  · have : s = [] := by simpa using h
    subst this
    simp [eraseWS, pushText_nil]
  · simp only [h, Bool.false_eq_true, if_false, List.cons_append, List.nil_append]
    exact cskL_data s ks

theorem eraseWS_ws (s : Str) (h : WsStr s) : eraseWS s = [] := eraseWS_allWs (wsStr_isWs s h)

theorem cskL_append_blank (ks : List FNode) (e : Str) (he : eraseWS e = []) : cskL (ks ++ dataTok e) = cskL ks := by
  induction ks with
  | nil =>
    have := cskL_dataTok e []
    simp only [List.append_nil] at this
    rw [List.nil_append, this, he, pushText_nil]
  | cons k ks ih =>
    rw [List.cons_append]
    exact cskL_cons_congr k _ _ ih

theorem cskL_pushTok (t : Token) (r : List FNode) : cskL (pushTok t r) = cskL (.tok t :: r) := by
  unfold pushTok
  split
  · rename_i a b r'
    rw [cskL_data, cskL_data, cskL_data, pushText_pushText, eraseWS_append]
  · rfl

mutual
theorem cskel_merge : ∀ u : FNode, cskel (merge u).toNode = cskel u.toNode
  | .tok t => by simp [merge]
  | .elem n st sc kids => by
    have ih := cskL_mergeL kids
    simp only [cskL] at ih
    simp only [merge, FNode.toNode, cskel, skel, canon, ih]
theorem cskL_mergeL : ∀ ks : List FNode, cskL (mergeL ks) = cskL ks
  | [] => by simp [mergeL]
  | .tok t :: ks => by
    simp only [mergeL]
    rw [cskL_pushTok]
    exact cskL_cons_congr _ _ _ (cskL_mergeL ks)
  | .elem n st sc kids :: ks => by
    have h1 := cskel_merge (.elem n st sc kids)
    simp only [merge, cskel] at h1
    simp only [mergeL]
    rw [cskL_cons, cskL_cons, h1, cskL_mergeL ks]
end

theorem cskel_expElem_of (cfg : Cfg) (hi : IndentWS cfg) (c : Ctx) (n : Str) (st : AStore) (sc : Bool) (kids : List FNode)
    (hsc : sc = true → kids = [])
    (hk : ∀ zs, cskL (expandL cfg (c.push n) n kids ++ zs) = cskL (kids ++ zs)) :
    cskel (expElem cfg c n st sc kids).toNode = cskel (FNode.elem n st sc kids).toNode := by
  simp only [expElem, cskel, FNode.toNode, skel, canon]
  congr 1
  cases sc with
  | true => rw [hsc rfl]; rfl
  | false =>
    exact (hk _).trans (cskL_append_blank kids _
      (eraseWS_ws _ (endInd_ws n _ (decorateL cfg (c.push n) n (toNodeL kids)) (indentAt_ws cfg hi c))))

mutual
theorem cskL_expand (cfg : Cfg) (hi : IndentWS cfg) (c : Ctx) (p : Str) :
    ∀ (u : FNode), u.Buildable → ∀ zs : List FNode, cskL (expand cfg c p u ++ zs) = cskL (u :: zs)
  | .tok t, h, zs => by
    rcases data_cases t with ⟨s, rfl⟩ | hd
    · simp only [expand, expandTok]
      rw [cskL_dataTok, cskL_data, eraseWS_dataRule]
    · rw [expand, expandTok_nondata c p hd]; rfl
  | .elem n st sc kids, h, zs => by
    rw [expand_elem, List.append_assoc, cskL_dataTok, eraseWS_ws _ (indentAt_ws cfg hi c), pushText_nil,
      List.singleton_append, cskL_cons, cskL_cons]
    have := cskel_expElem_of cfg hi c n st sc kids h.sc_nil (cskL_expandL cfg hi (c.push n) n kids h.kids)
    simp only [cskel] at this
    rw [this]
theorem cskL_expandL (cfg : Cfg) (hi : IndentWS cfg) (c : Ctx) (p : Str) :
    ∀ (ks : List FNode), BuildableL ks → ∀ zs : List FNode, cskL (expandL cfg c p ks ++ zs) = cskL (ks ++ zs)
  | [], _, zs => by simp [expandL]
  | k :: ks, h, zs => by
    simp only [expandL, List.append_assoc, List.cons_append]
    rw [cskL_expand cfg hi c p k h.1]
    exact cskL_cons_congr k _ _ (cskL_expandL cfg hi c p ks h.2 zs)
end

theorem cskel_expElem (cfg : Cfg) (hi : IndentWS cfg) (c : Ctx) (n : Str) (st : AStore) (sc : Bool) (kids : List FNode)
    (h : (FNode.elem n st sc kids).Buildable) :
    cskel (expElem cfg c n st sc kids).toNode = cskel (FNode.elem n st sc kids).toNode :=
  cskel_expElem_of cfg hi c n st sc kids h.sc_nil (cskL_expandL cfg hi (c.push n) n kids h.kids)

/-- a doctype the doctype line lexes back from: none, or a `doctype …` declaration without `>` -/
def DtOK (dt : Option Str) : Prop :=
  match dt with
  | none => True
  | some d => isDoctype d = true ∧ '>' ∉ d

instance (dt : Option Str) : Decidable (DtOK dt) := by
  unfold DtOK
  cases dt <;> infer_instance

def dtToks (dt : Option Str) : List Token :=
  match dt with
  | some d => if d.isEmpty then [] else [.decl d]
  | none => []

/-- the line break `getHTML` writes after the doctype line -/
def dtBlock (dt : Option Str) : List FNode :=
  match dt with
  | some d => if d.isEmpty then [] else [.tok (.data ['\n'])]
  | none => []

def dtText (dt : Option Str) : Str :=
  match dt with
  | some d => if d.isEmpty then [] else ['\n']
  | none => []

theorem dtBlock_eq (dt : Option Str) : dtBlock dt = dataTok (dtText dt) := by
  cases dt with
  | none => rfl
  | some d => by_cases hd : d.isEmpty = true <;> simp [dtBlock, dtText, hd, dataTok]

theorem dtText_ws (dt : Option Str) : WsStr (dtText dt) := by
  unfold dtText
  intro c hc
  cases dt with
  | none => simp at hc
  | some d =>
    by_cases hd : d.isEmpty = true
    · simp [hd] at hc
    · simp [hd] at hc; exact Or.inl hc

/-- the blocks of the output text at top level: the doctype's line break, then what `expand` makes of the root,
    adjacent data blocks glued -/
def outBlocks (cfg : Cfg) (dt : Option Str) (u : FNode) : List FNode :=
  mergeL (dtBlock dt ++ expand cfg ⟨0, 0⟩ [] u)

/-- **the token rendering of the decorated document** -/
def outToks (cfg : Cfg) (dt : Option Str) (u : FNode) : List Token :=
  dtToks dt ++ ftoksL (outBlocks cfg dt u)

theorem doctypeLine_eq (y : TagStyle) (dt : Option Str) :
    doctypeLine dt = renderToksY y (dtToks dt) ++ renderToksY y (ftoksL (dtBlock dt)) := by
  cases dt with
  | none => rfl
  | some d =>
    by_cases hd : d.isEmpty = true
    · simp [doctypeLine, dtToks, dtBlock, hd, renderToksY, ftoksL]
    · simp [doctypeLine, dtToks, dtBlock, hd, renderToksY, renderTokY, ftoksL, FNode.toks, renderTok, str]

/-- **(a), rendering**: `getHTML` of any of the four formatter classes on a single-root document is the
    rendering of `outToks` in the start-tag style of the class -/
theorem doc_render (cfg : Cfg) (dt : Option Str) (n : Str) (st : AStore) (sc : Bool)
    (kids : List FNode) (hw : n ≠ wrapper) (hs : (FNode.elem n st sc kids).Strict) :
    docHTML dt (some (dec0 cfg (FNode.elem n st sc kids).toNode))
      = .ok (renderToksY (styleOf cfg.kind) (outToks cfg dt (.elem n st sc kids))) := by
  have hout := outer_decorate_eq cfg ⟨0, 0⟩ [] (.elem n st sc kids) (strict_textLike _ hs)
  unfold outToks outBlocks
  rw [renderToksY_append, render_mergeL, ftoksL_append, renderToksY_append, ← List.append_assoc,
    ← doctypeLine_eq, ← hout]
  simp only [dec0, FNode.toNode, decorate, docHTML, hw, if_false]

theorem strict_dtBlock (dt : Option Str) : StrictL (dtBlock dt) := by
  rw [dtBlock_eq]
  exact strict_dataTok _ (fun hne => wsStr_plain _ (dtText_ws dt) hne)

/-- `mergeL (dtBlock dt ++ B)`: what re-tokenising gives for the top-level blocks `B` behind the doctype's line break
    (`outBlocksM`, `htmlToks`, `reparsed` are written with it) -/
theorem strict_front (dt : Option Str) (B : List FNode) (h : StrictL B) : StrictL (mergeL (dtBlock dt ++ B)) :=
  strict_mergeL _ ((strictL_append _ _).mpr ⟨strict_dtBlock dt, h⟩)

theorem strict_outBlocks (cfg : Cfg) (hi : IndentWS cfg) (dt : Option Str) (u : FNode) (hs : u.Strict) :
    StrictL (outBlocks cfg dt u) :=
  strict_front dt _ (strict_expand cfg hi ⟨0, 0⟩ [] u hs)

/-- **(a), domain**: a doctype declaration followed by the tokens of strict blocks, glued behind the doctype's line
    break, is in the serialiser's image -/
theorem listOK_out (dt : Option Str) (hdt : DtOK dt) (bs : List FNode) (hs : StrictL bs) :
    ListOK (dtToks dt ++ ftoksL (mergeL (dtBlock dt ++ bs))) := by
  have hblocks : ListOK (ftoksL (mergeL (dtBlock dt ++ bs))) := by
    have hg := glued_mergeL (dtBlock dt ++ bs)
    have := fforest_listOK _ (strict_front dt bs hs) hg.1 hg.2 [] .nil (Or.inl rfl)
    rw [List.append_nil] at this
    exact this
  unfold dtToks
  cases dt with
  | none => simpa using hblocks
  | some d =>
    by_cases hd : d.isEmpty = true
    · simpa [hd] using hblocks
    · simp only [hd, Bool.false_eq_true, if_false, List.cons_append, List.nil_append]
      simp only [DtOK, isDoctype, decide_eq_true_eq] at hdt
      exact .cons ⟨hdt.1, hdt.2⟩ trivial hblocks

/-- **(a)**: the strict lexer reads the output text back as `outToks` -/
theorem doc_lex (cfg : Cfg) (hi : IndentWS cfg) (dt : Option Str) (u : FNode) (hs : u.Strict) (hdt : DtOK dt) :
    lexStrict (renderToksY (styleOf cfg.kind) (outToks cfg dt u)) = some (outToks cfg dt u) :=
  lexStrict_renderToksY _ (styleOf_ok cfg.kind) _ (listOK_out dt hdt _ (strict_expand cfg hi ⟨0, 0⟩ [] u hs))

theorem mergeL_ws_elem (n : Str) (st : AStore) (sc : Bool) (kids : List FNode) :
    ∀ (ws : List FNode) (w : Str), rawText ws = some w →
      mergeL (ws ++ [.elem n st sc kids]) = dataTok w ++ [.elem n st sc (mergeL kids)]
  | [], w, h => by
    simp only [rawText, Option.some.injEq] at h
    subst h
    simp [mergeL, dataTok]
  | k :: ws, w, h => by
    obtain ⟨s, w', rfl, hs, hw', rfl⟩ := rawText_cons k ws w h
    simp only [List.cons_append, mergeL]
    rw [mergeL_ws_elem n st sc kids ws w' hw']
    have hsw : s ++ w' ≠ [] := by simp [hs]
    rw [dataTok_ne _ hsw]
    by_cases hw0 : w' = []
    · subst hw0
      simp [dataTok, pushTok_elem]
    · rw [dataTok_ne _ hw0]
      simp [pushTok]

theorem rawText_dataTok (s : Str) : rawText (dataTok s) = some s := by
  unfold dataTok
  by_cases h : s.isEmpty = true
  · have : s = [] := by simpa using h
    subst this; rfl
  · simp [h, rawText]

theorem rawText_append (xs ys : List FNode) (a b : Str) (ha : rawText xs = some a) (hb : rawText ys = some b) :
    rawText (xs ++ ys) = some (a ++ b) := by
  induction xs generalizing a with
  | nil =>
    simp only [rawText, Option.some.injEq] at ha
    subst ha; simpa using hb
  | cons k ks ih =>
    obtain ⟨s, r', rfl, hs, hr', rfl⟩ := rawText_cons k ks a ha
    have hse : s.isEmpty = false := List.isEmpty_eq_false_iff.mpr hs
    simp only [List.cons_append, rawText, hse, Bool.false_eq_true, if_false, ih r' hr']
    simp

theorem rawText_dtBlock (dt : Option Str) : rawText (dtBlock dt) = some (dtText dt) := by
  rw [dtBlock_eq]
  exact rawText_dataTok _

/-- the root element of the output text as the plain parser will see it -/
def outRoot (cfg : Cfg) (n : Str) (st : AStore) (sc : Bool) (kids : List FNode) : FNode :=
  .elem n st sc (mergeL (if sc then [] else
    expandL cfg ((⟨0, 0⟩ : Ctx).push n) n kids
      ++ dataTok (endInd n (indentAt cfg ⟨0, 0⟩) (decorateL cfg ((⟨0, 0⟩ : Ctx).push n) n (toNodeL kids)))))

theorem outRoot_eq (cfg : Cfg) (n : Str) (st : AStore) (sc : Bool) (kids : List FNode) :
    outRoot cfg n st sc kids = merge (expElem cfg ⟨0, 0⟩ n st sc kids) := by
  simp only [outRoot, expElem, merge]

theorem outBlocks_eq (cfg : Cfg) (dt : Option Str) (n : Str) (st : AStore) (sc : Bool) (kids : List FNode) :
    outBlocks cfg dt (.elem n st sc kids)
      = dataTok (dtText dt ++ indentAt cfg ⟨0, 0⟩) ++ [outRoot cfg n st sc kids] := by
  unfold outBlocks outRoot
  simp only [expand]
  rw [← List.append_assoc]
  exact mergeL_ws_elem n st sc _ _ _ (rawText_append _ _ _ _ (rawText_dtBlock dt) (rawText_dataTok _))

theorem plain_run_blank (w : Str) (hw : WsStr w) (dt : Option Str) (lv ip : Int) (rest : List Tok) :
    Plain.run ((ftoksL (dataTok w)).map Tok.ofToken ++ rest) ⟨[], none, dt, lv, ip⟩
      = Plain.run rest ⟨[], none, dt, lv, ip⟩ := by
  unfold dataTok
  by_cases h : w.isEmpty = true
  · simp [h, ftoksL]
  · simp only [h, Bool.false_eq_true, if_false, ftoksL, FNode.toks, List.append_nil, List.map_cons, List.map_nil,
      List.cons_append, List.nil_append]
    apply plain_run_cons_ok
    simp [Tok.ofToken, Plain.step, Plain.handleData, h, pyStrip_ws w (wsStr_pyWs w hw)]

theorem plain_run_dt (dt : Option Str) (hdt : DtOK dt) (rest : List Tok) :
    Plain.run ((dtToks dt).map Tok.ofToken ++ rest) {} = Plain.run rest ⟨[], none, dt, 0, 0⟩ := by
  cases dt with
  | none => rfl
  | some d =>
    have hd : d.isEmpty = false := by
      cases d with
      | nil => simp [DtOK, isDoctype, lower, str] at hdt
      | cons c cs => rfl
    simp only [dtToks, hd, Bool.false_eq_true, if_false, List.map_cons, List.map_nil, List.cons_append,
      List.nil_append]
    apply plain_run_cons_ok
    simp [Tok.ofToken, Plain.step]

theorem plain_run_single (dt : Option Str) (hdt : DtOK dt) (w : Str) (hw : WsStr w) (n : Str) (st : AStore) (sc : Bool)
    (kids : List FNode) (hb : (FNode.elem n st sc kids).Buildable) :
    Plain.run ((dtToks dt ++ ftoksL (dataTok w ++ [.elem n st sc kids])).map Tok.ofToken) {}
      = .ok ⟨[], some (FNode.elem n st sc kids).toNode, dt, 0, 0⟩ := by
  rw [List.map_append, plain_run_dt dt hdt, ftoksL_append, List.map_append, plain_run_blank _ hw]
  have := plain_root n st sc kids hb dt 0 0 []
  simp only [List.append_nil] at this
  simp only [ftoksL, List.append_nil]
  rw [this]; rfl

theorem plain_feed_single (dt : Option Str) (hdt : DtOK dt) (w : Str) (hw : WsStr w) (n : Str) (st : AStore) (sc : Bool)
    (kids : List FNode) (hb : (FNode.elem n st sc kids).Buildable) :
    Plain.feed ((dtToks dt ++ ftoksL (dataTok w ++ [.elem n st sc kids])).map Tok.ofToken)
      = .ok ⟨[], some (FNode.elem n st sc kids).toNode, dt, 0, 0⟩ := by
  unfold Plain.feed
  rw [plain_run_single dt hdt w hw n st sc kids hb]

/-- **(b), core**: the plain parser on the output tokens: same doctype, root = the output's root element -/
theorem doc_reparse (cfg : Cfg) (hi : IndentWS cfg) (dt : Option Str) (n : Str) (st : AStore) (sc : Bool)
    (kids : List FNode) (hs : (FNode.elem n st sc kids).Strict) (hdt : DtOK dt) :
    Plain.feed ((outToks cfg dt (.elem n st sc kids)).map Tok.ofToken)
      = .ok ⟨[], some (outRoot cfg n st sc kids).toNode, dt, 0, 0⟩ := by
  have hroot : (outRoot cfg n st sc kids).Strict :=
    outRoot_eq cfg n st sc kids ▸ strict_merge _ (strict_expElem cfg hi _ n st sc kids hs)
  rw [outToks, outBlocks_eq]
  exact plain_feed_single dt hdt _ (wsStr_append _ _ (dtText_ws dt) (indentAt_ws cfg hi _)) n st sc _
    (strict_buildable _ hroot)

/-- **(b), skeleton**: the output's root element has the canonical skeleton of the document's root -/
theorem cskel_outRoot (cfg : Cfg) (hi : IndentWS cfg) (n : Str) (st : AStore) (sc : Bool) (kids : List FNode)
    (hs : (FNode.elem n st sc kids).Strict) :
    cskel (outRoot cfg n st sc kids).toNode = cskel (FNode.elem n st sc kids).toNode := by
  rw [outRoot_eq, cskel_merge, cskel_expElem cfg hi _ n st sc kids (strict_buildable _ hs)]

/-- scanning top-level blocks with nothing open: `none` = `MultipleRootNodeException`; `some seen` = went through,
    `seen` says whether a root element exists by now -/
def topScan (seen : Bool) : List FNode → Option Bool
  | [] => some seen
  | .tok (.data d) :: ks => if blank d then topScan seen ks else none
  | .tok _ :: _ => none
  | .elem _ _ _ _ :: ks => if seen then none else topScan true ks

theorem topScan_append (xs ys : List FNode) : ∀ seen,
    topScan seen (xs ++ ys) = (topScan seen xs).bind (fun s => topScan s ys) := by
  induction xs with
  | nil => intro seen; simp [topScan]
  | cons x xs ih =>
    intro seen
    cases x with
    | elem n st sc kids =>
      simp only [List.cons_append, topScan]
      split
      · rfl
      · exact ih true
    | tok t =>
      cases t with
      | data d =>
        simp only [List.cons_append, topScan]
        split
        · exact ih seen
        · rfl
      | _ => simp [topScan]

theorem blank_ws (s : Str) (h : WsStr s) : blank s = true := (blank_iff s).mpr (eraseWS_ws s h)

theorem topScan_dataTok (s : Str) (hs : blank s = true) (seen : Bool) (ks : List FNode) :
    topScan seen (dataTok s ++ ks) = topScan seen ks := by
  unfold dataTok
  by_cases h : s.isEmpty = true
  · simp [h]
  · simp [h, topScan, hs]

theorem topScan_pushTok (t : Token) (r : List FNode) (seen : Bool) :
    topScan seen (pushTok t r) = topScan seen (.tok t :: r) := by
  unfold pushTok
  split
  · rename_i a b r'
    simp only [topScan, blank_append]
    cases blank a <;> cases blank b <;> simp
  · rfl

theorem topScan_mergeL : ∀ (ks : List FNode) (seen : Bool), topScan seen (mergeL ks) = topScan seen ks
  | [], _ => by simp [mergeL]
  | .tok t :: ks, seen => by
    simp only [mergeL]
    rw [topScan_pushTok]
    cases t with
    | data d => simp only [topScan]; rw [topScan_mergeL ks seen]
    | _ => simp [topScan]
  | .elem n st sc kids :: ks, seen => by
    simp only [mergeL, topScan]
    rw [topScan_mergeL ks true]

theorem topScan_expandL (cfg : Cfg) (hi : IndentWS cfg) (c : Ctx) (p : Str) :
    ∀ (ks : List FNode) (seen : Bool), topScan seen (expandL cfg c p ks) = topScan seen ks
  | [], _ => by simp [expandL]
  | .tok t :: ks, seen => by
    simp only [expandL, expand]
    cases t with
    | data d =>
      simp only [expandTok]
      have hb : blank (dataRule c p d) = blank d := blank_of_eraseWS_eq _ _ (eraseWS_dataRule c p d)
      unfold dataTok
      by_cases h : (dataRule c p d).isEmpty = true
      · have he : dataRule c p d = [] := by simpa using h
        have : blank d = true := by rw [← hb, he]; rfl
        simp [h, topScan, this, topScan_expandL cfg hi c p ks seen]
      · simp [h, topScan, hb, topScan_expandL cfg hi c p ks seen]
    | _ => simp [expandTok, topScan]
  | .elem n st sc kids :: ks, seen => by
    simp only [expandL, expand, List.append_assoc]
    rw [topScan_dataTok _ (blank_ws _ (indentAt_ws cfg hi c))]
    simp only [List.cons_append, List.nil_append, topScan]
    rw [topScan_expandL cfg hi c p ks true]

theorem plain_run_error (t : Tok) (ts : List Tok) (s : St) (e : Err) (h : Plain.step s t = .error e) :
    Plain.run (t :: ts) s = .error e := by
  simp [Plain.run, h]

theorem plain_top_fails : ∀ (ks : List FNode), BuildableL ks → ∀ (cl : Option Node) (dt : Option Str) (lv ip : Int)
    (rest : List Tok), topScan cl.isSome ks = none →
    Plain.run ((ftoksL ks).map Tok.ofToken ++ rest) ⟨[], cl, dt, lv, ip⟩ = .error .multipleRoot
  | [], _, cl, _, _, _, _, h => by simp [topScan] at h
  | .tok t :: ks, hb, cl, dt, lv, ip, rest, h => by
    simp only [BuildableL, FNode.Buildable] at hb
    simp only [ftoksL, FNode.toks, List.map_append, List.map_cons, List.map_nil, List.cons_append, List.nil_append,
      List.append_assoc]
    cases t with
    | data d =>
      have hne : d.isEmpty = false := by
        have := hb.1.2 d rfl
        cases d <;> simp_all
      simp only [topScan] at h
      by_cases hbl : blank d = true
      · simp only [hbl, if_true] at h
        have hstep : Plain.step ⟨[], cl, dt, lv, ip⟩ (Tok.ofToken (.data d)) = .ok ⟨[], cl, dt, lv, ip⟩ := by
          simp [Tok.ofToken, Plain.step, Plain.handleData, hne, pyStrip_isEmpty, hbl]
        rw [plain_run_cons_ok _ _ _ _ hstep]
        exact plain_top_fails ks hb.2 cl dt lv ip rest h
      · apply plain_run_error
        simp [Tok.ofToken, Plain.step, Plain.handleData, hne, pyStrip_isEmpty, hbl]
    | entity e => apply plain_run_error; simp [Tok.ofToken, Plain.step, handleVerbatim]
    | charref e => apply plain_run_error; simp [Tok.ofToken, Plain.step, handleVerbatim]
    | comment e => apply plain_run_error; simp [Tok.ofToken, Plain.step, handleVerbatim]
    | _ => simp [isTextLike] at hb
  | .elem n st sc kids :: ks, hb, cl, dt, lv, ip, rest, h => by
    simp only [ftoksL, List.map_append, List.append_assoc]
    cases cl with
    | none =>
      simp only [Option.isSome_none, topScan, Bool.false_eq_true, if_false] at h
      rw [plain_root n st sc kids hb.1 dt lv ip]
      exact plain_top_fails ks hb.2 (some _) dt lv ip rest (by simpa using h)
    | some r =>
      -- a second root element
      unfold FNode.toks
      cases sc with
      | true =>
        simp only [if_true, List.map_cons, List.map_nil, List.cons_append, List.nil_append]
        apply plain_run_error
        simp [Tok.ofToken, Plain.step, Plain.handleStart, St.noRoot]
      | false =>
        simp only [Bool.false_eq_true, if_false, List.map_cons, List.cons_append]
        apply plain_run_error
        simp [Tok.ofToken, Plain.step, Plain.handleStart, St.noRoot]

def outBlocksM (cfg : Cfg) (dt : Option Str) (kids : List FNode) : List FNode :=
  mergeL (dtBlock dt ++ expandL cfg ((⟨0, 0⟩ : Ctx).push wrapper) wrapper kids)

def outToksM (cfg : Cfg) (dt : Option Str) (kids : List FNode) : List Token :=
  dtToks dt ++ ftoksL (outBlocksM cfg dt kids)

theorem strictL_of_wrapper (st : AStore) (sc : Bool) (kids : List FNode)
    (hs : (FNode.elem wrapper st sc kids).Strict) : StrictL kids := hs.kids wrapper_not_raw

theorem strict_wrapperElem (kids : List FNode) (h : StrictL kids) : (FNode.elem wrapper {} false kids).Strict := by
  have h1 : TagNameOK wrapper := by decide +kernel
  have h2 : Fmt.isVoid wrapper = false := wrapper_not_void
  have h3 : ({} : AStore).items = [] := by decide
  simp only [FNode.Strict, wrapper_not_raw, Bool.false_eq_true, if_false, h2, h3]
  exact ⟨h1, fun e => e.elim, fun e => e.elim, fun x hx => by simp at hx, by decide, h⟩

theorem doc_render_multi (cfg : Cfg) (dt : Option Str) (st : AStore) (kids : List FNode)
    (hs : (FNode.elem wrapper st false kids).Strict) :
    docHTML dt (some (dec0 cfg (FNode.elem wrapper st false kids).toNode))
      = .ok (renderToksY (styleOf cfg.kind) (outToksM cfg dt kids)) := by
  have hout := innerL_decorate_eq cfg ((⟨0, 0⟩ : Ctx).push wrapper) wrapper kids
    (strictL_textLike _ (strictL_of_wrapper st false kids hs))
  unfold outToksM outBlocksM
  rw [renderToksY_append, render_mergeL, ftoksL_append, renderToksY_append, ← List.append_assoc,
    ← doctypeLine_eq, ← hout]
  simp [dec0, FNode.toNode, decorate, docHTML]

theorem strict_outBlocksM (cfg : Cfg) (hi : IndentWS cfg) (dt : Option Str) (kids : List FNode)
    (hs : StrictL kids) : StrictL (outBlocksM cfg dt kids) :=
  strict_front dt _ (strict_expandL cfg hi _ _ kids hs)

theorem doc_lex_multi (cfg : Cfg) (hi : IndentWS cfg) (dt : Option Str) (kids : List FNode) (hs : StrictL kids)
    (hdt : DtOK dt) :
    lexStrict (renderToksY (styleOf cfg.kind) (outToksM cfg dt kids)) = some (outToksM cfg dt kids) :=
  lexStrict_renderToksY _ (styleOf_ok cfg.kind) _ (listOK_out dt hdt _ (strict_expandL cfg hi _ _ kids hs))

mutual
theorem no_decl_toks : ∀ (u : FNode), u.TextLike → ∀ d, Token.decl d ∉ u.toks
  | .tok t, h, d => by
    simp only [FNode.TextLike] at h
    simp only [FNode.toks, List.mem_singleton]
    intro e; rw [← e] at h; simp [isTextLike] at h
  | .elem n st sc kids, h, d => by
    unfold FNode.toks
    split
    · simp
    · simp only [List.mem_cons, List.mem_append, List.mem_singleton, not_or]
      exact ⟨by simp, no_decl_toksL kids h d, by simp⟩
theorem no_decl_toksL : ∀ (ks : List FNode), TextLikeL ks → ∀ d, Token.decl d ∉ ftoksL ks
  | [], _, d => by simp [ftoksL]
  | k :: ks, h, d => by
    simp only [ftoksL, List.mem_append, not_or]
    exact ⟨no_decl_toks k h.1 d, no_decl_toksL ks h.2 d⟩
end

theorem wrapToks_noDecl (l : List Token) (h : ∀ d, Token.decl d ∉ l) :
    wrapToks (l.map Tok.ofToken) = Tok.start wrapper [] :: l.map Tok.ofToken ++ [Tok.end_ wrapper] := by
  unfold wrapToks
  split
  · rename_i d rest heq
    cases l with
    | nil => simp at heq
    | cons t ts =>
      simp only [List.map_cons, List.cons.injEq] at heq
      exact absurd (by rw [ofToken_decl t d heq.1]; simp) (h d)
  · rename_i s d rest heq
    cases l with
    | nil => simp at heq
    | cons t ts =>
      cases ts with
      | nil => simp at heq
      | cons t2 ts2 =>
        simp only [List.map_cons, List.cons.injEq] at heq
        exact absurd (by rw [ofToken_decl t2 d heq.2.1]; simp) (h d)
  · rfl

theorem wrapToks_out (dt : Option Str) (hdt : DtOK dt) (l : List Token) (h : ∀ d, Token.decl d ∉ l) :
    wrapToks ((dtToks dt ++ l).map Tok.ofToken)
      = (dtToks dt).map Tok.ofToken ++ (Tok.start wrapper [] :: l.map Tok.ofToken ++ [Tok.end_ wrapper]) := by
  cases dt with
  | none => simpa [dtToks] using wrapToks_noDecl l h
  | some d =>
    have hd : d.isEmpty = false := by
      cases d with
      | nil => simp [DtOK, isDoctype, lower, str] at hdt
      | cons c cs => rfl
    simp [dtToks, hd, Tok.ofToken, wrapToks, hdt.1]

/-- a block list that a first pass rejects is built inside the wrapper by the second pass -/
theorem reparse_blocks_multi (dt : Option Str) (hdt : DtOK dt) (B : List FNode) (hs : StrictL B)
    (hscan : topScan false B = none) :
    Plain.feed ((dtToks dt ++ ftoksL B).map Tok.ofToken)
      = .ok ⟨[], some (FNode.elem wrapper {} false B).toNode, dt, 0, 0⟩ := by
  have hbuild := strictL_buildable _ hs
  have hfirst : Plain.run ((dtToks dt ++ ftoksL B).map Tok.ofToken) {} = .error .multipleRoot := by
    rw [List.map_append, plain_run_dt dt hdt]
    have := plain_top_fails _ hbuild none dt 0 0 [] (by simpa using hscan)
    simpa using this
  -- the second pass parses the single-root document whose root is the wrapper element
  have hsecond : Plain.run (wrapToks ((dtToks dt ++ ftoksL B).map Tok.ofToken)) {}
      = .ok ⟨[], some (FNode.elem wrapper {} false B).toNode, dt, 0, 0⟩ := by
    rw [wrapToks_out dt hdt _ (no_decl_toksL _ (strictL_textLike _ hs))]
    have hitems : ({} : AStore).items = [] := by decide
    have := plain_run_single dt hdt [] (fun _ h => nomatch h) wrapper {} false B
      ⟨wrapper_lower, fun h => absurd h (by simp [wrapper_not_void]), (fun h => nomatch h), by rw [hitems]; rfl, hbuild⟩
    simpa [dataTok, ftoksL, FNode.toks, Tok.ofToken, hitems] using this
  unfold Plain.feed
  rw [hfirst]
  exact hsecond

theorem topScan_dtBlock (dt : Option Str) : topScan false (dtBlock dt) = some false := by
  have := topScan_dataTok _ (blank_ws _ (dtText_ws dt)) false []
  rwa [List.append_nil, ← dtBlock_eq] at this

theorem topScan_front (dt : Option Str) (B : List FNode) :
    topScan false (mergeL (dtBlock dt ++ B)) = topScan false B := by
  rw [topScan_mergeL, topScan_append, topScan_dtBlock]
  rfl

theorem topScan_outBlocksM (cfg : Cfg) (hi : IndentWS cfg) (dt : Option Str) (kids : List FNode)
    (hmulti : topScan false kids = none) : topScan false (outBlocksM cfg dt kids) = none := by
  unfold outBlocksM
  rw [topScan_front, topScan_expandL cfg hi]
  exact hmulti

/-- **(b), core, multi-root**: first pass fails, second pass builds the wrapper around the output's blocks -/
theorem doc_reparse_multi (cfg : Cfg) (hi : IndentWS cfg) (dt : Option Str) (kids : List FNode) (hs : StrictL kids)
    (hdt : DtOK dt) (hmulti : topScan false kids = none) :
    Plain.feed ((outToksM cfg dt kids).map Tok.ofToken)
      = .ok ⟨[], some (FNode.elem wrapper {} false (outBlocksM cfg dt kids)).toNode, dt, 0, 0⟩ :=
  reparse_blocks_multi dt hdt _ (strict_outBlocksM cfg hi dt kids hs) (topScan_outBlocksM cfg hi dt kids hmulti)

theorem cskel_outM (cfg : Cfg) (hi : IndentWS cfg) (dt : Option Str) (st : AStore) (kids : List FNode)
    (hs : StrictL kids) :
    cskel (FNode.elem wrapper st false (outBlocksM cfg dt kids)).toNode
      = cskel (FNode.elem wrapper st false kids).toNode := by
  have hb := strictL_buildable _ hs
  have h1 : cskL (outBlocksM cfg dt kids) = cskL kids := by
    unfold outBlocksM
    rw [cskL_mergeL]
    rw [dtBlock_eq, cskL_dataTok, eraseWS_ws _ (dtText_ws dt), pushText_nil]
    have := cskL_expandL cfg hi ((⟨0, 0⟩ : Ctx).push wrapper) wrapper kids hb []
    simpa using this
  simp only [cskL] at h1
  simp only [cskel, FNode.toNode, skel, canon, h1]

/-- the token rendering of the decorated document, single- or multi-root -/
def docToks (cfg : Cfg) (dt : Option Str) (n : Str) (st : AStore) (sc : Bool) (kids : List FNode) : List Token :=
  if n = wrapper then outToksM cfg dt kids else outToks cfg dt (.elem n st sc kids)

/-- a multi-root document as the plain parser builds it: the wrapper has no attributes, is not self-closing, and
    its blocks are what makes a first pass fail (a second root element, text or a reference / comment outside
    the root) -/
def WrapperOK (n : Str) (st : AStore) (sc : Bool) (kids : List FNode) : Prop :=
  n = wrapper → st = {} ∧ sc = false ∧ topScan false kids = none

instance (n : Str) (st : AStore) (sc : Bool) (kids : List FNode) : Decidable (WrapperOK n st sc kids) := by
  unfold WrapperOK; infer_instance

/-- **the formatter's output text**: for every token sequence whose plain-parser tree is the strict document
    `.elem n st sc kids` (single- or multi-root), `getHTML` of the formatter is the rendering of `docToks` in the class's style -/
theorem format_text (cfg : Cfg) (toks : List Tok) (h : NoWrapperStart toks) (ps : St)
    (hp : Plain.feed toks = .ok ps) (n : Str) (st : AStore) (sc : Bool) (kids : List FNode)
    (hroot : ps.root = some (FNode.elem n st sc kids).toNode) (hw : WrapperOK n st sc kids)
    (hs : (FNode.elem n st sc kids).Strict) :
    format cfg toks = .ok (renderToksY (styleOf cfg.kind) (docToks cfg ps.doctype n st sc kids)) := by
  have ht := format_tree cfg toks h
  rw [hp] at ht
  obtain ⟨fs, hf, hr, hd⟩ := ht
  have hfmt : format cfg toks = docHTML fs.doctype fs.root := by simp [format, hf]
  rw [hfmt, hr, hd, hroot]
  unfold docToks
  by_cases hn : n = wrapper
  · obtain ⟨_, hsc, _⟩ := hw hn
    subst hn; subst hsc
    simp only [if_true]
    exact doc_render_multi cfg ps.doctype st kids hs
  · simp only [hn, if_false]
    exact doc_render cfg ps.doctype n st sc kids hn hs

/-- the token sequence of a strict single-root document: doctype declaration, then the tokens of the tree — what
    `lexStrict` returns on every serialisation of such a document (C01) -/
def strictToks (dt : Option Str) (u : FNode) : List Tok := (dtToks dt ++ u.toks).map Tok.ofToken

theorem plain_feed_strictToks (dt : Option Str) (hdt : DtOK dt) (n : Str) (st : AStore) (sc : Bool)
    (kids : List FNode) (hs : (FNode.elem n st sc kids).Strict) :
    Plain.feed (strictToks dt (.elem n st sc kids)) = .ok ⟨[], some (FNode.elem n st sc kids).toNode, dt, 0, 0⟩ := by
  have := plain_feed_single dt hdt [] (fun _ h => nomatch h) n st sc kids (strict_buildable _ hs)
  simpa [strictToks, dataTok, ftoksL] using this

/-- the token sequence of a strict multi-root document: doctype declaration, then the tokens of the top-level blocks -/
def strictToksM (dt : Option Str) (kids : List FNode) : List Tok := (dtToks dt ++ ftoksL kids).map Tok.ofToken

theorem plain_feed_strictToksM (dt : Option Str) (hdt : DtOK dt) (kids : List FNode) (hs : StrictL kids)
    (hmulti : topScan false kids = none) :
    Plain.feed (strictToksM dt kids) = .ok ⟨[], some (FNode.elem wrapper {} false kids).toNode, dt, 0, 0⟩ :=
  reparse_blocks_multi dt hdt kids hs hmulti

/-- the blocks `getHTML` prints after the doctype line: the root element, or the children of the invisible wrapper -/
def plainBlocks (n : Str) (st : AStore) (sc : Bool) (kids : List FNode) : List FNode :=
  if n = wrapper then kids else [.elem n st sc kids]

theorem strictL_plainBlocks (n : Str) (st : AStore) (sc : Bool) (kids : List FNode)
    (hs : (FNode.elem n st sc kids).Strict) : StrictL (plainBlocks n st sc kids) := by
  unfold plainBlocks
  by_cases hn : n = wrapper
  · subst hn
    simp only [if_true]
    exact strictL_of_wrapper st sc kids hs
  · simp only [hn, if_false, StrictL]
    exact ⟨hs, trivial⟩

theorem outBlocks_eq_M (cfg : Cfg) (dt : Option Str) (n : Str) (st : AStore) (sc : Bool) (kids : List FNode) :
    outBlocks cfg dt (.elem n st sc kids) = outBlocksM cfg dt [.elem n st sc kids] := by
  simp only [outBlocks, outBlocksM, expandL, expand, Ctx.push_wrapper, List.append_nil]

theorem docToks_eq (cfg : Cfg) (dt : Option Str) (n : Str) (st : AStore) (sc : Bool) (kids : List FNode) :
    docToks cfg dt n st sc kids = outToksM cfg dt (plainBlocks n st sc kids) := by
  unfold docToks plainBlocks
  split
  · rfl
  · rw [outToks, outBlocks_eq_M, outToksM]

theorem doc_lex_blocks (cfg : Cfg) (hi : IndentWS cfg) (dt : Option Str) (hdt : DtOK dt) (n : Str) (st : AStore)
    (sc : Bool) (kids : List FNode) (hs : (FNode.elem n st sc kids).Strict) :
    lexStrict (renderToksY (styleOf cfg.kind) (docToks cfg dt n st sc kids)) = some (docToks cfg dt n st sc kids) := by
  rw [docToks_eq]
  exact doc_lex_multi cfg hi dt _ (strictL_plainBlocks n st sc kids hs) hdt

/-! ### the stack of open element names along a token list -/

def noPre (st : List Str) : Bool := st.all (fun n => !isPre n)

/-- the open-element stack after a token: a start tag pushes, an end tag pops -/
def stAfter (st : List Str) : Token → List Str
  | .start n _ => n :: st
  | .end_ _ => st.tail
  | _ => st

/-- the open elements after a token list (innermost first) -/
def tagStack : List Str → List Token → List Str
  | st, [] => st
  | st, t :: ts => tagStack (stAfter st t) ts

theorem stAfter_textLike (st : List Str) (t : Token) (h : isTextLike t = true) : stAfter st t = st := by
  cases t <;> first | rfl | simp [isTextLike] at h

theorem noPre_cons (m : Str) (st : List Str) : noPre (m :: st) = (!isPre m && noPre st) := by
  simp [noPre]

end AHP.Fmt
