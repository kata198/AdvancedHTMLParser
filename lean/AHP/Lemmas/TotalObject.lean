/-
  C03 — the parser object across calls (`_reset`, `feed` on a used object, `parseStr`), and when `getHTML` is defined.
-/
import AHP.Lemmas.TotalBuilder
namespace AHP
open Spec

theorem runS_err (ts : List Token) : ∀ s : BState, (runS s ts).2 = (run s ts).err := by
  induction ts with
  | nil => intro s; rfl
  | cons t ts ih =>
    intro s
    simp only [runS, run]
    cases h : step s t <;> simp [Outcome.err, ih]

theorem runS_ok (ts : List Token) : ∀ s s' : BState, run s ts = .ok s' → runS s ts = (s', none) := by
  induction ts with
  | nil => intro s s' h; simp [run] at h; simp [runS, h]
  | cons t ts ih =>
    intro s s' h
    simp only [runS, run] at h ⊢
    cases hs : step s t <;> rw [hs] at h <;> simp at h ⊢
    exact ih _ _ h

theorem runS_cases (s : BState) (ts : List Token) :
    (∃ s', run s ts = .ok s' ∧ runS s ts = (s', none)) ∨
    (∃ e, (run s ts).err = some e ∧ (runS s ts).2 = some e) := by
  cases h : run s ts with
  | ok s' => exact Or.inl ⟨s', rfl, runS_ok ts s s' h⟩
  | _ => exact Or.inr ⟨_, rfl, by rw [runS_err, h]; rfl⟩

theorem run_err_plain (s : BState) (ts : List Token) :
    (run s ts).err = none ∨ (run s ts).err = some .multipleRoot := by
  rw [run_eq, Outcome.err_map]
  rcases runT_ok_or_multipleRoot ts s.tree with ⟨s', h⟩ | h <;> rw [h]
  · left; rfl
  · right; rfl

theorem BState.reset_eq_init (s : BState) : s.reset = BState.init := rfl

theorem feedS_init (toks : List Token) :
    resultOf ((run BState.init toks).err == some .multipleRoot) (feedS BState.init toks) = feedTokens toks := by
  unfold feedS
  rcases feedTokens_cases toks with ⟨s, h, hf⟩ | ⟨h, hw⟩
  · rw [hf, run_init_ok h, runS_ok _ _ _ (run_init_ok h)]; rfl
  · have h1 := run_multipleRoot h
    rw [pair_eta _ _ (show (runS BState.init toks).2 = some .multipleRoot by rw [runS_err, h1]; rfl), h1]
    simp only [BState.reset_eq_init]
    rcases hw with ⟨s, h2, hf⟩ | ⟨h2, hf⟩
    · rw [hf, runS_ok _ _ _ (run_init_ok h2)]; rfl
    · have : (runS BState.init (wrapToks toks)).2 = some .multipleRoot := by
        rw [runS_err, run_multipleRoot h2]; rfl
      rw [hf]; simp [resultOf, this, Outcome.err]

theorem kept_hasRoot : Kept (fun s => s.hasRoot = true) where
  text s _ _ _ := hasRoot_addNode s _
  leaf s _ _ _ := hasRoot_addNode s _
  push _ _ _ _ _ := by simp [TState.hasRoot]
  pop s _ h := hasRoot_pop1 s h

theorem handleStart_hasRoot (s s' : TState) (n : Str) (a : List Attr) (sc : Bool)
    (h : handleStart s n a sc = .ok s') : s'.hasRoot = true := by
  rw [handleStart_eq] at h
  split at h
  · cases h
  · split at h
    · cases h; exact hasRoot_addNode _ _
    · cases h; simp [TState.hasRoot]

/-- **nothing parsed.**  A pass from the initial state ends without a root exactly when every token is an
    outer one (blank text, declaration, processing instruction, stray end tag). -/
theorem runT_init_noRoot (ts : List Token) (s' : TState) (h : runT TState.init ts = .ok s') :
    s'.hasRoot = false ↔ ∀ t ∈ ts, isOuter t = true := by
  constructor
  · intro hr
    induction ts with
    | nil => intro t ht; cases ht
    | cons t ts ih =>
      obtain ⟨s1, h1, h2⟩ := runT_cons_ok h
      by_cases ho : isOuter t = true
      · rw [stepT_outer_empty TState.init rfl t ho] at h1
        cases h1
        intro x hx
        rcases List.mem_cons.mp hx with e | e
        · rw [e]; exact ho
        · exact ih h2 x e
      · -- the first token that is not outer is a start tag (anything else raises), and leaves a root
        exfalso
        have hr1 : s1.hasRoot = true := by
          by_cases hst : ∃ n a, t = .start n a ∨ t = .startend n a
          · obtain ⟨n, a, rfl | rfl⟩ := hst
            · exact handleStart_hasRoot TState.init _ n a false h1
            · exact handleStart_hasRoot TState.init _ n a true h1
          · rw [stepT_text_outside rfl (by simpa using ho) (fun n a e => hst ⟨n, a, Or.inl e⟩)
              (fun n a e => hst ⟨n, a, Or.inr e⟩)] at h1
            cases h1
        rw [kept_hasRoot.runT ts h2 hr1] at hr; cases hr
  · intro hall
    rw [runT_outer_empty ts TState.init rfl hall] at h
    cases h; rfl

theorem finish_root (s : TState) : (finish s).root.isSome = s.hasRoot := by
  obtain ⟨h, he⟩ := finish_pops (P := fun x => x.hasRoot = s.hasRoot)
    (fun x hx hP => by rw [← hP, hasRoot_of_stack hx]; exact hasRoot_pop1 x (hasRoot_of_stack hx)) s rfl
  rw [← h]; simp [TState.hasRoot, he]

end AHP
