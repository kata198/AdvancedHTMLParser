/-
  AHP.Lemmas.PickleEdit — the domain of C17 is closed under the edit operations (C17 "after any history of edits"):
  `WFTz` is kept by the six edits of the model (`WFTz_mapAt`: an edit at one element keeps the tree in the domain when it
  keeps that element in it; then one lemma per primitive), by the constructor, and `WFT` by the read.  The stores'
  part (`Attrs.WF`, `Attrs.ClassLazy` under the mutators) is in `Lemmas/PickleAttrs.lean`, `WFTz` itself and
  unpickling in `Lemmas/Pickle.lean`.
-/
import AHP.Lemmas.Pickle
namespace AHP.Pk
open AHP

theorem WFTzL_append (xs ys : List DN) (hx : WFTzL xs) (hy : WFTzL ys) : WFTzL (xs ++ ys) := by
  induction xs with
  | nil => exact hy
  | cons x xs ih =>
    simp only [WFTzL] at hx
    simp only [List.cons_append, WFTzL]
    exact ⟨hx.1, ih hx.2⟩

theorem WFTzL_reownL (ow : Option Nat) (bs : List DN) (h : WFTzL bs) : WFTzL (DN.reownL ow bs) := by
  induction bs using DN.forest_induct with
  | nil => trivial
  | text s bs ih => exact ⟨trivial, ih h.2⟩
  | el o u nm a sc blocks ch tx p ow' bs ihb ih => exact ⟨⟨h.1.1, h.1.2.1, h.1.2.2.1, ihb h.1.2.2.2⟩, ih h.2⟩
theorem WFTz_reown (ow : Option Nat) (t : DN) (h : WFTz t) : WFTz (DN.reown ow t) := (WFTzL_reownL ow [t] ⟨h, trivial⟩).1

theorem WFTz_setParent (p : Option Nat) (t : DN) (h : WFTz t) : WFTz (DN.setParent p t) := by
  cases t with
  | text s => simp [DN.setParent, WFTz]
  | el o u nm a sc blocks ch tx p' ow => simpa [DN.setParent, WFTz] using h

/-- an edit at one element keeps the tree in the domain when it keeps that element in the domain -/
theorem WFTzL_mapAtL (o : Nat) (f : DN → DN) (hf : ∀ e, WFTz e → WFTz (f e)) (bs : List DN) (h : WFTzL bs) :
    WFTzL (mapAtL o f bs) := by
  induction bs using DN.forest_induct with
  | nil => trivial
  | text s bs ih => exact ⟨trivial, ih h.2⟩
  | el o1 u nm a sc blocks ch tx p ow bs ihb ih =>
    refine ⟨?_, ih h.2⟩
    simp only [mapAt]
    split
    · exact hf _ h.1
    · exact ⟨h.1.1, h.1.2.1, h.1.2.2.1, ihb h.1.2.2.2⟩
theorem WFTz_mapAt (o : Nat) (f : DN → DN) (hf : ∀ e, WFTz e → WFTz (f e)) (t : DN) (h : WFTz t) : WFTz (mapAt o f t) :=
  (WFTzL_mapAtL o f hf [t] ⟨h, trivial⟩).1

theorem WFTz_appendText (s : Str) (e : DN) (h : WFTz e) : WFTz (DN.appendText s e) := by
  cases e with
  | text x => simp [DN.appendText, WFTz]
  | el o u nm a sc blocks ch tx p ow =>
    simp only [WFTz] at h
    simp only [DN.appendText, WFTz]
    exact ⟨h.1, h.2.1, h.2.2.1, WFTzL_append _ _ h.2.2.2 (by simp [WFTzL, WFTz])⟩

theorem WFTz_appendChild (c : DN) (hc : WFTz c) (e : DN) (h : WFTz e) : WFTz (DN.appendChild c e) := by
  cases e with
  | text x => simp [DN.appendChild, WFTz]
  | el o u nm a sc blocks ch tx p ow =>
    simp only [WFTz] at h
    simp only [DN.appendChild, WFTz]
    refine ⟨h.1, h.2.1, h.2.2.1, WFTzL_append _ _ h.2.2.2 ?_⟩
    simp only [WFTzL, and_true]
    exact WFTz_reown _ _ (WFTz_setParent _ _ hc)

theorem WFTz_updAttrs (f : Attrs → Attrs) (hf : ∀ a, Attrs.WF a → Attrs.ClassLazy a → Attrs.WF (f a) ∧ Attrs.ClassLazy (f a))
    (e : DN) (h : WFTz e) : WFTz (updAttrs f e) := by
  cases e with
  | text x => simp [updAttrs, WFTz]
  | el o u nm a sc blocks ch tx p ow =>
    simp only [WFTz] at h
    simp only [updAttrs, WFTz]
    exact ⟨h.1, (hf a h.2.1 h.2.2.1).1, (hf a h.2.1 h.2.2.1).2, h.2.2.2⟩

theorem WFTz_setAttribute (k v : Str) (e : DN) (h : WFTz e) : WFTz (setAttribute k v e) := by
  unfold setAttribute
  split
  · rename_i hk
    apply WFTz_updAttrs _ _ e h
    intro a ha hl
    obtain ⟨a', e'⟩ := Attrs.setitem_isSome a k (some v)
    simp only [e']
    exact ⟨Attrs.WF_setitem a k (some v) ha (Attrs.validAttrName_lower k hk) a' e',
      Attrs.classLazy_setitem a k (some v) hl a' e'⟩
  · exact h

theorem WFTz_removeAttribute (k : Str) (e : DN) (h : WFTz e) : WFTz (removeAttribute k e) :=
  WFTz_updAttrs _ (fun a ha hl => ⟨Attrs.WF_delitem a k ha, Attrs.classLazy_delitem a k hl⟩) e h

theorem WFTz_addClass (tok : Str) (ht : Attrs.TokArg tok) (e : DN) (h : WFTz e) : WFTz (addClass tok e) :=
  WFTz_updAttrs _ (fun a ha hl => ⟨Attrs.WF_addClass a tok ha ht, Attrs.classLazy_addClass a tok hl⟩) e h

theorem WFTzL_removeFirstUid (u : Nat) (bs : List DN) (h : WFTzL bs) : WFTzL (removeFirstUid u bs) := by
  induction bs with
  | nil => simp [removeFirstUid, WFTzL]
  | cons b bs ih =>
    simp only [WFTzL] at h
    cases b with
    | text s => simp only [removeFirstUid, WFTzL]; exact ⟨h.1, ih h.2⟩
    | el o u' n a sc bl ch t p ow =>
      simp only [removeFirstUid]
      split
      · exact h.2
      · simp only [WFTzL]; exact ⟨h.1, ih h.2⟩

theorem WFTz_removeChildAt (i : Nat) (e : DN) (h : WFTz e) : WFTz (removeChildAt i e) := by
  cases e with
  | text x => simp [removeChildAt, WFTz]
  | el o u nm a sc blocks ch tx p ow =>
    simp only [removeChildAt]
    split
    · exact h
    · simp only [WFTz] at h ⊢
      exact ⟨h.1, h.2.1, h.2.2.1, WFTzL_removeFirstUid _ _ h.2.2.2⟩

theorem WFTz_mk (oid uid : Nat) (name : Str) (l : List (Str × Option Str)) (sc : Bool) (ow : Option Nat) (c : DN)
    (e : DN.mk oid uid name l sc ow = some c) : WFTz c := by
  unfold DN.mk at e
  cases hi : Attrs.init l with
  | none => rw [hi] at e; cases e
  | some a =>
    rw [hi] at e
    simp only [Option.some.injEq] at e
    subst e
    simp only [WFTz, WFTzL, and_true]
    exact ⟨lower_idem name, Attrs.WF_init l a hi, Attrs.classLazy_init l a hi⟩

/-- the operand condition of an edit: only `addClass` has one -/
def EditOK : Edit → Prop
  | .addClass tok => Attrs.TokArg tok
  | _ => True

/-- **one edit keeps the tree in the domain** — all six kinds, any target -/
theorem WFTz_applyEdit (t oid uid : Nat) (e : Edit) (he : EditOK e) (d : DN) (h : WFTz d) :
    WFTz (applyEdit t oid uid e d) := by
  cases e with
  | appendText s => exact WFTz_mapAt t _ (WFTz_appendText s) d h
  | appendChild name =>
    simp only [applyEdit]
    cases hm : DN.mk oid uid name [] false none with
    | none => exact h
    | some c => exact WFTz_mapAt t _ (WFTz_appendChild c (WFTz_mk _ _ _ _ _ _ c hm)) d h
  | setAttribute k v => exact WFTz_mapAt t _ (WFTz_setAttribute k v) d h
  | removeAttribute k => exact WFTz_mapAt t _ (WFTz_removeAttribute k) d h
  | addClass tok => exact WFTz_mapAt t _ (WFTz_addClass tok he) d h
  | removeChild i => exact WFTz_mapAt t _ (WFTz_removeChildAt i) d h

/-- a history of edits: (target object, fresh object id, fresh uid, edit) in the order applied -/
def applyHistory (es : List (Nat × Nat × Nat × Edit)) (d : DN) : DN :=
  es.foldl (fun d x => applyEdit x.1 x.2.1 x.2.2.1 x.2.2.2 d) d

theorem WFTz_applyHistory (es : List (Nat × Nat × Nat × Edit)) (he : ∀ x ∈ es, EditOK x.2.2.2) :
    ∀ d : DN, WFTz d → WFTz (applyHistory es d) := by
  induction es with
  | nil => intro d h; exact h
  | cons x es ih =>
    intro d h
    simp only [applyHistory, List.foldl_cons]
    exact ih (fun y hy => he y (List.mem_cons_of_mem _ hy)) _
      (WFTz_applyEdit _ _ _ _ (he x List.mem_cons_self) d h)

/-- the read (`getAttributesList()` on every element, as pickling the original does) keeps `WFT` -/
theorem WFTL_materialiseL (bs : List DN) (h : WFTL bs) : WFTL (materialiseL bs) := by
  induction bs using DN.forest_induct with
  | nil => trivial
  | text s bs ih => exact ⟨trivial, ih h.2⟩
  | el o u nm a sc blocks ch tx p ow bs ihb ih =>
    exact ⟨⟨h.1.1, Attrs.WF_handle a h.1.2.1, Attrs.classLast_handle a h.1.2.1.nodup h.1.2.2.1, ihb h.1.2.2.2⟩, ih h.2⟩
theorem WFT_materialise (t : DN) (h : WFT t) : WFT (materialise t) := (WFTL_materialiseL [t] ⟨h, trivial⟩).1

end AHP.Pk
