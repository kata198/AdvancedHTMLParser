/-
  AHP.Lemmas.Cache — the cache object of C15: the remove loop, the dict, the slices of the eviction, the structural
  invariant `Inv` and the coherence `Coh` of the stored values, each kept by `get` and `set`.
-/
import AHP.Model.Cache
import AHP.Lemmas.Dict
import AHP.Lemmas.Str
namespace AHP.Cache

variable {K V : Type} [DecidableEq K]

theorem removeLoop_eq (fuel : Nat) (k : K) (l : List K) (h : l.length ≤ fuel) :
    removeLoop fuel k l = l.filter (fun x => !decide (x = k)) := by
  induction fuel generalizing l with
  | zero =>
    have : l = [] := List.length_eq_zero_iff.mp (Nat.le_zero.mp h)
    subst this; rfl
  | succ f ih =>
    unfold removeLoop
    split
    · rename_i hm
      rw [ih, filter_erase_self]
      rw [List.length_erase_of_mem hm]
      omega
    · rename_i hm
      exact (filter_ne_of_not_mem hm).symm

/-- The `while True: try: remove(k) except ValueError: break` loop removes every occurrence. -/
theorem removeAll_eq (k : K) (l : List K) : removeAll k l = l.filter (fun x => !decide (x = k)) :=
  removeLoop_eq _ k l (Nat.le_refl _)

/-! remove-all-then-append: the touched key becomes the hottest -/

theorem mem_touch {k x : K} {l : List K} : x ∈ removeAll k l ++ [k] ↔ x ∈ l ∨ x = k := by
  rw [removeAll_eq]
  by_cases h : x = k <;> simp [h]

theorem nodup_touch {k : K} {l : List K} (h : l.Nodup) : (removeAll k l ++ [k]).Nodup := by
  rw [removeAll_eq, List.nodup_append]
  refine ⟨h.filter _, by simp, ?_⟩
  intro a ha b hb
  rw [List.mem_singleton.mp hb]
  simpa using (List.mem_filter.mp ha).2

theorem length_touch_le (k : K) (l : List K) : (removeAll k l ++ [k]).length ≤ l.length + 1 := by
  rw [removeAll_eq, List.length_append]
  exact Nat.add_le_add_right (List.length_filter_le _ _) 1

/-! the dict of the model is the dict of `Lemmas/Dict` (whose lookup is `List.lookup`, for whatever lawful `==`
    is in scope: hence `[BEq K] [LawfulBEq K]` beside `[DecidableEq K]`) -/

theorem dictGet_eq [BEq K] [LawfulBEq K] (d : List (K × V)) (k : K) : dictGet d k = d.lookup k := by
  induction d with
  | nil => rfl
  | cons p r ih =>
    obtain ⟨k', v⟩ := p
    by_cases h : k' = k
    · subst h; rw [dictGet, if_pos rfl, List.lookup_cons_self]
    · rw [dictGet, if_neg h, ih, Dict.lookup_cons_ne (Ne.symm h)]

theorem dictSet_eq : @dictSet K V _ = Dict.set := by
  funext d k v
  induction d with
  | nil => rfl
  | cons p r ih => rw [dictSet, Dict.set, ih]

theorem dictDel_eq : @dictDel K V _ = Dict.del := by
  funext d k
  exact List.filter_congr fun p _ => (decide_not ..).symm

omit [DecidableEq K] in
theorem dictKeys_eq : @dictKeys K V = Dict.keys := rfl

theorem sliceTo_eq_take (l : List α) (j : Nat) : sliceTo l (j : Int) = l.take j := by
  unfold sliceTo
  have : ¬ ((j : Int) < 0) := by omega
  simp [this]

theorem sliceFrom_neg (l : List α) (r : Nat) (h0 : 0 < r) (h1 : r ≤ l.length) :
    sliceFrom l (-1 * (r : Int)) = l.drop (l.length - r) := by
  unfold sliceFrom
  have h : (-1 * (r : Int)) < 0 := by omega
  simp only [h, ite_true]
  congr 1
  omega

/-- `l[-0:]` is the whole list (the reason `CLEAR = MAX` breaks the cache). -/
theorem sliceFrom_neg_zero (l : List α) : sliceFrom l (-1 * (0 : Int)) = l := by
  simp [sliceFrom]

theorem evict_slices {MAX CLEAR : Nat} (hb : CLEAR < MAX) (l : List α) (hgt : MAX < l.length) :
    sliceTo l ((l.length : Int) - ((MAX : Int) - (CLEAR : Int))) = l.take (l.length - (MAX - CLEAR)) ∧
    sliceFrom l (-1 * ((MAX : Int) - (CLEAR : Int))) = l.drop (l.length - (MAX - CLEAR)) := by
  have e1 : (l.length : Int) - ((MAX : Int) - (CLEAR : Int)) = ((l.length - (MAX - CLEAR) : Nat) : Int) := by omega
  have e2 : (MAX : Int) - (CLEAR : Int) = ((MAX - CLEAR : Nat) : Int) := by omega
  rw [e1, sliceTo_eq_take, e2, sliceFrom_neg l _ (by omega) (by omega)]
  exact ⟨rfl, rfl⟩

/-- The structural invariant C15a: duplicate-free recency list, keys of the map = recency list (as
    sets), at most `MAX` entries.  (`keysNodup` is Python's dict: a key occurs once.) -/
structure Inv (MAX : Nat) (s : State K V) : Prop where
  nodup : s.recent.Nodup
  keysNodup : (dictKeys s.map).Nodup
  keys : ∀ k, k ∈ dictKeys s.map ↔ k ∈ s.recent
  bound : s.recent.length ≤ MAX

theorem Inv.empty (MAX : Nat) : Inv MAX (State.empty : State K V) :=
  ⟨List.nodup_nil, List.nodup_nil, fun _ => Iff.rfl, Nat.zero_le _⟩

theorem Inv.keys_length {MAX : Nat} {s : State K V} (h : Inv MAX s) :
    (dictKeys s.map).length = s.recent.length := by
  apply Nat.le_antisymm
  · exact h.keysNodup.length_le_of_subset (fun k hk => (h.keys k).mp hk)
  · exact h.nodup.length_le_of_subset (fun k hk => (h.keys k).mpr hk)

theorem get_fst_map (s : State K V) (k : K) : (get s k).1.map = s.map := by
  unfold get; split <;> rfl

theorem get_snd (s : State K V) (k : K) : (get s k).2 = dictGet s.map k := by
  unfold get; split <;> simp_all

theorem get_of_miss {s : State K V} {k : K} (h : dictGet s.map k = none) : get s k = (s, none) := by
  unfold get; rw [h]

theorem get_of_hit {s : State K V} {k : K} {v : V} (h : dictGet s.map k = some v) :
    get s k = ({ s with recent := removeAll k s.recent ++ [k] }, some v) := by
  unfold get; rw [h]

theorem newExpr_eq {E : Type} {compile : E → Option V} {key : E → K} {MAX CLEAR : Nat} (s : State K V) (e : E) :
    newExpr compile key MAX CLEAR s e =
      match dictGet s.map (key e) with
      | some v => ((get s (key e)).1, some v)
      | none =>
        match compile e with
        | none => (s, none)
        | some v => (set MAX CLEAR s (key e) v, some v) := by
  unfold newExpr
  cases h : dictGet s.map (key e) with
  | none => rw [get_of_miss h]; rfl
  | some v => rw [get_of_hit h]

theorem get_inv {MAX : Nat} {s : State K V} (h : Inv MAX s) (k : K) : Inv MAX (get s k).1 := by
  cases hv : dictGet s.map k with
  | none => rw [get_of_miss hv]; exact h
  | some v =>
    rw [get_of_hit hv]
    have hk : k ∈ s.recent := (h.keys k).mp (Dict.mem_keys_of_lookup (dictGet_eq s.map k ▸ hv))
    have hsub : ∀ x, x ∈ removeAll k s.recent ++ [k] ↔ x ∈ s.recent := fun x =>
      mem_touch.trans ⟨fun a => a.elim id (· ▸ hk), Or.inl⟩
    exact ⟨nodup_touch h.nodup, h.keysNodup, fun x => (h.keys x).trans (hsub x).symm,
      Nat.le_trans ((nodup_touch h.nodup).length_le_of_subset fun x hx => (hsub x).mp hx) h.bound⟩

theorem set_map_eq_foldl_del (MAX CLEAR : Nat) (s : State K V) (k : K) (v : V) :
    ∃ ks : List K, (set MAX CLEAR s k v).map = ks.foldl dictDel (dictSet s.map k v) := by
  unfold set
  simp only
  split
  · exact ⟨_, rfl⟩
  · exact ⟨[], rfl⟩

theorem mem_map_set {MAX CLEAR : Nat} {s : State K V} {k : K} {v : V} {p : K × V}
    (h : p ∈ (set MAX CLEAR s k v).map) : p = (k, v) ∨ p ∈ s.map := by
  obtain ⟨ks, e⟩ := set_map_eq_foldl_del MAX CLEAR s k v
  rw [e, dictSet_eq, dictDel_eq] at h
  exact Dict.mem_set (Dict.mem_foldl_del h)

theorem evict_inv {r : List K} {m : List (K × V)} (hn : r.Nodup) (hkn : (dictKeys m).Nodup)
    (hk : ∀ k, k ∈ dictKeys m ↔ k ∈ r) (j : Nat) :
    (r.drop j).Nodup ∧ (dictKeys ((r.take j).foldl dictDel m)).Nodup ∧
    ∀ k, k ∈ dictKeys ((r.take j).foldl dictDel m) ↔ k ∈ r.drop j := by
  rw [dictDel_eq]
  refine ⟨(List.drop_sublist j r).nodup hn, Dict.nodup_foldl_del _ hkn, ?_⟩
  intro k
  rw [dictKeys_eq, Dict.mem_keys_foldl_del, ← dictKeys_eq, hk]
  have hsplit : r.take j ++ r.drop j = r := List.take_append_drop j r
  rw [← hsplit] at hn
  constructor
  · intro ⟨h1, h2⟩
    rw [← hsplit] at h1
    exact (List.mem_append.mp h1).elim (absurd · h2) id
  · intro h
    exact ⟨List.mem_of_mem_drop h, fun h' => (List.nodup_append.mp hn).2.2 k h' k h rfl⟩

theorem set_inv {MAX CLEAR : Nat} (hb : CLEAR < MAX) {s : State K V} (h : Inv MAX s) (k : K) (v : V) :
    Inv MAX (set MAX CLEAR s k v) := by
  have hn1 : (removeAll k s.recent ++ [k]).Nodup := nodup_touch h.nodup
  have hkn1 : (dictKeys (dictSet s.map k v)).Nodup := by rw [dictSet_eq]; exact Dict.nodup_set k v h.keysNodup
  have hk1 : ∀ x, x ∈ dictKeys (dictSet s.map k v) ↔ x ∈ removeAll k s.recent ++ [k] := by
    intro x; rw [dictSet_eq, dictKeys_eq, Dict.mem_keys_set, mem_touch, ← h.keys, or_comm]; rfl
  have hl1 : (removeAll k s.recent ++ [k]).length ≤ MAX + 1 :=
    Nat.le_trans (length_touch_le k s.recent) (Nat.succ_le_succ h.bound)
  unfold set
  simp only
  generalize removeAll k s.recent ++ [k] = r at *
  split
  · rename_i hgt
    obtain ⟨e1, e2⟩ := evict_slices hb r hgt
    rw [e1, e2]
    obtain ⟨a, b, c⟩ := evict_inv hn1 hkn1 hk1 (r.length - (MAX - CLEAR))
    exact ⟨a, b, c, by rw [List.length_drop]; omega⟩
  · rename_i hle
    exact ⟨hn1, hkn1, hk1, Nat.not_lt.mp hle⟩

/-- Every stored value is the compiled form of every expression with that key. -/
def Coh {E : Type} (compile : E → Option V) (key : E → K) (s : State K V) : Prop :=
  ∀ e v, dictGet s.map (key e) = some v → compile e = some v

theorem Coh.empty {E : Type} (compile : E → Option V) (key : E → K) :
    Coh compile key (State.empty : State K V) := by
  intro e v h; cases h

theorem get_coh {E : Type} {compile : E → Option V} {key : E → K} {s : State K V}
    (h : Coh compile key s) (k : K) : Coh compile key (get s k).1 := by
  intro e v hv; rw [get_fst_map] at hv; exact h e v hv

theorem set_coh {E : Type} {compile : E → Option V} {key : E → K} (hinj : Function.Injective key)
    {MAX CLEAR : Nat} {s : State K V} (h : Coh compile key s) (e : E) (v : V) (hc : compile e = some v) :
    Coh compile key (set MAX CLEAR s (key e) v) := by
  obtain ⟨ks, hm⟩ := set_map_eq_foldl_del MAX CLEAR s (key e) v
  intro e' v' hv
  rw [hm, dictGet_eq, dictSet_eq, dictDel_eq, Dict.lookup_foldl_del] at hv
  split at hv
  · cases hv
  · rw [Dict.lookup_set] at hv
    split at hv
    · rename_i he
      cases hinj he
      exact hc.trans hv
    · exact h e' v' ((dictGet_eq ..).trans hv)

end AHP.Cache
