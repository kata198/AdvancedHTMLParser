/-
  AHP.Lemmas.FormatLexExact — the finer skeleton `pskel` for C11b at the level of the RE-PARSED OUTPUT.

  `cskel` (FormatLexDoc) erases white space in every data block, pre/code included.  `pskel` keeps
    * data blocks below pre/code (at any depth) EXACT (adjacent data blocks joined: re-tokenising glues them),
    * the content of a script/style element outside pre/code — the concatenation of its text — exact up to its
      trailing run of line-feed / space / tab characters (`stripTail`; the pretty printers add `LF ++ indent` there),
    * references and comments verbatim, everything else as `cskel` does (white space of data blocks removed).
  `pskL_expand…` / `pskL_mergeL`: `expand` and `mergeL` are invisible to it (`pskL pre ks` = `pskel` of a block list, `ptext`
  = what it keeps of one data block); `pskel_outRoot` / `pskel_outM` are the document-level statements used by
  `C11.formatter_output_reparses_exact`.

  The exact form of what is appended to script/style content is the separate statement `rawConts_…`: the list of
  script/style contents (outside pre/code, document order) of the re-parsed output is, element by element, the
  input's content or the input's content followed by the element's `_indent` (`TailRel`).

  `cskel` is a function of `pskel` on trees whose script/style content is data blocks only (`RawData`; every strict tree:
  `rawData_strict`): `cskel_eq_of_pskel`, `cskel_of_pskel` — how `C11.formatter_output_reparses` follows from the exact form.
-/
import AHP.Lemmas.FormatLexMini
namespace AHP.Fmt
open AHP

def isIndCh (c : Char) : Bool := c = '\n' || c = ' ' || c = '\t'

def stripTail (s : Str) : Str := rdropWhile isIndCh s

/-- the concatenated text of a block list (element blocks skipped: raw-text content has none) -/
def textCat : List Node → Str
  | [] => []
  | .text _ s :: xs => s ++ textCat xs
  | .elem _ _ _ _ _ _ :: xs => textCat xs

mutual
/-- `pre` = "a pre/code ancestor exists".  Element class and `_indent` forgotten; references and comments verbatim;
    data blocks exact below pre/code, with white space removed elsewhere; the content of a script/style element
    outside pre/code is one block: its text without the trailing run of LF / space / tab. -/
def pskelAt (pre : Bool) : Node → Node
  | .text true s => .text true s
  | .text false s => .text false (if pre then s else eraseWS s)
  | .elem _ n st sc _ kids =>
      .elem .normal n st sc []
        (if !pre && isRawText n then [.text false (stripTail (textCat kids))] else pskelAtL (pre || isPre n) kids)
def pskelAtL (pre : Bool) : List Node → List Node
  | [] => []
  | x :: xs => pskelAt pre x :: pskelAtL pre xs
end

/-- **the document modulo formatting, preformatted content exact**: `pskelAt false`, then empty data blocks dropped and
    adjacent data blocks joined (`canon`) -/
def pskel (t : Node) : Node := canon (pskelAt false t)

def pskL (pre : Bool) (ks : List FNode) : List Node := canonL (pskelAtL pre (toNodeL ks))

def ptext (pre : Bool) (s : Str) : Str := if pre then s else eraseWS s

theorem ptext_append (pre : Bool) (a b : Str) : ptext pre (a ++ b) = ptext pre a ++ ptext pre b := by
  cases pre <;> simp [ptext, eraseWS_append]

theorem ptext_false_ws (s : Str) (h : WsStr s) : ptext false s = [] := by simp [ptext, eraseWS_ws _ h]

theorem pskL_cons (pre : Bool) (k : FNode) (ks : List FNode) :
    pskL pre (k :: ks) = canonCons (canon (pskelAt pre k.toNode)) (pskL pre ks) := by
  simp only [pskL, toNodeL, pskelAtL, canonL_cons]

theorem pskL_cons_congr (pre : Bool) (k : FNode) (xs ys : List FNode) (h : pskL pre xs = pskL pre ys) :
    pskL pre (k :: xs) = pskL pre (k :: ys) := by
  rw [pskL_cons, pskL_cons, h]

theorem pskL_data (pre : Bool) (s : Str) (ks : List FNode) :
    pskL pre (.tok (.data s) :: ks) = pushText (ptext pre s) (pskL pre ks) := by
  rw [pskL_cons]
  simp [FNode.toNode, isVerb, renderTok, pskelAt, canon, canonCons, ptext]

theorem pskL_dataTok (pre : Bool) (s : Str) (ks : List FNode) :
    pskL pre (dataTok s ++ ks) = pushText (ptext pre s) (pskL pre ks) := by
  unfold dataTok
  by_cases h : s.isEmpty = true
  · have : s = [] := by simpa using h
    subst this
    cases pre <;> simp [ptext, eraseWS, pushText_nil]
  · simp only [h, Bool.false_eq_true, if_false, List.cons_append, List.nil_append]
    exact pskL_data pre s ks

theorem pskL_append_blank (pre : Bool) (ks : List FNode) (e : Str) (he : ptext pre e = []) :
    pskL pre (ks ++ dataTok e) = pskL pre ks := by
  induction ks with
  | nil =>
    have := pskL_dataTok pre e []
    simp only [List.append_nil] at this
    rw [List.nil_append, this, he, pushText_nil]
  | cons k ks ih =>
    rw [List.cons_append]
    exact pskL_cons_congr pre k _ _ ih

theorem textCat_append (xs ys : List Node) : textCat (xs ++ ys) = textCat xs ++ textCat ys := by
  induction xs with
  | nil => rfl
  | cons x xs ih =>
    cases x with
    | text v s => simp [textCat, ih]
    | elem k n st sc ind kids => simp [textCat, ih]

theorem textCat_pushTok (t : Token) (r : List FNode) :
    textCat (toNodeL (pushTok t r)) = textCat (toNodeL (.tok t :: r)) := by
  unfold pushTok
  split
  · simp [toNodeL, FNode.toNode, renderTok, textCat]
  · rfl

theorem textCat_mergeL : ∀ ks : List FNode, textCat (toNodeL (mergeL ks)) = textCat (toNodeL ks)
  | [] => by simp [mergeL]
  | .tok t :: ks => by
    simp only [mergeL]
    rw [textCat_pushTok]
    simp only [toNodeL, FNode.toNode, textCat]
    rw [textCat_mergeL ks]
  | .elem n st sc kids :: ks => by
    simp only [mergeL, toNodeL, FNode.toNode, textCat]
    exact textCat_mergeL ks

theorem pskL_pushTok (pre : Bool) (t : Token) (r : List FNode) : pskL pre (pushTok t r) = pskL pre (.tok t :: r) := by
  unfold pushTok
  split
  · rename_i a b r'
    rw [pskL_data, pskL_data, pskL_data, pushText_pushText, ptext_append]
  · rfl

mutual
theorem pskelAt_merge (pre : Bool) : ∀ u : FNode, canon (pskelAt pre (merge u).toNode) = canon (pskelAt pre u.toNode)
  | .tok t => by simp [merge]
  | .elem n st sc kids => by
    simp only [merge, FNode.toNode, pskelAt, canon]
    by_cases hr : (!pre && isRawText n) = true
    · simp only [hr, if_true, textCat_mergeL]
    · have ih := pskL_mergeL (pre || isPre n) kids
      simp only [pskL] at ih
      simp only [hr, Bool.false_eq_true, if_false, ih]
theorem pskL_mergeL (pre : Bool) : ∀ ks : List FNode, pskL pre (mergeL ks) = pskL pre ks
  | [] => by simp [mergeL]
  | k :: ks => by
    have h1 := pskelAt_merge pre k
    cases k with
    | tok t =>
      simp only [mergeL]
      rw [pskL_pushTok]
      exact pskL_cons_congr pre _ _ _ (pskL_mergeL pre ks)
    | elem n st sc kids =>
      simp only [merge] at h1
      simp only [mergeL]
      rw [pskL_cons, pskL_cons, h1, pskL_mergeL pre ks]
end

theorem isIndCh_of_ws (s : Str) (h : WsStr s) : ∀ c ∈ s, isIndCh c = true := by
  intro c hc
  rcases h c hc with e | e | e <;> (subst e; decide)

theorem stripTail_append_ws (a w : Str) (hw : WsStr w) : stripTail (a ++ w) = stripTail a := by
  unfold stripTail
  rw [rdropWhile_append, rdropWhile_all isIndCh w (isIndCh_of_ws w hw)]
  simp

theorem textCat_rawText : ∀ (ks : List FNode) (raw : Str), rawText ks = some raw → textCat (toNodeL ks) = raw
  | [], raw, h => by
    simp only [rawText, Option.some.injEq] at h
    subst h; rfl
  | k :: ks, raw, h => by
    obtain ⟨s, r', rfl, _, hr', rfl⟩ := rawText_cons k ks raw h
    simp only [toNodeL, FNode.toNode, renderTok, textCat]
    rw [textCat_rawText ks r' hr']

theorem textCat_dataTok (s : Str) : textCat (toNodeL (dataTok s)) = s :=
  textCat_rawText _ _ (rawText_dataTok s)

/-- the element case of `pskL_expand`, given the statement for the children -/
theorem pskel_expElem_of (cfg : Cfg) (hi : IndentWS cfg) (c : Ctx) (n : Str) (st : AStore) (sc : Bool)
    (kids : List FNode) (hs : (FNode.elem n st sc kids).Strict)
    (hk : isPreserve n = false → ∀ zs, pskL false (expandL cfg (c.push n) n kids ++ zs) = pskL false (kids ++ zs)) :
    pskel (expElem cfg c n st sc kids).toNode = pskel (FNode.elem n st sc kids).toNode := by
  have he := endInd_ws n (indentAt cfg c) (decorateL cfg (c.push n) n (toNodeL kids)) (indentAt_ws cfg hi c)
  rcases hs.elem_cases with ⟨rfl, rfl⟩ | ⟨rfl, hr, hpre, raw, hraw, _⟩ | ⟨rfl, hr, hpre, hkk⟩ | ⟨rfl, hr, hpre, hp, hkk⟩
  · rfl
  · -- script/style: the content grows by the end indent at most
    simp only [expElem, pskel, FNode.toNode, pskelAt, hr, Bool.not_false, Bool.true_and, if_true, Bool.false_eq_true,
      if_false, canon]
    rw [expandL_raw cfg (c.push n) n (rawName_preserve n hr) kids raw hraw, toNodeL_append, textCat_append,
      textCat_dataTok, stripTail_append_ws _ _ he]
  · -- pre/code: nothing is rewritten below
    simp only [expElem, Bool.false_eq_true, if_false]
    rw [endInd_pre cfg c n _ (Or.inr hpre), expandL_inPre cfg _ n (push_inPre_of_pre c n hpre) kids (strictL_buildable _ hkk)]
    simp [dataTok]
  · have h1 := (hk hp _).trans (pskL_append_blank false kids _ (ptext_false_ws _ he))
    simp only [pskL] at h1
    simp only [expElem, pskel, FNode.toNode, pskelAt, hr, hpre, Bool.not_false, Bool.true_and, Bool.false_eq_true, if_false,
      Bool.false_or, canon, h1]

mutual
/-- outside pre/code, in an element whose content is not preserved: what `expand` puts in place of a block has the
    same finer skeleton as the block -/
theorem pskL_expand (cfg : Cfg) (hi : IndentWS cfg) (c : Ctx) (p : Str) (hc : c.inPre = 0)
    (hp : isPreserve p = false) :
    ∀ (u : FNode), u.Strict → ∀ zs : List FNode, pskL false (expand cfg c p u ++ zs) = pskL false (u :: zs)
  | .tok t, h, zs => by
    rcases data_cases t with ⟨s, rfl⟩ | hd
    · simp only [expand, expandTok]
      rw [pskL_dataTok, pskL_data, dataRule_sq c p s hc hp]
      simp [ptext, eraseWS_squeeze]
    · rw [expand, expandTok_nondata c p hd]; rfl
  | .elem n st sc kids, h, zs => by
    rw [expand_elem, List.append_assoc, pskL_dataTok, ptext_false_ws _ (indentAt_ws cfg hi c), pushText_nil,
      List.singleton_append, pskL_cons, pskL_cons]
    have := pskel_expElem_of cfg hi c n st sc kids h (fun hpn =>
      pskL_expandL cfg hi (c.push n) n (push_inPre_zero c n hc (not_preserve n hpn).1) hpn kids
        (h.kids (not_preserve n hpn).2))
    simp only [pskel] at this
    rw [this]
theorem pskL_expandL (cfg : Cfg) (hi : IndentWS cfg) (c : Ctx) (p : Str) (hc : c.inPre = 0)
    (hp : isPreserve p = false) :
    ∀ (ks : List FNode), StrictL ks → ∀ zs : List FNode, pskL false (expandL cfg c p ks ++ zs) = pskL false (ks ++ zs)
  | [], _, zs => by simp [expandL]
  | k :: ks, h, zs => by
    simp only [expandL, List.append_assoc, List.cons_append]
    rw [pskL_expand cfg hi c p hc hp k h.1]
    exact pskL_cons_congr false k _ _ (pskL_expandL cfg hi c p hc hp ks h.2 zs)
end

theorem pskel_expElem (cfg : Cfg) (hi : IndentWS cfg) (c : Ctx) (hc : c.inPre = 0) (n : Str) (st : AStore) (sc : Bool)
    (kids : List FNode) (hs : (FNode.elem n st sc kids).Strict) :
    pskel (expElem cfg c n st sc kids).toNode = pskel (FNode.elem n st sc kids).toNode :=
  pskel_expElem_of cfg hi c n st sc kids hs (fun hpn =>
    pskL_expandL cfg hi _ n (push_inPre_zero c n hc (not_preserve n hpn).1) hpn kids (hs.kids (not_preserve n hpn).2))

/-- **(b), finer skeleton, single root**: the output's root element has the finer skeleton of the document's root -/
theorem pskel_outRoot (cfg : Cfg) (hi : IndentWS cfg) (n : Str) (st : AStore) (sc : Bool) (kids : List FNode)
    (hs : (FNode.elem n st sc kids).Strict) :
    pskel (outRoot cfg n st sc kids).toNode = pskel (FNode.elem n st sc kids).toNode := by
  rw [outRoot_eq]
  exact (pskelAt_merge false _).trans (pskel_expElem cfg hi ⟨0, 0⟩ rfl n st sc kids hs)

theorem pskL_front (dt : Option Str) (B : List FNode) : pskL false (mergeL (dtBlock dt ++ B)) = pskL false B := by
  rw [pskL_mergeL, dtBlock_eq, pskL_dataTok, ptext_false_ws _ (dtText_ws dt), pushText_nil]

theorem pskel_wrapper (st : AStore) (k1 k2 : List FNode) (h : pskL false k1 = pskL false k2) :
    pskel (FNode.elem wrapper st false k1).toNode = pskel (FNode.elem wrapper st false k2).toNode := by
  simp only [pskL] at h
  simp only [pskel, FNode.toNode, pskelAt, canon, wrapper_not_raw, isPre_wrapper, Bool.and_false, Bool.false_eq_true,
    if_false, Bool.or_false, h]

theorem pskel_outM (cfg : Cfg) (hi : IndentWS cfg) (dt : Option Str) (st : AStore) (kids : List FNode)
    (hs : StrictL kids) :
    pskel (FNode.elem wrapper st false (outBlocksM cfg dt kids)).toNode
      = pskel (FNode.elem wrapper st false kids).toNode :=
  pskel_wrapper st _ _ ((pskL_front dt _).trans (by
    simpa [Ctx.push_wrapper] using pskL_expandL cfg hi ⟨0, 0⟩ wrapper rfl preserve_wrapper kids hs []))

/-- what the formatters may add at the end of script/style content: nothing, or a line break followed by spaces/tabs
    (the `_indent` `getEndTag` writes before the end tag) -/
def TailRel (a b : Str) : Prop := b = a ∨ ∃ w, b = a ++ '\n' :: w ∧ ∀ c ∈ w, c = ' ' ∨ c = '\t'

mutual
/-- the contents (concatenated text) of the script/style elements of a tree, in document order -/
def rawConts : Node → List Str
  | .text _ _ => []
  | .elem _ n _ _ _ kids => if isRawText n then [textCat kids] else rawContsL kids
def rawContsL : List Node → List Str
  | [] => []
  | x :: xs => rawConts x ++ rawContsL xs
end

theorem rawContsL_append (xs ys : List Node) : rawContsL (xs ++ ys) = rawContsL xs ++ rawContsL ys := by
  induction xs with
  | nil => rfl
  | cons x xs ih => simp [rawContsL, ih]

theorem rawContsL_dataTok (s : Str) : rawContsL (toNodeL (dataTok s)) = [] := by
  unfold dataTok
  split <;> simp [toNodeL, FNode.toNode, rawContsL, rawConts]

theorem rawContsL_pushTok (t : Token) (r : List FNode) :
    rawContsL (toNodeL (pushTok t r)) = rawContsL (toNodeL r) := by
  unfold pushTok
  split <;> simp [toNodeL, FNode.toNode, rawContsL, rawConts]

mutual
theorem rawConts_merge : ∀ u : FNode, rawConts (merge u).toNode = rawConts u.toNode
  | .tok t => by simp [merge]
  | .elem n st sc kids => by
    simp only [merge, FNode.toNode, rawConts, textCat_mergeL, rawContsL_mergeL kids]
theorem rawContsL_mergeL : ∀ ks : List FNode, rawContsL (toNodeL (mergeL ks)) = rawContsL (toNodeL ks)
  | [] => by simp [mergeL]
  | k :: ks => by
    have h1 := rawConts_merge k
    cases k with
    | tok t =>
      simp only [mergeL]
      rw [rawContsL_pushTok, rawContsL_mergeL ks]
      simp [toNodeL, FNode.toNode, rawContsL, rawConts]
    | elem n st sc kids =>
      simp only [merge] at h1
      simp only [mergeL, toNodeL, rawContsL]
      rw [h1, rawContsL_mergeL ks]
end

/-- `TailRel` element by element, on lists of equal length -/
inductive TailsRel : List Str → List Str → Prop
  | nil : TailsRel [] []
  | cons {a b : Str} {l m : List Str} : TailRel a b → TailsRel l m → TailsRel (a :: l) (b :: m)

theorem tailRel_refl (a : Str) : TailRel a a := Or.inl rfl

theorem tailsRel_refl : ∀ l : List Str, TailsRel l l
  | [] => .nil
  | a :: l => .cons (tailRel_refl a) (tailsRel_refl l)

theorem tailsRel_append {a b c d : List Str} (h1 : TailsRel a b) (h2 : TailsRel c d) :
    TailsRel (a ++ c) (b ++ d) := by
  induction h1 with
  | nil => exact h2
  | cons h _ ih => exact .cons h ih

theorem indentAt_shape (cfg : Cfg) (hi : IndentWS cfg) (c : Ctx) : indentAt cfg c = [] ∨ IsIndent (indentAt cfg c) := by
  by_cases h0 : c.inPre = 0
  · cases hm : cfg.mini with
    | true => exact .inl (indentAt_mini cfg hm c)
    | false => exact .inr (indentAt_isIndent cfg hm hi c h0)
  · exact .inl (indentAt_pre cfg c h0)

theorem endInd_shape (cfg : Cfg) (hi : IndentWS cfg) (c : Ctx) (n : Str) (kids : List Node) :
    endInd n (indentAt cfg c) kids = [] ∨ ∃ w, endInd n (indentAt cfg c) kids = '\n' :: w ∧ ∀ x ∈ w, x = ' ' ∨ x = '\t' := by
  unfold endInd
  split
  · exact Or.inl rfl
  · split
    · exact Or.inl rfl
    · exact indentAt_shape cfg hi c

theorem rawConts_expElem_of (cfg : Cfg) (hi : IndentWS cfg) (c : Ctx) (n : Str) (st : AStore) (sc : Bool)
    (kids : List FNode) (hs : (FNode.elem n st sc kids).Strict)
    (hk : isRawText n = false →
      TailsRel (rawContsL (toNodeL kids)) (rawContsL (toNodeL (expandL cfg (c.push n) n kids)))) :
    TailsRel (rawConts (FNode.elem n st sc kids).toNode) (rawConts (expElem cfg c n st sc kids).toNode) := by
  cases sc with
  | true => obtain rfl := hs.sc_nil rfl; exact tailsRel_refl _
  | false =>
    simp only [expElem, FNode.toNode, rawConts, Bool.false_eq_true, if_false]
    cases hr : isRawText n with
    | true =>
      obtain ⟨raw, hraw, _⟩ := hs.rawKids hr
      simp only [if_true]
      rw [expandL_raw cfg (c.push n) n (rawName_preserve n hr) kids raw hraw, toNodeL_append, textCat_append,
        textCat_rawText kids raw hraw, textCat_dataTok]
      refine .cons ?_ .nil
      rcases endInd_shape cfg hi c n (decorateL cfg (c.push n) n (toNodeL kids)) with e | ⟨w, e, hw⟩
      · rw [e, List.append_nil]; exact Or.inl rfl
      · rw [e]; exact Or.inr ⟨w, rfl, hw⟩
    | false =>
      simp only [Bool.false_eq_true, if_false]
      rw [toNodeL_append, rawContsL_append, rawContsL_dataTok, List.append_nil]
      exact hk hr

mutual
theorem rawConts_expand (cfg : Cfg) (hi : IndentWS cfg) (c : Ctx) (p : Str) :
    ∀ u : FNode, u.Strict → TailsRel (rawConts u.toNode) (rawContsL (toNodeL (expand cfg c p u)))
  | .tok t, _ => by
    have h2 : rawContsL (toNodeL (expand cfg c p (.tok t))) = [] := by
      rcases data_cases t with ⟨s, rfl⟩ | hd
      · exact rawContsL_dataTok _
      · rw [expand, expandTok_nondata c p hd]; rfl
    rw [h2]
    exact .nil
  | .elem n st sc kids, h => by
    rw [expand_elem, toNodeL_append, rawContsL_append, rawContsL_dataTok, List.nil_append]
    simp only [toNodeL, rawContsL, List.append_nil]
    exact rawConts_expElem_of cfg hi c n st sc kids h (fun hr => rawContsL_expandL cfg hi (c.push n) n kids (h.kids hr))
theorem rawContsL_expandL (cfg : Cfg) (hi : IndentWS cfg) (c : Ctx) (p : Str) :
    ∀ ks : List FNode, StrictL ks →
      TailsRel (rawContsL (toNodeL ks)) (rawContsL (toNodeL (expandL cfg c p ks)))
  | [], _ => .nil
  | k :: ks, h => by
    simp only [expandL, toNodeL, rawContsL, toNodeL_append, rawContsL_append]
    exact tailsRel_append (rawConts_expand cfg hi c p k h.1) (rawContsL_expandL cfg hi c p ks h.2)
end

/-- **script/style content of the re-parsed output, single root**: element by element the input's content, or the
    input's content followed by a line break and spaces/tabs -/
theorem rawConts_outRoot (cfg : Cfg) (hi : IndentWS cfg) (n : Str) (st : AStore) (sc : Bool) (kids : List FNode)
    (hs : (FNode.elem n st sc kids).Strict) :
    TailsRel (rawConts (FNode.elem n st sc kids).toNode) (rawConts (outRoot cfg n st sc kids).toNode) := by
  rw [outRoot_eq, rawConts_merge]
  exact rawConts_expElem_of cfg hi ⟨0, 0⟩ n st sc kids hs (fun hr => rawContsL_expandL cfg hi _ n kids (hs.kids hr))

theorem rawConts_outM (cfg : Cfg) (hi : IndentWS cfg) (dt : Option Str) (st : AStore) (kids : List FNode)
    (hs : StrictL kids) :
    TailsRel (rawConts (FNode.elem wrapper st false kids).toNode)
      (rawConts (FNode.elem wrapper st false (outBlocksM cfg dt kids)).toNode) := by
  simp only [FNode.toNode, rawConts, wrapper_not_raw, Bool.false_eq_true, if_false]
  unfold outBlocksM
  rw [rawContsL_mergeL, toNodeL_append, rawContsL_append]
  rw [dtBlock_eq, rawContsL_dataTok, List.nil_append]
  exact rawContsL_expandL cfg hi _ wrapper kids hs

def allData : List Node → Prop
  | [] => True
  | .text false _ :: xs => allData xs
  | _ => False

mutual
/-- the content of every script/style element consists of data blocks only (the tokenizer reports raw text as data) -/
def RawData : Node → Prop
  | .text _ _ => True
  | .elem _ n _ _ _ kids => (isRawText n = true → allData kids) ∧ RawDataL kids
def RawDataL : List Node → Prop
  | [] => True
  | x :: xs => RawData x ∧ RawDataL xs
end

theorem eraseWS_stripTail (s : Str) : eraseWS (stripTail s) = eraseWS s := by
  unfold stripTail
  apply eraseWS_rdropWhile
  intro c hc
  simp only [isIndCh, Bool.or_eq_true, decide_eq_true_eq] at hc
  rcases hc with (rfl | rfl) | rfl <;> decide

theorem canonL_skelL_pushText (s : Str) (r : List Node) :
    canonL (skelL (pushText s r)) = pushText (eraseWS s) (canonL (skelL r)) := by
  by_cases hs : s.isEmpty = true
  · have : s = [] := by simpa using hs
    subst this
    simp [pushText, eraseWS]
  · cases r with
    | nil => simp [pushText, hs, skelL, skel, canonL]
    | cons x r' =>
      cases x with
      | elem k n st sc ind kids => simp [pushText, hs, skelL, skel, canonL]
      | text v e' =>
        cases v with
        | true => simp [pushText, hs, skelL, skel, canonL]
        | false =>
          have h1 : pushText s (Node.text false e' :: r') = Node.text false (s ++ e') :: r' := by
            simp [pushText, hs]
          rw [h1]
          simp only [skelL, skel, canonL, eraseWS_append]
          rw [pushText_pushText]

mutual
theorem canon_skel_canon : ∀ x : Node, canon (skel (canon x)) = canon (skel x)
  | .text v s => by cases v <;> simp [canon]
  | .elem k n st sc ind kids => by
    simp only [canon, skel]
    rw [canonL_skelL_canonL kids]
theorem canonL_skelL_canonL : ∀ xs : List Node, canonL (skelL (canonL xs)) = canonL (skelL xs)
  | [] => by simp [canonL, skelL]
  | x :: xs => by
    have h1 := canon_skel_canon x
    cases x with
    | text v s =>
      cases v with
      | false =>
        simp only [canonL, skelL, skel]
        rw [canonL_skelL_pushText, canonL_skelL_canonL xs]
      | true =>
        simp only [canonL, skelL, skel]
        rw [canonL_skelL_canonL xs]
    | elem k n st sc ind kids =>
      simp only [canon, skel] at h1
      simp only [canonL, skelL, skel]
      rw [h1, canonL_skelL_canonL xs]
end

theorem canonL_skelL_allData : ∀ kids : List Node, allData kids →
    canonL (skelL kids) = pushText (eraseWS (textCat kids)) []
  | [], _ => by simp [skelL, canonL, textCat, eraseWS, pushText]
  | .text false s :: xs, h => by
    simp only [skelL, skel, canonL, textCat, eraseWS_append]
    rw [canonL_skelL_allData xs h, pushText_pushText]
  | .text true s :: xs, h => by simp [allData] at h
  | .elem k n st sc ind kids :: xs, h => by simp [allData] at h

mutual
theorem canon_skel_pskelAt (pre : Bool) : ∀ x : Node, RawData x → canon (skel (pskelAt pre x)) = canon (skel x)
  | .text true s, _ => by simp [pskelAt]
  | .text false s, _ => by
    cases pre <;> simp [pskelAt, skel, eraseWS_idem]
  | .elem k n st sc ind kids, h => by
    simp only [pskelAt, skel, canon]
    by_cases hr : (!pre && isRawText n) = true
    · have hraw : isRawText n = true := by
        cases hn : isRawText n with
        | true => rfl
        | false => simp [hn] at hr
      simp only [hr, if_true, skelL, skel, canonL]
      rw [canonL_skelL_allData kids (h.1 hraw), eraseWS_stripTail]
    · simp only [hr, Bool.false_eq_true, if_false]
      rw [canonL_skelL_pskelAtL (pre || isPre n) kids h.2]
theorem canonL_skelL_pskelAtL (pre : Bool) : ∀ xs : List Node, RawDataL xs →
    canonL (skelL (pskelAtL pre xs)) = canonL (skelL xs)
  | [], _ => by simp [pskelAtL]
  | x :: xs, h => by
    simp only [pskelAtL, skelL]
    rw [canonL_cons, canonL_cons, canon_skel_pskelAt pre x h.1, canonL_skelL_pskelAtL pre xs h.2]
end

/-- **`cskel` is a function of `pskel`** (on trees whose script/style content is data only — every tree the tokenizer
    can produce): erase the white space that `pskel` kept and canonicalise again -/
theorem cskel_eq_of_pskel (t : Node) (h : RawData t) : cskel t = canon (skel (pskel t)) := by
  unfold cskel pskel
  rw [canon_skel_canon, canon_skel_pskelAt false t h]

theorem cskel_of_pskel (a b : Node) (ha : RawData a) (hb : RawData b) (h : pskel a = pskel b) : cskel a = cskel b := by
  rw [cskel_eq_of_pskel a ha, cskel_eq_of_pskel b hb, h]

theorem allData_rawText : ∀ (ks : List FNode) (raw : Str), rawText ks = some raw → allData (toNodeL ks)
  | [], _, _ => trivial
  | k :: ks, raw, h => by
    obtain ⟨s, r', rfl, _, hr', _⟩ := rawText_cons k ks raw h
    exact allData_rawText ks r' hr'

theorem rawDataL_allData : ∀ xs : List Node, allData xs → RawDataL xs
  | [], _ => trivial
  | .text false s :: xs, h => by
    exact ⟨trivial, rawDataL_allData xs h⟩
  | .text true s :: xs, h => by simp [allData] at h
  | .elem k n st sc ind kids :: xs, h => by simp [allData] at h

mutual
theorem rawData_strict : ∀ u : FNode, u.Strict → RawData u.toNode
  | .tok t, _ => by simp [FNode.toNode, RawData]
  | .elem n st sc kids, h => by
    cases hr : isRawText n with
    | true =>
      obtain ⟨raw, hraw, _⟩ := h.rawKids hr
      exact ⟨fun _ => allData_rawText kids raw hraw, rawDataL_allData _ (allData_rawText kids raw hraw)⟩
    | false => exact ⟨fun e => Bool.noConfusion (hr.symm.trans e), rawDataL_strict kids (h.kids hr)⟩
theorem rawDataL_strict : ∀ ks : List FNode, StrictL ks → RawDataL (toNodeL ks)
  | [], _ => trivial
  | k :: ks, h => by
    exact ⟨rawData_strict k h.1, rawDataL_strict ks h.2⟩
end

end AHP.Fmt
