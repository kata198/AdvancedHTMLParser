/-
  AHP.Lemmas.TreeModelsNth — "the n-th among its same-named siblings", read off the TREE.

  `XPath.specPos d i` (AHP/Model/XPathSpec.lean) reads the position of an element among its same-named siblings off the
  XPath model's table.  Here the table is `h.toDoc` for an arbitrary tree `h`, and the position is a statement about the
  tree alone: for an element whose blocks are `pre ++ x :: post` with `x` an element, the row of `x` has `specPos` =
  one more than the number of element blocks in `pre` that carry `x`'s tag name (`namedBefore`).
-/
import AHP.Lemmas.TreeModelsXPath
import AHP.Lemmas.XPathValues
namespace AHP.TM
open AHP AHP.AttrStores AHP.XPath

def namedBefore (nm : Str) (pre : List HN) : Nat := (pre.filter (fun y => y.isEl && decide (y.name = nm))).length

theorem kid_mem_walkL {ks pre : List HN} {x : HN} {post : List HN} (hk : ks = pre ++ x :: post) (hx : x.isEl = true)
    (up : List Nat) (s : Nat) : (⟨s + sizeL pre, up, x⟩ : Ent) ∈ walkL up s ks := by
  refine mem_walkL.mpr ⟨pre, x, post, hk, ?_⟩
  cases x with
  | text _ => cases hx
  | el i n a sc ks' => simp

theorem walk_kid_nodes : ∀ (h : HN) (up : List Nat) (s : Nat), ∀ e ∈ h.walk up s,
    ∀ (pre : List HN) (x : HN) (post : List HN), e.node.kids = pre ++ x :: post → x.isEl = true →
      (⟨e.pos + 1 + sizeL pre, e.pos :: e.ups, x⟩ : Ent) ∈ h.walk up s
  | h, up, s => fun e he _ _ _ hk hx =>
    ((below_infix_self e).trans (walk_infix h up s e he)).subset (kid_mem_walkL hk hx _ _)

theorem walkL_kid_nodes : ∀ (ks : List HN) (up : List Nat) (s : Nat),
    (∀ (pre : List HN) (x : HN) (post : List HN), ks = pre ++ x :: post → x.isEl = true →
      (⟨s + sizeL pre, up, x⟩ : Ent) ∈ walkL up s ks) ∧
    (∀ e ∈ walkL up s ks, ∀ (pre : List HN) (x : HN) (post : List HN), e.node.kids = pre ++ x :: post → x.isEl = true →
      (⟨e.pos + 1 + sizeL pre, e.pos :: e.ups, x⟩ : Ent) ∈ walkL up s ks)
  | ks, up, s => ⟨fun _ _ _ hk hx => kid_mem_walkL hk hx up s, fun e he _ _ _ hk hx =>
    ((below_infix_self e).trans (walkL_infix ks up s e he)).subset (kid_mem_walkL hk hx _ _)⟩

theorem count_kidPos (nmAt : Nat → Str) (nm : Str) : ∀ (pre : List HN) (s : Nat),
    (∀ (pre1 : List HN) (y : HN) (post1 : List HN), pre = pre1 ++ y :: post1 → y.isEl = true → nmAt (s + sizeL pre1) = y.name) →
    ((kidPos s pre).filter (fun q => decide (nmAt q = nm))).length = namedBefore nm pre
  | [], _, _ => rfl
  | k :: pre, s, h => by
    have ih := count_kidPos nmAt nm pre (s + k.size) (fun pre1 y post1 hp hy => by
      have := h (k :: pre1) y post1 (by rw [hp]; rfl) hy
      rwa [sizeL_cons, ← Nat.add_assoc] at this)
    cases k with
    | text t => simpa [kidPos, namedBefore, HN.isEl] using ih
    | el i n a sc ks =>
      have hhead : nmAt s = n := h [] _ pre rfl rfl
      simp only [kidPos, List.filter_cons, hhead]
      by_cases hn : n = nm <;> simp [hn, namedBefore, HN.isEl, HN.name] at ih ⊢ <;> exact ih

/-- the combinatorial core: in the child rows of a block list `pre ++ x :: post` starting at row `s`, filtered by "the row's
    name is `nm`", the row of `x` comes after exactly the element blocks of `pre` named `nm` -/
theorem idxOf_kidPos (nmAt : Nat → Str) (nm : Str) : ∀ (pre : List HN) (s : Nat) (x : HN) (post : List HN),
    x.isEl = true → nmAt (s + sizeL pre) = nm →
    (∀ (pre1 : List HN) (y : HN) (post1 : List HN), pre = pre1 ++ y :: post1 → y.isEl = true → nmAt (s + sizeL pre1) = y.name) →
    idxOf (s + sizeL pre) ((kidPos s (pre ++ x :: post)).filter (fun q => decide (nmAt q = nm))) = namedBefore nm pre
  | pre, s, x, post, hx, hn, hnames => by
    cases x with
    | text _ => cases hx
    | el i n a sc ks =>
      -- the rows are increasing, so none of `pre` is the row of `x`: its index is the number of rows kept before it
      have hs := kidPos_sorted (pre ++ .el i n a sc ks :: post) s
      rw [kidPos_append, kidPos] at hs ⊢
      have hlt : s + sizeL pre ∉ (kidPos s pre).filter (fun q => decide (nmAt q = nm)) := fun hm =>
        Nat.lt_irrefl _ ((List.pairwise_append.mp hs).2.2 _ (List.mem_filter.mp hm).1 _ List.mem_cons_self)
      rw [List.filter_append, List.filter_cons, if_pos (by simp [hn]), idxOf_append_cons _ hlt,
        count_kidPos nmAt nm pre s hnames]

theorem toDoc_specPos (h : HN) {e : Ent} (he : e ∈ h.walk [] 0) (pre : List HN) (x : HN) (post : List HN)
    (hk : e.node.kids = pre ++ x :: post) (hx : x.isEl = true) :
    h.toDoc.parent (e.pos + 1 + sizeL pre) = some e.pos ∧
    h.toDoc.name (e.pos + 1 + sizeL pre) = x.name ∧
    specPos h.toDoc (e.pos + 1 + sizeL pre) = namedBefore x.name pre + 1 := by
  have hW := walked_walk h
  have hkx := walk_kid_nodes h [] 0 e he pre x post hk hx
  have hpar : h.toDoc.parent (e.pos + 1 + sizeL pre) = some e.pos := by
    have := parent_ent hW hkx
    simpa [HN.toDoc] using this
  have hname : h.toDoc.name (e.pos + 1 + sizeL pre) = x.name := by
    have := name_ent hW hkx
    simpa [HN.toDoc] using this
  refine ⟨hpar, hname, ?_⟩
  rw [specPos_eq_idx _ _ _ hpar, hname]
  have hch : h.toDoc.children e.pos = kidPos (e.pos + 1) e.node.kids := children_ent hW he
  rw [hch, hk]
  have := idxOf_kidPos (fun q => h.toDoc.name q) x.name pre (e.pos + 1) x post hx hname
    (fun pre1 y post1 hp hy => by
      have hky : e.node.kids = pre1 ++ y :: (post1 ++ x :: post) := by rw [hk, hp]; simp
      have hy' := walk_kid_nodes h [] 0 e he pre1 y _ hky hy
      have := name_ent hW hy'
      simpa [HN.toDoc] using this)
  rw [this]

end AHP.TM
