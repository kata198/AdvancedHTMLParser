/-
  C14g: the model's leaf functions (`applyCmp`, `rawEq`, `toFloat`, `keepTag`, `isNth`, `Doc.ctx`)
  against the independent readings of the property's value-level clauses in AHP.Model.XPathSpec (`Ctx.lacks`,
  `IsNumeric`, `numRel`, `natRel`, `specPos`, `specLast`).
-/
import AHP.Lemmas.XPathDoc
import AHP.Lemmas.XPathNum
namespace AHP.XPath

section
variable {N : Type} (nm : Num N)

theorem lookupAttr_none_of_lacks : ∀ (l : List (Str × Str)) (k : Str), (∀ v, (k, v) ∉ l) → lookupAttr l k = none
  | [], _, _ => rfl
  | (k', v') :: r, k, h => by
    have hne : k' ≠ k := fun e => h v' (by simp [e])
    simp only [lookupAttr, if_neg hne]
    exact lookupAttr_none_of_lacks r k (fun v hv => h v (by simp [hv]))

theorem evalP_absent_attr (c : Ctx) (name : Str) (hs : name.contains '*' = false) (h : c.lacks name) :
    evalP nm c (.attr name) = some .null := by
  have hs' : ¬ '*' ∈ name := by simpa using hs
  simp [evalP, hs', lookupAttr_none_of_lacks c.attrs (lower name) h]

theorem applyCmp_null_left (v : Val N) (hv : v.isNull = false) :
    applyCmp nm .eq .null v = some (.bool false) ∧ applyCmp nm .ne .null v = some (.bool true) := by
  cases v <;> simp [applyCmp, toFloat, rawEq, Val.isNull] at hv ⊢

theorem applyCmp_null_right (v : Val N) (hv : v.isNull = false) :
    applyCmp nm .eq v .null = some (.bool false) ∧ applyCmp nm .ne v .null = some (.bool true) := by
  cases v with
  | null => simp [Val.isNull] at hv
  | num x => simp [applyCmp, toFloat, rawEq]
  | bool b => simp [applyCmp, toFloat, rawEq]
  | str s => cases h : nm.parse s <;> simp [applyCmp, toFloat, rawEq, h]

theorem ctx_attrs (d : Doc) (i : Nat) : (d.ctx i).attrs = (d.getD i default).attrs := by
  unfold Doc.ctx
  cases d.sameNamed i <;> rfl

theorem ctx_lacks_of_doc {d : Doc} {i : Nat} {name : Str} (h : d.lacksAttr i name) : (d.ctx i).lacks name := by
  intro v
  rw [ctx_attrs]
  exact h v

theorem toFloat_of_numeric {v : Val N} {x : N} (h : IsNumeric nm v x) : toFloat nm v = some x := by
  cases h with
  | num => rfl
  | str s x hs => simpa [toFloat] using hs
  | bool b => rfl

theorem applyCmp_numeric (o : CmpOp) {a b : Val N} {x y : N} (ha : IsNumeric nm a x) (hb : IsNumeric nm b y) :
    applyCmp nm o a b = some (.bool (numRel nm o x y)) := by
  simp only [applyCmp, toFloat_of_numeric nm ha, toFloat_of_numeric nm hb]
  cases o <;> rfl

theorem numRel_ofNat (hl : LawfulNum nm) (o : CmpOp) (a b : Nat) :
    numRel nm o (nm.ofNat a) (nm.ofNat b) = natRel o a b := by
  cases o <;> simp [numRel, natRel, hl.eq_ofNat, hl.lt_ofNat, hl.le_ofNat]

theorem natLit_numeric (hl : LawfulNum nm) (ds : List (Fin 10)) (h : ds ≠ []) :
    IsNumeric nm (.str (natLit ds)) (nm.ofNat (digitsVal ds)) :=
  .str _ _ (hl.parse_natLit ds h)

theorem idxOf_append_cons {a : Nat} : ∀ {l1 : List Nat} (l2 : List Nat), a ∉ l1 → idxOf a (l1 ++ a :: l2) = l1.length
  | [], _, _ => by simp [idxOf]
  | y :: l1, l2, h => by
    have hy : ¬ y = a := fun e => h (e ▸ List.mem_cons_self)
    simp only [List.cons_append, idxOf, if_neg hy, List.length_cons,
      idxOf_append_cons l2 (fun h' => h (List.mem_cons_of_mem _ h'))]

theorem idxOf_filter_range' (g : Nat → Bool) : ∀ (n s x : Nat), s ≤ x → x < s + n → g x = true →
    idxOf x ((List.range' s n).filter g) = ((List.range' s (x - s)).filter g).length
  | 0, s, x, h1, h2, _ => by omega
  | n + 1, s, x, h1, h2, hg => by
    rw [List.range'_succ]
    by_cases hsx : s = x
    · subst hsx
      simp [List.filter, hg, idxOf]
    · have hlt : s < x := by omega
      have ih := idxOf_filter_range' g n (s + 1) x (by omega) (by omega) hg
      have hx : x - s = (x - (s + 1)) + 1 := by omega
      rw [hx, List.range'_succ]
      cases hgs : g s
      · simp only [List.filter, hgs]
        exact ih
      · simp only [List.filter, hgs, idxOf, if_neg hsx, List.length_cons]
        rw [ih]

/-- the row filter of `specPos` / `specLast` is the code's `childrenOfRelevance` -/
theorem sameNamed_eq (d : Doc) (i p : Nat) (h : d.parent i = some p) :
    d.sameNamed i = some ((List.range d.length).filter
      (fun j => decide (d.parent j = some p) && decide (d.name j = d.name i))) := by
  simp only [Doc.sameNamed, h, Doc.children, List.filter_filter]
  congr 1
  apply List.filter_congr
  intro j _
  by_cases h1 : d.parent j = some p <;> by_cases h2 : d.name j = d.name i <;> simp [h1, h2]

theorem ctx_pos (d : Doc) (i : Nat) : (d.ctx i).pos = specPos d i := by
  unfold Doc.ctx specPos
  cases h : d.parent i with
  | none => simp [Doc.sameNamed, h]
  | some p =>
    have hi : i < d.length := parent_lt_length d i p h
    rw [sameNamed_eq d i p h]
    simp only [List.range_eq_range']
    rw [idxOf_filter_range' _ d.length 0 i (Nat.zero_le _) (by omega) (by simp [h])]
    simp

theorem specPos_eq_idx (d : Doc) (i p : Nat) (h : d.parent i = some p) :
    specPos d i = idxOf i ((d.children p).filter (fun c => d.name c = d.name i)) + 1 := by
  rw [← ctx_pos]
  simp [Doc.ctx, Doc.sameNamed, h]

theorem ctx_last (d : Doc) (i : Nat) : (d.ctx i).last = specLast d i := by
  unfold Doc.ctx specLast
  cases h : d.parent i with
  | none => simp [Doc.sameNamed, h]
  | some p => rw [sameNamed_eq d i p h]

/-- the test of `filterTagsByBody` for a number reads the same `sameNamed` as `Doc.ctx` -/
theorem isNth_eq_pos (d : Doc) (i : Nat) (n : Int) : isNth d i n = decide (((d.ctx i).pos : Int) = n) := by
  unfold isNth Doc.ctx
  cases d.sameNamed i with
  | none => exact decide_eq_decide.2 ⟨Eq.symm, Eq.symm⟩
  | some sibs => rfl

theorem isNth_ofNat (d : Doc) (i n : Nat) : isNth d i (Int.ofNat n) = decide (specPos d i = n) := by
  rw [isNth_eq_pos, ctx_pos]
  exact decide_eq_decide.2 ⟨Int.ofNat.inj, congrArg _⟩

theorem keepTag_ofNat (hl : LawfulNum nm) (d : Doc) (i n : Nat) :
    keepTag nm d i (.num (nm.ofNat n)) = some (decide (specPos d i = n)) := by
  simp only [keepTag, hl.toIndex_ofNat, isNth_ofNat]

theorem specFilter_nth (hl : LawfulNum nm) (d : Doc) (f : Nat → Nat) (p : P N)
    (hp : ∀ i, evalP nm (d.ctx i) p = some (.num (nm.ofNat (f i)))) :
    ∀ cur : List Nat, specFilter nm d p cur = some (cur.filter (fun i => decide (specPos d i = f i)))
  | [] => rfl
  | i :: rest => by
    simp only [specFilter, specKeep, hp i, Option.bind_some, keepTag_ofNat nm hl, specFilter_nth hl d f p hp rest,
      List.filter]
    cases decide (specPos d i = f i) <;> rfl

end
end AHP.XPath
