/-
  The parser OBJECT across parses (C02c / C02d): `AdvancedHTMLParser` / `IndexedAdvancedHTMLParser` as a state that
  survives between calls — `_inTag`, `root`, `doctype` (`Core.tree`, `Core.doctype`), the index maps of the indexed
  class (`Core.log`: the elements handed to `_indexTag` since the last `_resetIndexInternal`, in order; the maps
  `_idMap`, `_nameMap`, `_classNameMap`, `_tagNameMap`, `_otherAttributeIndexes` are functions of this list and of
  the index flags, which no parse changes), `HTMLParser`'s own fields (`rawdata`, `cdata_elem`, `interesting`,
  `lasttag` …: `ParserObj.tk`, abstract) and `encoding` (never reset).

  Code followed (Parser.py): `__init__` (fields, `self.reset = self._reset`), `_reset` (`HTMLParser.reset`,
  `root = None`, `doctype = None`, `_inTag = []`), `IndexedAdvancedHTMLParser._reset` (`AdvancedHTMLParser._reset`
  then `_resetIndexInternal`), `IndexedAdvancedHTMLParser.handle_starttag` (`_indexTag(newTag)` after the plain
  handler returned), `feed` (`stripIEConditionals`; `HTMLParser.feed`; on MultipleRootNodeException `self.reset()`
  and `HTMLParser.feed` of the wrapped text — `feed` itself does NOT reset first), `parseStr` (`self.reset()`; bytes
  are decoded with `self.encoding` AFTER the reset; `self.feed`).

  The tokenizer is a parameter with its own state (`Tokenizer τ`): what `HTMLParser.feed` delivers depends on what
  an earlier `feed` left in `rawdata` / on raw-text mode, unless `HTMLParser.reset()` ran — the theorems hold for
  every such tokenizer.

  `Model/Builder.lean` has an object across calls too (`runS`, `feedS`, `parseStrS`, for C03): the builder's state alone, on
  given tokens — enough to say that no call leaves the object unusable.  What a caller SEES of a reused object also depends on
  what the tokenizer kept, the index maps, the encoding and the text of each pass: hence this second model (`run_of_runObj`
  ties its pass to the builder's `run`).
-/
import AHP.Model.StripIE
import AHP.Model.Lexer
import AHP.Lemmas.Ws
namespace AHP.PObj
open AHP

/-- `HTMLParser`'s half of the object, abstract. -/
structure Tokenizer (τ : Type) where
  /-- the fields after `HTMLParser.reset()` -/
  fresh : τ
  /-- `HTMLParser.feed(text)` from a state when no callback raises: the callbacks made, in order, and the state
      left (unfinished text stays in `rawdata`; raw-text mode may stay on) -/
  feed : τ → Str → List Token × τ
  /-- the state left when callback number `k` raised (`rawdata` is not trimmed then) -/
  aborted : τ → Str → Nat → τ

/-- the library's half: `_inTag` / `root`, `doctype`, the index -/
structure Core where
  tree : TState
  doctype : Option Str
  log : List (Str × AttrState)
  deriving Inhabited

/-- after `_reset` (both classes: the plain class never writes the log) -/
def Core.init : Core := ⟨TState.init, none, []⟩

/-- the document the public API shows in any state (`getRoot()`, `doctype`): open elements are already linked in
    the code, `finish` links them in the model -/
def Core.doc (c : Core) : Doc := ⟨c.doctype, (finish c.tree).root⟩

/-- the elements a callback hands to `_indexTag` -/
def newTags : Token → List (Str × AttrState)
  | .start n a => [(lower n, intake a AttrState.empty)]
  | .startend n a => [(lower n, intake a AttrState.empty)]
  | _ => []

/-- one callback on the object: the plain handlers; the indexed class indexes the new element after its plain
    `handle_starttag` returned (so not when it raised) -/
def stepObj (indexed : Bool) (c : Core) (t : Token) : Outcome Core :=
  (step ⟨c.tree, c.doctype⟩ t).map (fun b => ⟨b.tree, b.doctype, if indexed then c.log ++ newTags t else c.log⟩)

/-- the callbacks in order; when one raises: the state before it (a raising handler changes nothing), its number
    and the exception -/
def runObj (indexed : Bool) : Core → List Token → Nat → Core × Option (Nat × Exc)
  | c, [], _ => (c, none)
  | c, t :: ts, k =>
    match stepObj indexed c t with
    | .ok c' => runObj indexed c' ts (k + 1)
    | .multipleRoot => (c, some (k, .multipleRoot))
    | .invalidClose => (c, some (k, .invalidClose))
    | .missedClose => (c, some (k, .missedClose))
    | .invalidAttr => (c, some (k, .invalidAttr))

structure ParserObj (τ ε : Type) where
  core : Core
  tk : τ
  /-- `self.encoding` -/
  enc : ε
  /-- the class: `IndexedAdvancedHTMLParser` or not -/
  indexed : Bool

/-- the object `__init__` leaves (no `filename`) -/
def ParserObj.fresh {τ ε : Type} (T : Tokenizer τ) (enc : ε) (indexed : Bool) : ParserObj τ ε :=
  ⟨Core.init, T.fresh, enc, indexed⟩

/-- `self.reset()` = `_reset` of the object's class -/
def ParserObj.reset {τ ε : Type} (T : Tokenizer τ) (o : ParserObj τ ε) : ParserObj τ ε :=
  { o with core := Core.init, tk := T.fresh }

inductive Raised where
  | parse (e : Exc)          -- from a handler (MultipleRootNodeException of the second pass)
  | decode                   -- `bytes.decode(self.encoding)` failed
  deriving Repr, DecidableEq, Inhabited

/-- `AdvancedHTMLParser.feed(contents)` on the object AS IT IS (no reset in front) -/
def feedObj {τ ε : Type} (T : Tokenizer τ) (o : ParserObj τ ε) (contents : Str) : ParserObj τ ε × Option Raised :=
  let text := stripIE contents
  let r1 := T.feed o.tk text
  match runObj o.indexed o.core r1.1 0 with
  | (c1, none) => ({ o with core := c1, tk := r1.2 }, none)
  | (_, some (_, .multipleRoot)) =>
    -- `except MultipleRootNodeException: self.reset()` then the wrapped text
    let r2 := T.feed T.fresh (wrapStr text)
    match runObj o.indexed Core.init r2.1 0 with
    | (c2, none) => ({ o with core := c2, tk := r2.2 }, none)
    | (c2, some (k2, e)) => ({ o with core := c2, tk := T.aborted T.fresh (wrapStr text) k2 }, some (.parse e))
  | (c1, some (k, e)) => ({ o with core := c1, tk := T.aborted o.tk text k }, some (.parse e))

inductive Input (β : Type) where
  | str (s : Str)
  | bytes (b : β)

/-- `parseStr(html)`: `self.reset()`, decode bytes with `self.encoding`, `self.feed` -/
def parseOn {τ ε β : Type} (T : Tokenizer τ) (decode : ε → β → Option Str) (o : ParserObj τ ε) :
    Input β → ParserObj τ ε × Option Raised
  | .str s => feedObj T (o.reset T) s
  | .bytes b =>
    match decode o.enc b with
    | some s => feedObj T (o.reset T) s
    | none => (o.reset T, some .decode)

/-- a history of `parseStr` calls on one object (a call that raised leaves the object as it is; the caller goes on):
    the object and the outcome of the LAST call -/
def parseHist {τ ε β : Type} (T : Tokenizer τ) (decode : ε → β → Option Str) :
    ParserObj τ ε × Option Raised → List (Input β) → ParserObj τ ε × Option Raised
  | r, [] => r
  | r, i :: is => parseHist T decode (parseOn T decode r.1 i) is

theorem feedObj_enc {τ ε : Type} (T : Tokenizer τ) (o : ParserObj τ ε) (s : Str) :
    (feedObj T o s).1.enc = o.enc ∧ (feedObj T o s).1.indexed = o.indexed := by
  unfold feedObj
  simp only
  split
  · exact ⟨rfl, rfl⟩
  · split <;> exact ⟨rfl, rfl⟩
  · exact ⟨rfl, rfl⟩

theorem parseOn_enc {τ ε β : Type} (T : Tokenizer τ) (decode : ε → β → Option Str) (o : ParserObj τ ε) (i : Input β) :
    (parseOn T decode o i).1.enc = o.enc ∧ (parseOn T decode o i).1.indexed = o.indexed := by
  cases i with
  | str s => exact feedObj_enc T (o.reset T) s
  | bytes b =>
    cases hd : decode o.enc b with
    | some s =>
      simp only [parseOn, hd]
      exact feedObj_enc T (o.reset T) s
    | none =>
      simp only [parseOn, hd]
      exact ⟨rfl, rfl⟩

theorem reset_eq_fresh {τ ε : Type} (T : Tokenizer τ) (o : ParserObj τ ε) :
    o.reset T = ParserObj.fresh T o.enc o.indexed := rfl

/-- **a parse depends on the object only through its encoding and class** — whatever an earlier parse left in
    `_inTag` / `root` / `doctype`, in the index maps, in the tokenizer -/
theorem parseOn_fresh {τ ε β : Type} (T : Tokenizer τ) (decode : ε → β → Option Str) (o : ParserObj τ ε) (i : Input β) :
    parseOn T decode o i = parseOn T decode (ParserObj.fresh T o.enc o.indexed) i := by
  cases i <;> rfl

theorem parseHist_snoc {τ ε β : Type} (T : Tokenizer τ) (decode : ε → β → Option Str) :
    ∀ (h : List (Input β)) (r : ParserObj τ ε × Option Raised) (last : Input β),
    parseHist T decode r (h ++ [last]) = parseOn T decode (parseHist T decode r h).1 last
  | [], _, _ => rfl
  | i :: is, r, last => by
    simp only [List.cons_append, parseHist]
    exact parseHist_snoc T decode is _ last

theorem parseHist_enc {τ ε β : Type} (T : Tokenizer τ) (decode : ε → β → Option Str) :
    ∀ (h : List (Input β)) (r : ParserObj τ ε × Option Raised),
    (parseHist T decode r h).1.enc = r.1.enc ∧ (parseHist T decode r h).1.indexed = r.1.indexed
  | [], _ => ⟨rfl, rfl⟩
  | i :: is, r => by
    simp only [parseHist]
    have h1 := parseHist_enc T decode is (parseOn T decode r.1 i)
    have h2 := parseOn_enc T decode r.1 i
    exact ⟨h1.1.trans h2.1, h1.2.trans h2.2⟩

/-- For every history of inputs and EVERY starting object — any `_inTag` / `root` /
    `doctype`, any index content, any tokenizer residue: in particular a state left by a parse that raised or left
    elements open — the object and the outcome after the last `parseStr` are those of a freshly constructed object
    (same encoding, same class) given the last input alone. -/
theorem reuse_object {τ ε β : Type} (T : Tokenizer τ) (decode : ε → β → Option Str)
    (o0 : ParserObj τ ε) (r0 : Option Raised) (h : List (Input β)) (last : Input β) :
    parseHist T decode (o0, r0) (h ++ [last]) = parseOn T decode (ParserObj.fresh T o0.enc o0.indexed) last := by
  rw [parseHist_snoc, parseOn_fresh]
  have := parseHist_enc T decode h (o0, r0)
  rw [this.1, this.2]

def excOutcome {σ : Type} : Exc → Outcome σ
  | .multipleRoot => .multipleRoot
  | .invalidClose => .invalidClose
  | .missedClose => .missedClose
  | .invalidAttr => .invalidAttr

theorem run_of_runObj (indexed : Bool) : ∀ (ts : List Token) (c : Core) (k : Nat),
    run ⟨c.tree, c.doctype⟩ ts = match runObj indexed c ts k with
      | (c', none) => .ok ⟨c'.tree, c'.doctype⟩
      | (_, some (_, e)) => excOutcome e
  | [], c, k => rfl
  | t :: ts, c, k => by
    simp only [run, runObj, stepObj]
    cases hs : step ⟨c.tree, c.doctype⟩ t with
    | ok b =>
      simp only [Outcome.map]
      exact run_of_runObj indexed ts ⟨b.tree, b.doctype, _⟩ (k + 1)
    | _ => rfl

/-- the index after a pass that did not raise: what was there, then the elements of the pass in document order
    (indexed class), nothing (plain class) -/
theorem runObj_log (indexed : Bool) : ∀ (ts : List Token) (c c' : Core) (k : Nat),
    runObj indexed c ts k = (c', none) → c'.log = c.log ++ (if indexed then ts.flatMap newTags else [])
  | [], c, c', k, h => by
    simp only [runObj, Prod.mk.injEq, and_true] at h
    subst h
    cases indexed <;> simp
  | t :: ts, c, c', k, h => by
    simp only [runObj, stepObj] at h
    cases hs : step ⟨c.tree, c.doctype⟩ t with
    | ok b =>
      rw [hs] at h
      simp only [Outcome.map] at h
      have := runObj_log indexed ts _ c' (k + 1) h
      rw [this]
      cases indexed <;> simp
    | _ => rw [hs] at h; simp [Outcome.map] at h

/-- the two passes with the tokens the tokenizer delivered for the text and for the wrapped text -/
def feedTwo (toks toks2 : List Token) : FeedResult :=
  match run BState.init toks with
  | .multipleRoot => FeedResult.ofPass true (run BState.init toks2)
  | o => FeedResult.ofPass false o

theorem feedTokens_eq_feedTwo (toks : List Token) : feedTokens toks = feedTwo toks (wrapToks toks) := rfl

def viewOf {τ ε : Type} (r : ParserObj τ ε × Option Raised) : Doc ⊕ Raised :=
  match r.2 with
  | none => .inl r.1.core.doc
  | some e => .inr e

def viewOfFeed : FeedResult → Doc ⊕ Raised
  | .doc d _ => .inl d
  | .raised e => .inr (.parse e)

/-- **the object's `parseStr` is the token-level two-pass `feed`** on the callbacks the tokenizer delivers from its
    fresh state for the stripped text and for the wrapped stripped text. -/
theorem parseOn_str_view {τ ε β : Type} (T : Tokenizer τ) (decode : ε → β → Option Str) (o : ParserObj τ ε) (s : Str) :
    viewOf (parseOn T decode o (.str s))
      = viewOfFeed (feedTwo (T.feed T.fresh (stripIE s)).1 (T.feed T.fresh (wrapStr (stripIE s))).1) := by
  unfold parseOn feedObj feedTwo
  simp only [ParserObj.reset]
  have h1 := run_of_runObj o.indexed (T.feed T.fresh (stripIE s)).1 Core.init 0
  have h2 := run_of_runObj o.indexed (T.feed T.fresh (wrapStr (stripIE s))).1 Core.init 0
  have hi : (⟨Core.init.tree, Core.init.doctype⟩ : BState) = BState.init := rfl
  rw [hi] at h1 h2
  rw [h1, h2]
  rcases hr1 : runObj o.indexed Core.init (T.feed T.fresh (stripIE s)).1 0 with ⟨c1, _ | ⟨k1, e1⟩⟩
  · rfl
  · cases e1 with
    | multipleRoot =>
      simp only [excOutcome]
      rcases hr2 : runObj o.indexed Core.init (T.feed T.fresh (wrapStr (stripIE s))).1 0 with ⟨c2, _ | ⟨k2, e2⟩⟩
      · rfl
      · cases e2 <;> rfl
    | _ => rfl

/-- the index of an indexed object after a `parseStr` that did not raise: exactly the elements of the pass that
    built the document, in document order — nothing of any earlier parse, nothing of the abandoned first pass -/
theorem parseOn_str_log {τ ε β : Type} (T : Tokenizer τ) (decode : ε → β → Option Str) (o : ParserObj τ ε) (s : Str)
    (hok : (parseOn T decode o (.str s)).2 = none) :
    (parseOn T decode o (.str s)).1.core.log
      = (if o.indexed then
          (match run BState.init (T.feed T.fresh (stripIE s)).1 with
           | .multipleRoot => (T.feed T.fresh (wrapStr (stripIE s))).1
           | _ => (T.feed T.fresh (stripIE s)).1).flatMap newTags
         else []) := by
  have h1 := run_of_runObj o.indexed (T.feed T.fresh (stripIE s)).1 Core.init 0
  have h2 := run_of_runObj o.indexed (T.feed T.fresh (wrapStr (stripIE s))).1 Core.init 0
  have hi : (⟨Core.init.tree, Core.init.doctype⟩ : BState) = BState.init := rfl
  rw [hi] at h1 h2
  rw [h1]
  unfold parseOn feedObj at hok ⊢
  simp only [ParserObj.reset] at hok ⊢
  rcases hr1 : runObj o.indexed Core.init (T.feed T.fresh (stripIE s)).1 0 with ⟨c1, _ | ⟨k1, e1⟩⟩
  · have := runObj_log o.indexed _ _ _ _ hr1
    simp only [this, Core.init, List.nil_append]
  · rw [hr1] at hok
    cases e1 with
    | multipleRoot =>
      simp only [excOutcome] at hok ⊢
      rcases hr2 : runObj o.indexed Core.init (T.feed T.fresh (wrapStr (stripIE s))).1 0 with ⟨c2, _ | ⟨k2, e2⟩⟩
      · have := runObj_log o.indexed _ _ _ _ hr2
        simp only [this, Core.init, List.nil_append]
      · rw [hr2] at hok; simp at hok
    | _ => simp at hok

/-- bytes that do not decode: the call raises — AFTER the reset: the earlier document is gone, the object is as
    new -/
theorem parseOn_bytes_undecodable {τ ε β : Type} (T : Tokenizer τ) (decode : ε → β → Option Str) (o : ParserObj τ ε) (b : β)
    (h : decode o.enc b = none) :
    parseOn T decode o (.bytes b) = (ParserObj.fresh T o.enc o.indexed, some .decode) := by
  simp only [parseOn, h]; rfl

/-! ## concrete tokenizers, and counter-models: the statements above FAIL for variants of `parseStr` without
    (part of) the reset -/

/-- the strict lexer as a tokenizer without memory (outside its sub-language it delivers nothing) -/
def lexTok : Tokenizer Unit := ⟨(), fun _ s => ((lexStrict s).getD [], ()), fun _ _ _ => ()⟩

/-- a tokenizer WITH memory, after `HTMLParser.goahead` without `close()`: a `<` at the very end of the text is not
    tokenized but kept in `rawdata` for the next `feed` -/
def bufTok : Tokenizer Str :=
  ⟨[], fun buf s =>
        let all := buf ++ s
        if all.getLast? = some '<' then ((lexStrict all.dropLast).getD [], ['<']) else ((lexStrict all).getD [], []),
   fun buf s _ => buf ++ s⟩

def noBytes : Unit → Unit → Option Str := fun _ _ => none

def rootName {τ ε : Type} (r : ParserObj τ ε × Option Raised) : Option Str :=
  match r.1.core.doc.root with
  | some (.elem n _ _ _) => some n
  | _ => none

def logNames {τ ε : Type} (r : ParserObj τ ε × Option Raised) : List Str := r.1.core.log.map (·.1)

/-! #### (a) no reset at all: the second document lands inside what the first left open -/

/-- `parseStr` without its first line -/
def parseOnNoReset {τ ε β : Type} (T : Tokenizer τ) (decode : ε → β → Option Str) (o : ParserObj τ ε) :
    Input β → ParserObj τ ε × Option Raised
  | .str s => feedObj T o s
  | .bytes b =>
    match decode o.enc b with
    | some s => feedObj T o s
    | none => (o, some .decode)

def hist2 (T : Tokenizer Unit) (a b : Str) (indexed : Bool) : ParserObj Unit Unit × Option Raised :=
  parseOnNoReset T noBytes (parseOnNoReset T noBytes (ParserObj.fresh T () indexed) (.str a)).1 (.str b)

theorem noReset_counter :
    rootName (hist2 lexTok "<a >".toList "<b ></b>".toList false) = some "a".toList ∧
    rootName (parseOn lexTok noBytes (ParserObj.fresh lexTok () false) (.str "<b ></b>".toList)) = some "b".toList := by
  char_lits; decide +kernel

/-- with the reset the same history gives the second document alone (instance of `reuse_object`) -/
theorem withReset_instance :
    rootName (parseHist lexTok noBytes (ParserObj.fresh lexTok () false, none)
      [.str "<a >".toList, .str "<b ></b>".toList]) = some "b".toList := by
  char_lits; decide +kernel

/-! #### (b) the indexed class with the plain class's `_reset`: stale index entries -/

/-- `_reset` of the plain class used by the indexed class (the library before its fix, commit `c1d2cb2` of /repo: the index maps
    survive `reset()`) -/
def ParserObj.resetPlainOnly {τ ε : Type} (T : Tokenizer τ) (o : ParserObj τ ε) : ParserObj τ ε :=
  { o with core := { Core.init with log := o.core.log }, tk := T.fresh }

def parseOnPlainReset {τ ε β : Type} (T : Tokenizer τ) (o : ParserObj τ ε) : Input β → ParserObj τ ε × Option Raised
  | .str s => feedObj T (o.resetPlainOnly T) s
  | .bytes _ => (o.resetPlainOnly T, some .decode)

theorem plainReset_counter :
    logNames (parseOnPlainReset (β := Unit) lexTok
        (parseOnPlainReset (β := Unit) lexTok (ParserObj.fresh lexTok () true) (.str "<a ></a>".toList)).1
        (.str "<b ></b>".toList)) = ["a".toList, "b".toList] ∧
    logNames (parseHist lexTok noBytes (ParserObj.fresh lexTok () true, none)
        [.str "<a ></a>".toList, .str "<b ></b>".toList]) = ["b".toList] := by
  char_lits; decide +kernel

/-! #### (c) `_reset` without `HTMLParser.reset`: what the tokenizer kept from the first text joins the second -/

/-- `reset` that forgets to call `HTMLParser.reset` -/
def ParserObj.resetNoTokenizer {τ ε : Type} (o : ParserObj τ ε) : ParserObj τ ε :=
  { o with core := Core.init }

def parseOnNoTkReset {τ ε β : Type} (T : Tokenizer τ) (o : ParserObj τ ε) : Input β → ParserObj τ ε × Option Raised
  | .str s => feedObj T o.resetNoTokenizer s
  | .bytes _ => (o.resetNoTokenizer, some .decode)

theorem noTokenizerReset_counter :
    rootName (parseOnNoTkReset (β := Unit) bufTok
        (parseOnNoTkReset (β := Unit) bufTok (ParserObj.fresh bufTok () false) (.str "<a ></a><".toList)).1
        (.str "b ></b>".toList)) = some "b".toList ∧
    rootName (parseHist bufTok noBytes (ParserObj.fresh bufTok () false, none)
        [.str "<a ></a><".toList, .str "b ></b>".toList]) = some wrapperName := by
  char_lits; decide +kernel

end AHP.PObj
