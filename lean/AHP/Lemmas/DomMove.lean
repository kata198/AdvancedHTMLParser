/-
  AHP.Lemmas.DomMove — (1) the loop calls (`appendBlocks`, `removeBlocks`, `removeChildren`,
  `appendInnerHTML`) are defined on the domain the property states; (2) the frame of the
  element-moving calls: what is outside the target's subtree and outside the moved root keeps all
  its fields, the moved root leaves the root list, and only `parentNode` of the moved root and
  `ownerDocument` throughout it change; (3) the loop of `appendBlocks` over the fresh blocks of a
  fragment.
-/
import AHP.Lemmas.DomStep
namespace AHP.Dom

/-- `KeepsId` for the local effect of a call through `World.apply`; `C05.frame_apply` takes it written out -/
def LocKeepsId (loc : Meta → List DN → Option Edit × Val) : Prop :=
  ∀ m bs e, (loc m bs).1 = some e → e.m.id = m.id

theorem applyEdit_keepsId {loc} (h : LocKeepsId loc) : KeepsId (applyEdit loc) := by
  intro m bs
  unfold applyEdit
  cases he : (loc m bs).1 with
  | none => rfl
  | some e => exact h m bs e he

theorem edit_find (w : World) (t : Nat) (f : Meta → List DN → Edit) (hid : KeepsId f) {m bs}
    (hf : w.find? t = some (m, bs)) : (w.edit t f).find? t = some ((f m bs).m, (f m bs).blocks) := by
  simp only [World.find?, World.edit]
  exact findL?_append_some t _ _ (findL?_updL t f hid w.roots hf)

theorem apply_find (w : World) (t : Nat) (loc : Meta → List DN → Option Edit × Val) (hid : LocKeepsId loc)
    {w' v} (h : w.apply t loc = some (w', v)) : (w'.find? t).isSome = true := by
  obtain ⟨m, bs, hf, -, ⟨-, rfl⟩ | ⟨e, -, rfl⟩⟩ := apply_some h
  · rw [hf]; rfl
  · rw [edit_find w t (applyEdit loc) (applyEdit_keepsId hid) hf]; rfl

theorem apply_isSome (w : World) (t : Nat) (loc : Meta → List DN → Option Edit × Val) (h : (w.find? t).isSome = true) :
    (w.apply t loc).isSome = true := by
  obtain ⟨⟨m, bs⟩, hf⟩ := Option.isSome_iff_exists.mp h
  simp only [World.apply, hf]
  cases (loc m bs).1 <;> rfl

theorem apply_defined_find (w : World) (t : Nat) {loc : Meta → List DN → Option Edit × Val} (hid : LocKeepsId loc)
    (h : (w.find? t).isSome = true) : ∃ r, w.apply t loc = some r ∧ (r.1.find? t).isSome = true := by
  obtain ⟨r, hr⟩ := Option.isSome_iff_exists.mp (apply_isSome w t loc h)
  exact ⟨r, hr, apply_find w t loc hid (w' := r.1) (v := r.2) hr⟩

theorem locRemoveChild_keepsId (c : Nat) : LocKeepsId (locRemoveChild c) := by
  intro m bs e he
  unfold locRemoveChild at he
  split at he
  · split at he <;> (cases he; rfl)
  · simp at he

theorem locRemoveText_keepsId (s : Str) : LocKeepsId (fun m bs => (some (locRemoveText s m bs).1, (locRemoveText s m bs).2)) := by
  intro m bs e he
  cases he
  unfold locRemoveText
  split <;> rfl

theorem removeBlock_defined (w : World) (t : Nat) (b : Blk) (h : (w.find? t).isSome = true) :
    ∃ r, w.removeBlock t b = some r ∧ (r.1.find? t).isSome = true := by
  cases b with
  | elm c => exact apply_defined_find w t (locRemoveChild_keepsId c) h
  | txt s => exact apply_defined_find w t (locRemoveText_keepsId s) h

theorem removeBlocksLoop_defined (t : Nat) (bs : List Blk) :
    ∀ (w : World), (w.find? t).isSome = true → (w.removeBlocksLoop t bs).isSome = true := by
  induction bs with
  | nil => intro w _; rfl
  | cons b bs ih =>
    intro w h
    obtain ⟨r, hr, hf⟩ := removeBlock_defined w t b h
    simp only [World.removeBlocksLoop, hr, Option.isSome_map]
    exact ih r.1 hf

def elmArgs : List Blk → List Nat
  | [] => []
  | .txt _ :: bs => elmArgs bs
  | .elm c :: bs => c :: elmArgs bs

/-- The domain of `appendBlocks(blocks)` on target `t` (the precondition C04 states). -/
structure AppendDomain (w : World) (t : Nat) (bs : List Blk) : Prop where
  target : (w.find? t).isSome = true
  distinct : (elmArgs bs).Nodup
  roots : ∀ c ∈ elmArgs bs, ∃ r ∈ w.roots, rootId r = some c ∧ t ∉ ids r

theorem appendBlock_domain (w : World) (t : Nat) (b : Blk) (bs : List Blk) (hw : Inv w)
    (hd : AppendDomain w t (b :: bs)) :
    ∃ r, w.appendBlock t b = some r ∧ Inv r.1 ∧ AppendDomain r.1 t bs := by
  obtain ⟨htgt, hdis, hroots⟩ := hd
  obtain ⟨⟨m, bs'⟩, hf⟩ := Option.isSome_iff_exists.mp htgt
  cases b with
  | txt s =>
    have hstep : w.appendBlock t (.txt s) = some (w.edit t (locAppendText s), .str s) := by
      simp [World.appendBlock, World.appendText, World.apply, hf]
    refine ⟨_, hstep, appendBlock_Inv hw hstep, ?_, hdis, fun c hc => ?_⟩
    · rw [edit_find w t _ (fun _ _ => rfl) hf]; rfl
    · obtain ⟨r0, hr0, hc0, ht0⟩ := hroots c hc
      exact ⟨r0, List.mem_append_left _ (mem_updL_of_not_mem t _ r0 w.roots hr0 ht0), hc0, ht0⟩
  | elm c =>
    simp only [elmArgs, List.nodup_cons] at hdis
    obtain ⟨r0, hr0, hc0, ht0⟩ := hroots c (by simp [elmArgs])
    obtain ⟨a, b', hsplit, htake⟩ := takeRoot_of_mem c w.roots hw.nodup r0 hr0 hc0
    have htrest : t ∈ idsL (a ++ b') := by
      have htmem := findL?_mem t w.roots hf
      rw [hsplit] at htmem
      simp only [idsL_append, idsL_cons, List.mem_append] at htmem ⊢
      rcases htmem with h | h | h
      · exact Or.inl h
      · exact absurd h ht0
      · exact Or.inr h
    obtain ⟨⟨m2, bs2⟩, hf2⟩ := Option.isSome_iff_exists.mp (findL?_isSome_of_mem t (a ++ b') htrest)
    have hstep : w.appendBlock t (.elm c) = some (World.edit { w with roots := a ++ b' } t (locAppendChild r0), .el c) := by
      simp [World.appendBlock, World.appendChild, htake, World.apply, World.find?, hf2]
    refine ⟨_, hstep, appendBlock_Inv hw hstep, ?_, hdis.2, fun c' hc' => ?_⟩
    · rw [edit_find { w with roots := a ++ b' } t _ (fun _ _ => rfl) hf2]; rfl
    · obtain ⟨r1, hr1, hc1, ht1⟩ := hroots c' (by simp [elmArgs, hc'])
      have hne : r1 ≠ r0 := fun e => hdis.1 (Option.some.inj (hc1.symm.trans (e ▸ hc0)) ▸ hc')
      have hr1' : r1 ∈ a ++ b' := by
        rw [hsplit] at hr1
        simp only [List.mem_append, List.mem_cons] at hr1 ⊢
        exact hr1.elim Or.inl (fun h => h.elim (fun h => absurd h hne) Or.inr)
      exact ⟨r1, List.mem_append_left _ (mem_updL_of_not_mem t _ r1 _ hr1' ht1), hc1, ht1⟩

theorem appendBlocksLoop_defined (t : Nat) (bs : List Blk) :
    ∀ (w : World), Inv w → AppendDomain w t bs → (w.appendBlocksLoop t bs).isSome = true := by
  induction bs with
  | nil => intro w _ _; rfl
  | cons b bs ih =>
    intro w hw hd
    obtain ⟨r, hr, hinv, hd'⟩ := appendBlock_domain w t b bs hw hd
    simp only [World.appendBlocksLoop, hr]
    exact ih r.1 hinv hd'

theorem elmArgs_map_toBlk (l : List DN) : elmArgs (l.map toBlk) = elemIds l := by
  induction l with
  | nil => rfl
  | cons b bs ih => cases b <;> simp [toBlk, elmArgs, ih]

/-- the new elements are distinct roots with fresh uids, so none of them contains the target -/
theorem fragment_domain (w : World) (t : Nat) (p : Parsed) (hw : Inv w) (ht : (w.find? t).isSome = true) :
    AppendDomain { roots := w.roots ++ (createBlocks (p.build w.nextDoc w.next).1).filter DN.isEl,
                   next := (p.build w.nextDoc w.next).2, nextDoc := w.nextDoc + 1 }
      t ((createBlocks (p.build w.nextDoc w.next).1).map toBlk) := by
  have hinv := fragment_world_Inv p hw
  have hnd := hinv.nodup
  simp only [idsL_append] at hnd
  have hd := List.nodup_append.mp hnd
  obtain ⟨x, hx⟩ := Option.isSome_iff_exists.mp ht
  have htmem : t ∈ idsL w.roots := findL?_mem t w.roots hx
  refine ⟨?_, ?_, ?_⟩
  · have := findL?_append_some t w.roots ((createBlocks (p.build w.nextDoc w.next).1).filter DN.isEl) hx
    simp only [World.find?, this]; rfl
  · rw [elmArgs_map_toBlk]
    refine elemIds_nodup _ ?_
    rw [← idsL_filter_isEl]; exact hd.2.1
  · intro c hc
    rw [elmArgs_map_toBlk] at hc
    obtain ⟨m, k, hmem, hid⟩ := mem_elemIds.mp hc
    have hmem' : DN.el m k ∈ (createBlocks (p.build w.nextDoc w.next).1).filter DN.isEl := by
      simp [List.mem_filter, hmem, DN.isEl]
    refine ⟨.el m k, List.mem_append_right _ hmem', by simp [rootId, hid], ?_⟩
    intro hin
    exact hd.2.2 t htmem t (mem_idsL.mpr ⟨_, hmem', hin⟩) rfl

theorem edit_frame (rest : List DN) (next nd : Nat) (t : Nat) (f : Meta → List DN → Edit) (hid : KeepsId f)
    (hout : ∀ m bs, (f m bs).out = []) :
    (World.edit ⟨rest, next, nd⟩ t f).roots = (updL t f rest).1 ∧
    outsideL t (updL t f rest).1 = outsideL t rest ∧
    ((updL t f rest).1).map DN.rid = rest.map DN.rid := by
  refine ⟨by simp [World.edit, updL_out_nil t f hout rest], outsideL_updL t f hid rest, ?_⟩
  rw [(updL_eq t f rest).1, List.map_map]
  exact List.map_congr_left (fun r _ => (upd_isEl_rid t f hid r).2)

/-- What a move leaves of the target's fields: everything but `sc` (cleared), `children` and the block list (the moved element joins
    them). -/
def KeepsScalars (m m' : Meta) : Prop :=
  m'.id = m.id ∧ m'.name = m.name ∧ m'.attrs = m.attrs ∧ m'.text = m.text ∧ m'.parent = m.parent ∧ m'.owner = m.owner

theorem KeepsScalars.refl (m : Meta) : KeepsScalars m m := ⟨rfl, rfl, rfl, rfl, rfl, rfl⟩

theorem KeepsScalars.trans {a b c : Meta} (h1 : KeepsScalars a b) (h2 : KeepsScalars b c) : KeepsScalars a c :=
  ⟨h2.1.trans h1.1, h2.2.1.trans h1.2.1, h2.2.2.1.trans h1.2.2.1, h2.2.2.2.1.trans h1.2.2.2.1,
   h2.2.2.2.2.1.trans h1.2.2.2.2.1, h2.2.2.2.2.2.trans h1.2.2.2.2.2⟩

theorem attach_congr {m1 m2 : Meta} (hi : m2.id = m1.id) (ho : m2.owner = m1.owner) (c : DN) : attach m2 c = attach m1 c := by
  simp [attach, hi, ho]

@[simp] theorem attach_text (m : Meta) (s : Str) : attach m (.text s) = .text s := by simp [attach]

theorem move_frame (w : World) (t : Nat) (a b : List DN) (f : Meta → List DN → Edit) (hid : KeepsId f)
    (hout : ∀ m bs, (f m bs).out = []) {m bs} (hf : findL? t (a ++ b) = some (m, bs)) :
    outsideL t (World.edit { w with roots := a ++ b } t f).roots = outsideL t a ++ outsideL t b ∧
    (World.edit { w with roots := a ++ b } t f).roots.map DN.rid = (a ++ b).map DN.rid ∧
    (World.edit { w with roots := a ++ b } t f).find? t = some ((f m bs).m, (f m bs).blocks) := by
  obtain ⟨h1, h2, h3⟩ := edit_frame (a ++ b) w.next w.nextDoc t f hid hout
  refine ⟨?_, ?_, ?_⟩
  · rw [h1, h2, outsideL_append]
  · rw [h1, h3]
  · exact edit_find { w with roots := a ++ b } t f hid hf

/-- `appendChild(child)` (also `appendBlock(child)`, `insertBefore/After(child, None)`) -/
theorem appendChild_frame (w w' : World) (t c : Nat) (v : Val) (h : w.appendChild t c = some (w', v)) :
    ∃ a b ct m bs m', w.roots = a ++ ct :: b ∧ rootId ct = some c ∧ findL? t (a ++ b) = some (m, bs) ∧
      outsideL t w'.roots = outsideL t a ++ outsideL t b ∧ w'.roots.map DN.rid = (a ++ b).map DN.rid ∧
      w'.find? t = some (m', insertAt bs.length (attach m ct) bs) ∧ KeepsScalars m m' ∧ v = .el c := by
  obtain ⟨ct, rest, m, bs, htake, hf, rfl, rfl⟩ := appendChild_some h
  obtain ⟨a, b, hsplit, rfl, hroot, -⟩ := takeRoot_split c w.roots htake
  obtain ⟨h1, h2, h3⟩ := move_frame w t a b (locAppendChild ct) (fun _ _ => rfl) (fun _ _ => rfl) hf
  refine ⟨a, b, ct, m, bs, (locAppendChild ct m bs).m, hsplit, hroot, hf, h1, h2, ?_, ⟨rfl, rfl, rfl, rfl, rfl, rfl⟩, rfl⟩
  rw [h3]
  simp [locAppendChild, insertAt]

/-- `insertBefore(child, ref)` / `insertAfter(child, ref)` with an element `child`, when it succeeds -/
theorem insert_frame (w w' : World) (after : Bool) (t c : Nat) (ref : Option Blk)
    (h : w.insert after t (.elm c) ref = some (w', .el c)) :
    ∃ a b ct m bs m' i, w.roots = a ++ ct :: b ∧ rootId ct = some c ∧ findL? t (a ++ b) = some (m, bs) ∧
      outsideL t w'.roots = outsideL t a ++ outsideL t b ∧ w'.roots.map DN.rid = (a ++ b).map DN.rid ∧
      w'.find? t = some (m', insertAt i (attach m ct) bs) ∧ KeepsScalars m m' := by
  cases ref with
  | none =>
    obtain ⟨a, b, ct, m, bs, m', h1, h2, h3, h4, h5, h6, h7, _⟩ := appendChild_frame w w' t c _ h
    exact ⟨a, b, ct, m, bs, m', _, h1, h2, h3, h4, h5, h6, h7⟩
  | some r =>
    obtain ⟨ct, rest, m, bs, htake, hf, ⟨-, -, hv⟩ | ⟨j, hj, rfl, -⟩⟩ := insert_elm_some h
    · cases hv
    · obtain ⟨a, b, hsplit, rfl, hroot, -⟩ := takeRoot_split c w.roots htake
      obtain ⟨h1, h2, h3⟩ := move_frame w t a b (locInsertEl after r ct)
        (fun m bs => by unfold locInsertEl; split <;> rfl) (fun m bs => by unfold locInsertEl; split <;> rfl) hf
      refine ⟨a, b, ct, m, bs, (locInsertEl after r ct m bs).m, (if after then j + 1 else j), hsplit, hroot, hf, h1, h2, ?_, ?_⟩
      · rw [h3]; simp [locInsertEl, hj, locInsertElAt]
      · simp only [locInsertEl, hj, locInsertElAt]; exact ⟨rfl, rfl, rfl, rfl, rfl, rfl⟩

theorem edit_append_step (t : Nat) (f : Meta → List DN → Edit) (hid : KeepsId f) (hout : ∀ m bs, (f m bs).out = [])
    (R L : List DN) (next nd : Nat) {m bs} (hf : findL? t R = some (m, bs)) (hL : t ∉ idsL L) :
    World.edit ⟨R ++ L, next, nd⟩ t f = ⟨(updL t f R).1 ++ L, next, nd⟩ ∧
    findL? t (updL t f R).1 = some ((f m bs).m, (f m bs).blocks) := by
  refine ⟨?_, findL?_updL t f hid R hf⟩
  have := updL_append t f R L
  rw [updL_not_mem t f L hL] at this
  simp only [World.edit, this.1, this.2, updL_out_nil t f hout R]
  simp

/-- What `appendInnerHTML` leaves of the target's fields: as `KeepsScalars`, without `text` — an appended text block extends it. -/
def KeepsIdent (m m' : Meta) : Prop :=
  m'.id = m.id ∧ m'.name = m.name ∧ m'.attrs = m.attrs ∧ m'.parent = m.parent ∧ m'.owner = m.owner

theorem KeepsIdent.refl (m : Meta) : KeepsIdent m m := ⟨rfl, rfl, rfl, rfl, rfl⟩

theorem KeepsIdent.trans {a b c : Meta} (h1 : KeepsIdent a b) (h2 : KeepsIdent b c) : KeepsIdent a c :=
  ⟨h2.1.trans h1.1, h2.2.1.trans h1.2.1, h2.2.2.1.trans h1.2.2.1, h2.2.2.2.1.trans h1.2.2.2.1,
   h2.2.2.2.2.trans h1.2.2.2.2⟩

/-- if `b` is an element it is the first fresh root, which is consumed -/
theorem appendBlock_fresh (t : Nat) (b : DN) (rest R : List DN) (next nd : Nat) {m bs}
    (hf : findL? t R = some (m, bs)) (hnd : (idsL R ++ idsL ((b :: rest).filter DN.isEl)).Nodup) :
    ∃ (f : Meta → List DN → Edit) (v : Val), KeepsId f ∧ (∀ m bs, (f m bs).out = []) ∧
      (∀ m bs, (f m bs).blocks = bs ++ [attach m b] ∧ KeepsIdent m (f m bs).m ∧ (f m bs).m.sc = false) ∧
      World.appendBlock ⟨R ++ (b :: rest).filter DN.isEl, next, nd⟩ t (toBlk b) =
        some (⟨(updL t f R).1 ++ rest.filter DN.isEl, next, nd⟩, v) := by
  have hdis := (List.nodup_append.mp hnd).2.2
  have hmem : t ∈ idsL R := findL?_mem t R hf
  have hfind : findL? t (R ++ rest.filter DN.isEl) = some (m, bs) := findL?_append_some t R _ hf
  cases b with
  | text s =>
    have hnotL : t ∉ idsL (rest.filter DN.isEl) := fun hx => hdis t hmem t hx rfl
    refine ⟨locAppendText s, .str s, fun _ _ => rfl, fun _ _ => rfl,
      fun m bs => ⟨by rw [attach_text]; rfl, ⟨rfl, rfl, rfl, rfl, rfl⟩, rfl⟩, ?_⟩
    show World.appendBlock ⟨R ++ rest.filter DN.isEl, next, nd⟩ t (.txt s) = _
    simp only [World.appendBlock, World.appendText, World.apply, World.find?, hfind, Option.map_some, Option.getD_some]
    rw [(edit_append_step t _ (fun _ _ => rfl) (fun _ _ => rfl) R _ next nd hf hnotL).1]
  | el mc kc =>
    have hcR : mc.id ∉ idsL R := fun hx => hdis mc.id hx mc.id (by simp [List.filter, DN.isEl]) rfl
    have hnotL : t ∉ idsL (rest.filter DN.isEl) := fun hx => hdis t hmem t (by simp [List.filter, DN.isEl, hx]) rfl
    refine ⟨locAppendChild (.el mc kc), .el mc.id, fun _ _ => rfl, fun _ _ => rfl,
      fun m bs => ⟨rfl, ⟨rfl, rfl, rfl, rfl, rfl⟩, rfl⟩, ?_⟩
    show World.appendBlock ⟨R ++ DN.el mc kc :: rest.filter DN.isEl, next, nd⟩ t (.elm mc.id) = _
    simp only [World.appendBlock, World.appendChild, takeRoot_skip mc.id R (.el mc kc) (rest.filter DN.isEl) hcR rfl,
      World.apply, World.find?, hfind, Option.getD_some]
    rw [(edit_append_step t _ (fun _ _ => rfl) (fun _ _ => rfl) R _ next nd hf hnotL).1]

theorem appendLoop_spec (t : Nat) (l : List DN) :
    ∀ (R : List DN) (next nd : Nat) (m : Meta) (bs : List DN) (W' : World),
      findL? t R = some (m, bs) → Inv ⟨R ++ l.filter DN.isEl, next, nd⟩ →
      World.appendBlocksLoop ⟨R ++ l.filter DN.isEl, next, nd⟩ t (l.map toBlk) = some W' →
      ∃ m', outsideL t W'.roots = outsideL t R ∧ W'.roots.map DN.rid = R.map DN.rid ∧
        W'.find? t = some (m', bs ++ l.map (attach m)) ∧ KeepsIdent m m' ∧ m'.sc = (l.isEmpty && m.sc) := by
  induction l with
  | nil =>
    intro R next nd m bs W' hf _ h
    simp only [List.filter_nil, List.append_nil, List.map_nil, World.appendBlocksLoop, Option.some.injEq] at h
    subst h
    exact ⟨m, rfl, rfl, by simpa [World.find?] using hf, KeepsIdent.refl m, rfl⟩
  | cons b rest ih =>
    intro R next nd m bs W' hf hinv h
    obtain ⟨f, v, hid, hout, hspec, hstep⟩ :=
      appendBlock_fresh t b rest R next nd hf (by simpa only [idsL_append] using hinv.nodup)
    obtain ⟨hb, hk, hsc⟩ := hspec m bs
    simp only [List.map_cons, World.appendBlocksLoop, hstep] at h
    obtain ⟨m', h1, h2, h3, h4, h5⟩ := ih _ next nd _ _ W' (findL?_updL t f hid R hf) (appendBlock_Inv hinv hstep) h
    refine ⟨m', ?_, ?_, ?_, hk.trans h4, by rw [h5, hsc]; simp⟩
    · rw [h1]; exact outsideL_updL t f hid R
    · rw [h2]; exact (edit_frame R next nd t f hid hout).2.2
    · rw [h3, hb, List.map_congr_left (fun c _ => attach_congr hk.1 hk.2.2.2.2 c)]; simp

theorem appendLoop_frame (t : Nat) (l : List DN) :
    ∀ (R : List DN) (next nd : Nat) (m : Meta) (bs : List DN) (W' : World),
      findL? t R = some (m, bs) → Inv ⟨R ++ l.filter DN.isEl, next, nd⟩ →
      World.appendBlocksLoop ⟨R ++ l.filter DN.isEl, next, nd⟩ t (l.map toBlk) = some W' →
      ∃ m', outsideL t W'.roots = outsideL t R ∧ W'.roots.map DN.rid = R.map DN.rid ∧
        W'.find? t = some (m', bs ++ l.map (attach m)) ∧ KeepsIdent m m' := by
  intro R next nd m bs W' hf hinv h
  obtain ⟨m', h1, h2, h3, h4, _⟩ := appendLoop_spec t l R next nd m bs W' hf hinv h
  exact ⟨m', h1, h2, h3, h4⟩

/-- what `appendBlock` puts into the target `m` for a block: text as it is, an element attached -/
def attachBlk (m : Meta) : DN → DN
  | .text s => .text s
  | .el mc kc => attach m (.el mc kc)

theorem attachBlk_eq (m : Meta) : attachBlk m = attach m := by
  funext b; cases b <;> simp [attachBlk]

/-- the target's part of `appendLoop_spec`, with `attachBlk` (= `attach`, `attachBlk_eq`) as C20 writes it -/
theorem appendLoop_exact (t : Nat) (l : List DN) :
    ∀ (R : List DN) (next nd : Nat) (m : Meta) (bs : List DN) (W' : World),
      findL? t R = some (m, bs) → Inv ⟨R ++ l.filter DN.isEl, next, nd⟩ →
      World.appendBlocksLoop ⟨R ++ l.filter DN.isEl, next, nd⟩ t (l.map toBlk) = some W' →
      ∃ m', W'.find? t = some (m', bs ++ l.map (attachBlk m)) ∧ KeepsIdent m m' := by
  intro R next nd m bs W' hf hinv h
  obtain ⟨m', _, _, h3, h4, _⟩ := appendLoop_spec t l R next nd m bs W' hf hinv h
  exact ⟨m', by rw [attachBlk_eq]; exact h3, h4⟩

end AHP.Dom
