/-
  AHP.Lemmas.AttrStoresRender — the attribute part of `getStartTag` is the same string in the four models.

  Model (1) renders the listing (`renderAttrs a.view`, Model/Tree.lean); models (2) and (3) render the slots of
  the synchronised dict; model (4) renders its `items`.  The boolean-attribute table enters model (2) as a
  parameter (`BinaryOK`), models (1), (3), (4) read it from the generated tables.
-/
import AHP.Lemmas.AttrStoresSim
namespace AHP.AttrStores
open AHP

/-- `' ' + ' '.join(pieces)` or nothing -/
def attrsStr (ps : List Str) : Str := if ps.isEmpty then [] else ' ' :: joinWith [' '] ps

theorem renderAttrs_eq (as : List Attr) : renderAttrs as = attrsStr (as.map renderAttr) := by
  unfold renderAttrs attrsStr; rw [List.isEmpty_map]

theorem style_not_binary : binaryAttrs.contains kStyle = false := by decide +kernel

/-- models (2)–(4) write the test of `renderAttr` as "non-empty, or not a boolean attribute" -/
theorem ite_not_or_not {α : Type} (a b : Bool) (x y : α) :
    (if !a || !b then x else y) = if a && b then y else x := by
  cases a <;> cases b <;> rfl

/-- `TAG_ITEM_BINARY_ATTRIBUTES` as handed to model (2) is the generated table -/
def BinaryOK (T : Attrs.Tables) : Prop := ∀ k : Str, T.binary.contains k = binaryAttrs.contains k

theorem render_quoted {T : Attrs.Tables} (hT : BinaryOK T) (k x : Str) (v : Attrs.PyVal)
    (hn : v ≠ .none) (hs : v.tostrOpt = some x) (hf : (if v.falsy then ([] : Str) else x) = x) :
    (Attrs.renderItem T (k, v)).render = renderAttr (k, some x) := by
  rw [Attrs.renderItem_of_ne_none T k hn, hs, hT]
  simp only [Option.getD_some, hf, renderAttr, escQ_attrs]
  rw [ite_not_or_not]
  split <;> simp [Attrs.RItem.render]

theorem falsy_str (x : Str) : (if (Attrs.PyVal.str x).falsy then ([] : Str) else x) = x := by
  cases x <;> rfl

theorem renderItem_slot {T : Attrs.Tables} (hT : BinaryOK T) (e : Attrs.El) (k : Str) (s : Attrs.Slot) :
    (Attrs.renderItem T (k, Attrs.slotVal e s)).render = renderAttr (k, slotStr e.sty s) := by
  cases s with
  | val v =>
    cases v with
    | none => rfl
    | some x => exact render_quoted hT k x (.str x) (by simp) rfl (falsy_str x)
  | cls x => exact render_quoted hT k x (.str x) (by simp) rfl (falsy_str x)
  | sty => exact render_quoted hT k (Attrs.asStr e.sty) (.style (Attrs.asStr e.sty)) (by simp) rfl rfl

theorem startTagItems_render {T : Attrs.Tables} (hT : BinaryOK T) (e : Attrs.El) :
    (Attrs.startTagItems T e).1.map Attrs.RItem.render = (Attrs.attrsList e).1.map renderAttr := by
  rw [attrsList_eq_map]
  simp only [Attrs.startTagItems, Attrs.items, List.map_map]
  apply List.map_congr_left
  intro p _
  simp only [Function.comp]
  exact renderItem_slot hT (Attrs.handleClassAttr e) p.1 p.2

theorem renderStart_eq (tag : Str) (sc : Bool) (its : List Attrs.RItem) :
    Attrs.renderStart tag sc its
      = ('<' :: tag) ++ attrsStr (its.map Attrs.RItem.render) ++ (if sc then " />".toList else " >".toList) := by
  unfold Attrs.renderStart attrsStr
  rw [List.isEmpty_map]
  cases sc <;> simp

theorem startTag_toA {T : Attrs.Tables} (hT : BinaryOK T) (tag : Str) (sc : Bool) {st : AttrState} (h : Inv st) :
    (Attrs.startTag T (toA tag sc st)).1 = startTag tag st sc := by
  have e1 : (Attrs.startTag T (toA tag sc st)).1
      = Attrs.renderStart tag sc (Attrs.startTagItems T (toA tag sc st)).1 := rfl
  rw [e1, renderStart_eq, startTagItems_render hT, attrsList_toA tag sc h]
  unfold startTag startTagI
  rw [renderAttrs_eq]
  rfl

theorem attrPiece_eq (a : Pk.Attrs) (k : Str) (v : Pk.DVal) (hv : v = .style → k = kStyle) :
    Pk.Attrs.attrPiece a k v = renderAttr (k, dvalStr a.sty v) := by
  cases v with
  | none => rfl
  | str s =>
    simp only [Pk.Attrs.attrPiece, dvalStr, renderAttr, escQ_pk]
    rw [ite_not_or_not, pk_binary]
    split <;> simp [str]
  | style =>
    have hk := hv rfl
    subst hk
    simp only [Pk.Attrs.attrPiece, dvalStr, renderAttr, style_not_binary, escQ_pk, styleStr_pk]
    simp [str]

theorem conv_style_key {p : Str × Pk.DVal} {d : List (Str × Option Str)}
    (hp : p ∈ conv Pk.DVal.style Pk.DVal.ofOpt d) (hs : p.2 = .style) : p.1 = kStyle := by
  simp only [conv, List.mem_map] at hp
  obtain ⟨q, _, e⟩ := hp
  subst e
  by_cases hq : q.1 = kStyle
  · exact hq
  · simp only [hq, if_false] at hs
    cases hv : q.2 <;> rw [hv] at hs <;> cases hs

theorem handle_style_key {st : AttrState} (h : Inv st) {p : Str × Pk.DVal}
    (hp : p ∈ (Pk.Attrs.handle (toP st)).dict) (hs : p.2 = .style) : p.1 = kStyle := by
  rw [handle_toP h] at hp
  rcases mem_ensureKey hp with e | hp
  · rw [e]
  rcases mem_ensureKey hp with e | hp
  · rw [e] at hs; cases hs
  · exact conv_style_key hp hs

theorem pieces_toP {st : AttrState} (h : Inv st) : Pk.Attrs.pieces (toP st) = st.view.map renderAttr := by
  rw [← attrsList_toP h]
  unfold Pk.Attrs.pieces Pk.Attrs.attrsList
  rw [List.map_map]
  apply List.map_congr_left
  intro p hp
  simp only [Function.comp, render_eq]
  exact attrPiece_eq (toP st) p.1 p.2 (handle_style_key h hp)

theorem startTag_toP (name : Str) (sc : Bool) {st : AttrState} (h : Inv st) :
    Pk.Attrs.startTag name (toP st) sc = startTag name st sc := by
  unfold Pk.Attrs.startTag startTag startTagI
  rw [renderAttrs_eq, pieces_toP h]
  cases sc <;> simp [attrsStr, str]

theorem renderAttr_fmt (p : Attr) : Fmt.renderAttr p = renderAttr p := by
  obtain ⟨k, v⟩ := p
  cases v with
  | none => rfl
  | some s =>
    simp only [Fmt.renderAttr, renderAttr, fmt_binary, escQ_fmt]
    rw [ite_not_or_not]
    split <;> simp [str]

theorem attrString_eq (a : Fmt.AStore) : Fmt.attrString a = renderAttrs a.items := by
  unfold Fmt.attrString
  rw [renderAttrs_eq]
  have : a.items.map Fmt.renderAttr = a.items.map renderAttr :=
    List.map_congr_left (fun p _ => renderAttr_fmt p)
  simp only [this, attrsStr]

theorem startTag_toF (name indent : Str) (sc : Bool) {st : AttrState} (h : Inv st) :
    Fmt.startTagNormal name (toF st) sc indent = startTagI indent name st sc := by
  unfold Fmt.startTagNormal startTagI
  rw [attrString_eq, items_toF h]
  cases sc <;> simp [str]

end AHP.AttrStores
