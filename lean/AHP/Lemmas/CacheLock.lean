/-
  AHP.Lemmas.CacheLock — the lock level of C15c, one thread: the small-step critical sections of `Model/Cache.lean`
  (`bodyStep`/`lstep`: the equations of one step, its four kinds `StepKind`, when it is enabled — also on the
  one-step machine: `lstepA_isSome`), uninterrupted runs of one thread (`Runs`), what a whole section computes
  (`get_section_runs`, `set_section_runs`; `section_inv`: run alone from a cache in order it leaves the cache in
  order), and that from every program point inside a section the thread's own statements reach a return with the
  lock released (`Exits`, `exits_of_holds`).
-/
import AHP.Lemmas.Cache
namespace AHP.Cache

variable {K V : Type}

theorem Pc.not_done_of_holds {pc : Pc K V} (h : pc.holds = true) : pc.isDone = false := by
  cases pc <;> first | rfl | cases h

theorem Pc.holds_of_isRelease {pc : Pc K V} (h : pc.isRelease = true) : pc.holds = true := by
  cases pc <;> first | rfl | cases h

theorem Pc.afterRelease_isDone {pc : Pc K V} (h : pc.isRelease = true) : pc.afterRelease.isDone = true := by
  cases pc <;> first | rfl | cases h

theorem Pc.afterAcquire_holds {pc : Pc K V} (h1 : pc.holds = false) (h2 : pc.isDone = false) :
    pc.afterAcquire.holds = true := by
  cases pc <;> first | rfl | cases h2

theorem Pc.not_holds_of_isDone {pc : Pc K V} (h : pc.isDone = true) : pc.holds = false := by
  cases pc <;> first | rfl | cases h

variable [DecidableEq K]

theorem bodyStep_holds (MAX CLEAR : Nat) (c : State K V) {pc : Pc K V} (h : pc.holds = true)
    (hr : pc.isRelease = false) : (bodyStep MAX CLEAR c pc).2.holds = true := by
  cases pc with
  | getLookup k => simp only [bodyStep]; split <;> rfl
  | getRemove k v => simp only [bodyStep]; split <;> rfl
  | getAppend k v => rfl
  | setRemove k v f =>
    simp only [bodyStep]
    split
    · rfl
    · split <;> rfl
  | setStore k v => rfl
  | setAppend k => rfl
  | setCheck => simp only [bodyStep]; split <;> rfl
  | setDel ks => cases ks <;> rfl
  | setSlice => rfl
  | getRelease r => simp [Pc.isRelease] at hr
  | setRelease => simp [Pc.isRelease] at hr
  | setFail => simp [Pc.isRelease] at hr
  | getAcquire k => simp [Pc.holds] at h
  | setAcquire k v f => simp [Pc.holds] at h
  | done r x => simp [Pc.holds] at h

theorem lstep_body (MAX CLEAR : Nat) {sh : Shared K V} {pc : Pc K V} (hh : pc.holds = true) (hr : pc.isRelease = false)
    (hheld : sh.held = true) :
    lstep MAX CLEAR sh pc =
      some ({ sh with cache := (bodyStep MAX CLEAR sh.cache pc).1 }, (bodyStep MAX CLEAR sh.cache pc).2) := by
  unfold lstep lstepG
  simp [Pc.not_done_of_holds hh, hh, hheld, hr]

theorem lstep_release (MAX CLEAR : Nat) {sh : Shared K V} {pc : Pc K V} (hr : pc.isRelease = true) (hheld : sh.held = true) :
    lstep MAX CLEAR sh pc = some ({ sh with held := false }, pc.afterRelease) := by
  unfold lstep lstepG
  simp [Pc.not_done_of_holds (Pc.holds_of_isRelease hr), Pc.holds_of_isRelease hr, hheld, hr]

theorem lstep_acquire (MAX CLEAR : Nat) {sh : Shared K V} {pc : Pc K V} (hh : pc.holds = false) (hd : pc.isDone = false)
    (hfree : sh.held = false) :
    lstep MAX CLEAR sh pc = some ({ sh with held := true }, pc.afterAcquire) := by
  unfold lstep lstepG
  simp [hd, hh, hfree]

/-- The kinds of a step `lstep sh pc = some (sh', pc')`; the last field of `acquire`, `body`, `release` follows from
    the others. -/
inductive StepKind (MAX CLEAR : Nat) (sh : Shared K V) (pc : Pc K V) (sh' : Shared K V) (pc' : Pc K V) : Prop where
  | idle (hd : pc.isDone = true) (hs : sh' = sh) (hp : pc' = pc)
  | acquire (hh : pc.holds = false) (hd : pc.isDone = false) (hfree : sh.held = false)
      (hs : sh' = { sh with held := true }) (hp : pc' = pc.afterAcquire) (hh' : pc'.holds = true)
  | body (hh : pc.holds = true) (hr : pc.isRelease = false) (hheld : sh.held = true)
      (hs : sh' = { sh with cache := (bodyStep MAX CLEAR sh.cache pc).1 })
      (hp : pc' = (bodyStep MAX CLEAR sh.cache pc).2) (hh' : pc'.holds = true)
  | release (hr : pc.isRelease = true) (hheld : sh.held = true)
      (hs : sh' = { sh with held := false }) (hp : pc' = pc.afterRelease) (hd' : pc'.isDone = true)

theorem lstep_kind {MAX CLEAR : Nat} {sh sh' : Shared K V} {pc pc' : Pc K V}
    (h : lstep MAX CLEAR sh pc = some (sh', pc')) : StepKind MAX CLEAR sh pc sh' pc' := by
  unfold lstep lstepG at h
  by_cases hd : pc.isDone = true
  · simp only [hd, ite_true, Option.some.injEq, Prod.mk.injEq] at h
    exact .idle hd h.1.symm h.2.symm
  · have hd' : pc.isDone = false := by simpa using hd
    simp only [hd', Bool.false_eq_true, ite_false] at h
    by_cases hh : pc.holds = true
    · simp only [hh, ite_true] at h
      cases hheld : sh.held with
      | false => simp [hheld] at h
      | true =>
        have e : (true && !sh.held) = false := by rw [hheld]; rfl
        simp only [e, Bool.false_eq_true, ite_false] at h
        by_cases hr : pc.isRelease = true
        · simp only [hr, ite_true, Option.some.injEq, Prod.mk.injEq] at h
          exact .release hr hheld h.1.symm h.2.symm (h.2 ▸ Pc.afterRelease_isDone hr)
        · have hr' : pc.isRelease = false := by simpa using hr
          simp only [hr', Bool.false_eq_true, ite_false, Option.some.injEq, Prod.mk.injEq] at h
          exact .body hh hr' hheld h.1.symm h.2.symm (h.2 ▸ bodyStep_holds MAX CLEAR sh.cache hh hr')
    · have hh' : pc.holds = false := by simpa using hh
      simp only [hh', Bool.false_eq_true, ite_false] at h
      cases hheld : sh.held with
      | true => simp [hheld] at h
      | false =>
        simp only [hheld, Bool.and_false, Bool.false_eq_true, ite_false, Option.some.injEq, Prod.mk.injEq] at h
        exact .acquire hh' hd' hheld h.1.symm h.2.symm (h.2 ▸ Pc.afterAcquire_holds hh' hd')

theorem StepKind.released_or_inside {MAX CLEAR : Nat} {sh sh' : Shared K V} {pc pc' : Pc K V}
    (hk : StepKind MAX CLEAR sh pc sh' pc') (hnd : pc.isDone = false) :
    (pc.isRelease = true ∧ pc'.isDone = true ∧ sh'.held = false) ∨
    (pc.isRelease = false ∧ pc'.holds = true ∧ sh'.held = true) := by
  cases hk with
  | idle hd => rw [hd] at hnd; cases hnd
  | acquire hh _ _ hs _ hh' =>
    refine Or.inr ⟨?_, hh', by rw [hs]⟩
    cases hx : pc.isRelease with
    | false => rfl
    | true => rw [Pc.holds_of_isRelease hx] at hh; cases hh
  | body _ hr hheld hs _ hh' => exact Or.inr ⟨hr, hh', by rw [hs]; exact hheld⟩
  | release hr _ hs _ hd' => exact Or.inl ⟨hr, hd', by rw [hs]⟩

theorem lstep_isSome (MAX CLEAR : Nat) (sh : Shared K V) (pc : Pc K V) :
    (lstep MAX CLEAR sh pc).isSome = (pc.isDone || pc.holds == sh.held) := by
  unfold lstep lstepG
  cases pc.isDone <;> cases pc.holds <;> cases sh.held <;> cases pc.isRelease <;> rfl

theorem lstep_blocked (MAX CLEAR : Nat) {sh : Shared K V} {pc : Pc K V} (hh : pc.holds = false)
    (hd : pc.isDone = false) (hheld : sh.held = true) : lstep MAX CLEAR sh pc = none :=
  Option.not_isSome_iff_eq_none.mp (by rw [lstep_isSome, hd, hh, hheld]; decide)

theorem lstepA_isSome (MAX CLEAR : Nat) (sh : Shared K V) (pc : PcA K V) :
    (lstepA MAX CLEAR sh pc).isSome = (pc.isDone || pc.holds || !sh.held) := by
  obtain ⟨held, c⟩ := sh
  cases pc with
  | setBody k v f => cases f <;> rfl
  | getAcquire k | setAcquire k v f => cases held <;> rfl
  | _ => rfl

/-- The thread at `pc` takes zero or more consecutive steps, nobody else in between. -/
inductive Runs (MAX CLEAR : Nat) : Shared K V → Pc K V → Shared K V → Pc K V → Prop where
  | refl (sh : Shared K V) (pc : Pc K V) : Runs MAX CLEAR sh pc sh pc
  | step {sh sh1 sh2 : Shared K V} {pc pc1 pc2 : Pc K V} :
      lstep MAX CLEAR sh pc = some (sh1, pc1) → Runs MAX CLEAR sh1 pc1 sh2 pc2 → Runs MAX CLEAR sh pc sh2 pc2

theorem Runs.trans {MAX CLEAR : Nat} {sh sh1 sh2 : Shared K V} {pc pc1 pc2 : Pc K V}
    (h1 : Runs MAX CLEAR sh pc sh1 pc1) (h2 : Runs MAX CLEAR sh1 pc1 sh2 pc2) : Runs MAX CLEAR sh pc sh2 pc2 := by
  induction h1 with
  | refl => exact h2
  | step hs _ ih => exact .step hs (ih h2)

theorem Runs.single {MAX CLEAR : Nat} {sh sh1 : Shared K V} {pc pc1 : Pc K V}
    (h : lstep MAX CLEAR sh pc = some (sh1, pc1)) : Runs MAX CLEAR sh pc sh1 pc1 := .step h (.refl _ _)

theorem runs_iff_lsteps {MAX CLEAR : Nat} {sh sh' : Shared K V} {pc pc' : Pc K V} :
    Runs MAX CLEAR sh pc sh' pc' ↔ ∃ n, lsteps MAX CLEAR n sh pc = some (sh', pc') := by
  constructor
  · intro h
    induction h with
    | refl => exact ⟨0, rfl⟩
    | step hs _ ih =>
      obtain ⟨n, hn⟩ := ih
      exact ⟨n + 1, by simp only [lsteps, hs, hn]⟩
  · rintro ⟨n, hn⟩
    induction n generalizing sh pc with
    | zero =>
      simp only [lsteps, Option.some.injEq, Prod.mk.injEq] at hn
      obtain ⟨rfl, rfl⟩ := hn
      exact .refl _ _
    | succ n ih =>
      simp only [lsteps] at hn
      cases hs : lstep MAX CLEAR sh pc with
      | none => simp [hs] at hn
      | some q =>
        obtain ⟨sh1, pc1⟩ := q
        simp only [hs] at hn
        exact .step hs (ih hn)

/-- The machine is deterministic: a run that ends in a returned thread passes through the thread's
    next step. -/
theorem Runs.after_step {MAX CLEAR : Nat} {sh sh1 sh2 : Shared K V} {pc pc1 pc2 : Pc K V}
    (h : Runs MAX CLEAR sh pc sh2 pc2) (hd2 : pc2.isDone = true) (hd : pc.isDone = false)
    (hs : lstep MAX CLEAR sh pc = some (sh1, pc1)) : Runs MAX CLEAR sh1 pc1 sh2 pc2 := by
  cases h with
  | refl => rw [hd] at hd2; cases hd2
  | step hs' h' =>
    rw [hs] at hs'
    simp only [Option.some.injEq, Prod.mk.injEq] at hs'
    obtain ⟨rfl, rfl⟩ := hs'
    exact h'

theorem Runs.of_done {MAX CLEAR : Nat} {sh sh2 : Shared K V} {pc pc2 : Pc K V}
    (h : Runs MAX CLEAR sh pc sh2 pc2) (hd : pc.isDone = true) : sh2 = sh ∧ pc2 = pc := by
  induction h with
  | refl => exact ⟨rfl, rfl⟩
  | step hs _ ih =>
    cases lstep_kind hs with
    | idle _ h1 h2 => subst h1; subst h2; exact ih hd
    | acquire _ hd' => rw [hd] at hd'; cases hd'
    | body hh => rw [Pc.not_holds_of_isDone hd] at hh; cases hh
    | release hr =>
      have := Pc.holds_of_isRelease hr
      rw [Pc.not_holds_of_isDone hd] at this; cases this

section Sections
variable (MAX CLEAR : Nat)

variable {MAX CLEAR} in
theorem Runs.body {c c1 : State K V} {pc pc1 pc2 : Pc K V} {sh2 : Shared K V} (hh : pc.holds = true)
    (hr : pc.isRelease = false) (hb : bodyStep MAX CLEAR c pc = (c1, pc1)) (h : Runs MAX CLEAR ⟨true, c1⟩ pc1 sh2 pc2) :
    Runs MAX CLEAR ⟨true, c⟩ pc sh2 pc2 :=
  .step (by rw [lstep_body MAX CLEAR hh hr rfl, hb]) h

/-- A `while True: try: remove(key) except ValueError: break` loop, statement by statement, at any program point
    `pc` that erases one occurrence and stays, or finds none and goes to `next`: every occurrence is removed. -/
theorem runs_removeLoop (m : List (K × V)) (k : K) (pc next : Pc K V) (hh : pc.holds = true) (hr : pc.isRelease = false)
    (hb : ∀ l, bodyStep MAX CLEAR ⟨m, l⟩ pc = if k ∈ l then (⟨m, l.erase k⟩, pc) else (⟨m, l⟩, next)) :
    ∀ (fuel : Nat) (l : List K), l.length ≤ fuel →
      Runs MAX CLEAR ⟨true, ⟨m, l⟩⟩ pc ⟨true, ⟨m, removeLoop fuel k l⟩⟩ next := by
  intro fuel
  induction fuel with
  | zero =>
    intro l hl
    cases List.length_eq_zero_iff.mp (Nat.le_zero.mp hl)
    exact .body hh hr (hb []) (.refl _ _)
  | succ f ih =>
    intro l hl
    unfold removeLoop
    by_cases hm : k ∈ l
    · rw [if_pos hm]
      refine .body hh hr ((hb l).trans (if_pos hm)) (ih _ ?_)
      rw [List.length_erase_of_mem hm]; omega
    · rw [if_neg hm]
      exact .body hh hr ((hb l).trans (if_neg hm)) (.refl _ _)

theorem runs_getRemove (m : List (K × V)) (k : K) (v : V) :
    ∀ (fuel : Nat) (l : List K), l.length ≤ fuel →
      Runs MAX CLEAR ⟨true, ⟨m, l⟩⟩ (.getRemove k v) ⟨true, ⟨m, removeLoop fuel k l⟩⟩ (.getAppend k v) :=
  runs_removeLoop MAX CLEAR m k _ _ rfl rfl (fun _ => rfl)

theorem runs_setRemove (m : List (K × V)) (k : K) (v : V) :
    ∀ (fuel : Nat) (l : List K), l.length ≤ fuel →
      Runs MAX CLEAR ⟨true, ⟨m, l⟩⟩ (.setRemove k v false) ⟨true, ⟨m, removeLoop fuel k l⟩⟩ (.setStore k v) :=
  runs_removeLoop MAX CLEAR m k _ _ rfl rfl (fun _ => rfl)

/-- The `for keyToRemove in keysToRemove: try: del … except: pass` loop, statement by statement. -/
theorem runs_setDel (r : List K) : ∀ (ks : List K) (m : List (K × V)),
    Runs MAX CLEAR ⟨true, ⟨m, r⟩⟩ (.setDel ks) ⟨true, ⟨ks.foldl dictDel m, r⟩⟩ .setSlice := by
  intro ks
  induction ks with
  | nil => intro m; exact .body rfl rfl rfl (.refl _ _)
  | cons x ks ih => intro m; exact .body rfl rfl rfl (ih _)

/-- `getCachedExpression` from `acquire` to its return, alone: the cache becomes `(get c k).1`, the
    method returns `(get c k).2`, the lock is free again. -/
theorem get_section_runs (c : State K V) (k : K) :
    Runs MAX CLEAR ⟨false, c⟩ (.getAcquire k) ⟨false, (get c k).1⟩ (.done (get c k).2 false) := by
  refine .step (lstep_acquire MAX CLEAR rfl rfl rfl) ?_
  show Runs MAX CLEAR ⟨true, c⟩ (.getLookup k) _ _
  cases hg : dictGet c.map k with
  | none =>
    rw [get_of_miss hg]
    exact .body (c1 := c) (pc1 := .getRelease none) rfl rfl (by simp only [bodyStep, hg])
      (.single (lstep_release MAX CLEAR rfl rfl))
  | some v =>
    rw [get_of_hit hg]
    refine .body (c1 := c) (pc1 := .getRemove k v) rfl rfl (by simp only [bodyStep, hg])
      ((runs_getRemove MAX CLEAR c.map k v _ c.recent (Nat.le_refl _)).trans ?_)
    exact .body rfl rfl rfl (.single (lstep_release MAX CLEAR rfl rfl))

/-- `setCachedExpression` from `acquire` to its return, alone: the cache becomes `set MAX CLEAR c k v`. -/
theorem set_section_runs (c : State K V) (k : K) (v : V) :
    Runs MAX CLEAR ⟨false, c⟩ (.setAcquire k v false) ⟨false, set MAX CLEAR c k v⟩ (.done none false) := by
  refine .step (lstep_acquire MAX CLEAR rfl rfl rfl) ?_
  show Runs MAX CLEAR ⟨true, c⟩ (.setRemove k v false) _ _
  refine (runs_setRemove MAX CLEAR c.map k v _ c.recent (Nat.le_refl _)).trans ?_
  refine .body rfl rfl rfl (.body rfl rfl rfl ?_)
  show Runs MAX CLEAR ⟨true, ⟨dictSet c.map k v, removeAll k c.recent ++ [k]⟩⟩ .setCheck _ _
  unfold set
  simp only
  generalize removeAll k c.recent ++ [k] = r1
  generalize dictSet c.map k v = m1
  by_cases hgt : r1.length > MAX
  · simp only [hgt, ite_true]
    refine .body (c1 := ⟨m1, r1⟩) (pc1 := .setDel (sliceTo r1 ((r1.length : Int) - ((MAX : Int) - (CLEAR : Int))))) rfl rfl
      (by simp only [bodyStep, hgt, ite_true])
      ((runs_setDel MAX CLEAR r1 _ m1).trans ?_)
    exact .body rfl rfl rfl (.single (lstep_release MAX CLEAR rfl rfl))
  · simp only [hgt, ite_false]
    exact .body (c1 := ⟨m1, r1⟩) (pc1 := .setRelease) rfl rfl (by simp only [bodyStep, hgt, ite_false])
      (.single (lstep_release MAX CLEAR rfl rfl))

theorem section_inv (hb : CLEAR < MAX) {pc : Pc K V} (hh : pc.holds = false) (hd : pc.isDone = false)
    {c : State K V} (hi : Inv MAX c) : ∃ c' r x, Inv MAX c' ∧ Runs MAX CLEAR ⟨false, c⟩ pc ⟨false, c'⟩ (.done r x) := by
  cases pc with
  | getAcquire k => exact ⟨_, _, _, get_inv hi k, get_section_runs MAX CLEAR c k⟩
  | setAcquire k v f =>
    cases f
    · exact ⟨_, _, _, set_inv hb hi k v, set_section_runs MAX CLEAR c k v⟩
    · -- the exception path: `acquire`, the failing statement, `release`; the cache as it was
      exact ⟨c, none, true, hi, runs_iff_lsteps.mpr ⟨3, rfl⟩⟩
  | done r x => cases hd
  | _ => cases hh

/-- The own statements of the thread at `pc`, on data `c` and a held lock, reach a return with the lock free. -/
def Exits (c : State K V) (pc : Pc K V) : Prop :=
  ∃ c' r x, Runs MAX CLEAR ⟨true, c⟩ pc ⟨false, c'⟩ (.done r x)

variable {MAX CLEAR} in
theorem Exits.of_runs {c c1 : State K V} {pc pc1 : Pc K V}
    (h1 : Runs MAX CLEAR ⟨true, c⟩ pc ⟨true, c1⟩ pc1) (h2 : Exits MAX CLEAR c1 pc1) : Exits MAX CLEAR c pc := by
  obtain ⟨c', r, x, h⟩ := h2
  exact ⟨c', r, x, h1.trans h⟩

variable {MAX CLEAR} in
theorem Exits.body {c c1 : State K V} {pc pc1 : Pc K V} (hh : pc.holds = true) (hr : pc.isRelease = false)
    (hb : bodyStep MAX CLEAR c pc = (c1, pc1)) (h2 : Exits MAX CLEAR c1 pc1) : Exits MAX CLEAR c pc :=
  .of_runs (.body hh hr hb (.refl _ _)) h2

theorem exits_release (c : State K V) {pc : Pc K V} (hr : pc.isRelease = true) : Exits MAX CLEAR c pc := by
  have h := lstep_release MAX CLEAR (sh := ⟨true, c⟩) hr rfl
  have hd := Pc.afterRelease_isDone hr
  cases hp : pc.afterRelease with
  | done r x => rw [hp] at h; exact ⟨c, r, x, .single h⟩
  | _ => rw [hp] at hd; cases hd

/-- Every program point inside a section, every state of the shared data: the thread's own statements
    (never blocked while it holds the lock) lead to a return with the lock released.  Backwards along each method:
    a statement exits because the statement(s) it can continue with do, the two loops by `runs_removeLoop`/`runs_setDel`. -/
theorem exits_of_holds (c : State K V) {pc : Pc K V} (hh : pc.holds = true) : Exits MAX CLEAR c pc := by
  have rel : ∀ (c : State K V) {pc : Pc K V}, pc.isRelease = true → Exits MAX CLEAR c pc := exits_release MAX CLEAR
  have getAppend : ∀ (c : State K V) k v, Exits MAX CLEAR c (.getAppend k v) := fun c k v =>
    .body rfl rfl rfl (rel _ (pc := .getRelease (some v)) rfl)
  have getRemove : ∀ (c : State K V) k v, Exits MAX CLEAR c (.getRemove k v) := fun c k v =>
    .of_runs (runs_getRemove MAX CLEAR c.map k v _ c.recent (Nat.le_refl _)) (getAppend _ k v)
  have setSlice : ∀ c : State K V, Exits MAX CLEAR c .setSlice := fun c =>
    .body rfl rfl rfl (rel _ (pc := .setRelease) rfl)
  have setDel : ∀ (c : State K V) ks, Exits MAX CLEAR c (.setDel ks) := fun c ks =>
    .of_runs (runs_setDel MAX CLEAR c.recent ks c.map) (setSlice _)
  have setCheck : ∀ c : State K V, Exits MAX CLEAR c .setCheck := fun c => by
    by_cases hgt : c.recent.length > MAX
    · exact .body (c1 := c) (pc1 := .setDel (sliceTo c.recent ((c.recent.length : Int) - ((MAX : Int) - (CLEAR : Int)))))
        rfl rfl (by simp only [bodyStep, hgt, ite_true]) (setDel c _)
    · exact .body (c1 := c) (pc1 := .setRelease) rfl rfl (by simp only [bodyStep, hgt, ite_false]) (rel c rfl)
  have setStore : ∀ (c : State K V) k v, Exits MAX CLEAR c (.setStore k v) := fun c k v =>
    .body rfl rfl rfl (.body (pc := .setAppend k) rfl rfl rfl (setCheck _))
  cases pc with
  | getLookup k =>
    cases hg : dictGet c.map k with
    | none => exact .body (c1 := c) (pc1 := .getRelease none) rfl rfl (by simp only [bodyStep, hg]) (rel c rfl)
    | some v => exact .body (c1 := c) rfl rfl (by simp only [bodyStep, hg]) (getRemove c k v)
  | getRemove k v => exact getRemove c k v
  | getAppend k v => exact getAppend c k v
  | setRemove k v f =>
    cases f with
    | true => exact .body rfl rfl rfl (rel c (pc := .setFail) rfl)
    | false =>
      exact .of_runs (runs_setRemove MAX CLEAR c.map k v _ c.recent (Nat.le_refl _)) (setStore _ k v)
  | setStore k v => exact setStore c k v
  | setAppend k => exact .body rfl rfl rfl (setCheck _)
  | setCheck => exact setCheck c
  | setDel ks => exact setDel c ks
  | setSlice => exact setSlice c
  | getRelease r => exact rel c rfl
  | setRelease => exact rel c rfl
  | setFail => exact rel c rfl
  | getAcquire k => cases hh
  | setAcquire k v f => cases hh
  | done r x => cases hh

end Sections

end AHP.Cache
