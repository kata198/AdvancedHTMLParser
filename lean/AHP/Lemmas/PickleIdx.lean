/-
  AHP.Lemmas.PickleIdx — "working indexes" after unpickling an `IndexedAdvancedHTMLParser`:
  if the original's index is the index of its document (`indexDoc`), then the index the copy gets through the
  pickle memo (`Index.remap`) is the index of the copy's document.
-/
import AHP.Lemmas.Pickle
namespace AHP.Pk
open AHP

/-- What `_indexTag` looks at.  `indexOne` (Model/Pickle.lean) is re-cut into five steps over this record, one per map
    of the index: a step does not see the tree, only the object id changes from the original to the copy (`renum`), and
    sending references through a map (`Index.mapRefs`) commutes with each step separately. -/
structure Info where
  oid : Nat
  plain : Str → Option Str      -- `getAttribute(k)` for a plain key
  cls : List Str
  tag : Str

def stepId (i : Info) (ix : Index) : Index :=
  if ix.ids then
    (match i.plain (str "id") with
     | some v => if v.isEmpty then ix else { ix with idMap := dset v i.oid ix.idMap }
     | .none => ix) else ix

def stepName (i : Info) (ix : Index) : Index :=
  if ix.names then
    (match i.plain (str "name") with
     | some v => if v.isEmpty then ix else { ix with nameMap := dappend v i.oid ix.nameMap }
     | .none => ix) else ix

def stepCls (i : Info) (ix : Index) : Index :=
  if ix.classes then { ix with classMap := i.cls.foldl (fun m c => dappend c i.oid m) ix.classMap } else ix

def stepTag (i : Info) (ix : Index) : Index :=
  if ix.tags then { ix with tagMap := dappend i.tag i.oid ix.tagMap } else ix

def stepAttr (i : Info) (ix : Index) : Index :=
  { ix with attrMaps := ix.attrMaps.map (fun p =>
      match i.plain p.1 with
      | some v => (p.1, dappend v i.oid p.2)
      | .none => p) }

def indexInfo (ix : Index) (i : Info) : Index := stepAttr i (stepTag i (stepCls i (stepName i (stepId i ix))))

mutual
def infos : DN → List Info
  | .text _ => []
  | .el o _ n a _ blocks _ _ _ _ => ⟨o, Attrs.getIdx a, a.cls, n⟩ :: infosL blocks
def infosL : List DN → List Info
  | [] => []
  | b :: bs => infos b ++ infosL bs
end

theorem fold_elemsL (bs : List DN) (ix : Index) : (DN.elemsL bs).foldl indexOne ix = (infosL bs).foldl indexInfo ix := by
  induction bs using DN.forest_induct generalizing ix with
  | nil => rfl
  | text s bs ih => simp only [DN.elemsL, DN.elems, infosL, infos, List.nil_append, ih]
  | el o u n a sc blocks ch tx p ow bs ihb ih =>
    -- by `rfl`: `indexInfo` composes the five steps in the order of the `let`s of `indexOne` (Model/Pickle.lean)
    have : indexOne ix (.el o u n a sc blocks ch tx p ow) = indexInfo ix ⟨o, Attrs.getIdx a, a.cls, n⟩ := rfl
    simp only [DN.elemsL, DN.elems, infosL, infos, List.foldl_append, List.foldl_cons, this, ihb, ih]
theorem fold_elems (t : DN) (ix : Index) : (DN.elems t).foldl indexOne ix = (infos t).foldl indexInfo ix := by
  simpa only [DN.elemsL, infosL, List.append_nil] using fold_elemsL [t] ix

/-! ### `remap` commutes with one indexing step -/

section
variable (f : Nat → Nat)

def mapRefs (m : List (Str × List Nat)) : List (Str × List Nat) := m.map (fun p => (p.1, p.2.map f))

theorem dappend_map (k : Str) (o : Nat) (m : List (Str × List Nat)) :
    mapRefs f (dappend k o m) = dappend k (f o) (mapRefs f m) := by
  unfold dappend mapRefs
  rw [dget_lookup k (m.map _), Dict.lookup_map (fun _ => List.map f), ← dget_lookup]
  cases dget k m with
  | none => simp only [Option.map_none]; rw [dset_map (List.map f)]; rfl
  | some l => simp only [Option.map_some]; rw [dset_map (List.map f)]; simp

theorem foldl_dappend_map (cls : List Str) (o : Nat) (m : List (Str × List Nat)) :
    mapRefs f (cls.foldl (fun m c => dappend c o m) m) = cls.foldl (fun m c => dappend c (f o) m) (mapRefs f m) := by
  induction cls generalizing m with
  | nil => rfl
  | cons c cs ih => simp only [List.foldl_cons]; rw [ih, dappend_map]

/-- the model's `Index.remap m` with any `f` in the place of `remap m` -/
def Index.mapRefs (ix : Index) : Index :=
  { ix with idMap := ix.idMap.map (fun p => (p.1, f p.2)),
            nameMap := Pk.mapRefs f ix.nameMap, classMap := Pk.mapRefs f ix.classMap, tagMap := Pk.mapRefs f ix.tagMap,
            attrMaps := ix.attrMaps.map (fun q => (q.1, Pk.mapRefs f q.2)) }

theorem remap_eq_mapRefs (m : List (Nat × Nat)) (ix : Index) : Index.remap m ix = Index.mapRefs (remap m) ix := rfl

def withOid (i : Info) : Info := { i with oid := f i.oid }

theorem stepId_mapRefs (i : Info) (ix : Index) : Index.mapRefs f (stepId i ix) = stepId (withOid f i) (Index.mapRefs f ix) := by
  unfold stepId withOid
  cases h0 : ix.ids
  · simp [Index.mapRefs, h0]
  · cases h1 : i.plain (str "id") with
    | none => simp [Index.mapRefs, h0, h1]
    | some v =>
      by_cases h2 : v.isEmpty
      · simp [Index.mapRefs, h0, h1, h2]
      · simp [Index.mapRefs, h0, h1, h2, dset_map]

theorem stepName_mapRefs (i : Info) (ix : Index) : Index.mapRefs f (stepName i ix) = stepName (withOid f i) (Index.mapRefs f ix) := by
  unfold stepName withOid
  cases h0 : ix.names
  · simp [Index.mapRefs, h0]
  · cases h1 : i.plain (str "name") with
    | none => simp [Index.mapRefs, h0, h1]
    | some v =>
      by_cases h2 : v.isEmpty
      · simp [Index.mapRefs, h0, h1, h2]
      · simp [Index.mapRefs, h0, h1, h2, dappend_map]

theorem stepCls_mapRefs (i : Info) (ix : Index) : Index.mapRefs f (stepCls i ix) = stepCls (withOid f i) (Index.mapRefs f ix) := by
  unfold stepCls withOid
  cases h0 : ix.classes
  · simp [Index.mapRefs, h0]
  · simp [Index.mapRefs, h0, foldl_dappend_map]

theorem stepTag_mapRefs (i : Info) (ix : Index) : Index.mapRefs f (stepTag i ix) = stepTag (withOid f i) (Index.mapRefs f ix) := by
  unfold stepTag withOid
  cases h0 : ix.tags
  · simp [Index.mapRefs, h0]
  · simp [Index.mapRefs, h0, dappend_map]

theorem stepAttr_mapRefs (i : Info) (ix : Index) : Index.mapRefs f (stepAttr i ix) = stepAttr (withOid f i) (Index.mapRefs f ix) := by
  unfold stepAttr withOid
  simp only [Index.mapRefs, List.map_map, Index.mk.injEq, true_and]
  apply List.map_congr_left
  intro q _
  simp only [Function.comp]
  cases i.plain q.1 <;> simp [dappend_map]

theorem indexInfo_mapRefs (ix : Index) (i : Info) :
    Index.mapRefs f (indexInfo ix i) = indexInfo (Index.mapRefs f ix) (withOid f i) := by
  unfold indexInfo
  rw [stepAttr_mapRefs, stepTag_mapRefs, stepCls_mapRefs, stepName_mapRefs, stepId_mapRefs]

theorem fold_mapRefs (l : List Info) (ix : Index) :
    Index.mapRefs f (l.foldl indexInfo ix) = (l.map (withOid f)).foldl indexInfo (Index.mapRefs f ix) := by
  induction l generalizing ix with
  | nil => rfl
  | cons i is ih => simp only [List.foldl_cons, List.map_cons]; rw [ih, indexInfo_mapRefs]

end

/-! ### the copy's elements are the original's, renumbered -/

def renum : Nat → List Info → List Info
  | _, [] => []
  | s, i :: is => { i with oid := s } :: renum (s + 1) is

theorem renum_append (s : Nat) (l1 l2 : List Info) : renum s (l1 ++ l2) = renum s l1 ++ renum (s + l1.length) l2 := by
  induction l1 generalizing s with
  | nil => simp [renum]
  | cons i is ih =>
    simp only [List.cons_append, renum, List.length_cons]
    rw [ih]
    have : s + 1 + is.length = s + (is.length + 1) := by omega
    rw [this]

theorem length_infosL (bs : List DN) : (infosL bs).length = DN.sizeL bs := by
  induction bs using DN.forest_induct with
  | nil => rfl
  | text s bs ih => simp only [infosL, infos, DN.sizeL, DN.size, List.nil_append, ih, Nat.zero_add]
  | el o u n a sc blocks ch tx p ow bs ihb ih =>
    simp only [infosL, infos, DN.sizeL, DN.size, List.length_append, List.length_cons, ihb, ih]; omega
theorem length_infos (t : DN) : (infos t).length = DN.size t := by
  simpa only [infosL, DN.sizeL, List.append_nil, Nat.add_zero] using length_infosL [t]

theorem infosL_relabelL (par own : Option Nat) (bs : List DN) (s : Nat) : infosL (relabelL par own bs s).1 = renum s (infosL bs) := by
  induction bs using DN.forest_induct generalizing par s with
  | nil => rfl
  | text x bs ih => simp only [relabelL, relabel, infosL, infos, List.nil_append, ih]
  | el o u n a sc blocks ch tx p ow bs ihb ih =>
    simp only [relabelL, relabel, infosL, infos, relabelL_snd, getIdx_fresh, ihb, ih, List.cons_append, renum, renum_append,
      length_infosL]
    rw [Nat.add_assoc, Nat.add_comm 1]; rfl
theorem infos_relabel (par own : Option Nat) (t : DN) (s : Nat) : infos (relabel par own t s).1 = renum s (infos t) := by
  simpa only [relabelL, infosL, List.append_nil] using infosL_relabelL par own [t] s

theorem infosL_oids (bs : List DN) : (infosL bs).map (·.oid) = DN.oidsL bs := by
  induction bs using DN.forest_induct with
  | nil => rfl
  | text s bs ih => simp only [infosL, infos, DN.oidsL, DN.oids, List.nil_append, ih]
  | el o u n a sc blocks ch tx p ow bs ihb ih =>
    simp only [infosL, infos, DN.oidsL, DN.oids, List.map_append, List.map_cons, ihb, ih]
theorem infos_oids (t : DN) : (infos t).map (·.oid) = DN.oids t := by
  simpa only [infosL, DN.oidsL, List.append_nil] using infosL_oids [t]

theorem renum_eq_map (f : Nat → Nat) (l : List Info) (s : Nat)
    (h : ∀ k (hk : k < l.length), f (l[k].oid) = s + k) : renum s l = l.map (withOid f) := by
  induction l generalizing s with
  | nil => rfl
  | cons i is ih =>
    simp only [renum, List.map_cons]
    have h0 := h 0 (by simp)
    simp only [List.getElem_cons_zero, Nat.add_zero] at h0
    rw [ih (s + 1) (fun k hk => by
      have := h (k + 1) (by simp; omega)
      simp only [List.getElem_cons_succ] at this
      rw [this]; omega)]
    simp [withOid, h0]

/-- **working indexes**: the index of the original, carried through the pickle memo, is the index of the copy. -/
theorem remap_indexDoc (ids names classes tags : Bool) (attrNames : List Str) (r : DN) (hn : (DN.oids r).Nodup)
    (par own : Option Nat) (s : Nat) :
    Index.remap ((DN.oids r).zip (DN.oids (relabel par own r s).1)) (indexDoc ids names classes tags attrNames r) =
      indexDoc ids names classes tags attrNames (relabel par own r s).1 := by
  unfold indexDoc
  rw [fold_elems, fold_elems, remap_eq_mapRefs, fold_mapRefs, infos_relabel]
  have hO : DN.oids (relabel par own r s).1 = List.range' s (DN.oids r).length := by
    rw [oids_relabel, ← infos_oids, List.length_map, length_infos]
  have hf : ∀ k (hk : k < (infos r).length),
      remap ((DN.oids r).zip (DN.oids (relabel par own r s).1)) ((infos r)[k].oid) = s + k := by
    intro k hk
    have hk' : k < (DN.oids r).length := by rw [← infos_oids]; simpa using hk
    have e : (infos r)[k].oid = (DN.oids r)[k] := by
      have := infos_oids r
      simp only [← this, List.getElem_map]
    rw [e, hO]
    unfold remap
    rw [lookup_zip_range'' _ _ _ (List.getElem_mem hk'), hn.idxOf_getElem k hk']
  rw [← renum_eq_map _ (infos r) s hf]
  -- what is left: sending the references of the empty start index through the memo leaves it as it is
  congr 1
  simp [Index.mapRefs, mapRefs]

end AHP.Pk
