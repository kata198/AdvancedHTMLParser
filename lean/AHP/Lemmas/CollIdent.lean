/-
  AHP.Lemmas.CollIdent — the independent specifications C18 compares identity and `isTagEqual` with (`natIndex`,
  `SameTag` on attribute dictionaries `IsDict`); `pyGet` is the lookup of `Lemmas/Dict`; collection-level `contains` /
  `containsUid` (`UTree.Has`, `Forest.Below`).
-/
import AHP.Lemmas.Coll
import AHP.Lemmas.Dict
namespace AHP
open Ident

/-- `eq` unfolded with the uid test turned round: the orientation `List.contains` compares in -/
theorem Ident.Elem.eq_swap (a b : Elem) : a.eq b = (b.uid == a.uid) := BEq.comm

/-- first position of `x` in a list of uids (the DOM view has the same function with the arguments the other way round,
    `Dom.natIndex`, Model/DomView.lean) -/
def natIndex : List Nat → Nat → Option Nat
  | [], _ => none
  | y :: ys, x => if y = x then some 0 else (natIndex ys x).map (· + 1)

/-- the specification: equal tag names and the same set of (attribute name, value) pairs — nothing else -/
def SameTag (n1 : Str) (a1 : List (Str × Option Str)) (n2 : Str) (a2 : List (Str × Option Str)) : Prop :=
  n1 = n2 ∧ ∀ k v, (k, v) ∈ a1 ↔ (k, v) ∈ a2

theorem SameTag.symm {n1 n2 : Str} {a1 a2 : List (Str × Option Str)} (h : SameTag n1 a1 n2 a2) : SameTag n2 a2 n1 a1 :=
  ⟨h.1.symm, fun k v => (h.2 k v).symm⟩

/-- an attribute dictionary: pairwise distinct keys, `(Dict.keys a).Nodup` (`_attributes` is a `dict`) -/
def IsDict (a : List (Str × Option Str)) : Prop := (a.map (·.1)).Nodup

theorem pyGet_eq_lookup (a : List (Str × Option Str)) (k : Str) : pyGet a k = (a.lookup k).join := by
  induction a with
  | nil => rfl
  | cons p r ih =>
    obtain ⟨k', v⟩ := p
    by_cases h : k' = k
    · subst h; simp [pyGet]
    · rw [pyGet, if_neg h, ih, Dict.lookup_cons_ne (Ne.symm h)]

theorem pyGet_of_mem {a : List (Str × Option Str)} {k : Str} {v : Option Str} (hd : IsDict a) (h : (k, v) ∈ a) :
    pyGet a k = v := by
  rw [pyGet_eq_lookup, Dict.lookup_of_mem hd h]; rfl

/-- `t.Has y`: the element with uid `y` is `t` itself or lies below it, at any depth -/
inductive UTree.Has : UTree → Nat → Prop
  | here (u : Nat) (ks : List UTree) : UTree.Has (.node u ks) u
  | under (u : Nat) (ks : List UTree) (k : UTree) (y : Nat) : k ∈ ks → UTree.Has k y → UTree.Has (.node u ks) y

mutual
theorem UTree.has_of_contains : ∀ (t : UTree) (y : Nat), t.containsUid y = true → t.Has y
  | .node u ks, y, h => by
    simp only [UTree.containsUid, Bool.or_eq_true, beq_iff_eq] at h
    rcases h with rfl | h
    · exact .here _ _
    · obtain ⟨k, hk, hh⟩ := UTree.hasL_of_contains ks y h
      exact .under _ _ k y hk hh
theorem UTree.hasL_of_contains : ∀ (ts : List UTree) (y : Nat), UTree.containsUidL ts y = true → ∃ k ∈ ts, k.Has y
  | [], _, h => by simp [UTree.containsUidL] at h
  | t :: ts, y, h => by
    simp only [UTree.containsUidL, Bool.or_eq_true] at h
    rcases h with h | h
    · exact ⟨t, by simp, UTree.has_of_contains t y h⟩
    · obtain ⟨k, hk, hh⟩ := UTree.hasL_of_contains ts y h
      exact ⟨k, by simp [hk], hh⟩
end

theorem UTree.containsL_of_mem : ∀ (ts : List UTree) (k : UTree) (y : Nat), k ∈ ts → k.containsUid y = true →
    UTree.containsUidL ts y = true
  | [], _, _, h, _ => by cases h
  | t :: ts, k, y, h, hc => by
    simp only [List.mem_cons] at h
    simp only [UTree.containsUidL, Bool.or_eq_true]
    rcases h with rfl | h
    · exact Or.inl hc
    · exact Or.inr (UTree.containsL_of_mem ts k y h hc)

theorem UTree.contains_of_has {t : UTree} {y : Nat} (h : t.Has y) : t.containsUid y = true := by
  induction h with
  | here u ks => simp [UTree.containsUid]
  | under u ks k y hk _ ih =>
    simp only [UTree.containsUid, Bool.or_eq_true]
    exact Or.inr (UTree.containsL_of_mem ks k y hk ih)

theorem UTree.containsUid_iff_has (t : UTree) (y : Nat) : t.containsUid y = true ↔ t.Has y :=
  ⟨UTree.has_of_contains t y, UTree.contains_of_has⟩

/-- member `x` of a collection over the forest `f` has `y` at or below it: `x` names a tree of the forest (the first
    with that uid) — or, for a uid that is not in the forest, only itself -/
def Forest.Below (f : Forest) (x y : Nat) : Prop :=
  match f.find? x with
  | some t => t.Has y
  | none => y = x

theorem Forest.containsUid_iff_below (f : Forest) (x y : Nat) : f.containsUid x y = true ↔ f.Below x y := by
  unfold Forest.containsUid Forest.Below
  cases f.find? x with
  | some t => exact UTree.containsUid_iff_has t y
  | none => simp only [beq_iff_eq]; exact eq_comm

theorem Forest.mem_selfAndDesc_iff_below (f : Forest) (x y : Nat) : y ∈ f.selfAndDesc x ↔ f.Below x y := by
  rw [← Forest.containsUid_iff_below]
  unfold Forest.containsUid Forest.selfAndDesc
  cases f.find? x with
  | some t => exact (UTree.containsUid_iff t y).symm
  | none => simp only [List.mem_singleton, beq_iff_eq]; exact eq_comm

theorem Coll.containsUid_iff (f : Forest) (c : Coll) (y : Nat) :
    c.containsUid f y = true ↔ ∃ x ∈ c.items, f.Below x y := by
  simp only [Coll.containsUid, List.any_eq_true, Forest.containsUid_iff_below]

end AHP
