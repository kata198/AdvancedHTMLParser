/-
  C14f, fuel: every tokenizer of AHP.Model.XPathParse hands back a strictly shorter text, so the recursion depth of
  `loop` / `item` is bounded by twice the length of the text and the fuel the entry points start with is never used up:
  more fuel gives the same answer (`none` always means "the library raises").
-/
import AHP.Lemmas.XPathParseTok
namespace AHP.XPath

variable {N : Type}

theorem skipSp_length_le (s : Str) : (skipSp s).length ≤ s.length := dropWhile_length_le _ s

theorem skipSp_cons_length {s : Str} {c : Char} {r : Str} (h : skipSp s = c :: r) : r.length < s.length := by
  have := skipSp_length_le s
  rw [h] at this
  exact this

theorem dotPlusEnd_length {r b : Str} (h : dotPlusEnd r = some b) : b.length ≤ r.length := by
  unfold dotPlusEnd at h
  generalize hb : (if r.getLast? = some '\n' then r.dropLast else r) = body at h
  have hle : body.length ≤ r.length := by rw [← hb]; split <;> simp
  simp only at h
  split at h
  · cases h
  · cases h; exact hle

theorem wordCI_length {w s r : Str} (h : wordCI w s = some r) : r.length + w.length = s.length := by
  obtain ⟨pre, rfl, rfl⟩ := wordCI_some w s r h
  simp [Nat.add_comm]

theorem groupOpen_length {s b : Str} (h : groupOpen s = some b) : b.length < s.length := by
  unfold groupOpen at h
  split at h
  · next r heq => exact Nat.lt_of_le_of_lt (dotPlusEnd_length h) (skipSp_cons_length heq)
  · cases h

theorem groupClose_length {s r : Str} (h : groupClose s = some r) : r.length < s.length := by
  unfold groupClose at h
  split at h
  · next r' heq => cases h; exact Nat.lt_of_le_of_lt (skipSp_length_le r') (skipSp_cons_length heq)
  · cases h

theorem nextArg_length {s r : Str} (h : nextArg s = some r) : r.length < s.length := by
  unfold nextArg at h
  split at h
  · next r' heq => cases h; exact Nat.lt_of_le_of_lt (skipSp_length_le r') (skipSp_cons_length heq)
  · cases h

theorem attrTok_length {t n r : Str} (h : attrTok t = some (n, r)) : r.length < t.length := by
  unfold attrTok at h
  split at h
  · split at h
    · next c r' =>
      split at h
      · cases h; exact Nat.lt_succ_of_le (Nat.le_succ_of_le (skipSp_length_le r'))
      · split at h
        · cases h
          exact Nat.lt_succ_of_le (Nat.le_succ_of_le (Nat.le_trans (skipSp_length_le _) (dropWhile_length_le _ r')))
        · cases h
    · cases h
  · cases h

theorem fn0Tok_length {w t r : Str} (h : fn0Tok w t = some r) : r.length < t.length := by
  unfold fn0Tok at h
  split at h
  · next r0 hw =>
    have h0 := wordCI_length hw
    split at h
    · next r1 h1 =>
      split at h
      · next r2 h2 =>
        cases h
        have := skipSp_cons_length h1
        have := skipSp_cons_length h2
        have := skipSp_length_le r2
        omega
      · cases h
    · cases h
  · cases h

theorem fnOpenTok_length {w t b : Str} (h : fnOpenTok w t = some b) : b.length < t.length := by
  unfold fnOpenTok at h
  split at h
  · next r0 hw =>
    have h0 := wordCI_length hw
    split at h
    · next r1 h1 =>
      have := skipSp_cons_length h1
      have := dotPlusEnd_length h
      omega
    · cases h
  · cases h

theorem genTok_length {t r : Str} {e : BE N} (h : genTok t = some (e, r)) : r.length < t.length := by
  unfold genTok at h
  split at h
  · next ha => cases h; exact attrTok_length ha
  · repeat' split at h
    all_goals first | (next hf => cases h; exact fn0Tok_length hf) | cases h

theorem consFst_some {c : Char} {o : Option (Str × Str)} {i t : Str} (h : consFst c o = some (i, t)) :
    ∃ i', o = some (i', t) := by
  cases o with
  | none => cases h
  | some x => obtain ⟨a, b⟩ := x; cases h; exact ⟨a, rfl⟩

theorem litQ_length (q : Char) : ∀ (bs : Bool) (s v r : Str), litQ q bs s = some (v, r) → r.length < s.length
  | _, [], v, r, h => by simp [litQ] at h
  | bs, c :: s, v, r, h => by
    simp only [litQ] at h
    split at h
    · split at h
      · split at h
        · next x hx => cases h; exact Nat.lt_succ_of_lt (litQ_length q false s x.1 x.2 hx)
        · cases h; exact Nat.lt_succ_self _
      · cases h; exact Nat.lt_succ_self _
    · obtain ⟨v', h'⟩ := consFst_some h
      exact Nat.lt_succ_of_lt (litQ_length q _ s v' r h')

theorem strTok_length {q : Char} {t v r : Str} (h : strTok q t = some (v, r)) : r.length < t.length := by
  unfold strTok at h
  split at h
  · next c r0 =>
    split at h
    · split at h
      · next v' rest hl =>
        have h1 := litQ_length q false r0 v' rest hl
        have h2 := skipSp_length_le rest
        cases h
        exact Nat.lt_succ_of_lt (Nat.lt_of_le_of_lt h2 h1)
      · cases h
    · cases h
  · cases h

theorem takeWhile_dropWhile_length (p : Char → Bool) (s : Str) : (s.takeWhile p).length + (s.dropWhile p).length = s.length := by
  rw [← List.length_append, List.takeWhile_append_dropWhile]

theorem splitSign_length (t : Str) : (splitSign t).2.length ≤ t.length := by
  cases t with
  | nil => exact Nat.le_refl _
  | cons c r =>
    simp only [splitSign]
    split
    · exact Nat.le_succ _
    · exact Nat.le_refl _

theorem numTok_length {t v r : Str} (h : numTok t = some (v, r)) : r.length < t.length := by
  have hplain : ∀ v r, (if (t.takeWhile isDigit).isEmpty then none
      else some (t.takeWhile isDigit, skipSp (t.dropWhile isDigit))) = some (v, r) → r.length < t.length := by
    intro v r hp
    split at hp
    · cases hp
    · next hne =>
      cases hp
      have h1 := takeWhile_dropWhile_length isDigit t
      have h2 := skipSp_length_le (t.dropWhile isDigit)
      have h3 : (t.takeWhile isDigit).length ≠ 0 := fun e => hne (by simp [List.eq_nil_of_length_eq_zero e])
      omega
  unfold numTok at h
  simp only at h
  split at h
  · next f heq =>
    split at h
    · exact hplain v r h
    · cases h
      have h1 := splitSign_length t
      have h2 := dropWhile_length_le isDigit (splitSign t).2
      have h3 := dropWhile_length_le isDigit f
      have h4 := skipSp_length_le (f.dropWhile isDigit)
      rw [heq] at h2
      simp only [List.length_cons] at h2
      omega
  · exact hplain v r h

theorem staticTok_length (nm : Num N) {t r : Str} {e : BE N} (h : staticTok nm t = some (e, r)) : r.length < t.length := by
  unfold staticTok at h
  split at h
  · next hs => cases h; exact strTok_length hs
  · split at h
    · next hs => cases h; exact strTok_length hs
    · split at h
      · next v r0 hn =>
        cases hp : nm.parse v with
        | none => rw [hp] at h; cases h
        | some x => rw [hp] at h; cases h; exact numTok_length hn
      · cases h

theorem cmpTok_length {t r : Str} {o : CmpOp} (h : cmpTok t = some (o, r)) : r.length < t.length := by
  unfold cmpTok at h
  split at h <;> first
    | (cases h
       have := skipSp_length_le ‹Str›
       simp only [List.length_cons]
       omega)
    | cases h

theorem wordCI_skipSp_length {w t r0 : Str} (hw : wordCI w t = some r0) (hne : w ≠ []) : (skipSp r0).length < t.length := by
  have h1 := wordCI_length hw
  have h2 := skipSp_length_le r0
  have : w.length ≠ 0 := fun e => hne (List.eq_nil_of_length_eq_zero e)
  omega

theorem arithWords_length {t r : Str} {o : ArithOp} (h : arithWords t = some (o, r)) : r.length < t.length := by
  unfold arithWords at h
  split at h
  · next hw => cases h; exact wordCI_skipSp_length hw (by simp)
  · split at h
    · next hw => cases h; exact wordCI_skipSp_length hw (by simp)
    · cases h

theorem arithTok_length {t r : Str} {o : ArithOp} (h : arithTok t = some (o, r)) : r.length < t.length := by
  unfold arithTok at h
  split at h <;> first
    | exact arithWords_length h
    | (cases h
       have := skipSp_length_le ‹Str›
       simp only [List.length_cons]
       omega)

theorem sp1_length {r r' : Str} (h : sp1 r = some r') : r'.length ≤ r.length := by
  unfold sp1 at h
  split at h
  · split at h
    · cases h; exact skipSp_length_le _
    · cases h
  · cases h

theorem wordCI_sp1_length {w t r : Str} (h : (wordCI w t).bind sp1 = some r) : r.length + w.length ≤ t.length := by
  cases hw : wordCI w t with
  | none => rw [hw] at h; cases h
  | some r1 =>
    rw [hw] at h
    have h1 := wordCI_length hw
    have h2 := sp1_length h
    omega

theorem boolTok_length {t r : Str} {o : BoolOp} (h : boolTok t = some (o, r)) : r.length < t.length := by
  unfold boolTok at h
  split at h
  · next hw => cases h; have := wordCI_sp1_length hw; simp only [List.length_cons, List.length_nil] at this; omega
  · split at h
    · next hw => cases h; have := wordCI_sp1_length hw; simp only [List.length_cons, List.length_nil] at this; omega
    · cases h

theorem restTok_length (nm : Num N) {t r : Str} {e : BE N} (h : restTok nm t = some (e, r)) : r.length < t.length := by
  unfold restTok at h
  split at h
  · next hs => cases h; exact staticTok_length nm hs
  · split at h
    · next hc => cases h; exact cmpTok_length hc
    · split at h
      · next hc => cases h; exact arithTok_length hc
      · split at h
        · next hc => cases h; exact boolTok_length hc
        · cases h

/-! ### `item` and `loop` hand back shorter texts -/

private theorem map_pair_eq {α : Type} {o : Option α} {rest r : Str} {e : α} (h : o.map (·, rest) = some (e, r)) : r = rest := by
  cases o with
  | none => cases h
  | some x => cases h; rfl

/-- the function calls of `item`, given that the argument loop at this fuel hands back no longer text -/
theorem fnItem_length (nm : Num N) (f : Nat) (t : Str)
    (hl : ∀ (s : Str) (c d : List (BE N)) (r : Str), loop nm f .args s [] [] = some (c, d, r) → r.length ≤ s.length) :
    ∀ (fs : List (Str × (List (BE N) → Option (BE N)))) (e : BE N) (r : Str), fnItem nm f t fs = some (e, r) →
      r.length < t.length
  | [], _, _, h => restTok_length nm h
  | (w, mk) :: fs, e, r, h => by
    simp only [fnItem] at h
    split at h
    · next body hfo =>
      split at h
      · next cur d rest hlp =>
        rw [map_pair_eq h]
        exact Nat.lt_of_le_of_lt (Nat.le_trans (hl _ cur d rest hlp) (strip_length_le body)) (fnOpenTok_length hfo)
      · cases h
    · exact fnItem_length nm f t hl fs e r h

mutual
theorem item_length (nm : Num N) : ∀ (f : Nat) (s : Str) (e : BE N) (r : Str), item nm f s = some (e, r) → r.length < s.length
  | 0, s, e, r, h => by simp [item] at h
  | f + 1, s, e, r, h => by
    have hsk := skipSp_length_le s
    rw [item_succ] at h
    split at h
    · next body hgo =>
      split at h
      · next cur d rest hl =>
        have h1 := loop_length nm f .group _ [] [] cur d rest hl
        cases h
        exact Nat.lt_of_le_of_lt (Nat.le_trans h1 (strip_length_le body)) (groupOpen_length hgo)
      · cases h
    · split at h
      · next hg => cases h; exact Nat.lt_of_lt_of_le (genTok_length hg) hsk
      · exact Nat.lt_of_lt_of_le
          (fnItem_length nm f _ (fun s c d r => loop_length nm f .args s [] [] c d r) _ e r h) hsk
theorem loop_length (nm : Num N) : ∀ (f : Nat) (mode : Mode) (s : Str) (cur done c d : List (BE N)) (r : Str),
    loop nm f mode s cur done = some (c, d, r) → r.length ≤ s.length
  | 0, _, _, _, _, _, _, _, h => by simp [loop] at h
  | f + 1, mode, s, cur, done, c, d, r, h => by
    simp only [loop] at h
    split at h
    · split at h
      · cases h; exact Nat.zero_le _
      · cases h
    · split at h
      · next rest hc =>
        cases h
        split at hc
        · cases hc
        · exact Nat.le_of_lt (groupClose_length hc)
      · split at h
        · next rest ha =>
          split at ha
          · split at h
            · cases h
            · exact Nat.le_trans (loop_length nm f mode rest [] _ c d r h) (Nat.le_of_lt (nextArg_length ha))
          · cases ha
        · split at h
          · next e rest hi =>
            exact Nat.le_trans (loop_length nm f mode rest _ done c d r h) (Nat.le_of_lt (item_length nm f s e rest hi))
          · cases h
end

/-! ### More fuel, same answer -/

theorem item_nil (nm : Num N) (f : Nat) : item nm f [] = none := by
  cases f with
  | zero => rfl
  | succ f => rw [item_succ]; rfl

theorem fnItem_fuel (nm : Num N) (g : Nat) (t : Str)
    (h : ∀ (w body : Str), fnOpenTok w t = some body →
      loop nm (g + 1) .args (strip body) ([] : List (BE N)) [] = loop nm g .args (strip body) [] []) :
    ∀ fs : List (Str × (List (BE N) → Option (BE N))), fnItem nm (g + 1) t fs = fnItem nm g t fs
  | [] => rfl
  | (w, mk) :: fs => by
    simp only [fnItem]
    split
    · next body hfo => rw [h w body hfo]
    · exact fnItem_fuel nm g t h fs

/-- `item` with fuel `f ≥ 2·|s|`, `loop` with fuel `f ≥ 2·|s| + 1`: one more unit changes nothing.  Every recursive call is on
    a shorter text with one unit less, so the hypothesis at `g` serves both functions at `g + 1`. -/
theorem fuel_step (nm : Num N) : ∀ (f : Nat),
    (∀ s : Str, 2 * s.length ≤ f → item nm (f + 1) s = item nm f s) ∧
    (∀ s : Str, 2 * s.length + 1 ≤ f → ∀ (mode : Mode) (cur done : List (BE N)),
      loop nm (f + 1) mode s cur done = loop nm f mode s cur done)
  | 0 => ⟨fun s hs => by
      have : s = [] := List.eq_nil_of_length_eq_zero (by omega)
      rw [this, item_nil, item_nil], fun s hs => by omega⟩
  | g + 1 => by
    obtain ⟨ihi, ihl⟩ := fuel_step nm g
    refine ⟨fun s hs => ?_, fun s hs mode cur done => ?_⟩
    · have hbody : ∀ (body : Str) (mode : Mode), body.length < s.length →
          loop nm (g + 1) mode (strip body) ([] : List (BE N)) [] = loop nm g mode (strip body) [] [] :=
        fun body mode hb => ihl _ (by have := strip_length_le body; omega) mode [] []
      have hsk := skipSp_length_le s
      rw [item_succ, item_succ]
      split
      · next body hgo => rw [hbody body .group (groupOpen_length hgo)]
      · split
        · rfl
        · exact fnItem_fuel nm g _ (fun w body hfo => hbody body .args (by have := fnOpenTok_length hfo; omega)) _
    · have hrest : ∀ (rest : Str) (cur' done' : List (BE N)), rest.length < s.length →
          loop nm (g + 1) mode rest cur' done' = loop nm g mode rest cur' done' :=
        fun rest cur' done' hr => ihl rest (by omega) mode cur' done'
      rw [loop, loop, ihi s (by omega)]
      split
      · rfl
      · split
        · rfl
        · split
          · next rest ha =>
            split at ha
            · split
              · rfl
              · exact hrest rest _ _ (nextArg_length ha)
            · cases ha
          · split
            · next e rest hit => exact hrest rest _ _ (item_length nm g s e rest hit)
            · rfl

theorem fuel_stable (nm : Num N) : ∀ (n : Nat),
    (∀ s : Str, s.length ≤ n → ∀ f, 2 * s.length ≤ f → item nm (f + 1) s = item nm f s) ∧
    (∀ s : Str, s.length ≤ n → ∀ f, 2 * s.length + 1 ≤ f → ∀ (mode : Mode) (cur done : List (BE N)),
      loop nm (f + 1) mode s cur done = loop nm f mode s cur done) :=
  fun _ => ⟨fun s _ f hf => (fuel_step nm f).1 s hf, fun s _ f hf => (fuel_step nm f).2 s hf⟩

theorem fuel_add {α : Type} (g : Nat → α) (f : Nat) (h : ∀ m, f ≤ m → g (m + 1) = g m) : ∀ k, g (f + k) = g f
  | 0 => rfl
  | k + 1 => by rw [← Nat.add_assoc, h (f + k) (Nat.le_add_right f k)]; exact fuel_add g f h k

theorem loop_fuel (nm : Num N) (s : Str) (f : Nat) (hf : 2 * s.length + 1 ≤ f) (mode : Mode) (cur done : List (BE N)) (k : Nat) :
    loop nm (f + k) mode s cur done = loop nm f mode s cur done :=
  fuel_add (fun f => loop nm f mode s cur done) f
    (fun m hm => (fuel_step nm m).2 s (Nat.le_trans hf hm) mode cur done) k

/-! ### The step loops -/

mutual
theorem scanB_length : ∀ (s i t : Str), scanB s = some (i, t) → t.length + 1 ≤ s.length
  | [], _, _, h => by simp [scanB] at h
  | c :: r, i, t, h => by
    simp only [scanB] at h
    split at h
    · cases h; exact Nat.le_refl _
    · split at h
      · split at h
        · next x hx => cases h; exact Nat.le_succ_of_le (scanQ_length c false r x.1 x.2 hx)
        · obtain ⟨i', h'⟩ := consFst_some h
          exact Nat.le_succ_of_le (scanB_length r i' t h')
      · obtain ⟨i', h'⟩ := consFst_some h
        exact Nat.le_succ_of_le (scanB_length r i' t h')
theorem scanQ_length (q : Char) : ∀ (bs : Bool) (s i t : Str), scanQ q bs s = some (i, t) → t.length + 1 ≤ s.length
  | _, [], _, _, h => by simp [scanQ] at h
  | bs, c :: r, i, t, h => by
    simp only [scanQ] at h
    split at h
    · split at h
      · split at h
        · next x hx => cases h; exact Nat.le_succ_of_le (scanQ_length q false r x.1 x.2 hx)
        · obtain ⟨i', h'⟩ := consFst_some h
          exact Nat.le_succ_of_le (scanB_length r i' t h')
      · obtain ⟨i', h'⟩ := consFst_some h
        exact Nat.le_succ_of_le (scanB_length r i' t h')
    · obtain ⟨i', h'⟩ := consFst_some h
      exact Nat.le_succ_of_le (scanQ_length q _ r i' t h')
end

theorem bracket_length {s inner rest : Str} (h : bracket s = some (inner, rest)) : rest.length + 2 ≤ s.length := by
  unfold bracket at h
  split at h
  · next r heq =>
    split at h
    · next i t hsc =>
      have := skipSp_cons_length heq
      have := scanB_length r i t hsc
      have := skipSp_length_le t
      cases h
      omega
    · cases h
  · cases h

theorem parsePreds_fuel (nm : Num N) : ∀ (f : Nat) (r : Str), r.length < f → parsePreds nm (f + 1) r = parsePreds nm f r
  | 0, _, h => by omega
  | f + 1, r, h => by
    rw [parsePreds, parsePreds]
    split
    · rfl
    · next inner rest hb =>
      split
      · rfl
      · have h1 := bracket_length hb
        have h2 := strip_length_le rest
        rw [parsePreds_fuel nm f (strip rest) (by omega)]

theorem parsePreds_length (nm : Num N) : ∀ (f : Nat) (r : Str) (ps : List (List (BE N))) (r' : Str),
    parsePreds nm f r = some (ps, r') → r'.length ≤ r.length
  | 0, _, _, _, h => by simp [parsePreds] at h
  | f + 1, r, ps, r', h => by
    rw [parsePreds] at h
    split at h
    · cases h; exact Nat.le_refl _
    · next inner rest hb =>
      have h1 := bracket_length hb
      have h2 := strip_length_le rest
      split at h
      · cases h; omega
      · split at h
        · next l ls r'' hpb hpp =>
          cases h
          have := parsePreds_length nm f (strip rest) ls _ hpp
          omega
        · cases h

theorem takeWhile_length_le (p : Char → Bool) (s : Str) : (s.dropWhile p).length ≤ s.length := dropWhile_length_le p s

theorem tagName_length {u n r : Str} (h : tagName u = some (n, r)) : r.length < u.length := by
  unfold tagName at h
  split at h
  · next c r0 =>
    split at h
    · cases h; exact Nat.lt_succ_self _
    · split at h
      · cases h; exact Nat.lt_succ_of_le (dropWhile_length_le isNameChar r0)
      · cases h
  · cases h

theorem axisName_length {u : Str} : ∀ {as : List AxisTok} {a : AxisTok} {n r : Str}, axisName u as = some (a, n, r) → r.length < u.length
  | [], _, _, _, h => by simp [axisName] at h
  | b :: as, a, n, r, h => by
    unfold axisName at h
    split at h
    · next r0 hw =>
      have h0 := wordCI_length hw
      simp only [List.length_cons] at h0
      split at h
      · next ht => cases h; have := tagName_length ht; omega
      · exact axisName_length h
    · exact axisName_length h

theorem suffix_length (r : Str) : (suffix r).2.length ≤ r.length := by
  unfold suffix
  split
  · next c r1 =>
    split
    · have h1 := dropWhile_length_le isNameChar r1
      simp only
      split
      · next r3 heq =>
        split
        · next r4 heq4 =>
          have := skipSp_cons_length heq4
          rw [heq] at h1
          simp only [List.length_cons] at h1 ⊢
          omega
        · simp only [List.length_cons]; omega
      · simp only [List.length_cons]; omega
    · exact Nat.le_refl _
  · exact Nat.le_refl _

theorem leadIn_length {s r : Str} {d : Bool} (h : leadIn s = some (d, r)) : r.length < s.length := by
  unfold leadIn at h
  split at h
  · next r1 heq =>
    have := skipSp_cons_length heq
    split at h
    · cases h; simp only [List.length_cons] at this; omega
    · cases h; exact this
  · cases h

theorem tagCore_length {u : Str} {ax : Option AxisTok} {n r : Str} (h : tagCore u = some (ax, n, r)) : r.length < u.length := by
  unfold tagCore at h
  split at h
  · next ha => cases h; exact axisName_length ha
  · split at h
    · next ht => cases h; exact tagName_length ht
    · cases h

theorem tagOp_length {s : Str} {dbl : Bool} {ax : Option AxisTok} {n r : Str} (h : tagOp s = some (dbl, ax, n, r)) :
    r.length < s.length := by
  unfold tagOp at h
  split at h
  · cases h
  · next d r0 hl =>
    split at h
    · cases h
    · next ax' n' rest hc =>
      cases h
      have := leadIn_length hl
      have := skipSp_length_le r0
      have := tagCore_length hc
      have := suffix_length rest
      omega

theorem parseSteps_fuel (nm : Num N) : ∀ (f : Nat) (s : Str), s.length < f → parseSteps nm (f + 1) s = parseSteps nm f s
  | 0, _, h => by omega
  | f + 1, s, h => by
    rw [parseSteps, parseSteps]
    split
    · rfl
    · next dbl ax name r ht =>
      split
      · rfl
      · next ps r' hp =>
        simp only
        split
        · rfl
        · have h1 := tagOp_length ht
          have h2 := parsePreds_length nm _ _ ps r' hp
          have h3 := strip_length_le r
          rw [parseSteps_fuel nm f r' (by omega)]

theorem parsePreds_fuel_add (nm : Num N) (f : Nat) (r : Str) (h : r.length < f) (k : Nat) :
    parsePreds nm (f + k) r = parsePreds nm f r :=
  fuel_add (fun f => parsePreds nm f r) f (fun m hm => parsePreds_fuel nm m r (Nat.lt_of_lt_of_le h hm)) k

theorem parseSteps_fuel_add (nm : Num N) (f : Nat) (s : Str) (h : s.length < f) (k : Nat) :
    parseSteps nm (f + k) s = parseSteps nm f s :=
  fuel_add (fun f => parseSteps nm f s) f (fun m hm => parseSteps_fuel nm m s (Nat.lt_of_lt_of_le h hm)) k

end AHP.XPath
