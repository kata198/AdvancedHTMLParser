/-
  Helper lemmas for C13 ("the serialisation of any tree produced by this library validates"):

  * attribute stores: every key of the underlying dict is a legal attribute name (`AttrState.Legal`) — an
    invariant of `intake` (the constructor loop drops illegal names), hence of every store the tree builder
    creates; the view the serialiser iterates (`AttrState.view`) then lists legal names only;
  * trees: the token rendering of a tree in the serialiser's image (`LNode.toks`, Lemmas/RoundTrip.lean) is a
    balanced token list (`Spec.Bal`);
  * the tree builder only builds trees with legal stores (`legal_inv`) and of the serialiser's element shape
    (`wfs_inv`: lower-case names, void ⇒ self-closing, self-closing ⇒ no blocks): two instances of `BuilderInv`
    (Lemmas/Builder.lean), through which `feedTokens_inv` gives both for every document `feed` returns; `wf_of_toNode`,
    `legal_of_toNode` carry them to the lexical normal form (`LNode`) of a tree whose text blocks are text-like tokens;
  * the validating handlers (`vStepT`) one callback at a time.

  Suffixes: `…N` a `Node`, `…NL` a list of nodes, `…LL` a list of `LNode`s, `WFF` a `Frame`, `WFS` / `Legal` on `TState` the
  state (`TState.Inv` of the node and frame predicates, written out).
-/
import AHP.Lemmas.RoundTrip
import AHP.Lemmas.Str
import AHP.Lemmas.AttrStoresSim
import AHP.Spec.Validate
namespace AHP
open AHP.Spec

def AttrState.Legal (a : AttrState) : Prop := ∀ p ∈ a.d, validAttrName p.1 = true

theorem AttrState.empty_legal : AttrState.empty.Legal := by
  intro p hp; simp [AttrState.empty] at hp

/-- one `myAttributes[key] = value` with a legal key keeps the store legal -/
theorem AttrState.set_legal (st : AttrState) (k : Str) (v : Option Str) (hk : validAttrName k = true)
    (h : st.Legal) : (st.set k v).Legal := by
  have hset : ∀ w, ∀ p ∈ dictSet st.d k w, validAttrName p.1 = true := fun w p hp =>
    (Dict.mem_set (AttrStores.dictSet_eq st.d k w ▸ hp)).elim (fun e => by rw [e]; exact hk) (h p)
  have hdel : ∀ p ∈ dictDel st.d k, validAttrName p.1 = true := fun p hp => h p (Dict.mem_del.mp hp).1
  by_cases h1 : k = AttrStores.kStyle
  · subst h1
    rw [AttrStores.set_style]
    split
    · exact hdel
    · exact hset _
  by_cases h2 : k = AttrStores.kClass
  · subst h2; rw [AttrStores.set_class]; exact h
  · rw [AttrStores.set_other st h1 h2]; exact hset _

/-- **the intake drops illegal names**: the attribute loop of `AdvancedTag.__init__` keeps the store legal -/
theorem intake_legal (xs : List Attr) : ∀ st : AttrState, st.Legal → (intake xs st).Legal := by
  induction xs with
  | nil => intro st h; exact h
  | cons x xs ih =>
    intro st h
    obtain ⟨k, v⟩ := x
    simp only [intake]
    split
    · rename_i hv
      exact ih _ (AttrState.set_legal st (lower k) v hv h)
    · exact ih _ h

theorem intake_empty_legal (xs : List Attr) : (intake xs AttrState.empty).Legal :=
  intake_legal xs _ AttrState.empty_legal

theorem reintakeA_legal (a : AttrState) : (reintakeA a).Legal := intake_empty_legal _

/-- the pairs `getStartTag` iterates have legal names when the stored names are legal (`class` and `style`, which
    the lazy synchronisation adds, are legal names) -/
theorem view_legal (a : AttrState) (h : a.Legal) : legalAttrs a.view = true := by
  unfold legalAttrs
  rw [List.all_eq_true, AttrStores.view_eq_ensure]
  intro p hp
  rcases AttrStores.mem_ensureKey hp with rfl | hp
  · exact (by decide : validAttrName AttrStores.kStyle = true)
  · rcases AttrStores.mem_ensureKey hp with rfl | hp
    · exact (by decide : validAttrName AttrStores.kClass = true)
    · exact h p hp

mutual
def LNode.Legal : LNode → Prop
  | .tok _ => True
  | .elem _ a _ kids => a.Legal ∧ LegalLL kids
def LegalLL : List LNode → Prop
  | [] => True
  | k :: ks => k.Legal ∧ LegalLL ks
end

mutual
def Node.LegalN : Node → Prop
  | .text _ => True
  | .elem _ a _ kids => a.Legal ∧ LegalNL kids
def LegalNL : List Node → Prop
  | [] => True
  | k :: ks => k.LegalN ∧ LegalNL ks
end

theorem legalNL_iff (ks : List Node) : LegalNL ks ↔ ∀ k ∈ ks, k.LegalN := by
  induction ks with
  | nil => simp [LegalNL]
  | cons k ks ih => simp [LegalNL, ih]

theorem legalNL_reverse (ks : List Node) (h : LegalNL ks) : LegalNL ks.reverse := by
  rw [legalNL_iff] at h ⊢
  intro k hk
  exact h k (List.mem_reverse.mp hk)

mutual
theorem legal_of_toNode (t : LNode) (h : t.toNode.LegalN) : t.Legal := by
  match t, h with
  | .tok _, _ => simp [LNode.Legal]
  | .elem n a sc kids, h =>
    simp only [LNode.toNode, Node.LegalN] at h
    simp only [LNode.Legal]
    exact ⟨h.1, legalLL_of_toNodeL kids h.2⟩
theorem legalLL_of_toNodeL (ks : List LNode) (h : LegalNL (toNodeL ks)) : LegalLL ks := by
  match ks, h with
  | [], _ => simp [LegalLL]
  | k :: ks, h =>
    simp only [toNodeL, LegalNL] at h
    simp only [LegalLL]
    exact ⟨legal_of_toNode k h.1, legalLL_of_toNodeL ks h.2⟩
end

mutual
theorem reintake_legalN (t : Node) : t.reintake.LegalN := by
  match t with
  | .text s => simp [Node.reintake, Node.LegalN]
  | .elem n a sc kids =>
    simp only [Node.reintake, Node.LegalN]
    exact ⟨reintakeA_legal a, reintakeL_legalNL kids⟩
theorem reintakeL_legalNL (ks : List Node) : LegalNL (reintakeL ks) := by
  match ks with
  | [] => simp [reintakeL, LegalNL]
  | k :: ks =>
    -- one pattern level, then `cases k` (the nested patterns `.text s :: ks`, `.elem .. :: ks` are slow to compile)
    have hk := reintake_legalN k
    have hks := reintakeL_legalNL ks
    cases k with
    | text s =>
      simp only [reintakeL]
      split
      · exact hks
      · simp only [LegalNL, Node.LegalN, true_and]; exact hks
    | elem n a sc kids =>
      simp only [Node.reintake] at hk
      simp only [reintakeL, LegalNL]
      exact ⟨hk, hks⟩
end

theorem bal_append {xs : List Token} (hx : Bal xs) : ∀ {ys : List Token}, Bal ys → Bal (xs ++ ys) := by
  induction hx with
  | nil => intro ys hy; exact hy
  | inert t ts hi _ ih => intro ys hy; exact Bal.inert t _ hi (ih hy)
  | void n a ts hl hv _ ih => intro ys hy; exact Bal.void n a _ hl hv (ih hy)
  | selfClosed n a ts hl _ ih => intro ys hy; exact Bal.selfClosed n a _ hl (ih hy)
  | elem n a inner ts hl hv hin _ _ iht =>
    intro ys hy
    have := Bal.elem n a inner (ts ++ ys) hl hv hin (iht hy)
    simpa [List.append_assoc] using this

theorem inert_of_textlike (t : Token) (h : (Spec.textOf t).isSome) : isInert t = true := by
  cases t <;> simp [Spec.textOf] at h <;> rfl

mutual
theorem toks_bal (t : LNode) (h : t.WF) (hl : t.Legal) : Bal t.toks := by
  match t, h, hl with
  | .tok tk, h, _ =>
    simp only [LNode.WF] at h
    simp only [LNode.toks]
    exact Bal.inert tk [] (inert_of_textlike tk h) Bal.nil
  | .elem n a sc kids, h, hl =>
    simp only [LNode.WF] at h
    simp only [LNode.Legal] at hl
    obtain ⟨hlow, hv, _, hk⟩ := h
    have hla := view_legal a hl.1
    unfold LNode.toks
    cases hs : sc with
    | true => exact Bal.selfClosed n a.view [] hla Bal.nil
    | false =>
      have hnv : Spec.isVoid (lower n) = false := by
        rw [hlow, ← isVoid_eq]
        cases hvv : AHP.isVoid n with
        | false => rfl
        | true => rw [hv hvv] at hs; cases hs
      have := Bal.elem n a.view (toksL kids) [] hla hnv (toksL_bal kids hk hl.2) Bal.nil
      rw [hlow] at this
      simpa using this
theorem toksL_bal (ks : List LNode) (h : WFLL ks) (hl : LegalLL ks) : Bal (toksL ks) := by
  match ks, h, hl with
  | [], _, _ => exact Bal.nil
  | k :: ks, h, hl =>
    simp only [WFLL] at h
    simp only [LegalLL] at hl
    unfold toksL
    exact bal_append (toks_bal k h.1 hl.1) (toksL_bal ks h.2 hl.2)
end

theorem bal_tail_of_inert {t : Token} {ts : List Token} (hi : isInert t = true) (h : Bal (t :: ts)) : Bal ts := by
  cases h with
  | inert _ _ _ h' => exact h'
  | _ => cases hi

theorem bal_wrapToks {ts : List Token} (h : Bal ts) : Bal (wrapToks ts) := by
  have hw : ∀ r : List Token, Bal r → Bal (Token.start wrapperName [] :: r ++ [Token.end_ wrapperName]) := by
    intro r hr
    have := Bal.elem wrapperName [] r [] (by decide) (by decide +kernel) hr Bal.nil
    rw [wrapper_lower] at this
    exact this
  obtain ⟨pre, e, hpre, hs⟩ := wrapToks_shape ts
  rw [hs]; rw [e] at h
  rcases hpre with rfl | ⟨d, rfl⟩ | ⟨ws, d, _, rfl⟩
  · exact hw _ h
  · exact Bal.inert _ _ rfl (hw _ (bal_tail_of_inert (t := .decl d) rfl h))
  · exact Bal.inert _ _ rfl (Bal.inert _ _ rfl
      (hw _ (bal_tail_of_inert (t := .decl d) rfl (bal_tail_of_inert (t := .data ws) rfl h))))

def Frame.Legal (f : Frame) : Prop := f.attrs.Legal ∧ LegalNL f.rev

def TState.Legal (s : TState) : Prop := (∀ f ∈ s.stack, f.Legal) ∧ (∀ r, s.root = some r → r.LegalN)

theorem TState.init_legal : TState.init.Legal := inv_init

theorem legal_inv : BuilderInv Node.LegalN Frame.Legal where
  text _ _ := by simp [Node.LegalN]
  leaf _ a := by simp only [Node.LegalN, LegalNL, and_true]; exact intake_empty_legal a
  opened _ a _ := ⟨intake_empty_legal a, by simp [LegalNL]⟩
  push _ _ hf hc := ⟨hf.1, by simp only [LegalNL]; exact ⟨hc, hf.2⟩⟩
  close f hf := by simp only [Frame.close, Node.LegalN]; exact ⟨hf.1, legalNL_reverse _ hf.2⟩

theorem kept_legal : Kept TState.Legal := legal_inv.kept

theorem stepT_legal (s s' : TState) (t : Token) (h : s.Legal) (hs : stepT s t = .ok s') : s'.Legal :=
  kept_legal.stepT hs h

theorem runT_legal (ts : List Token) : ∀ s s' : TState, s.Legal → runT s ts = .ok s' → s'.Legal :=
  fun _ _ h hr => kept_legal.runT ts hr h

theorem finish_legal (s : TState) (h : s.Legal) : (finish s).Legal := kept_legal.finish s h

/-! ### the tree builder only builds trees of the serialiser's element shape

  lower-case names, void ⇒ self-closing, self-closing ⇒ no blocks: the element part of `LNode.WF`, as an invariant
  of the open-element stack machine. -/

mutual
def Node.WFN : Node → Prop
  | .text _ => True
  | .elem n _ sc kids => lower n = n ∧ (AHP.isVoid n = true → sc = true) ∧ (sc = true → kids = []) ∧ WFNL kids
def WFNL : List Node → Prop
  | [] => True
  | k :: ks => k.WFN ∧ WFNL ks
end

theorem wfNL_iff (ks : List Node) : WFNL ks ↔ ∀ k ∈ ks, k.WFN := by
  induction ks with
  | nil => simp [WFNL]
  | cons k ks ih => simp [WFNL, ih]

theorem wfNL_reverse (ks : List Node) (h : WFNL ks) : WFNL ks.reverse := by
  rw [wfNL_iff] at h ⊢
  intro k hk
  exact h k (List.mem_reverse.mp hk)

/-- an open element: lower-case, not void (a void element never stays open), blocks so far well shaped -/
def Frame.WFF (f : Frame) : Prop := lower f.name = f.name ∧ AHP.isVoid f.name = false ∧ WFNL f.rev

def TState.WFS (s : TState) : Prop := (∀ f ∈ s.stack, f.WFF) ∧ (∀ r, s.root = some r → r.WFN)

theorem TState.init_wfs : TState.init.WFS := inv_init

theorem wfs_inv : BuilderInv Node.WFN Frame.WFF where
  text _ _ := by simp [Node.WFN]
  leaf n _ := by simp only [Node.WFN, WFNL, and_true]; exact ⟨lower_idem n, fun _ => trivial, fun _ => trivial⟩
  opened n _ hv := ⟨lower_idem n, hv, by simp [WFNL]⟩
  push _ _ hf hc := ⟨hf.1, hf.2.1, by simp only [WFNL]; exact ⟨hc, hf.2.2⟩⟩
  close f hf := by
    simp only [Frame.close, Node.WFN]
    exact ⟨hf.1, fun hv => (by rw [hf.2.1] at hv; cases hv), fun h => (by cases h), wfNL_reverse _ hf.2.2⟩

theorem kept_wfs : Kept TState.WFS := wfs_inv.kept

theorem stepT_wfs (s s' : TState) (t : Token) (h : s.WFS) (hs : stepT s t = .ok s') : s'.WFS :=
  kept_wfs.stepT hs h

theorem runT_wfs (ts : List Token) : ∀ s s' : TState, s.WFS → runT s ts = .ok s' → s'.WFS :=
  fun _ _ h hr => kept_wfs.runT ts hr h

theorem finish_wfs (s : TState) (h : s.WFS) : (finish s).WFS := kept_wfs.finish s h

mutual
/-- every text block of the normal form is a text-like token (data run, reference, comment) -/
def LNode.TextLike : LNode → Prop
  | .tok t => (Spec.textOf t).isSome
  | .elem _ _ _ kids => TextLikeL kids
def TextLikeL : List LNode → Prop
  | [] => True
  | k :: ks => k.TextLike ∧ TextLikeL ks
end

theorem toNodeL_eq_nil (ks : List LNode) (h : toNodeL ks = []) : ks = [] := by
  cases ks with
  | nil => rfl
  | cons k ks => simp [toNodeL] at h

mutual
theorem wf_of_toNode (t : LNode) (ht : t.TextLike) (h : t.toNode.WFN) : t.WF := by
  match t, ht, h with
  | .tok tk, ht, _ => simpa [LNode.WF, LNode.TextLike] using ht
  | .elem n a sc kids, ht, h =>
    simp only [LNode.TextLike] at ht
    simp only [LNode.toNode, Node.WFN] at h
    simp only [LNode.WF]
    exact ⟨h.1, h.2.1, fun hsc => toNodeL_eq_nil kids (h.2.2.1 hsc), wfLL_of_toNodeL kids ht h.2.2.2⟩
theorem wfLL_of_toNodeL (ks : List LNode) (ht : TextLikeL ks) (h : WFNL (toNodeL ks)) : WFLL ks := by
  match ks, ht, h with
  | [], _, _ => simp [WFLL]
  | k :: ks, ht, h =>
    simp only [TextLikeL] at ht
    simp only [toNodeL, WFNL] at h
    simp only [WFLL]
    exact ⟨wf_of_toNode k ht.1 h.1, wfLL_of_toNodeL ks ht.2 h.2⟩
end

/-- `handle_endtag` of the validating parser on the open names: no such element open, not the innermost one, or
    the innermost one, which is closed -/
theorem vStepT_end (s : TState) (n : Str) : vStepT s (.end_ n) = match names s with
    | [] => .invalidClose
    | m :: _ => if !(names s).contains n then .invalidClose else if m ≠ n then .missedClose else .ok (pop1 s) := by
  unfold vStepT names
  cases s.stack <;> rfl

/-- one callback of the validating parser, read locally: what it raises is the token's error in its context
    (`errAt`: open names, root seen); when it raises nothing, the open names and the root flag move as the
    context fold says (`openAfter`, `rootAfter`) -/
theorem vStepT_errAt (s : TState) (t : Token) :
    (vStepT s t).err = errAt (names s) s.hasRoot t ∧
    ∀ s', vStepT s t = .ok s' → names s' = openAfter (names s) [t] ∧ s'.hasRoot = rootAfter s.hasRoot [t] := by
  have hE := names_isEmpty s
  have hstart : ∀ (n : Str) (a : List Attr) (sc : Bool),
      (if a.all (fun p => validAttrName p.1) then handleStart s n a sc else .invalidAttr).err
        = (if !legalAttrs a then some .invalidAttr else if s.hasRoot && (names s).isEmpty then some .multipleRoot
           else none) ∧
      ∀ s', (if a.all (fun p => validAttrName p.1) then handleStart s n a sc else .invalidAttr) = .ok s' →
        names s' = (if sc || Spec.isVoid (lower n) then names s else lower n :: names s) ∧ s'.hasRoot = true := by
    intro n a sc
    unfold legalAttrs
    cases a.all (fun p => validAttrName p.1)
    · exact ⟨rfl, fun _ h => by cases h⟩
    · simp only [if_true, Bool.not_true, Bool.false_eq_true, if_false, handleStart_eq, hE]
      cases (s.hasRoot && s.stack.isEmpty)
      · simp only [Bool.false_eq_true, if_false]
        split
        · exact ⟨rfl, fun _ h => by cases h; exact ⟨names_addNode _ _, hasRoot_addNode _ _⟩⟩
        · exact ⟨rfl, fun _ h => by cases h; exact ⟨rfl, by simp [TState.hasRoot]⟩⟩
      · exact ⟨rfl, fun _ h => by cases h⟩
  have htext : ∀ x : Str, (addTextStrict s x).err = (if (names s).isEmpty then some .multipleRoot else none) ∧
      ∀ s', addTextStrict s x = .ok s' → names s' = names s ∧ s'.hasRoot = s.hasRoot := by
    intro x
    unfold addTextStrict
    rw [hE]
    cases he : s.stack.isEmpty
    · have hne : s.stack ≠ [] := by intro e; rw [e] at he; cases he
      exact ⟨rfl, fun _ h => by cases h; exact ⟨names_addNode _ _, by rw [hasRoot_addNode, hasRoot_of_stack hne]⟩⟩
    · exact ⟨rfl, fun _ h => by cases h⟩
  cases t with
  | start n a =>
    obtain ⟨h1, h2⟩ := hstart n a false
    refine ⟨h1, fun s' h => ?_⟩
    have := h2 s' h
    simp only [Bool.false_or] at this
    simp only [openAfter, rootAfter]
    exact this
  | startend n a =>
    obtain ⟨h1, h2⟩ := hstart n a true
    exact ⟨h1, fun s' h => by simpa [openAfter, rootAfter] using h2 s' h⟩
  | comment c => exact htext _
  | entity c => exact htext _
  | charref c => exact htext _
  | decl d => exact ⟨rfl, fun _ h => by cases h; exact ⟨rfl, rfl⟩⟩
  | unknownDecl d => exact ⟨rfl, fun _ h => by cases h; exact ⟨rfl, rfl⟩⟩
  | pi d => exact ⟨rfl, fun _ h => by cases h; exact ⟨rfl, rfl⟩⟩
  | data d =>
    simp only [vStepT, stepT, errAt, hE, openAfter, rootAfter]
    by_cases hd : d.isEmpty = true
    · simp only [hd, if_true, Bool.true_or]
      exact ⟨rfl, fun _ h => by cases h; exact ⟨rfl, rfl⟩⟩
    · cases he : s.stack.isEmpty
      · have hne : s.stack ≠ [] := by intro e; rw [e] at he; cases he
        simp only [hd, Bool.false_eq_true, if_false, Bool.not_false, if_true, Bool.false_or, Bool.true_or]
        exact ⟨rfl, fun _ h => by cases h; exact ⟨names_addNode _ _, by rw [hasRoot_addNode, hasRoot_of_stack hne]⟩⟩
      · by_cases hb : isBlank d = true
        · simp only [hd, hb, Bool.false_eq_true, if_false, Bool.not_true, if_true, Bool.false_or]
          exact ⟨rfl, fun _ h => by cases h; exact ⟨rfl, rfl⟩⟩
        · simp only [hd, hb, Bool.false_eq_true, if_false, Bool.not_true, Bool.false_or]
          exact ⟨rfl, fun _ h => by cases h⟩
  | end_ n =>
    rw [vStepT_end]
    simp only [errAt, openAfter, rootAfter]
    cases hn : names s with
    | nil => exact ⟨rfl, fun _ h => by cases h⟩
    | cons m o =>
      simp only
      split
      · exact ⟨rfl, fun _ h => by cases h⟩
      · split
        · exact ⟨rfl, fun _ h => by cases h⟩
        · have hr := hasRoot_of_stack (names_ne_nil.mp (by rw [hn]; exact List.cons_ne_nil _ _))
          refine ⟨rfl, fun _ h => ?_⟩
          cases h
          exact ⟨by rw [names_pop1_tail, hn], by rw [hr, hasRoot_pop1 s hr]⟩

theorem vStepT_legal {a : List Attr} (hl : legalAttrs a = true) (s : TState) (n : Str) :
    vStepT s (.start n a) = handleStart s n a false ∧ vStepT s (.startend n a) = handleStart s n a true := by
  unfold legalAttrs at hl
  simp only [vStepT, hl, if_true, and_self]

theorem vStepT_close {s : TState} {m : Str} {o : List Str} (h : names s = m :: o) :
    vStepT s (.end_ m) = .ok (pop1 s) ∧ names (pop1 s) = o := by
  refine ⟨?_, by rw [names_pop1_tail, h]; rfl⟩
  rw [vStepT_end, h]
  simp

theorem vStepT_eq_or_validator (s : TState) (t : Token) :
    vStepT s t = stepT s t ∨ vStepT s t = .invalidAttr ∨ vStepT s t = .invalidClose ∨ vStepT s t = .missedClose := by
  cases t with
  | start n a =>
    simp only [vStepT]; split
    · exact Or.inl rfl
    · exact Or.inr (Or.inl rfl)
  | startend n a =>
    simp only [vStepT]; split
    · exact Or.inl rfl
    · exact Or.inr (Or.inl rfl)
  | end_ n =>
    cases hs : s.stack with
    | nil => exact Or.inr (Or.inr (Or.inl (by simp [vStepT, hs])))
    | cons f fs =>
      simp only [vStepT, hs]
      split
      · exact Or.inr (Or.inr (Or.inl rfl))
      · split
        · exact Or.inr (Or.inr (Or.inr rfl))
        · rename_i hm
          have hm : f.name = n := by simpa using hm
          rw [← hm]
          exact Or.inl (by simp only [stepT, handleEnd_own hs])
  | _ => exact Or.inl rfl

end AHP
