/-
  AHP.Lemmas.Squeeze — what `Formatter.handle_data` does to a data piece (`Fmt.squeeze`).  The rule rewrites the white run in
  front of a piece and the one behind it, each on its own, and leaves what is between them alone (`sq_split`; `sq_ws` for a
  piece of white space only).  Read off from that, and from what a stage may write (`squeeze_mem_map`): it only moves white
  space (C11a), never leaves a tab or an outer line break (C12b), is idempotent (C12b, C12d), and a piece that has met an
  indent (`IsIndent`: a line break, then spaces/tabs) once absorbs it from then on (`squeeze_indent_stable`, the key to C12d).
-/
import AHP.Model.Format
import AHP.Lemmas.Str
namespace AHP.Fmt
open AHP

def eraseWS (s : Str) : Str := s.filter (fun c => !pyWs c)

def blank (s : Str) : Bool := s.all pyWs

theorem pyWs_space : pyWs ' ' = true := by decide
theorem pyWs_tab : pyWs '\t' = true := by decide
theorem pyWs_crlf (c : Char) (h : isCRLF c = true) : pyWs c = true := by
  simp only [isCRLF, Bool.or_eq_true, decide_eq_true_eq] at h
  rcases h with h | h <;> subst h <;> decide

theorem eraseWS_append (a b : Str) : eraseWS (a ++ b) = eraseWS a ++ eraseWS b := by
  simp [eraseWS]

theorem eraseWS_idem (s : Str) : eraseWS (eraseWS s) = eraseWS s := by
  unfold eraseWS
  rw [List.filter_filter]
  simp

theorem eraseWS_reverse (s : Str) : eraseWS s.reverse = (eraseWS s).reverse := by
  simp [eraseWS, List.filter_reverse]

theorem eraseWS_dropWhile (p : Char → Bool) (hp : ∀ c, p c = true → pyWs c = true) (s : Str) :
    eraseWS (s.dropWhile p) = eraseWS s := by
  induction s with
  | nil => rfl
  | cons c r ih =>
    by_cases hc : p c = true
    · have : eraseWS (c :: r) = eraseWS r := by simp [eraseWS, hp c hc]
      rw [this, ← ih]; simp [List.dropWhile, hc]
    · simp [List.dropWhile, hc]

theorem eraseWS_rdropWhile (p : Char → Bool) (hp : ∀ c, p c = true → pyWs c = true) (s : Str) :
    eraseWS (rdropWhile p s) = eraseWS s := by
  unfold rdropWhile
  rw [eraseWS_reverse, eraseWS_dropWhile p hp, eraseWS_reverse, List.reverse_reverse]

theorem eraseWS_map_tab (s : Str) : eraseWS (s.map tabToSpace) = eraseWS s := by
  induction s with
  | nil => rfl
  | cons c r ih =>
    by_cases hc : c = '\t'
    · subst hc
      simp only [List.map_cons, tabToSpace, if_true]
      simpa [eraseWS, pyWs_space, pyWs_tab] using ih
    · simp only [List.map_cons, tabToSpace, hc, if_false]
      simp only [eraseWS, List.filter_cons] at ih ⊢
      rw [ih]

theorem eraseWS_allWs {w : Str} (hw : AllWs w) : eraseWS w = [] :=
  List.filter_eq_nil_iff.mpr (fun c hc => by simp [show pyWs c = true from hw c hc])

theorem blank_iff (s : Str) : blank s = true ↔ eraseWS s = [] := by
  simp [blank, eraseWS, List.filter_eq_nil_iff]

theorem blank_append (a b : Str) : blank (a ++ b) = (blank a && blank b) := by simp [blank]

theorem blank_of_eraseWS_eq (a b : Str) (h : eraseWS a = eraseWS b) : blank a = blank b :=
  Bool.eq_iff_iff.mpr (by rw [blank_iff, blank_iff, h])

theorem pyStrip_ws (w : Str) (h : ∀ c ∈ w, pyWs c = true) : pyStrip w = [] := by
  unfold pyStrip pyLstrip
  rw [dropWhile_eq_nil_iff.mpr h]
  rfl

theorem pyStrip_isEmpty (d : Str) : (pyStrip d).isEmpty = blank d := by
  have h1 : eraseWS (pyStrip d) = eraseWS d := by
    unfold pyStrip pyRstrip pyLstrip
    rw [eraseWS_rdropWhile pyWs (fun _ h => h), eraseWS_dropWhile pyWs (fun _ h => h)]
  cases hb : blank d with
  | true =>
    have : pyStrip d = [] := pyStrip_ws d (by simpa [blank] using hb)
    simp [this]
  | false =>
    cases hp : pyStrip d with
    | nil =>
      rw [hp] at h1
      have := (blank_iff d).mpr h1.symm
      rw [this] at hb
      exact absurd hb (by decide)
    | cons c cs => rfl

/-! `squeeze` after the tabs have become spaces is `sqT ∘ sqL ∘ sqC`: `strip('\r\n')`, then the leading, then the trailing
white-space rule -/

def sqC (m : Str) : Str := rdropWhile isCRLF (m.dropWhile isCRLF)
def sqL (d : Str) : Str := if d.head? = some ' ' then ' ' :: pyLstrip d else d
def sqT (d : Str) : Str := if d.getLast? = some ' ' then pyRstrip d ++ [' '] else d

theorem squeeze_eq (s : Str) : squeeze s = sqT (sqL (sqC (s.map tabToSpace))) := rfl

theorem squeeze_nil : squeeze [] = [] := rfl

theorem rdropWhile_id (p : Char → Bool) (l : Str) (h : ∀ c, l.getLast? = some c → p c = false) : rdropWhile p l = l := by
  unfold rdropWhile
  rw [dropWhile_id p l.reverse (by simpa using h), List.reverse_reverse]

theorem last_rdropWhile (p : Char → Bool) (l : Str) (c : Char) (h : (rdropWhile p l).getLast? = some c) : p c = false := by
  unfold rdropWhile at h
  rw [List.getLast?_reverse] at h
  exact head_dropWhile p _ c h

theorem rdropWhile_prefix (p : Char → Bool) (l : Str) : rdropWhile p l <+: l := by
  unfold rdropWhile
  have := List.dropWhile_suffix p (l := l.reverse)
  have := List.reverse_prefix.mpr this
  simpa using this

theorem head_of_prefix {a l : Str} (h : a <+: l) (c : Char) (hc : a.head? = some c) : l.head? = some c := by
  obtain ⟨t, rfl⟩ := h
  cases a with
  | nil => simp at hc
  | cons x xs => simpa using hc

theorem dropWhile_idem (p : Char → Bool) (l : Str) : (l.dropWhile p).dropWhile p = l.dropWhile p :=
  dropWhile_id p _ (head_dropWhile p l)

theorem rdropWhile_snoc (p : Char → Bool) (l : Str) (c : Char) (h : p c = true) : rdropWhile p (l ++ [c]) = rdropWhile p l := by
  simp [rdropWhile, h]

theorem rdropWhile_append (p : Char → Bool) (a b : Str) :
    rdropWhile p (a ++ b) = if rdropWhile p b = [] then rdropWhile p a else a ++ rdropWhile p b := by
  unfold rdropWhile
  rw [List.reverse_append, List.dropWhile_append]
  by_cases h : (List.dropWhile p b.reverse).isEmpty = true
  · have h' : List.dropWhile p b.reverse = [] := by simpa using h
    simp [h']
  · have h' : List.dropWhile p b.reverse ≠ [] := by simpa using h
    simp [h, h']

theorem rdropWhile_all (p : Char → Bool) (w : Str) (h : ∀ c ∈ w, p c = true) : rdropWhile p w = [] := by
  unfold rdropWhile
  rw [dropWhile_eq_nil_iff.mpr (fun c hc => h c (by simpa using hc))]
  rfl

theorem rdropWhile_append_of_last (p : Char → Bool) (x b : Str) (hx : ∀ c, x.getLast? = some c → p c = false) :
    rdropWhile p (x ++ b) = x ++ rdropWhile p b := by
  rw [rdropWhile_append, rdropWhile_id p x hx]
  split
  · next h => rw [h, List.append_nil]
  · rfl

def NoTab (d : Str) : Prop := ∀ c ∈ d, c ≠ '\t'

theorem noTab_map (s : Str) : NoTab (s.map tabToSpace) := by
  intro c hc
  simp only [List.mem_map] at hc
  obtain ⟨x, _, rfl⟩ := hc
  unfold tabToSpace
  by_cases hx : x = '\t' <;> simp [hx]

theorem rdropWhile_mem (p : Char → Bool) (l : Str) : ∀ c ∈ rdropWhile p l, c ∈ l :=
  fun _ hc => (rdropWhile_prefix p l).subset hc

theorem sqC_mem (m : Str) : ∀ c ∈ sqC m, c ∈ m := by
  intro c hc
  exact mem_of_mem_dropWhile (rdropWhile_mem _ _ c hc)

theorem sqL_mem (d : Str) : ∀ c ∈ sqL d, c = ' ' ∨ c ∈ d := by
  intro c hc
  unfold sqL at hc
  split at hc
  · rcases List.mem_cons.mp hc with e | e
    · exact Or.inl e
    · exact Or.inr (mem_of_mem_dropWhile e)
  · exact Or.inr hc

theorem sqT_mem (d : Str) : ∀ c ∈ sqT d, c = ' ' ∨ c ∈ d := by
  intro c hc
  unfold sqT at hc
  split at hc
  · rcases List.mem_append.mp hc with e | e
    · exact Or.inr (rdropWhile_mem _ _ c e)
    · exact Or.inl (by simpa using e)
  · exact Or.inr hc

theorem squeeze_mem_map (s : Str) : ∀ c ∈ squeeze s, c = ' ' ∨ c ∈ s.map tabToSpace := by
  intro c hc
  rw [squeeze_eq] at hc
  rcases sqT_mem _ c hc with e | e
  · exact Or.inl e
  · rcases sqL_mem _ c e with e | e
    · exact Or.inl e
    · exact Or.inr (sqC_mem _ c e)

theorem squeeze_mem (s : Str) : ∀ c ∈ squeeze s, c = ' ' ∨ c ∈ s := by
  intro c hc
  rcases squeeze_mem_map s c hc with e | e
  · exact Or.inl e
  · obtain ⟨y, hy, rfl⟩ := List.mem_map.mp e
    unfold tabToSpace
    split
    · exact Or.inl rfl
    · exact Or.inr hy

/-- C12b: a squeezed piece contains no tab. -/
theorem squeeze_noTab (s : Str) : NoTab (squeeze s) := by
  intro c hc
  rcases squeeze_mem_map s c hc with rfl | h
  · decide
  · exact noTab_map s c h

theorem map_tab_id (d : Str) (h : NoTab d) : d.map tabToSpace = d := by
  induction d with
  | nil => rfl
  | cons c r ih =>
    have hc : c ≠ '\t' := h c (by simp)
    simp only [List.map_cons, tabToSpace, hc, if_false]
    rw [ih (fun x hx => h x (by simp [hx]))]

/-- does not begin / does not end with a line break (`'\r'`, `'\n'`) -/
def HeadOK (d : Str) : Prop := ∀ c, d.head? = some c → isCRLF c = false
def LastOK (d : Str) : Prop := ∀ c, d.getLast? = some c → isCRLF c = false

theorem isCRLF_space : isCRLF ' ' = false := by decide

theorem not_crlf_of_not_ws {c : Char} (h : pyWs c = false) : isCRLF c = false := by
  cases hc : isCRLF c with
  | false => rfl
  | true => rw [pyWs_crlf c hc] at h; cases h

/-! `pyWs c` unfolds to `isWs c`, and with it `pyLstrip`, `pyRstrip`, `pyStrip` to `lstrip`, `rstrip`, `strip`: the lemmas of
Lemmas/Str about `AllWs` and `strip` (`strip_decomp`, `dropWhile_allWs`, …) are used on them as they stand. -/

theorem sqT_eq (d : Str) : sqT d = (sqL d.reverse).reverse := by
  simp [sqT, sqL, pyRstrip, pyLstrip, rdropWhile, apply_ite List.reverse]

theorem sqL_ws (a : Str) (ha : AllWs a) : sqL a = if a.head? = some ' ' then [' '] else a := by
  unfold sqL pyLstrip
  rw [show List.dropWhile pyWs a = [] from dropWhile_allWs ha]

theorem sqT_ws (b : Str) (hb : AllWs b) : sqT b = if b.getLast? = some ' ' then [' '] else b := by
  rw [sqT_eq, sqL_ws _ (allWs_reverse hb), List.head?_reverse]
  split <;> simp

theorem sqL_append (a x : Str) (ha : AllWs a) (hx : ∀ c, x.head? = some c → pyWs c = false) :
    sqL (a ++ x) = sqL a ++ x := by
  cases a with
  | nil =>
    have : ¬ x.head? = some ' ' := fun h => by simpa [pyWs_space] using hx _ h
    simp [sqL, this]
  | cons c a' =>
    rw [sqL_ws _ ha]
    unfold sqL pyLstrip
    rw [show List.dropWhile pyWs (c :: a' ++ x) = x from
      (dropWhile_allWs_append ha x).trans (dropWhile_id isWs x hx)]
    by_cases hc : c = ' ' <;> simp [hc]

theorem sqT_append (x b : Str) (hb : AllWs b) (hx : ∀ c, x.getLast? = some c → pyWs c = false) :
    sqT (x ++ b) = x ++ sqT b := by
  rw [sqT_eq, sqT_eq, List.reverse_append, sqL_append _ _ (allWs_reverse hb) (by simpa using hx)]
  simp

/-- what the rule leaves of the white run in front of a piece, and of the one behind it -/
def lead (a : Str) : Str := sqL (a.dropWhile isCRLF)
def trail (b : Str) : Str := sqT (rdropWhile isCRLF b)

/-- a piece that begins and ends with a character that is not white space -/
def Core (k : Str) : Prop :=
  k ≠ [] ∧ (∀ c, k.head? = some c → pyWs c = false) ∧ (∀ c, k.getLast? = some c → pyWs c = false)

theorem Core.head {k : Str} (h : Core k) (y : Str) : ∀ c, (k ++ y).head? = some c → pyWs c = false := by
  obtain ⟨hk, h1, _⟩ := h
  cases k with
  | nil => exact absurd rfl hk
  | cons x xs => simpa using h1

theorem Core.last {k : Str} (h : Core k) (x : Str) : ∀ c, (x ++ k).getLast? = some c → pyWs c = false := by
  intro c hc
  exact h.2.2 c (getLast?_append_ne x k h.1 ▸ hc)

theorem sq_split (a k b : Str) (ha : AllWs a) (hb : AllWs b) (hk : Core k) :
    sqT (sqL (sqC (a ++ k ++ b))) = lead a ++ k ++ trail b := by
  unfold sqC lead trail
  rw [List.append_assoc, dropWhile_append_of_head isCRLF a _ (fun c hc => not_crlf_of_not_ws (hk.head b c hc)),
    ← List.append_assoc, rdropWhile_append_of_last isCRLF _ b (fun c hc => not_crlf_of_not_ws (hk.last _ c hc)),
    List.append_assoc, sqL_append _ _ (fun c hc => ha c (mem_of_mem_dropWhile hc)) (hk.head _), ← List.append_assoc,
    sqT_append _ _ (fun c hc => hb c (rdropWhile_mem _ b c hc)) (hk.last _)]

theorem sq_ws (w : Str) (hw : AllWs w) :
    sqT (sqL (sqC w)) = if (sqC w).head? = some ' ' ∨ (sqC w).getLast? = some ' ' then [' '] else sqC w := by
  have he : AllWs (sqC w) := fun c hc => hw c (sqC_mem w c hc)
  rw [sqL_ws _ he]
  by_cases h1 : (sqC w).head? = some ' '
  · rw [if_pos h1, if_pos (Or.inl h1)]; decide
  · rw [if_neg h1, sqT_ws _ he]; simp [h1]

theorem split_cases (m : Str) : AllWs m ∨ ∃ a k b, m = a ++ k ++ b ∧ AllWs a ∧ AllWs b ∧ Core k := by
  obtain ⟨a, b, ha, hb, h⟩ := strip_decomp m
  cases hk : strip m with
  | nil =>
    left
    rw [h, hk]
    intro c hc
    simp only [List.nil_append, List.mem_append] at hc
    exact hc.elim (ha c) (hb c)
  | cons x xs =>
    refine Or.inr ⟨a, x :: xs, b, by rw [h, hk, List.append_assoc], ha, hb, List.cons_ne_nil _ _, ?_, fun c hc => ?_⟩
    · intro c hc
      simp only [List.head?_cons, Option.some.injEq] at hc
      exact hc ▸ strip_head hk
    · exact strip_last (s := m) (hk ▸ hc)

theorem allWs_lead {a : Str} (ha : AllWs a) : AllWs (lead a) := fun c hc =>
  (sqL_mem _ c hc).elim (fun e => e ▸ pyWs_space) (fun h => ha c (mem_of_mem_dropWhile h))

theorem allWs_trail {b : Str} (hb : AllWs b) : AllWs (trail b) := fun c hc =>
  (sqT_mem _ c hc).elim (fun e => e ▸ pyWs_space) (fun h => hb c (rdropWhile_mem _ b c h))

theorem allWs_sq {w : Str} (hw : AllWs w) : AllWs (sqT (sqL (sqC w))) := fun c hc =>
  (sqT_mem _ c hc).elim (· ▸ pyWs_space) fun h => (sqL_mem _ c h).elim (· ▸ pyWs_space) fun h => hw c (sqC_mem _ c h)

/-- C11a: squeezing only moves white space — the text without white space is unchanged. -/
theorem eraseWS_squeeze (s : Str) : eraseWS (squeeze s) = eraseWS s := by
  rw [squeeze_eq, ← eraseWS_map_tab s]
  rcases split_cases (s.map tabToSpace) with hw | ⟨a, k, b, hm, ha, hb, hk⟩
  · rw [eraseWS_allWs hw, eraseWS_allWs (allWs_sq hw)]
  · rw [hm, sq_split a k b ha hb hk]
    simp only [eraseWS_append, eraseWS_allWs ha, eraseWS_allWs hb, eraseWS_allWs (allWs_lead ha), eraseWS_allWs (allWs_trail hb)]

/-- C11a: a data piece that is more than white space is never dropped. -/
theorem squeeze_not_blank (s : Str) (h : blank s = false) : blank (squeeze s) = false := by
  cases hb : blank (squeeze s) with
  | false => rfl
  | true =>
    rw [blank_iff, eraseWS_squeeze, ← blank_iff] at hb
    rw [hb] at h; cases h

theorem trail_eq (b : Str) : trail b = (lead b.reverse).reverse := by
  simp [trail, lead, sqT_eq, rdropWhile]

theorem lead_idem (a : Str) (ha : AllWs a) : lead (lead a) = lead a := by
  unfold lead
  have he : AllWs (a.dropWhile isCRLF) := fun c hc => ha c (mem_of_mem_dropWhile hc)
  rw [sqL_ws _ he]
  split
  · decide
  · next h => rw [dropWhile_idem, sqL_ws _ he, if_neg h]

theorem trail_idem (b : Str) (hb : AllWs b) : trail (trail b) = trail b := by
  rw [trail_eq, trail_eq b, List.reverse_reverse, lead_idem _ (allWs_reverse hb)]

theorem headOK_sqC (m : Str) : HeadOK (sqC m) := by
  intro c hc
  exact head_dropWhile isCRLF m c (head_of_prefix (rdropWhile_prefix _ _) c hc)

theorem lastOK_sqC (m : Str) : LastOK (sqC m) := fun c hc => last_rdropWhile isCRLF _ c hc

theorem sqC_id (d : Str) (h1 : HeadOK d) (h2 : LastOK d) : sqC d = d := by
  unfold sqC
  rw [dropWhile_id isCRLF d h1, rdropWhile_id isCRLF d h2]

theorem headOK_lead (a : Str) : HeadOK (lead a) := by
  intro c hc
  unfold lead sqL at hc
  split at hc
  · simp only [List.head?_cons, Option.some.injEq] at hc
    exact hc ▸ isCRLF_space
  · exact head_dropWhile isCRLF a c hc

theorem lastOK_trail (b : Str) : LastOK (trail b) := by
  intro c hc
  rw [trail_eq, List.getLast?_reverse] at hc
  exact headOK_lead _ c hc

/-- C12b: a squeezed piece neither begins nor ends with a line break. -/
theorem squeeze_ends (s : Str) : HeadOK (squeeze s) ∧ LastOK (squeeze s) := by
  rw [squeeze_eq]
  rcases split_cases (s.map tabToSpace) with hw | ⟨a, k, b, hm, ha, hb, hk⟩
  · rw [sq_ws _ hw]
    split
    · exact ⟨fun c hc => by cases hc; decide, fun c hc => by cases hc; decide⟩
    · exact ⟨headOK_sqC _, lastOK_sqC _⟩
  · rw [hm, sq_split a k b ha hb hk]
    constructor
    · intro c hc
      rw [List.append_assoc, List.head?_append] at hc
      cases hl : (lead a).head? with
      | none => rw [hl] at hc; exact not_crlf_of_not_ws (hk.head _ c hc)
      | some y => rw [hl] at hc; cases hc; exact headOK_lead a c hl
    · intro c hc
      rw [List.getLast?_append] at hc
      cases hl : (trail b).getLast? with
      | none => rw [hl] at hc; exact not_crlf_of_not_ws (hk.last _ c hc)
      | some y => rw [hl] at hc; cases hc; exact lastOK_trail b c hl

/-- **C12b / C12d core**: the data rule is idempotent — a squeezed piece is a fixed point. -/
theorem squeeze_idem (s : Str) : squeeze (squeeze s) = squeeze s := by
  conv => lhs; rw [squeeze_eq, map_tab_id _ (squeeze_noTab s)]
  rw [squeeze_eq]
  rcases split_cases (s.map tabToSpace) with hw | ⟨a, k, b, hm, ha, hb, hk⟩
  · rw [sq_ws _ hw]
    split
    · decide
    · next h =>
      rw [sqC_id _ (headOK_sqC _) (lastOK_sqC _), sq_ws _ hw, if_neg h]
  · rw [hm, sq_split a k b ha hb hk, sq_split _ k _ (allWs_lead ha) (allWs_trail hb) hk, lead_idem a ha, trail_idem b hb]

theorem squeeze_append_lf (x : Str) : squeeze (x ++ ['\n']) = squeeze x := by
  rw [squeeze_eq, squeeze_eq]
  congr 2
  rw [List.map_append]
  show sqC (x.map tabToSpace ++ ['\n']) = sqC (x.map tabToSpace)
  generalize x.map tabToSpace = m
  unfold sqC
  rw [List.dropWhile_append]
  by_cases h : (List.dropWhile isCRLF m).isEmpty = true
  · have h' : List.dropWhile isCRLF m = [] := by simpa using h
    simp [h', List.dropWhile, isCRLF, rdropWhile]
  · simp only [h, Bool.false_eq_true, if_false]
    exact rdropWhile_snoc isCRLF _ '\n' (by decide)

theorem squeeze_lf_cons (x : Str) : squeeze ('\n' :: x) = squeeze x := by
  have h1 : tabToSpace '\n' = '\n' := by decide
  have h2 : isCRLF '\n' = true := by decide
  simp only [squeeze, List.map_cons, h1, List.dropWhile_cons, h2, if_true]

def IsIndent (i : Str) : Prop := ∃ j, i = '\n' :: j ∧ ∀ c ∈ j, c = ' ' ∨ c = '\t'

theorem isIndent_ne (i : Str) (h : IsIndent i) : i ≠ [] := by
  obtain ⟨j, rfl, _⟩ := h
  simp

theorem trail_space (y : Str) (hy : AllWs y) (hl : y.getLast? = some ' ') : trail y = [' '] := by
  unfold trail
  rw [rdropWhile_id isCRLF y (fun c hc => by rw [hl] at hc; cases hc; decide), sqT_ws y hy, if_pos hl]

theorem sq_ws_space (y : Str) (hy : AllWs y) (hl : y.getLast? = some ' ') : sqT (sqL (sqC y)) = [' '] := by
  obtain ⟨x, rfl⟩ := List.getLast?_eq_some_iff.mp hl
  have : (sqC (x ++ [' '])).getLast? = some ' ' := by
    unfold sqC
    rw [dropWhile_append_of_head isCRLF x [' '] (fun c hc => by cases hc; decide),
      rdropWhile_id isCRLF _ (fun c hc => by rw [List.getLast?_concat] at hc; cases hc; decide), List.getLast?_concat]
  rw [sq_ws _ hy, if_pos (Or.inr this)]

/-- **C12d core** (DESIGN §5 C12): the only data piece that meets the indent `I` the previous pass put before the next
    tag is stable from the second pass on — `sq (sq (d ++ I) ++ I) = sq (d ++ I)` for every piece `d` (possibly empty)
    and every indent `I` = line break followed by spaces/tabs (possibly none). -/
theorem squeeze_indent_stable (d i : Str) (hi : IsIndent i) :
    squeeze (squeeze (d ++ i) ++ i) = squeeze (d ++ i) := by
  obtain ⟨j, rfl, hj⟩ := hi
  by_cases hne : j = []
  · subst hne
    rw [squeeze_append_lf, squeeze_append_lf, squeeze_idem]
  · conv => lhs; rw [squeeze_eq, List.map_append, map_tab_id _ (squeeze_noTab _)]
    rw [squeeze_eq, List.map_append]
    -- with its tabs turned into spaces the indent is white space that ends in a space
    have hW : AllWs (('\n' :: j).map tabToSpace) := by
      intro c hc
      obtain ⟨x, hx, rfl⟩ := List.mem_map.mp hc
      rcases List.mem_cons.mp hx with rfl | hx
      · decide
      · rcases hj x hx with rfl | rfl <;> decide
    have hl : ∀ x : Str, (x ++ ('\n' :: j).map tabToSpace).getLast? = some ' ' := by
      intro x
      obtain ⟨j', c, rfl⟩ : ∃ j' c, j = j' ++ [c] := by
        rcases List.eq_nil_or_concat j with h | ⟨j', c, h⟩
        · exact absurd h hne
        · exact ⟨j', c, by rw [h, List.concat_eq_append]⟩
      have : tabToSpace c = ' ' := by rcases hj c (by simp) with rfl | rfl <;> decide
      rw [← List.cons_append, List.map_append, ← List.append_assoc, List.map_singleton, this, List.getLast?_concat]
    generalize ('\n' :: j).map tabToSpace = W at hW hl
    have hWs : ∀ {x : Str}, AllWs x → AllWs (x ++ W) := fun hx c hc => (List.mem_append.mp hc).elim (hx c) (hW c)
    rcases split_cases (d.map tabToSpace) with hw | ⟨a, k, b, hm, ha, hb, hk⟩
    · rw [sq_ws_space _ (hWs hw) (hl _), sq_ws_space _ (hWs allWs_space) (hl _)]
    · rw [hm, List.append_assoc (a ++ k), sq_split a k _ ha (hWs hb) hk, trail_space _ (hWs hb) (hl _),
        List.append_assoc _ [' '], sq_split _ k _ (allWs_lead ha) (hWs allWs_space) hk, lead_idem a ha,
        trail_space _ (hWs allWs_space) (hl _)]
end AHP.Fmt
