/-
  AHP.Lemmas.TreeModelsOrder — document order of the hub tree and its images; the DOM constructor against model (1).

  `HN.subs` lists the elements of a hub tree in document order, each with the identity of its parent.  Every
  model's traversal is the image of that one list: `G3.preorderL` (C06/C07), `Dom.ids`/`Dom.elems` (C04/C05;
  `Dom.descL`, the `getAllChildNodes` model, is `Dom.idsL`: Lemmas/Dom.lean), `Pk.DN.elems`/`oids`/`uids` (C16/C17).  What `Dom.mk` builds for
  a parsed node is, identities forgotten and text normalised, that node as a tree of model (1) (`fnNode`, `mk_norm`).
-/
import AHP.Lemmas.TreeModels
import AHP.Lemmas.Index
import AHP.Lemmas.RoundTrip
namespace AHP.TM
open AHP AHP.AttrStores

mutual
/-- every element with the identity of its parent (`par` for the top), document order -/
def HN.subs (par : Option Nat) : HN → List (Option Nat × HN)
  | .text _ => []
  | .el i n a sc ks => (par, .el i n a sc ks) :: subsL (some i) ks
def subsL (par : Option Nat) : List HN → List (Option Nat × HN)
  | [] => []
  | k :: ks => k.subs par ++ subsL par ks
end

@[simp] theorem subsL_nil (p) : subsL p [] = [] := by simp [subsL]
@[simp] theorem subsL_cons (p) (k : HN) (ks : List HN) : subsL p (k :: ks) = k.subs p ++ subsL p ks := by simp [subsL]
@[simp] theorem subs_text (p) (s : Str) : (HN.text s).subs p = [] := by simp [HN.subs]
@[simp] theorem subs_el (p i n a sc ks) :
    (HN.el i n a sc ks).subs p = (p, .el i n a sc ks) :: subsL (some i) ks := by simp [HN.subs]

mutual
theorem subs_ids : ∀ (h : HN) (p : Option Nat), (h.subs p).map (fun e => e.2.id) = h.ids
  | .text _, _ => by simp
  | .el i n a sc ks, p => by rw [subs_el, List.map_cons, subsL_ids ks (some i), ids_el]; rfl
theorem subsL_ids : ∀ (ks : List HN) (p : Option Nat), (subsL p ks).map (fun e => e.2.id) = idsL ks
  | [], _ => by simp
  | k :: ks, p => by rw [subsL_cons, List.map_append, subs_ids k p, subsL_ids ks p, idsL_cons]
end

/-- the entries of an attribute listing that carry a string (a bare attribute carries none), as the search and the XPath
    model keep them -/
def strVals (l : List Attr) : List (Str × Str) := l.filterMap (fun p => p.2.map (fun v => (p.1, v)))

/-- the attribute dictionary the searches read: the listing without `class` -/
def g3Attrs (st : AttrState) : List (Str × Str) := strVals (dictDel st.view kClass)

def g3Elem (i : Nat) (n : Str) (a : AttrState) (ks : List HN) : G3.Elem := ⟨i, n, g3Attrs a, a.classes, kidText ks⟩

mutual
def HN.g3 : HN → List G3.Node
  | .text _ => []
  | .el i n a _ ks => [.mk (g3Elem i n a ks) (g3L ks)]
def g3L : List HN → List G3.Node
  | [] => []
  | k :: ks => k.g3 ++ g3L ks
end

@[simp] theorem g3L_nil : g3L [] = [] := by simp [g3L]
@[simp] theorem g3L_cons (k : HN) (ks : List HN) : g3L (k :: ks) = k.g3 ++ g3L ks := by simp [g3L]
@[simp] theorem g3_text (s : Str) : (HN.text s).g3 = [] := by simp [HN.g3]
@[simp] theorem g3_el (i n a sc ks) : (HN.el i n a sc ks).g3 = [.mk (g3Elem i n a ks) (g3L ks)] := by simp [HN.g3]

mutual
theorem preorder_g3 : ∀ (h : HN) (p : Option Nat), G3.preorderL h.g3 = (h.subs p).flatMap (fun e => e.2.g3)
  | .text _, _ => by simp
  | .el i n a sc ks, p => by
    simp only [g3_el, G3.preorderL_single, G3.Node.preorder, subs_el, List.flatMap_cons, List.singleton_append,
      preorderL_g3L ks (some i)]
theorem preorderL_g3L : ∀ (ks : List HN) (p : Option Nat), G3.preorderL (g3L ks) = (subsL p ks).flatMap (fun e => e.2.g3)
  | [], _ => by simp
  | k :: ks, p => by
    simp only [g3L_cons, G3.preorderL_append, subsL_cons, List.flatMap_append, preorder_g3 k p, preorderL_g3L ks p]
end

mutual
theorem uids_g3 : ∀ h : HN, G3.uidsOf (G3.preorderL h.g3) = h.ids
  | .text _ => by simp
  | .el i n a sc ks => by
    have := uids_g3L ks
    simp only [G3.uidsOf] at this
    simp [G3.Node.preorder, G3.Node.uid, G3.Node.elem, g3Elem, this]
theorem uids_g3L : ∀ ks : List HN, G3.uidsOf (G3.preorderL (g3L ks)) = idsL ks
  | [] => by simp
  | k :: ks => by
    have h1 := uids_g3 k
    have h2 := uids_g3L ks
    simp only [G3.uidsOf] at h1 h2
    simp [G3.preorderL_append, h1, h2]
end

theorem uids_kids_g3L : ∀ ks : List HN, G3.uidsOf (g3L ks) = kidIds ks
  | [] => by simp [kidIds]
  | .text _ :: ks => by simpa [kidIds] using uids_kids_g3L ks
  | .el i n a sc ks' :: ks => by
    have := uids_kids_g3L ks
    simp only [G3.uidsOf] at this
    simp [kidIds, G3.Node.uid, G3.Node.elem, g3Elem, this]

/-- the one node `HN.g3` makes of an element (`g3_el`) -/
def g3Root (i : Nat) (n : Str) (a : AttrState) (ks : List HN) : G3.Node := .mk (g3Elem i n a ks) (g3L ks)

theorem g3Root_preorder (i n a ks) : G3.uidsOf (g3Root i n a ks).preorder = i :: idsL ks := by
  have := uids_g3L ks
  simp only [G3.uidsOf] at this
  simp [g3Root, G3.Node.preorder, G3.Node.uid, G3.Node.elem, g3Elem, this]

theorem g3Root_desc (i n a ks) : G3.uidsOf (g3Root i n a ks).desc = idsL ks := by
  simp only [g3Root, G3.Node.desc, G3.Node.kids]
  exact uids_g3L ks

theorem g3Root_kids (i n a ks) : G3.uidsOf (g3Root i n a ks).kids = kidIds ks := by
  simp only [g3Root, G3.Node.kids]
  exact uids_kids_g3L ks

/-- `Distinct` (the hypothesis of C06/C07) is "no identity twice" (the `nodup` clause of C04's invariant) -/
theorem g3Root_distinct (i n a sc ks) : (g3Root i n a ks).Distinct ↔ (HN.el i n a sc ks).ids.Nodup := by
  unfold G3.Node.Distinct
  rw [g3Root_preorder, ids_el]

/-- the creation order the index model (C07) folds over is the document order of the hub -/
theorem creationOrder_g3Root (i n a ks) :
    (G3.creationOrder (g3Root i n a ks)).map (·.uid) = i :: idsL ks := by
  rw [G3.Idx.creationOrder_eq, List.map_map]
  exact g3Root_preorder i n a ks

mutual
theorem ids_ofDom : ∀ n : Dom.DN, (ofDom n).ids = Dom.ids n
  | .text _ => by simp
  | .el m bs => by simp [idsL_ofDomL bs]
theorem idsL_ofDomL : ∀ bs : List Dom.DN, idsL (ofDomL bs) = Dom.idsL bs
  | [] => by simp
  | b :: bs => by simp [ids_ofDom b, idsL_ofDomL bs]
end

@[simp] theorem dom_elemsL_nil : Dom.elemsL [] = [] := Dom.elemsL_nil
@[simp] theorem dom_elems_text (s : Str) : Dom.elems (.text s) = [] := Dom.elems_text s

/-- an entry of `Dom.elems` (fields and blocks of an element) as a hub element -/
def elOf (e : Dom.Meta × List Dom.DN) : HN := ofDom (.el e.1 e.2)

mutual
theorem elems_ofDom : ∀ (n : Dom.DN) (p : Option Nat), (Dom.elems n).map elOf = ((ofDom n).subs p).map (·.2)
  | .text _, _ => by simp
  | .el m bs, p => by
    rw [Dom.elems_el, List.map_cons, elemsL_ofDomL bs (some m.id), ofDom_el, subs_el, List.map_cons]
    rfl
theorem elemsL_ofDomL : ∀ (bs : List Dom.DN) (p : Option Nat), (Dom.elemsL bs).map elOf = (subsL p (ofDomL bs)).map (·.2)
  | [], _ => by simp
  | b :: bs, p => by
    rw [Dom.elemsL_cons, List.map_append, elems_ofDom b p, elemsL_ofDomL bs p, ofDomL_cons, subsL_cons, List.map_append]
end

mutual
theorem parents_ofDom : ∀ (n : Dom.DN) (p o : Option Nat), Dom.OK p o n →
    (Dom.elems n).map (fun e => e.1.parent) = ((ofDom n).subs p).map (·.1)
  | .text _, _, _, _ => by simp
  | .el m bs, p, o, h => by
    simp [h.parent, parentsL_ofDomL bs (some m.id) o h.kids]
theorem parentsL_ofDomL : ∀ (bs : List Dom.DN) (p o : Option Nat), Dom.OKL p o bs →
    (Dom.elemsL bs).map (fun e => e.1.parent) = (subsL p (ofDomL bs)).map (·.1)
  | [], _, _, _ => by simp
  | b :: bs, p, o, h => by
    simp only [Dom.OKL_cons] at h
    simp [parents_ofDom b p o h.1, parentsL_ofDomL bs p o h.2]
end

theorem cached_of_OK {e : Dom.Meta × List Dom.DN} {p o : Option Nat} (hk : Dom.OK p o (.el e.1 e.2)) :
    e.1.children = kidIds (ofDomL e.2) ∧ e.1.text = kidText (ofDomL e.2) := by
  rw [kidIds_ofDomL, kidText_ofDomL]
  exact ⟨hk.children, hk.text⟩

theorem cached_ofDom (n : Dom.DN) (p o : Option Nat) (hok : Dom.OK p o n) :
    ∀ e ∈ Dom.elems n, e.1.children = kidIds (ofDomL e.2) ∧ e.1.text = kidText (ofDomL e.2) :=
  fun _ he => let ⟨_, _, hk⟩ := Dom.elems_OK n hok he; cached_of_OK hk

theorem cachedL_ofDomL : ∀ (bs : List Dom.DN) (p o : Option Nat), Dom.OKL p o bs →
    ∀ e ∈ Dom.elemsL bs, e.1.children = kidIds (ofDomL e.2) ∧ e.1.text = kidText (ofDomL e.2) :=
  fun bs _ _ hok _ he => let ⟨_, _, hk⟩ := Dom.elemsL_OK bs hok he; cached_of_OK hk

@[simp] theorem pk_elemsL_nil : Pk.DN.elemsL [] = [] := by simp [Pk.DN.elemsL]
@[simp] theorem pk_elemsL_cons (b : Pk.DN) (bs : List Pk.DN) :
    Pk.DN.elemsL (b :: bs) = Pk.DN.elems b ++ Pk.DN.elemsL bs := by simp [Pk.DN.elemsL]

mutual
theorem pk_elems : ∀ (h : HN) (p o : Option Nat),
    Pk.DN.elems (h.toPk p o) = (h.subs p).map (fun e => e.2.toPk e.1 o)
  | .text _, _, _ => by simp [Pk.DN.elems]
  | .el i n a sc ks, p, o => by simp [Pk.DN.elems, pk_elemsL ks (some i) o]
theorem pk_elemsL : ∀ (ks : List HN) (p o : Option Nat),
    Pk.DN.elemsL (toPkL p o ks) = (subsL p ks).map (fun e => e.2.toPk e.1 o)
  | [], _, _ => by simp
  | k :: ks, p, o => by simp [pk_elems k p o, pk_elemsL ks p o]
end

mutual
theorem pk_oids : ∀ (h : HN) (p o : Option Nat), Pk.DN.oids (h.toPk p o) = h.ids
  | .text _, _, _ => by simp [Pk.DN.oids]
  | .el i n a sc ks, p, o => by simp [Pk.DN.oids, pk_oidsL ks (some i) o]
theorem pk_oidsL : ∀ (ks : List HN) (p o : Option Nat), Pk.DN.oidsL (toPkL p o ks) = idsL ks
  | [], _, _ => by simp [Pk.DN.oidsL]
  | k :: ks, p, o => by simp [Pk.DN.oidsL, pk_oids k p o, pk_oidsL ks p o]
end

mutual
theorem pk_uids : ∀ (h : HN) (p o : Option Nat), Pk.DN.uids (h.toPk p o) = h.ids
  | .text _, _, _ => by simp [Pk.DN.uids]
  | .el i n a sc ks, p, o => by simp [Pk.DN.uids, pk_uidsL ks (some i) o]
theorem pk_uidsL : ∀ (ks : List HN) (p o : Option Nat), Pk.DN.uidsL (toPkL p o ks) = idsL ks
  | [], _, _ => by simp [Pk.DN.uidsL]
  | k :: ks, p, o => by simp [Pk.DN.uidsL, pk_uids k p o, pk_uidsL ks p o]
end

mutual
theorem pk_size : ∀ (h : HN) (p o : Option Nat), Pk.DN.size (h.toPk p o) = h.size
  | .text _, _, _ => by simp [Pk.DN.size]
  | .el i n a sc ks, p, o => by simp [Pk.DN.size, pk_sizeL ks (some i) o]
theorem pk_sizeL : ∀ (ks : List HN) (p o : Option Nat), Pk.DN.sizeL (toPkL p o ks) = sizeL ks
  | [], _, _ => by simp [Pk.DN.sizeL]
  | k :: ks, p, o => by simp [Pk.DN.sizeL, pk_size k p o, pk_sizeL ks p o]
end

theorem pk_elems_oids (h : HN) (p o : Option Nat) : (Pk.DN.elems (h.toPk p o)).map Pk.DN.oid = h.ids := by
  rw [pk_elems, List.map_map, ← subs_ids h p]
  exact List.map_congr_left (fun ⟨_, k⟩ _ => by cases k <;> simp [Pk.DN.oid, HN.id])

mutual
/-- a parsed node of the DOM model (`Dom.FN`: what its tree builder is given) as a tree of model (1): plain
    attribute store, self-closing kept only without content (as `Dom.mk` and the parser do) -/
def fnNode : Dom.FN → Node
  | .text s => .text s
  | .el name attrs sc kids => .elem name (plainState attrs) ((sc || Dom.isVoid name) && kids.isEmpty) (fnNodeL kids)
def fnNodeL : List Dom.FN → List Node
  | [] => []
  | k :: ks => fnNode k :: fnNodeL ks
end

mutual
theorem mk_norm : ∀ (f : Dom.FN) (p o : Option Nat) (n : Nat),
    (ofDom (Dom.mk p o f n).1).toTree.norm = (fnNode f).norm
  | .text s, _, _, _ => by simp [fnNode]
  | .el name attrs sc kids, p, o, n => by
    rw [Dom.mk_el]
    simp only [ofDom_el, ofDomL_cons, ofDom_text, toTree_el, toTreeL_cons, toTree_text, fnNode, Node.norm,
      normL_empty_text, mkL_norm kids (some n) o (n + 1)]
theorem mkL_norm : ∀ (fs : List Dom.FN) (p o : Option Nat) (n : Nat),
    normL (toTreeL (ofDomL (Dom.mkL p o fs n).1)) = normL (fnNodeL fs)
  | [], _, _, _ => by simp [fnNodeL]
  | f :: fs, p, o, n => by
    rw [Dom.mkL_cons]
    simp only [ofDomL_cons, toTreeL_cons, fnNodeL]
    have h1 := mk_norm f p o n
    have h2 := mkL_norm fs p o (Dom.mk p o f n).2
    -- `normL (k :: ks)` is a function of `k.norm` and `normL ks`
    cases f with
    | text s => rw [Dom.mk_text] at h2 ⊢; rw [ofDom_text, toTree_text, fnNode, normL_text, normL_text, h2]
    | el name attrs sc kids =>
      rw [Dom.mk_el] at h1 h2 ⊢
      rw [ofDom_el, toTree_el] at h1 ⊢
      rw [fnNode] at h1 ⊢
      rw [normL_elem, normL_elem, h1, h2]
end

end AHP.TM
