/-
  AHP.Lemmas.IntakeStableStr — the string facts behind "an attribute store built by `intake` is re-read exactly":

  * `classNamesOf_join_idem` — the class list of ANY text, joined by single blanks, is read back as that list
    (`stripWordsOnly` / `split(' ')` are idempotent on their own image; tabs, line breaks and non-ASCII white space
    inside the text included: the words are split at U+0020 only, `strip` removes all of `str.isspace()`);
  * `boolString_idem` — `convertToBooleanString` of its own result.
  (`styleToDict_idem`, the third ingredient, is in `Lemmas/AttrStoresDict.lean`.)
-/
import AHP.Lemmas.AttrStoresStr
namespace AHP.AttrStores
open AHP

theorem join_splitChar (sep : Char) : ∀ s : Str, joinWith [sep] (splitChar sep s) = s
  | [] => rfl
  | c :: r => by
    have ih := join_splitChar sep r
    by_cases hc : c = sep
    · subst hc
      rw [splitChar_cons_sep]
      cases hs : splitChar c r with
      | nil => exact absurd hs (splitChar_ne_nil c r)
      | cons w ws => rw [hs] at ih; rw [joinWith_cons_cons, ih]; rfl
    · obtain ⟨w, ws, h1, h2⟩ := splitChar_cons_ne hc r
      rw [h2, joinWith_cons_head, ← h1, ih]

theorem tail_splitChar_cons_ne {sep c : Char} (hc : ¬ c = sep) (s : Str) :
    (splitChar sep (c :: s)).tail = (splitChar sep s).tail := by
  obtain ⟨w, ws, h1, h2⟩ := splitChar_cons_ne hc s
  rw [h1, h2]; rfl

theorem fields_cons_ne {sep c : Char} (hc : ¬ c = sep) {s : Str} (ht : ∀ w ∈ (splitChar sep (c :: s)).tail, w ≠ []) :
    ∀ w ∈ splitChar sep (c :: s), w ≠ [] := by
  obtain ⟨w, ws, _, h2⟩ := splitChar_cons_ne hc s
  rw [h2] at ht ⊢
  intro x hx
  rcases List.mem_cons.mp hx with e | m
  · rw [e]; exact List.cons_ne_nil _ _
  · exact ht x m

theorem collapse_idem (u : Str) : collapseSpaces (collapseSpaces u) = collapseSpaces u := by
  induction u using collapse_ind with
  | nil => rw [collapse_nil, collapse_nil]
  | skip r ih => rw [collapse_space_space]; exact ih
  | keep c r h ih => rw [collapse_cons h, collapse_cons (by rw [collapse_head]; exact h), ih]

theorem collapse_getLast (u : Str) : (collapseSpaces u).getLast? = u.getLast? := by
  induction u using collapse_ind with
  | nil => rw [collapse_nil]
  | skip r ih => rw [collapse_space_space, ih, List.getLast?_cons_cons]
  | keep c r h ih => rw [collapse_cons h, List.getLast?_cons, ih, List.getLast?_cons]

theorem getLast_tail_ne {c d : Char} {r : Str} (hl : (c :: r).getLast? ≠ some d) : r.getLast? ≠ some d :=
  fun e => hl (by rw [List.getLast?_cons, e]; rfl)

theorem collapse_fields_tail (u : Str) : u.getLast? ≠ some ' ' →
    ∀ w ∈ (splitChar ' ' (collapseSpaces u)).tail, w ≠ [] := by
  induction u using collapse_ind with
  | nil => intro _; rw [collapse_nil]; simp [splitChar]
  | skip r ih => intro hl; rw [collapse_space_space]; exact ih (getLast_tail_ne hl)
  | keep c r h ih =>
    intro hl
    have ih := ih (getLast_tail_ne hl)
    rw [collapse_cons h]
    by_cases hc : c = ' '
    · -- a single blank: the fields behind it are all the fields of the rest, which starts with a non-blank
      subst hc
      rw [splitChar_cons_sep, List.tail_cons]
      cases r with
      | nil => exact absurd rfl hl
      | cons d r' =>
        have hd : d ≠ ' ' := fun e => h rfl (by rw [e]; rfl)
        rw [collapse_cons_ne hd] at ih ⊢
        exact fields_cons_ne hd ih
    · rw [tail_splitChar_cons_ne hc]; exact ih

theorem collapse_fields {c : Char} {r : Str} (hc : c ≠ ' ') (hl : (c :: r).getLast? ≠ some ' ') :
    ∀ w ∈ splitChar ' ' (collapseSpaces (c :: r)), w ≠ [] := by
  have ht := collapse_fields_tail (c :: r) hl
  rw [collapse_cons_ne hc] at ht ⊢
  exact fields_cons_ne hc ht

/-- `AHP.strip_head` (Lemmas/Str.lean) under this namespace -/
theorem strip_head {s : Str} {c : Char} {r : Str} (h : strip s = c :: r) : isWs c = false :=
  AHP.strip_head h

/-- `AHP.strip_last` (Lemmas/Str.lean) under this namespace -/
theorem strip_last {s : Str} {d : Char} (h : (strip s).getLast? = some d) : isWs d = false :=
  AHP.strip_last h

theorem classNamesOf_nil : classNamesOf (some []) = [] := by decide

/-- the text `stripWordsOnly` leaves starts and ends with a character that is not white space and has no two blanks
    in a row: every field between blanks is a word -/
theorem fields_stripWordsOnly (s : Str) :
    stripWordsOnly s = [] ∨ (splitWords (stripWordsOnly s) = splitChar ' ' (stripWordsOnly s)
      ∧ strip (stripWordsOnly s) = stripWordsOnly s) := by
  unfold stripWordsOnly
  cases hu : strip s with
  | nil => exact Or.inl collapse_nil
  | cons c r =>
    have hc : isWs c = false := strip_head hu
    obtain ⟨d, hd⟩ : ∃ d, (c :: r).getLast? = some d := ⟨_, List.getLast?_cons⟩
    have hdw : isWs d = false := strip_last (s := s) (by rw [hu]; exact hd)
    have hl : (c :: r).getLast? ≠ some ' ' := by
      rw [hd]; exact fun e => ne_space_of_not_ws hdw (Option.some.inj e)
    refine Or.inr ⟨List.filter_eq_self.mpr fun w hw => ?_, strip_of_ends (fun x hx => ?_) (fun x hx => ?_)⟩
    · cases w with
      | nil => exact absurd rfl (collapse_fields (ne_space_of_not_ws hc) hl [] hw)
      | cons _ _ => rfl
    · rw [collapse_cons_ne (ne_space_of_not_ws hc) r] at hx; exact Option.some.inj hx ▸ hc
    · exact Option.some.inj (((collapse_getLast _).trans hd).symm.trans hx) ▸ hdw

theorem stripWordsOnly_idem (s : Str) : stripWordsOnly (stripWordsOnly s) = stripWordsOnly s := by
  rcases fields_stripWordsOnly s with h | ⟨_, h⟩
  · rw [h]; decide
  · rw [stripWordsOnly, h, stripWordsOnly, collapse_idem]

/-- `str(DOMTokenList(_classNames))` of the names split from a text is the text as `stripWordsOnly` leaves it: the words
    are its fields, and the fields of a text joined by the separator are the text -/
theorem join_classNamesOf (s : Str) : joinWith [' '] (classNamesOf (some s)) = stripWordsOnly s := by
  unfold classNamesOf
  rcases fields_stripWordsOnly s with h | ⟨h, _⟩
  · simp only [h]; decide
  · simp only [h, join_splitChar]

theorem className_classTokens (v : Str) : Pk.className (Pk.classTokens v) = Pk.stripWordsOnly v := by
  rw [classTokens_pk, Pk.className, join_classNamesOf, Pk.stripWordsOnly, collapse_pk, stripWordsOnly]

/-- **class splitting is idempotent.** For every attribute text `v` (missing value included): the class names
    joined by single blanks — what `_handleClassAttr` stores and `getStartTag` writes — are split into the same
    names again. -/
theorem classNamesOf_join_idem (v : Option Str) :
    classNamesOf (some (joinWith [' '] (classNamesOf v))) = classNamesOf v := by
  rw [← classNamesOf_getD v, join_classNamesOf]
  unfold classNamesOf
  simp only [stripWordsOnly_idem]

theorem boolString_cases (v : Option Str) : boolString v = "true".toList ∨ boolString v = "false".toList := by
  char_lits
  rw [← boolString_attrs]; exact Attrs.boolString_cases v

theorem boolString_idem (v : Option Str) : boolString (some (boolString v)) = boolString v := by
  rw [← boolString_attrs, ← boolString_attrs]; exact Attrs.boolString_idem v

end AHP.AttrStores
