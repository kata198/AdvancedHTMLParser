/-
  Raw-text elements (`script` / `style`), character level: after their start tag the stdlib tokenizer
  (`HTMLParser.set_cdata_mode`, Python 3.12: `interesting = re.compile(r'</\s*%s\s*>' % elem, re.I)`) reads
  everything up to the first match of that expression as ONE data token, then `parse_endtag` reports the end tag.
  `lexRaw` / `matchEndTag` of `Model/Lexer.lean` implement exactly that search.

  The side condition the real tokenizer needs of the content is therefore: *the closing expression
  `</ ws* name ws* >` (case-insensitive) matches at no position of the content* (`RawOK`).  A match cannot
  straddle the content and the closing tag that follows it, because the closing tag starts with `<`, which is
  neither white space, nor a name character, nor `>` (`matchEndTag_append_none`) — so the condition is on the
  content alone, whatever follows.
-/
import AHP.Model.Lexer
import AHP.Lemmas.Str
namespace AHP

/-- the closing expression of the raw-text element `name` matches at no position of the content -/
def RawOK (name : Str) : Str → Prop
  | [] => True
  | c :: cs => matchEndTag name (c :: cs) = none ∧ RawOK name cs

instance instDecidableRawOK (name : Str) : (s : Str) → Decidable (RawOK name s)
  | [] => isTrue trivial
  | _ :: cs =>
    have := instDecidableRawOK name cs
    inferInstanceAs (Decidable (_ ∧ _))

/-- the part of `matchEndTag` after `</` ws* -/
def closesAt (name r1 : Str) : Option Str :=
  if lower (r1.take name.length) = name then
    match (r1.drop name.length).dropWhile isWs with
    | '>' :: r2 => some r2
    | _ => none
  else none

theorem matchEndTag_eq (name r : Str) :
    matchEndTag name ('<' :: '/' :: r) = closesAt name (r.dropWhile isWs) := rfl

theorem matchEndTag_not_lt (name : Str) (c : Char) (r : Str) (h : c ≠ '<') : matchEndTag name (c :: r) = none := by
  unfold matchEndTag
  split
  · rename_i r' heq; simp at heq; exact absurd heq.1 h
  · rfl

theorem matchEndTag_not_slash (name : Str) (d : Char) (r : Str) (h : d ≠ '/') :
    matchEndTag name ('<' :: d :: r) = none := by
  unfold matchEndTag
  split
  · rename_i r' heq; simp at heq; exact absurd heq.1 h
  · rfl

/-! ### appending to text the closing expression does not match

  `t` is appended.  It cannot complete a closing expression begun before it when its first character is not `/` and is,
  in lower case, none of the name's, and when after its leading white space there is no `>`.  Both what the serialiser
  puts after raw text (`<`…) and white space are of that kind. -/

theorem closesAt_short (name r1 t : Str) (hlen : r1.length < name.length) (ht : ∀ d ∈ t.head?, lowerChar d ∉ name) :
    closesAt name (r1 ++ t) = none := by
  unfold closesAt
  rw [if_neg]
  intro heq
  cases t with
  | nil =>
    have := congrArg List.length heq
    simp [lower_length] at this
    omega
  | cons d t' =>
    apply ht d rfl
    rw [← heq, List.take_append, lower_append]
    obtain ⟨m, hm⟩ : ∃ m, name.length - r1.length = m + 1 := ⟨name.length - r1.length - 1, by omega⟩
    rw [hm]
    simp [lower]

theorem closesAt_append (name r1 t : Str) (ht : ∀ d ∈ t.head?, lowerChar d ∉ name)
    (hgt : ∀ d ∈ (t.dropWhile isWs).head?, d ≠ '>') (h : closesAt name r1 = none) :
    closesAt name (r1 ++ t) = none := by
  by_cases hlen : name.length ≤ r1.length
  · -- the name is compared inside `r1`
    unfold closesAt at h ⊢
    rw [List.take_append_of_le_length hlen, List.drop_append_of_le_length hlen]
    by_cases hnm : lower (r1.take name.length) = name
    · rw [if_pos hnm] at h ⊢
      rw [List.dropWhile_append]
      cases hd : (r1.drop name.length).dropWhile isWs with
      | nil =>
        simp only [List.isEmpty_nil, if_true]
        split
        · rename_i r2 heq; exact absurd rfl (hgt '>' (by rw [heq]; rfl))
        · rfl
      | cons e r =>
        rw [hd] at h
        simp only [List.isEmpty_cons, Bool.false_eq_true, if_false, List.cons_append]
        split
        · rename_i r2 heq
          injection heq with he _
          subst he
          simp at h
        · rfl
    · rw [if_neg hnm]
  · exact closesAt_short name r1 t (Nat.lt_of_not_le hlen) ht

/-- `hgt` also asks `lowerChar d ∉ name`: when `s` is `</` and white space only, the name would have to be completed from `t`
    after ITS leading white space (`closesAt_short name []`). -/
theorem matchEndTag_append (name s t : Str) (hne : name ≠ []) (hs : s ≠ [])
    (ht : ∀ d ∈ t.head?, d ≠ '/' ∧ lowerChar d ∉ name)
    (hgt : ∀ d ∈ (t.dropWhile isWs).head?, d ≠ '>' ∧ lowerChar d ∉ name)
    (h : matchEndTag name s = none) : matchEndTag name (s ++ t) = none := by
  match s, hs with
  | [c], _ =>
    by_cases hc : c = '<'
    · subst hc
      cases t with
      | nil => exact h
      | cons d t' => exact matchEndTag_not_slash name d t' (ht d rfl).1
    · exact matchEndTag_not_lt name c _ hc
  | c :: d :: r, _ =>
    by_cases hc : c = '<'
    · subst hc
      by_cases hd : d = '/'
      · subst hd
        rw [matchEndTag_eq] at h
        simp only [List.cons_append]
        rw [matchEndTag_eq, List.dropWhile_append]
        cases hdw : r.dropWhile isWs with
        | nil =>
          simp only [List.isEmpty_nil, if_true]
          exact closesAt_short name [] _ (List.length_pos_iff.mpr hne) (fun d hd => (hgt d hd).2)
        | cons e r' =>
          rw [hdw] at h
          simp only [List.isEmpty_cons, Bool.false_eq_true, if_false]
          exact closesAt_append name (e :: r') t (fun d hd => (ht d hd).2) (fun d hd => (hgt d hd).1) h
      · exact matchEndTag_not_slash name d _ hd
    · exact matchEndTag_not_lt name c _ hc

theorem matchEndTag_append_none (name s more : Str) (hne : name ≠ []) (hlt : '<' ∉ name)
    (hs : s ≠ []) (h : matchEndTag name s = none) : matchEndTag name (s ++ '<' :: more) = none := by
  have hd : ∀ d ∈ ('<' :: more).head?, d = '<' := fun d hd => (Option.some.inj hd).symm
  refine matchEndTag_append name s _ hne hs (fun d h' => ?_) (fun d h' => ?_) h
  · rw [hd d h']; exact ⟨by decide, hlt⟩
  · rw [hd d h']; exact ⟨by decide, hlt⟩

theorem matchEndTag_self (name rest : Str) (hlow : lower name = name)
    (hw : ∀ c r, name = c :: r → isWs c = false) (hne : name ≠ []) :
    matchEndTag name ('<' :: '/' :: (name ++ '>' :: rest)) = some rest := by
  rw [matchEndTag_eq]
  obtain ⟨c, r, rfl⟩ := List.exists_cons_of_ne_nil hne
  have hc := hw c r rfl
  have hd : ((c :: r) ++ '>' :: rest).dropWhile isWs = (c :: r) ++ '>' :: rest := by
    simp [hc]
  rw [hd]
  unfold closesAt
  have ht : ((c :: r) ++ '>' :: rest).take (c :: r).length = c :: r := by
    rw [List.take_append_of_le_length (Nat.le_refl _)]; simp
  have hdr : ((c :: r) ++ '>' :: rest).drop (c :: r).length = '>' :: rest := by
    rw [List.drop_append_of_le_length (Nat.le_refl _)]; simp
  rw [ht, hdr, if_pos hlow]
  have hg : isWs '>' = false := by decide
  simp [hg]

theorem lexRaw_render (name raw rest : Str) (hlow : lower name = name) (hne : name ≠ []) (hlt : '<' ∉ name)
    (hw : ∀ c r, name = c :: r → isWs c = false) (h : RawOK name raw) :
    ∀ k, (raw ++ '<' :: '/' :: (name ++ '>' :: rest)).length < k →
      lexRaw name k (raw ++ '<' :: '/' :: (name ++ '>' :: rest)) = some (raw, rest) := by
  induction raw with
  | nil =>
    intro k hk
    cases k with
    | zero => simp at hk
    | succ k =>
      simp only [List.nil_append, lexRaw]
      rw [matchEndTag_self name rest hlow hw hne]
  | cons c cs ih =>
    intro k hk
    cases k with
    | zero => simp at hk
    | succ k =>
      have hlen : (cs ++ '<' :: '/' :: (name ++ '>' :: rest)).length < k := by
        simp at hk ⊢; omega
      have hno : matchEndTag name ((c :: cs) ++ '<' :: '/' :: (name ++ '>' :: rest)) = none :=
        matchEndTag_append_none name (c :: cs) _ hne hlt (by simp) h.1
      simp only [List.cons_append] at hno ⊢
      simp only [lexRaw, hno]
      rw [ih h.2 k hlen]
      rfl

/-! ### white space after the content (the formatter's `_indent` before the end tag) -/

theorem matchEndTag_append_ws (name s w : Str) (hne : name ≠ []) (hnw : ∀ c ∈ name, isWs c = false)
    (hw : ∀ c ∈ w, isWs c = true) (hs : s ≠ []) (h : matchEndTag name s = none) :
    matchEndTag name (s ++ w) = none := by
  refine matchEndTag_append name s w hne hs (fun d hd => ?_) (fun d hd => ?_) h
  · have hdw : isWs d = true := hw d (List.mem_of_mem_head? hd)
    refine ⟨by intro e; subst e; exact absurd hdw (by decide), fun hm => ?_⟩
    rw [lowerChar_of_isWs hdw] at hm
    rw [hnw d hm] at hdw
    cases hdw
  · rw [dropWhile_allWs hw] at hd; cases hd

theorem rawOK_ws (name w : Str) (hw : ∀ c ∈ w, isWs c = true) : RawOK name w := by
  induction w with
  | nil => trivial
  | cons c cs ih =>
    have hc : isWs c = true := hw c (by simp)
    exact ⟨matchEndTag_not_lt name c cs (by intro e; subst e; exact absurd hc (by decide)),
      ih (fun x hx => hw x (by simp [hx]))⟩

/-- what the pretty printers put before `</script>` -/
theorem rawOK_append_ws (name raw w : Str) (hne : name ≠ []) (hnw : ∀ c ∈ name, isWs c = false)
    (hw : ∀ c ∈ w, isWs c = true) (h : RawOK name raw) : RawOK name (raw ++ w) := by
  induction raw with
  | nil => simpa using rawOK_ws name w hw
  | cons c cs ih =>
    exact ⟨matchEndTag_append_ws name (c :: cs) w hne hnw hw (by simp) h.1, ih h.2⟩

theorem rawName_cases (n : Str) (h : isRawText n = true) : n = "script".toList ∨ n = "style".toList := by
  unfold isRawText at h
  simpa only [Bool.or_eq_true, decide_eq_true_eq] using h

theorem rawName_noWs (n : Str) (h : isRawText n = true) : ∀ c ∈ n, isWs c = false := by
  rcases rawName_cases n h with rfl | rfl <;> decide +kernel

/-- what `lexRaw_render` asks of the name, in its order -/
theorem rawName_facts (n : Str) (h : isRawText n = true) :
    lower n = n ∧ n ≠ [] ∧ '<' ∉ n ∧ (∀ c r, n = c :: r → isWs c = false) := by
  have hw := rawName_noWs n h
  rcases rawName_cases n h with rfl | rfl <;> rw [String.toList_ofList] at hw ⊢ <;>
    exact ⟨by decide, by decide, by decide, fun c r e => hw c (e ▸ List.mem_cons_self)⟩

theorem lexRaw_render_rawName (n raw rest : Str) (hn : isRawText n = true) (h : RawOK n raw) :
    ∀ k, (raw ++ '<' :: '/' :: (n ++ '>' :: rest)).length < k →
      lexRaw n k (raw ++ '<' :: '/' :: (n ++ '>' :: rest)) = some (raw, rest) :=
  have ⟨hlow, hne, hlt, hw⟩ := rawName_facts n hn
  lexRaw_render n raw rest hlow hne hlt hw h

/-! ### non-vacuity: content with `<`, `&`, another element's end tag, an unfinished closing sequence -/
example : RawOK "script".toList "if (a < b && c) { s = '</div>' + \"</scr\" + \"ipt>\"; }".toList := by
  char_lits; decide +kernel
example : ¬ RawOK "script".toList "x</ SCRIPT >y".toList := by
  char_lits; decide +kernel
example : lexRaw "script".toList 100 "a<b&&c</div></script>rest".toList = some ("a<b&&c</div>".toList, "rest".toList) := by
  char_lits; decide +kernel

end AHP
