/-
  AHP.Lemmas.DomStep — every call of the op alphabet keeps the world invariant (C04a): the scans of the model
  (`takeRoot` = `removeFirstEl`: what is taken and what is left, `RemovedFirst`; `replaceFirstText` / `replaceAllText`:
  `Retext`, all the invariant looks at is kept), the local obligations of an edit (`GoodEdit`: uid kept, `OK` kept, what
  leaves is detached, uids permuted) for the local effect of each mutator, their lift to worlds (`edit_Inv`, `apply_Inv`, `move_Inv`), the invariant of
  freshly built trees (`mk`), the blocks of a fragment (`createBlocks` of a built root: its normal forms, consistent
  fresh roots, the world they join), and the calls one by one.
-/
import AHP.Lemmas.Dom
namespace AHP.Dom

structure RemovedFirst (c : Nat) (bs : List DN) (r : DN × List DN) : Prop where
  isEl : r.1.isEl = true
  rid : r.1.rid = c
  kids : elemIds r.2 = (elemIds bs).erase c
  text : textOf r.2 = textOf bs
  perm : (idsL bs).Perm (ids r.1 ++ idsL r.2)
  ok : ∀ p o, OKL p o bs → OK p o r.1 ∧ OKL p o r.2
  mem : c ∈ elemIds bs

theorem removeFirstEl_eq_takeRoot (c : Nat) (bs : List DN) : removeFirstEl c bs = takeRoot c bs := by
  induction bs with
  | nil => rfl
  | cons b bs ih => cases b <;> simp [removeFirstEl, takeRoot, rootId, ih]

theorem takeRoot_split (c : Nat) (rs : List DN) {ct rest} (h : takeRoot c rs = some (ct, rest)) :
    ∃ a b, rs = a ++ ct :: b ∧ rest = a ++ b ∧ rootId ct = some c ∧ c ∉ elemIds a := by
  induction rs generalizing ct rest with
  | nil => simp [takeRoot] at h
  | cons r rs ih =>
    simp only [takeRoot] at h
    split at h
    · rename_i he
      cases h
      exact ⟨[], rs, rfl, rfl, he, by simp⟩
    · rename_i hne
      simp only [Option.map_eq_some_iff] at h
      obtain ⟨x, hx, hx'⟩ := h
      simp only [Prod.mk.injEq] at hx'
      obtain ⟨rfl, rfl⟩ := hx'
      obtain ⟨a, b, h1, h2, h3, h4⟩ := ih (ct := x.1) (rest := x.2) (by simp [hx])
      exact ⟨r :: a, b, by simp [h1], by simp [h2], h3, by simp [mem_elemIds_cons, hne, h4]⟩

theorem takeRoot_spec (c : Nat) (rs : List DN) {ct rest} (h : takeRoot c rs = some (ct, rest)) :
    rs.Perm (ct :: rest) ∧ rootId ct = some c := by
  obtain ⟨a, b, rfl, rfl, h3, -⟩ := takeRoot_split c rs h
  exact ⟨List.perm_middle, h3⟩

theorem takeRoot_skip (c : Nat) (a : List DN) (x : DN) (rest : List DN) (hc : c ∉ idsL a) (hx : rootId x = some c) :
    takeRoot c (a ++ x :: rest) = some (x, a ++ rest) := by
  induction a with
  | nil => simp [takeRoot, hx]
  | cons r rs ih =>
    simp only [idsL_cons, List.mem_append, not_or] at hc
    have hr : rootId r ≠ some c := by
      intro e
      cases r with
      | text s => simp [rootId] at e
      | el m k => simp only [rootId, Option.some.injEq] at e; exact hc.1 (by simp [e])
    simp [takeRoot, hr, ih hc.2]

theorem takeRoot_of_mem (c : Nat) (rs : List DN) (hn : (idsL rs).Nodup) (r : DN) (hr : r ∈ rs) (hc : rootId r = some c) :
    ∃ a b, rs = a ++ r :: b ∧ takeRoot c rs = some (r, a ++ b) := by
  obtain ⟨a, b, rfl⟩ := List.append_of_mem hr
  refine ⟨a, b, rfl, takeRoot_skip c a r b ?_ hc⟩
  intro hca
  rw [idsL_append, idsL_cons] at hn
  exact (List.nodup_append.mp hn).2.2 c hca c (List.mem_append_left _ (rootId_mem_ids hc)) rfl

theorem removeFirstEl_spec (c : Nat) (bs : List DN) {r} (h : removeFirstEl c bs = some r) : RemovedFirst c bs r := by
  obtain ⟨ct, rest⟩ := r
  obtain ⟨a, b, rfl, rfl, hroot, ha⟩ := takeRoot_split c bs (removeFirstEl_eq_takeRoot c bs ▸ h)
  cases ct with
  | text s => simp [rootId] at hroot
  | el m k =>
    obtain rfl : m.id = c := Option.some.inj hroot
    refine ⟨rfl, rfl, ?_, by simp [textOf_append], ?_, fun p o hk => ?_, by simp [elemIds_append]⟩
    · simp [elemIds_append, List.erase_append_right _ ha]
    · simp only [idsL_append, idsL_cons]; exact List.perm_append_comm_assoc ..
    · simp only [OKL_append, OKL_cons] at hk ⊢; exact ⟨hk.2.1, hk.1, hk.2.2⟩

theorem removeFirstEl_none (c : Nat) (bs : List DN) (h : removeFirstEl c bs = none) : c ∉ elemIds bs := by
  induction bs with
  | nil => simp
  | cons b bs ih =>
    cases b with
    | text s =>
      simp only [removeFirstEl, Option.map_eq_none_iff] at h
      simpa using ih h
    | el m k =>
      simp only [removeFirstEl] at h
      split at h
      · simp at h
      · rename_i hne
        simp only [Option.map_eq_none_iff] at h
        simp only [elemIds_el, List.mem_cons, not_or]
        exact ⟨fun e => hne e.symm, ih h⟩

theorem removeFirstEl_head (c : Nat) (cs : List Nat) (bs : List DN) (h : elemIds bs = c :: cs) :
    ∃ x bs', removeFirstEl c bs = some (x, bs') ∧ elemIds bs' = cs ∧ bs.filter DN.isEl = x :: bs'.filter DN.isEl := by
  induction bs with
  | nil => simp at h
  | cons b bs ih =>
    cases b with
    | text s =>
      obtain ⟨x, bs', h1, h2, h3⟩ := ih (by simpa using h)
      exact ⟨x, .text s :: bs', by simp [removeFirstEl, h1], by simpa using h2, by simp [List.filter, DN.isEl, h3]⟩
    | el m k =>
      simp only [elemIds_el, List.cons.injEq] at h
      exact ⟨.el m k, bs, by simp [removeFirstEl, h.1], h.2, by simp [List.filter, DN.isEl]⟩

theorem removeAll_nil (p : Str) : removeAll p [] = [] := by
  unfold removeAll; split
  · rfl
  · simp [removeAllGo]

/-- `bs'` is `bs` with some text blocks rewritten, empty ones staying empty: all the invariant looks at is kept -/
def Retext (bs bs' : List DN) : Prop :=
  elemIds bs' = elemIds bs ∧ idsL bs' = idsL bs ∧ (∀ p o, OKL p o bs → OKL p o bs') ∧ (textOf bs = [] → textOf bs' = [])

theorem Retext.refl (bs : List DN) : Retext bs bs := ⟨rfl, rfl, fun _ _ h => h, id⟩

theorem Retext.cons (b : DN) {bs bs' : List DN} (h : Retext bs bs') : Retext (b :: bs) (b :: bs') := by
  obtain ⟨h1, h2, h3, h4⟩ := h
  refine ⟨by cases b <;> simp [h1], by simp [h2], fun p o hk => ?_, ?_⟩
  · rw [OKL_cons] at hk ⊢; exact ⟨hk.1, h3 p o hk.2⟩
  · cases b with
    | el m k => simpa using h4
    | text x => simp only [textOf_text, List.append_eq_nil_iff]; exact fun ht => ⟨ht.1, h4 ht.2⟩

theorem Retext.text {x y : Str} (hxy : x = [] → y = []) {bs bs' : List DN} (h : Retext bs bs') :
    Retext (.text x :: bs) (.text y :: bs') := by
  obtain ⟨h1, h2, h3, h4⟩ := h
  refine ⟨by simp [h1], by simp [h2], fun p o hk => by simpa using h3 p o (by simpa using hk), ?_⟩
  simp only [textOf_text, List.append_eq_nil_iff]
  exact fun ht => ⟨hxy ht.1, h4 ht.2⟩

theorem replaceFirstText_spec (s : Str) (bs : List DN) {r} (h : replaceFirstText s bs = some r) : Retext bs r.2 := by
  induction bs generalizing r with
  | nil => simp [replaceFirstText] at h
  | cons b bs ih =>
    cases b with
    | el m k =>
      simp only [replaceFirstText, Option.map_eq_some_iff] at h
      obtain ⟨r', hr', rfl⟩ := h
      exact (ih hr').cons _
    | text x =>
      simp only [replaceFirstText] at h
      split at h
      · cases h
        exact (Retext.refl bs).text (fun hx => by rw [hx, removeAll_nil])
      · simp only [Option.map_eq_some_iff] at h
        obtain ⟨r', hr', rfl⟩ := h
        exact (ih hr').cons _

theorem replaceAllText_spec (s : Str) (bs : List DN) : Retext bs (replaceAllText s bs).2 := by
  induction bs with
  | nil => exact Retext.refl []
  | cons b bs ih =>
    cases b with
    | el m k => exact ih.cons _
    | text x =>
      simp only [replaceAllText]
      split
      · exact ih.text (fun hx => by rw [hx, removeAll_nil])
      · exact ih.cons _

/-- The local obligations of one edit `e` of the element `(m, bs)`: the four of `Dom.lean` (`KeepsId`, `KeepsOK`, `OutDetached`,
    `IdsPlus`) at this element. -/
structure GoodEdit (m : Meta) (bs : List DN) (e : Edit) (extra : List Nat) : Prop where
  id : e.m.id = m.id
  ok : ∀ par own, OK par own (.el m bs) → OK par own (.el e.m e.blocks)
  out : ∀ par own, OK par own (.el m bs) → ∀ x ∈ e.out, Detached x
  ids : (e.m.id :: idsL e.blocks ++ idsL e.out).Perm (m.id :: idsL bs ++ extra)

theorem GoodEdit.refl (m : Meta) (bs : List DN) : GoodEdit m bs ⟨m, bs, []⟩ [] :=
  ⟨rfl, fun _ _ h => h, fun _ _ _ x hx => by simp at hx, by simp⟩

/-- Every adding call: a block `x` that is consistent as a child of `m` is put between `a` and `b`; `children` and
    `text` are set to values that are right whenever they were right before; the self-closing flag is cleared. -/
theorem good_insert {bs a b : List DN} (hbs : bs = a ++ b) (x : DN) (m : Meta) (ch' : List Nat) (tx' : Str)
    (hx : OK (some m.id) m.owner x)
    (hch : m.children = elemIds bs → ch' = elemIds (a ++ x :: b))
    (htx : m.text = textOf bs → tx' = textOf (a ++ x :: b)) :
    GoodEdit m bs ⟨{ m with children := ch', text := tx', sc := false }, a ++ x :: b, []⟩ (ids x) := by
  subst hbs
  refine ⟨rfl, ?_, (fun _ _ _ y hy => nomatch hy), ?_⟩
  · intro par own h
    rw [OK_el] at h ⊢
    obtain ⟨hp, ho, hc, ht, _, hk⟩ := h
    rw [OKL_append] at hk
    refine ⟨hp, ho, hch hc, htx ht, Bool.noConfusion, ?_⟩
    show OKL (some m.id) own (a ++ x :: b)
    rw [OKL_append, OKL_cons]
    exact ⟨hk.1, ho ▸ hx, hk.2⟩
  · show (m.id :: idsL (a ++ x :: b) ++ idsL []).Perm (m.id :: idsL (a ++ b) ++ ids x)
    simp only [idsL_append, idsL_cons, idsL_nil, List.append_nil, List.cons_append, List.append_assoc]
    exact (List.perm_append_comm.append_left _).cons _

theorem good_insertTextAt (i : Nat) (s : Str) (m : Meta) (bs : List DN) : GoodEdit m bs (locInsertTextAt i s m bs) [] :=
  ids_text s ▸ good_insert (List.take_append_drop i bs).symm (.text s) m m.children _ (by simp)
    (fun h => by rw [h, elemIds_append, elemIds_text, ← elemIds_append, List.take_append_drop]) (fun _ => rfl)

theorem good_appendText (s : Str) (m : Meta) (bs : List DN) : GoodEdit m bs (locAppendText s m bs) [] :=
  ids_text s ▸ good_insert (List.append_nil bs).symm (.text s) m m.children (m.text ++ s) (by simp)
    (fun h => by simp [h, elemIds_append]) (fun h => by simp [h, textOf_append])

theorem insertAt_length {α} (a b : List α) (x : α) : insertAt a.length x (a ++ b) = a ++ x :: b := by
  simp [insertAt]

theorem elemIds_attach (m : Meta) (c : DN) (hc : c.isEl = true) (a b : List DN) :
    elemIds (a ++ attach m c :: b) = elemIds a ++ c.rid :: elemIds b ∧ textOf (a ++ attach m c :: b) = textOf (a ++ b) := by
  cases c with
  | text s => cases hc
  | el mc k => simp [attach, elemIds_append, textOf_append, DN.rid]

theorem good_insertElAt (i : Nat) (c : DN) (hc : c.isEl = true) (hok : ∃ p o, OK p o c) (m : Meta) (bs : List DN) :
    GoodEdit m bs (locInsertElAt i c m bs) (ids c) := by
  obtain ⟨p, o, hco⟩ := hok
  have hs := List.take_append_drop i bs
  refine ids_attach m c ▸ good_insert hs.symm (attach m c) m _ m.text (attach_OK m c hco) (fun h => ?_) (fun h => ?_)
  · rw [h, (elemIds_attach m c hc _ _).1, ← insertAt_length, ← elemIds_append, hs]
  · rw [h, (elemIds_attach m c hc _ _).2, hs]

theorem good_appendChild (c : DN) (hc : c.isEl = true) (hok : ∃ p o, OK p o c) (m : Meta) (bs : List DN) :
    GoodEdit m bs (locAppendChild c m bs) (ids c) := by
  obtain ⟨p, o, hco⟩ := hok
  refine ids_attach m c ▸ good_insert (List.append_nil bs).symm (attach m c) m _ m.text (attach_OK m c hco)
    (fun h => ?_) (fun h => ?_)
  · rw [h, (elemIds_attach m c hc _ _).1]; simp
  · rw [h, (elemIds_attach m c hc _ _).2, List.append_nil]

/-- the removing calls that rewrite text blocks and regenerate `text` -/
theorem good_retext (m : Meta) {bs bs' : List DN} (h : Retext bs bs') :
    GoodEdit m bs ⟨{ m with text := textOf bs' }, bs', []⟩ [] := by
  obtain ⟨h1, h2, h3, h4⟩ := h
  refine ⟨rfl, ?_, (fun _ _ _ y hy => nomatch hy), by simp [h2]⟩
  intro par own hok
  rw [OK_el] at hok ⊢
  obtain ⟨hp, ho, hch, _, hs, hk⟩ := hok
  exact ⟨hp, ho, hch.trans h1.symm, rfl, fun hsc => ⟨h1.trans (hs hsc).1, h4 (hs hsc).2⟩, h3 _ _ hk⟩

theorem good_removeText (s : Str) (m : Meta) (bs : List DN) : GoodEdit m bs (locRemoveText s m bs).1 [] := by
  unfold locRemoveText
  split
  · exact good_retext m (replaceFirstText_spec s bs ‹_›)
  · exact good_retext m (Retext.refl bs)

theorem good_removeTextAll (s : Str) (m : Meta) (bs : List DN) : GoodEdit m bs (locRemoveTextAll s m bs).1 [] :=
  good_retext m (replaceAllText_spec s bs)

theorem good_removeChild (c : Nat) (m : Meta) (bs : List DN) {e} (h : (locRemoveChild c m bs).1 = some e) :
    GoodEdit m bs e [] := by
  unfold locRemoveChild at h
  split at h
  · rename_i hmem
    split at h
    · rename_i r hr
      cases h
      obtain ⟨h1, h2, h3, h4, h5, h6, _⟩ := removeFirstEl_spec c bs hr
      refine ⟨rfl, ?_, ?_, ?_⟩
      · intro par own hok
        simp only [OK_el] at hok ⊢
        obtain ⟨hp, ho, hch, ht, hs, hk⟩ := hok
        refine ⟨hp, ho, ?_, ?_, ?_, (h6 _ _ hk).2⟩
        · rw [h3, hch]
        · rw [h4]; exact ht
        · intro hsc
          have := hs hsc
          unfold noContent at this ⊢
          rw [h3, h4, this.1, this.2]; simp
      · intro par own hok x hx
        simp only [List.mem_singleton] at hx
        subst hx
        exact detach_Detached _ h1 (h6 _ _ hok.kids).1
      · show (m.id :: idsL r.2 ++ idsL [detach r.1]).Perm _
        simp only [idsL_cons, idsL_nil, List.append_nil, ids_detach]
        exact (List.perm_append_comm.trans h5.symm).cons _
    · rename_i hr
      cases h
      refine ⟨rfl, ?_, fun _ _ _ x hx => by simp at hx, by simp⟩
      intro par own hok
      exact absurd (hok.children ▸ hmem) (removeFirstEl_none c bs hr)
  · simp at h

theorem good_insertEl (after : Bool) (r : Blk) (c : DN) (hc : c.isEl = true) (hok : ∃ p o, OK p o c) (m : Meta) (bs : List DN) :
    GoodEdit m bs (locInsertEl after r c m bs) (ids c) := by
  unfold locInsertEl
  split <;> exact good_insertElAt _ c hc hok m bs

theorem good_setAttribute (k v : Str) (m : Meta) (bs : List DN) {e} (h : (locSetAttribute k v m bs).1 = some e) :
    GoodEdit m bs e [] := by
  unfold locSetAttribute at h
  split at h
  · cases h
    refine ⟨rfl, ?_, fun _ _ _ x hx => by simp at hx, by simp⟩
    intro par own hok
    simpa [OK_el] using hok
  · simp at h

theorem good_insertText (after : Bool) (r : Blk) (s : Str) (m : Meta) (bs : List DN) {e}
    (h : (locInsertText after r s m bs).1 = some e) : GoodEdit m bs e [] := by
  unfold locInsertText at h
  split at h
  · simp at h
  · cases h
    exact good_insertTextAt _ s m bs

theorem locRemoveChild_el (c : Nat) (m : Meta) (bs : List DN) (h : (locRemoveChild c m bs).2 = .el c) :
    ∃ r, removeFirstEl c bs = some r ∧
      (locRemoveChild c m bs).1 = some ⟨{ m with children := m.children.erase c }, r.2, [detach r.1]⟩ := by
  unfold locRemoveChild at h ⊢
  by_cases hc : c ∈ m.children
  · rw [if_pos hc] at h ⊢
    cases hr : removeFirstEl c bs with
    | none => rw [hr] at h; simp at h
    | some r => exact ⟨r, rfl, rfl⟩
  · rw [if_neg hc] at h; simp at h

theorem GoodEdit.keepsId {f : Meta → List DN → Edit} {extra} (h : ∀ m bs, GoodEdit m bs (f m bs) extra) : KeepsId f :=
  fun m bs => (h m bs).id

theorem GoodEdit.keepsOK {f : Meta → List DN → Edit} {extra} (h : ∀ m bs, GoodEdit m bs (f m bs) extra) : KeepsOK f :=
  fun par own m bs hk => (h m bs).ok par own hk

theorem GoodEdit.outDetached {f : Meta → List DN → Edit} {extra} (h : ∀ m bs, GoodEdit m bs (f m bs) extra) : OutDetached f :=
  fun par own m bs hk => (h m bs).out par own hk

theorem GoodEdit.idsPlus {f : Meta → List DN → Edit} {extra} (h : ∀ m bs, GoodEdit m bs (f m bs) extra) : IdsPlus f extra :=
  fun m bs => (h m bs).ids

theorem rootOK_upd (t f) (hid : KeepsId f) (hok : KeepsOK f) (r : DN) (h : RootOK r) : RootOK (upd t f r).1 := by
  obtain ⟨m, bs, rfl, h⟩ := h
  have h' := upd_OK t f hid hok none m.owner _ h
  rw [upd_el] at h' ⊢
  split
  · rename_i he
    rw [if_pos he] at h'
    refine ⟨_, _, rfl, ?_⟩
    exact h'.owner ▸ h'
  · rename_i he
    rw [if_neg he] at h'
    exact ⟨_, _, rfl, h'⟩

theorem rootsOK_updL (t f) (hid : KeepsId f) (hok : KeepsOK f) (rs : List DN) (h : ∀ r ∈ rs, RootOK r) :
    ∀ r ∈ (updL t f rs).1, RootOK r := by
  rw [(updL_eq t f rs).1]
  intro x hx
  obtain ⟨r, hr, rfl⟩ := List.mem_map.mp hx
  exact rootOK_upd t f hid hok r (h r hr)

theorem out_updL_roots (t f) (ho : OutDetached f) (rs : List DN) (h : ∀ r ∈ rs, RootOK r) :
    ∀ x ∈ (updL t f rs).2, Detached x := by
  rw [(updL_eq t f rs).2]
  intro x hx
  obtain ⟨r, hr, hx⟩ := List.mem_flatMap.mp hx
  obtain ⟨m, bs, rfl, hk⟩ := h r hr
  exact upd_out t f ho none m.owner _ hk x hx

/-- `extra` are the uids of a tree that was taken out of the roots before and is put under the target by the edit. -/
theorem edit_Inv (w : World) (t : Nat) (f : Meta → List DN → Edit) (extra : List Nat)
    (hroots : ∀ r ∈ w.roots, RootOK r) (hnodup : (idsL w.roots ++ extra).Nodup)
    (hfresh : ∀ i ∈ idsL w.roots ++ extra, i < w.next) (ht : t ∈ idsL w.roots)
    (hgood : ∀ m bs, GoodEdit m bs (f m bs) extra) : Inv (w.edit t f) := by
  have hperm := updL_ids t f extra (GoodEdit.idsPlus hgood) w.roots (List.nodup_append.mp hnodup).1 ht
  refine ⟨?_, ?_, ?_⟩
  · intro r hr
    simp only [World.edit, List.mem_append] at hr
    cases hr with
    | inl hr => exact rootsOK_updL t f (GoodEdit.keepsId hgood) (GoodEdit.keepsOK hgood) _ hroots r hr
    | inr hr => exact (out_updL_roots t f (GoodEdit.outDetached hgood) _ hroots r hr).rootOK
  · simp only [World.edit, idsL_append]
    exact (List.Perm.nodup_iff hperm).mpr hnodup
  · intro i hi
    simp only [World.edit, idsL_append] at hi
    exact hfresh i ((List.Perm.mem_iff hperm).mp hi)

/-- The edit `World.apply` hands to `World.edit`: the lambda in its definition, so that `w.apply t loc` unfolds to
    `w.edit t (applyEdit loc)` by `rfl` (`apply_some`). Where `loc` touches nothing it leaves the element as it is. -/
def applyEdit (loc : Meta → List DN → Option Edit × Val) : Meta → List DN → Edit :=
  fun m bs => ((loc m bs).1).getD ⟨m, bs, []⟩

theorem apply_some {w : World} {t : Nat} {loc : Meta → List DN → Option Edit × Val} {w' v}
    (h : w.apply t loc = some (w', v)) :
    ∃ m bs, w.find? t = some (m, bs) ∧ v = (loc m bs).2 ∧
      (((loc m bs).1 = none ∧ w' = w) ∨ (∃ e, (loc m bs).1 = some e ∧ w' = w.edit t (applyEdit loc))) := by
  unfold World.apply at h
  split at h
  · cases h
  · rename_i m bs hf
    refine ⟨m, bs, hf, ?_⟩
    split at h <;> cases h
    · exact ⟨rfl, Or.inl ⟨‹_›, rfl⟩⟩
    · exact ⟨rfl, Or.inr ⟨_, ‹_›, rfl⟩⟩

theorem apply_Inv (w : World) (t : Nat) (loc : Meta → List DN → Option Edit × Val)
    (hl : ∀ m bs e, (loc m bs).1 = some e → GoodEdit m bs e [])
    (hw : Inv w) {w' v} (h : w.apply t loc = some (w', v)) : Inv w' := by
  obtain ⟨m, bs, hf, -, ⟨-, rfl⟩ | ⟨e, -, rfl⟩⟩ := apply_some h
  · exact hw
  · refine edit_Inv w t _ [] hw.roots (by simpa using hw.nodup) (by simpa using hw.fresh) (findL?_mem t w.roots hf) ?_
    intro m' bs'
    unfold applyEdit
    cases he : (loc m' bs').1 with
    | none => exact GoodEdit.refl m' bs'
    | some e => exact hl m' bs' e he

theorem rootId_isEl {c : DN} {i} (h : rootId c = some i) : c.isEl = true ∧ c.rid = i := by
  cases c with
  | text s => simp [rootId] at h
  | el m k => simp only [rootId, Option.some.injEq] at h; simp [DN.isEl, DN.rid, h]

theorem move_Inv (w : World) (c t : Nat) {ct rest} (hw : Inv w) (htake : takeRoot c w.roots = some (ct, rest))
    (ht : t ∈ idsL rest) (f : Meta → List DN → Edit)
    (hgood : ct.isEl = true → (∃ p o, OK p o ct) → ∀ m bs, GoodEdit m bs (f m bs) (ids ct)) :
    Inv (World.edit { w with roots := rest } t f) := by
  obtain ⟨hperm, hroot⟩ := takeRoot_spec c w.roots htake
  have hct : RootOK ct := hw.roots ct ((List.Perm.mem_iff hperm).mpr (by simp))
  have hidp : (idsL w.roots).Perm (idsL rest ++ ids ct) := by
    have := idsL_perm hperm
    simp only [idsL_cons] at this
    exact this.trans List.perm_append_comm
  refine edit_Inv { w with roots := rest } t f (ids ct) ?_ ?_ ?_ ht ?_
  · intro r hr; exact hw.roots r ((List.Perm.mem_iff hperm).mpr (by simp [hr]))
  · exact (List.Perm.nodup_iff hidp).mp hw.nodup
  · intro i hi; exact hw.fresh i ((List.Perm.mem_iff hidp).mpr hi)
  · obtain ⟨m, bs, rfl, hk⟩ := hct
    exact hgood rfl ⟨_, _, hk⟩

mutual
theorem mk_OK (p o) (f : FN) (n : Nat) : OK p o (mk p o f n).1 := by
  match f with
  | .text s => simp
  | .el name attrs sc kids =>
    rw [mk_el]
    simp only [OK_el, elemIds_text, textOf_text, List.nil_append, OKL_cons, OK_text, true_and]
    refine ⟨?_, mkL_OK (some n) o kids (n+1)⟩
    intro h
    simp only [Bool.and_eq_true, List.isEmpty_iff] at h
    rw [h.2]
    simp [noContent]
theorem mkL_OK (p o) (fs : List FN) (n : Nat) : OKL p o (mkL p o fs n).1 := by
  match fs with
  | [] => simp
  | k :: ks =>
    rw [mkL_cons]
    simp only [OKL_cons]
    exact ⟨mk_OK p o k n, mkL_OK p o ks _⟩
end

mutual
theorem mk_ids (p o) (f : FN) (n : Nat) :
    ∃ k, ids (mk p o f n).1 = List.range' n k ∧ (mk p o f n).2 = n + k := by
  match f with
  | .text s => exact ⟨0, by simp⟩
  | .el name attrs sc kids =>
    obtain ⟨k, h1, h2⟩ := mkL_ids (some n) o kids (n+1)
    refine ⟨k + 1, ?_, ?_⟩
    · rw [mk_el]
      simp only [ids_el, idsL_cons, ids_text, List.nil_append, h1]
      rw [List.range'_succ]
    · rw [mk_el]; simp only [h2]; omega
theorem mkL_ids (p o) (fs : List FN) (n : Nat) :
    ∃ k, idsL (mkL p o fs n).1 = List.range' n k ∧ (mkL p o fs n).2 = n + k := by
  match fs with
  | [] => exact ⟨0, by simp⟩
  | f :: fs =>
    obtain ⟨k1, h1, h2⟩ := mk_ids p o f n
    obtain ⟨k2, h3, h4⟩ := mkL_ids p o fs (mk p o f n).2
    rw [h2] at h3 h4
    refine ⟨k1 + k2, ?_, ?_⟩
    · rw [mkL_cons]
      simp only [idsL_cons, h1, h2, h3]
      rw [List.range'_append_1]
    · rw [mkL_cons]; simp only [h2, h4]; omega
end

theorem mk_el_spec (p o name attrs sc kids n) : ∃ m bs, (mk p o (.el name attrs sc kids) n).1 = .el m bs ∧ m.owner = o ∧ m.parent = p := by
  rw [mk_el]; exact ⟨_, _, rfl, rfl, rfl⟩

theorem mkL_isEl (p o) : ∀ (fs : List FN) (n : Nat), (∀ f ∈ fs, ∀ x, f ≠ .text x) → ∀ r ∈ (mkL p o fs n).1, r.isEl = true
  | [], _, _, r, hr => by simp at hr
  | f :: fs, n, h, r, hr => by
    rw [mkL_cons] at hr
    rcases List.mem_cons.mp hr with rfl | hr
    · cases f with
      | text x => exact absurd rfl (h _ (by simp) x)
      | el a b c d => rw [mk_el]; rfl
    · exact mkL_isEl p o fs _ (fun f hf => h f (by simp [hf])) r hr

theorem mkL_text_mem (par own : Option Nat) : ∀ (fs : List FN) (n : Nat) (s : Str),
    DN.text s ∈ (mkL par own fs n).1 → FN.text s ∈ fs
  | [], _, _, h => by simp at h
  | f :: fs, n, s, h => by
    rw [mkL_cons] at h
    simp only [List.mem_cons] at h
    rcases h with h | h
    · cases f with
      | text s' => simp only [mk, DN.text.injEq] at h; subst h; simp
      | el name attrs sc kids => rw [mk_el] at h; cases h
    · exact List.mem_cons_of_mem _ (mkL_text_mem par own fs _ s h)

theorem mkL_roots (o) (fs : List FN) (n : Nat) :
    ∀ r ∈ (mkL none o fs n).1, r.isEl = true → ∃ m bs, r = .el m bs ∧ OK none o r := by
  intro r hr hel
  have := OKL_mem (mkL_OK none o fs n) hr
  cases r with
  | text s => simp [DN.isEl] at hel
  | el m bs => exact ⟨m, bs, rfl, this⟩

theorem idsL_filter_isEl (l : List DN) : idsL (l.filter DN.isEl) = idsL l := by
  induction l with
  | nil => simp
  | cons b bs ih => cases b <;> simp [List.filter, DN.isEl, ih]

theorem idsL_map_detach (bs : List DN) : idsL (bs.map detach) = idsL bs := by
  simp [idsL_eq, List.flatMap_map, ids_detach]

theorem map_detachTop {ch : List Nat} {bs : List DN} (h : ∀ i ∈ elemIds bs, i ∈ ch) :
    bs.map (detachTop ch) = bs.map detach :=
  List.map_congr_left fun b hb => by
    cases b with
    | text s => simp [detachTop, detach]
    | el m k => simp [detachTop, detach, h m.id (mem_elemIds.mpr ⟨m, k, hb, rfl⟩)]

theorem detach_roots {p o} {bs : List DN} (hk : OKL p o bs) : ∀ r ∈ (bs.map detach).filter DN.isEl, Detached r := by
  intro r hr
  obtain ⟨hr, hel⟩ := List.mem_filter.mp hr
  obtain ⟨b, hb, rfl⟩ := List.mem_map.mp hr
  exact detach_Detached b (isEl_detach b ▸ hel) (OKL_mem hk hb)

/-- The blocks `createBlocksFromHTML` hands out, for a freshly built root: consistent roots with
    fresh, distinct uids. -/
theorem createBlocks_roots (root : DN) {d n k} (hok : OK none (some d) root) (hids : ids root = List.range' n k) :
    (∀ r ∈ (createBlocks root).filter DN.isEl, RootOK r) ∧
    (idsL ((createBlocks root).filter DN.isEl)).Nodup ∧
    (∀ i ∈ idsL ((createBlocks root).filter DN.isEl), n ≤ i ∧ i < n + k) := by
  have hnd : (ids root).Nodup := hids ▸ (List.nodup_range' : (List.range' n k).Nodup)
  have hrange : ∀ i ∈ ids root, n ≤ i ∧ i < n + k := fun i hi => List.mem_range'_1.mp (hids ▸ hi)
  cases root with
  | text s => simp [createBlocks, List.filter, DN.isEl]
  | el m bs =>
    simp only [createBlocks]
    split
    · rw [map_detachTop (hok.children ▸ fun _ h => h), idsL_filter_isEl, idsL_map_detach]
      exact ⟨fun r hr => (detach_roots hok.kids r hr).rootOK, (List.nodup_cons.mp (ids_el .. ▸ hnd)).2,
        fun i hi => hrange i (by simp [hi])⟩
    · refine ⟨fun r hr => ?_, by simpa [List.filter, DN.isEl] using hnd,
        fun i hi => hrange i (by simpa [List.filter, DN.isEl] using hi)⟩
      cases List.mem_singleton.mp (by simpa [List.filter, DN.isEl] using hr)
      exact ⟨m, bs, rfl, hok.owner ▸ hok⟩

/-- the fragment contains no element with the reserved wrapper name at its root (outside C05/C20's domain) -/
def Spec.Parsed.plain : Parsed → Prop
  | .single (.el name _ _ _) => name ≠ wrapperName
  | _ => True

theorem createBlocks_single (r : FN) (hp : Spec.Parsed.plain (.single r)) (d n : Nat) :
    createBlocks ((Parsed.single r).build d n).1 = [(mk none (some d) r n).1] := by
  cases r with
  | text s => rfl
  | el name attrs sc kids => rw [Parsed.build, mk_el]; exact if_neg hp

theorem createBlocks_multi (tops : List FN) (d n : Nat) :
    createBlocks ((Parsed.multi tops).build d n).1 = (.text [] :: (mkL (some n) (some d) tops (n+1)).1).map detach := by
  simp only [Parsed.build, createBlocks, if_pos]
  exact map_detachTop (fun _ h => h)

theorem build_spec (p : Parsed) (d n : Nat) :
    ∃ k, OK none (some d) (p.build d n).1 ∧ ids (p.build d n).1 = List.range' n k ∧ (p.build d n).2 = n + k := by
  cases p with
  | single r =>
    obtain ⟨k, h1, h2⟩ := mk_ids none (some d) r n
    exact ⟨k, mk_OK none (some d) r n, h1, h2⟩
  | multi tops =>
    obtain ⟨k, h1, h2⟩ := mkL_ids (some n) (some d) tops (n+1)
    refine ⟨k + 1, ?_, ?_, ?_⟩
    · simp only [Parsed.build, OK_el, elemIds_text, textOf_text, List.nil_append, OKL_cons, OK_text, true_and]
      refine ⟨by simp, mkL_OK (some n) (some d) tops (n+1)⟩
    · simp only [Parsed.build, ids_el, idsL_cons, ids_text, List.nil_append, h1]
      rw [List.range'_succ]
    · simp only [Parsed.build, h2]; omega

theorem fragment_world_Inv {w : World} (p : Parsed) (hw : Inv w) :
    Inv { roots := w.roots ++ (createBlocks (p.build w.nextDoc w.next).1).filter DN.isEl,
          next := (p.build w.nextDoc w.next).2, nextDoc := w.nextDoc + 1 } := by
  obtain ⟨k, hok, hids, hnext⟩ := build_spec p w.nextDoc w.next
  obtain ⟨hr, hnd, hrg⟩ := createBlocks_roots _ hok hids
  refine ⟨?_, ?_, ?_⟩
  · intro r hr'
    simp only [List.mem_append] at hr'
    cases hr' with
    | inl h => exact hw.roots r h
    | inr h => exact hr r h
  · simp only [idsL_append]
    refine List.nodup_append.mpr ⟨hw.nodup, hnd, ?_⟩
    intro a ha b hb hab
    have := hw.fresh a ha
    have := (hrg b hb).1
    omega
  · intro i hi
    simp only [idsL_append, List.mem_append] at hi
    show i < (p.build w.nextDoc w.next).2
    rw [hnext]
    cases hi with
    | inl h => have := hw.fresh i h; omega
    | inr h => exact (hrg i h).2

variable {w w' : World} {v : Val}

theorem appendText_Inv {t s} (hw : Inv w) (h : w.appendText t s = some (w', v)) : Inv w' := by
  refine apply_Inv w t _ (fun m bs e he => ?_) hw h
  cases he; exact good_appendText s m bs

theorem appendChild_some {t c} (h : w.appendChild t c = some (w', v)) :
    ∃ ct rest m bs, takeRoot c w.roots = some (ct, rest) ∧ findL? t rest = some (m, bs) ∧
      w' = World.edit { w with roots := rest } t (locAppendChild ct) ∧ v = .el c := by
  unfold World.appendChild at h
  split at h
  · cases h
  · rename_i ct rest htake
    unfold World.apply at h
    split at h
    · cases h
    · rename_i m bs hf
      cases h
      exact ⟨ct, rest, m, bs, htake, hf, rfl, rfl⟩

theorem insert_elm_some {after t c r} (h : w.insert after t (.elm c) (some r) = some (w', v)) :
    ∃ ct rest m bs, takeRoot c w.roots = some (ct, rest) ∧ findL? t rest = some (m, bs) ∧
      ((indexOf r bs = none ∧ w' = w ∧ v = .raise "ValueError") ∨
       (∃ i, indexOf r bs = some i ∧ w' = World.edit { w with roots := rest } t (locInsertEl after r ct) ∧ v = .el c)) := by
  simp only [World.insert] at h
  split at h
  · cases h
  · rename_i ct rest htake
    split at h
    · cases h
    · rename_i m bs hf
      refine ⟨ct, rest, m, bs, htake, hf, ?_⟩
      split at h <;> cases h
      · exact Or.inl ⟨‹_›, rfl, rfl⟩
      · exact Or.inr ⟨_, ‹_›, rfl, rfl⟩

theorem appendChild_Inv {t c} (hw : Inv w) (h : w.appendChild t c = some (w', v)) : Inv w' := by
  obtain ⟨ct, rest, m, bs, htake, hf, rfl, -⟩ := appendChild_some h
  exact move_Inv w c t hw htake (findL?_mem t rest hf) _ (fun hel hok m' bs' => good_appendChild ct hel hok m' bs')

theorem appendBlock_Inv {t b} (hw : Inv w) (h : w.appendBlock t b = some (w', v)) : Inv w' := by
  cases b with
  | txt s =>
    obtain ⟨⟨w1, v1⟩, hr, ⟨⟩⟩ := Option.map_eq_some_iff.mp h
    exact appendText_Inv hw hr
  | elm c => exact appendChild_Inv hw h

theorem appendBlocksLoop_Inv {t} (bs : List Blk) (hw : Inv w) (h : w.appendBlocksLoop t bs = some w') : Inv w' := by
  induction bs generalizing w with
  | nil => cases h; exact hw
  | cons b bs ih =>
    simp only [World.appendBlocksLoop] at h
    split at h
    · cases h
    · rename_i r hr
      exact ih (appendBlock_Inv (v := r.2) hw hr) h

theorem appendBlocks_Inv {t bs} (hw : Inv w) (h : w.appendBlocks t bs = some (w', v)) : Inv w' := by
  obtain ⟨w1, h1, ⟨⟩⟩ := Option.map_eq_some_iff.mp h
  exact appendBlocksLoop_Inv bs hw h1

theorem appendInnerHTML_Inv {t p} (hw : Inv w) (h : w.appendInnerHTML t p = some (w', v)) : Inv w' := by
  obtain ⟨w1, h1, ⟨⟩⟩ := Option.map_eq_some_iff.mp h
  exact appendBlocksLoop_Inv _ (fragment_world_Inv p hw) h1

theorem insert_Inv {after t b ref} (hw : Inv w) (h : w.insert after t b ref = some (w', v)) : Inv w' := by
  cases ref with
  | none => exact appendBlock_Inv hw h
  | some r =>
    cases b with
    | txt s => exact apply_Inv w t _ (fun m bs e he => good_insertText after r s m bs he) hw h
    | elm c =>
      obtain ⟨ct, rest, m, bs, htake, hf, ⟨-, rfl, -⟩ | ⟨i, -, rfl, -⟩⟩ := insert_elm_some h
      · exact hw
      · exact move_Inv w c t hw htake (findL?_mem t rest hf) _
          (fun hel hok m' bs' => good_insertEl after r ct hel hok m' bs')

theorem removeText_Inv {t s} (hw : Inv w) (h : w.removeText t s = some (w', v)) : Inv w' := by
  refine apply_Inv w t _ (fun m bs e he => ?_) hw h
  cases he; exact good_removeText s m bs

theorem removeTextAll_Inv {t s} (hw : Inv w) (h : w.removeTextAll t s = some (w', v)) : Inv w' := by
  refine apply_Inv w t _ (fun m bs e he => ?_) hw h
  cases he; exact good_removeTextAll s m bs

theorem removeChild_Inv {t c} (hw : Inv w) (h : w.removeChild t c = some (w', v)) : Inv w' :=
  apply_Inv w t _ (fun m bs _ he => good_removeChild c m bs he) hw h

theorem remove_Inv {t} (hw : Inv w) (h : w.remove t = some (w', v)) : Inv w' := by
  unfold World.remove at h
  split at h
  · cases h
  · split at h
    · cases h; exact hw
    · obtain ⟨⟨w1, v1⟩, hr, ⟨⟩⟩ := Option.map_eq_some_iff.mp h
      exact removeChild_Inv hw hr

theorem removeBlock_Inv {t b} (hw : Inv w) (h : w.removeBlock t b = some (w', v)) : Inv w' := by
  cases b with
  | elm c => exact removeChild_Inv hw h
  | txt s => exact removeText_Inv hw h

theorem removeBlocksLoop_Inv {t} (bs : List Blk) {vs} (hw : Inv w) (h : w.removeBlocksLoop t bs = some (w', vs)) : Inv w' := by
  induction bs generalizing w vs with
  | nil => cases h; exact hw
  | cons b bs ih =>
    simp only [World.removeBlocksLoop] at h
    split at h
    · cases h
    · rename_i r hr
      obtain ⟨⟨w1, v1⟩, hr', ⟨⟩⟩ := Option.map_eq_some_iff.mp h
      exact ih (removeBlock_Inv (v := r.2) hw hr) hr'

theorem removeBlocks_Inv {t bs} (hw : Inv w) (h : w.removeBlocks t bs = some (w', v)) : Inv w' := by
  obtain ⟨⟨w1, vs⟩, hr, ⟨⟩⟩ := Option.map_eq_some_iff.mp h
  exact removeBlocksLoop_Inv bs hw hr

theorem setAttribute_Inv {t k x} (hw : Inv w) (h : w.setAttribute t k x = some (w', v)) : Inv w' := by
  unfold World.setAttribute at h
  split at h
  · simp at h
  · exact apply_Inv w t _ (fun m bs _ he => good_setAttribute k x m bs he) hw h

/-- C04a: each of the 15 calls keeps the invariant. -/
theorem step_Inv (op : Op) (hw : Inv w) (h : step w op = some (w', v)) : Inv w' := by
  cases op with
  | appendText t s => exact appendText_Inv hw h
  | appendChild t c =>
    cases c with
    | none =>
      obtain ⟨_, _, ⟨⟩⟩ := Option.map_eq_some_iff.mp h
      exact hw
    | some c => exact appendChild_Inv hw h
  | appendBlock t b => exact appendBlock_Inv hw h
  | appendBlocks t bs => exact appendBlocks_Inv hw h
  | appendInnerHTML t p => exact appendInnerHTML_Inv hw h
  | insertBefore t b r => exact insert_Inv hw h
  | insertAfter t b r => exact insert_Inv hw h
  | removeText t s => exact removeText_Inv hw h
  | removeTextAll t s => exact removeTextAll_Inv hw h
  | remove t => exact remove_Inv hw h
  | removeChild t c => exact removeChild_Inv hw h
  | removeChildren t cs => exact removeBlocks_Inv hw h
  | removeBlock t b => exact removeBlock_Inv hw h
  | removeBlocks t bs => exact removeBlocks_Inv hw h
  | setAttribute t k x => exact setAttribute_Inv hw h

end AHP.Dom
