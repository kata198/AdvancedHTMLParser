/-
  AHP.Lemmas.AttrsInv — the invariants of all histories of the attribute store, each kept by every operation
  (`_step`), hence by every history (`_run`) from every constructed element (`_mk`):

    * `ClsInv`   — `_classNames` holds non-empty names without a space;
    * `DictInv`  — the underlying dict has pairwise distinct, valid, lower-case keys; the `class` key holds a class
                   snapshot, the `style` key the style object, every other key an ordinary value; the `style` key is
                   present exactly when the style map is non-empty;
    * `BinStrInv`— the values under boolean-string keys (`spellcheck`) are normalised;
    * `Clean`, `StyRT`, `NoAmp` — the round-trip conditions of C09 / C10 on the class names and the style map,
                   under the operand conditions `GoodOp`, `GoodStyOp`, `AmpFreeOp`.
-/
import AHP.Lemmas.AttrsFrame
import AHP.Lemmas.AttrsClass
namespace AHP.Attrs
open AHP

def ClsInv (e : El) : Prop := ∀ w ∈ e.cls, w ≠ [] ∧ ' ' ∉ w

theorem clsInv_ensureStyle {e : El} (h : ClsInv e) (m : AL Str) : ClsInv (ensureStyle { e with sty := m }) := by
  unfold ClsInv; rw [ensureStyle_cls]; exact h

theorem clsInv_words (s : Str) (e : El) : ClsInv { e with cls := words s } :=
  fun _ hw => ⟨(mem_words hw).1, (mem_words hw).2.1⟩

theorem clsInv_mapSet (T : Tables) (k : Str) (v : Option Str) {e : El} (h : ClsInv e) : ClsInv (mapSet T k v e).2 :=
  mapSet_ind T k v h (fun _ => clsInv_ensureStyle h _) (fun _ => clsInv_words _ e) (fun _ _ _ => h)

theorem clsInv_mapDel (k : Str) {e : El} (h : ClsInv e) : ClsInv (mapDel k e) :=
  mapDel_ind k (fun _ => clsInv_ensureStyle h _) (fun _ _ hw => nomatch hw) (fun _ _ => h)

theorem clsInv_step (T : Tables) (op : Op) {e : El} (h : ClsInv e) : ClsInv (step T e op).2 := by
  cases op <;> dsimp only [step]
  case setAttr n v => exact setAttribute_ind T n v h (clsInv_mapSet T n v h)
  case setAttrs l => exact setAttributes_ind T l h (fun p _ _ h' => clsInv_mapSet T p.1 p.2 h')
  case rmAttr | mapDel => exact clsInv_mapDel _ h
  case mapSet n v => exact clsInv_mapSet T n v h
  case dot n v =>
    exact dotSet_ind T n v h (fun _ w _ => clsInv_words _ e) (fun L w _ _ _ => clsInv_mapSet T L.attr _ h)
      (fun _ _ _ => clsInv_mapDel _ h) (fun _ h' => h')
  case addClass s => exact addClassL_clsInv s h
  case rmClass s => exact fun w hw => h w (rmClassL_subset s hw)
  case className v => exact clsInv_words _ e
  case styDot | styProp | setStyle | styAssign | stySelf => exact clsInv_ensureStyle h _
  case styCopy => unfold assignStyleFrom; exact clsInv_ensureStyle h _
  case setStyles l => exact setStyles_ind l h (fun _ _ _ h' => clsInv_ensureStyle h' _)
  case sync => exact h

theorem clsInv_run (T : Tables) (ops : List Op) {e : El} (h : ClsInv e) : ClsInv (run T e ops) :=
  run_ind T ops h (fun op _ _ h' => clsInv_step T op h')

theorem clsInv_mk (T : Tables) (tag : Str) (sc : Bool) (attrs : List (Str × Option Str)) : ClsInv (mk T tag sc attrs) :=
  mk_ind T tag sc attrs (fun _ hw => nomatch hw) (fun p _ _ h => clsInv_mapSet T _ p.2 h)

def SlotOK (p : Str × Slot) : Prop :=
  validName p.1 = true ∧ lower p.1 = p.1 ∧
  (match p.2 with
   | .val _ => p.1 ≠ classK ∧ p.1 ≠ styleK
   | .cls _ => p.1 = classK
   | .sty => p.1 = styleK)

structure DictInv (e : El) : Prop where
  nodup : (akeys e.dict).Nodup
  slots : ∀ p ∈ e.dict, SlotOK p
  style : ahas styleK e.dict = !e.sty.isEmpty

theorem aget_style_of_inv {e : El} (h : DictInv e) : aget styleK e.dict = if e.sty.isEmpty then none else some Slot.sty := by
  have hs := h.style
  unfold ahas at hs
  rcases hg : aget styleK e.dict with _ | s
  · rw [hg] at hs
    rw [show e.sty.isEmpty = true by simpa using hs.symm]
    rfl
  · rw [hg] at hs
    rw [show e.sty.isEmpty = false by simpa using hs.symm]
    have := (h.slots _ (Dict.mem_of_lookup (aget_eq .. ▸ hg))).2.2
    cases s with
    | val v => exact absurd rfl this.2
    | cls x => exact absurd this (Ne.symm classK_ne_styleK)
    | sty => rfl

theorem dictInv_setVal {e : El} (h : DictInv e) {k : Str} (v : Option Str) (hv : validName k = true)
    (hl : lower k = k) (hc : k ≠ classK) (hs : k ≠ styleK) :
    DictInv { e with dict := aset k (Slot.val v) e.dict } := by
  refine ⟨nodup_aset _ _ h.nodup, ?_, ?_⟩
  · intro p hp
    rcases mem_aset hp with hp | hp
    · subst hp; exact ⟨hv, hl, hc, hs⟩
    · exact h.slots p hp
  · show ahas styleK (aset k _ e.dict) = _
    rw [ahas, aget_aset_ne (Ne.symm hs)]; exact h.style

theorem dictInv_delKey {e : El} (h : DictInv e) {k : Str} (hs : k ≠ styleK) :
    DictInv { e with dict := adel k e.dict } := by
  refine ⟨nodup_adel _ h.nodup, ?_, ?_⟩
  · intro p hp; exact h.slots p (mem_adel.mp hp).1
  · show ahas styleK (adel k e.dict) = _
    rw [ahas, aget_adel_ne (Ne.symm hs)]; exact h.style

theorem ahas_style_ensureStyle (e : El) : ahas styleK (ensureStyle e).dict = !e.sty.isEmpty := by
  unfold ahas
  rw [ensureStyle_dict, aget_delOrSet_same]
  cases e.sty.isEmpty <;> rfl

theorem dictInv_ensureStyle {e : El} (h : DictInv e) (m : AL Str) : DictInv (ensureStyle { e with sty := m }) := by
  refine ⟨?_, ?_, (ahas_style_ensureStyle _).trans (by rw [ensureStyle_sty])⟩ <;> rw [ensureStyle_dict]
  · exact nodup_delOrSet _ _ _ h.nodup
  · exact fun p hp => (mem_delOrSet hp).elim (fun e' => e' ▸ ⟨validName_styleK, lower_styleK, rfl⟩) (h.slots p)

theorem dictInv_cls {e : El} (h : DictInv e) (c : List Str) : DictInv { e with cls := c } := ⟨h.nodup, h.slots, h.style⟩

theorem dictInv_handleClassAttr {e : El} (h : DictInv e) : DictInv (handleClassAttr e) := by
  refine ⟨?_, ?_, ?_⟩ <;> rw [handleClassAttr_dict]
  · exact nodup_delOrSet _ _ _ (nodup_delOrSet _ _ _ h.nodup)
  · intro p hp
    rcases mem_delOrSet hp with rfl | hp
    · exact ⟨validName_styleK, lower_styleK, rfl⟩
    · rcases mem_delOrSet hp with rfl | hp
      · exact ⟨validName_classK, lower_classK, rfl⟩
      · exact h.slots p hp
  · unfold ahas
    rw [aget_delOrSet_same]
    show _ = !e.sty.isEmpty
    cases e.sty.isEmpty <;> rfl

theorem dictInv_mapSet (T : Tables) (k : Str) (v : Option Str) {e : El} (h : DictInv e) : DictInv (mapSet T k v e).2 :=
  mapSet_ind T k v h (fun _ => dictInv_ensureStyle h _) (fun _ => dictInv_cls h _)
    (fun hv hc hs => dictInv_setVal h _ hv (lower_idem k) hc hs)

theorem dictInv_mapDel (k : Str) {e : El} (h : DictInv e) : DictInv (mapDel k e) :=
  mapDel_ind k (fun _ => dictInv_ensureStyle h _) (fun _ => dictInv_cls h _) (fun _ hs => dictInv_delKey h hs)

theorem mapDel_invalid {k : Str} (h : validName k = false) {e : El} (hi : DictInv e) : mapDel k e = e := by
  have hl : validName (lower k) = false := by rw [validName_lower]; exact h
  have hs : lower k ≠ styleK := fun e' => by rw [e', validName_styleK] at hl; cases hl
  have hc : lower k ≠ classK := fun e' => by rw [e', validName_classK] at hl; cases hl
  unfold mapDel
  simp only [hs, hc, if_false]
  have : lower k ∉ akeys e.dict := by
    intro hm
    obtain ⟨p, hp, hpe⟩ := List.mem_map.mp hm
    have := (hi.slots p hp).1
    rw [hpe, hl] at this
    cases this
  rw [adel_of_not_mem this]

theorem dictInv_setAttribute (T : Tables) (n : Str) (v : Option Str) {e : El} (h : DictInv e) :
    DictInv (setAttribute T n v e).2 := setAttribute_ind T n v h (dictInv_mapSet T n v h)

theorem dictInv_step (T : Tables) (op : Op) {e : El} (h : DictInv e) : DictInv (step T e op).2 := by
  cases op <;> dsimp only [step]
  case setAttr n v => exact dictInv_setAttribute T n v h
  case setAttrs l => exact setAttributes_ind T l h (fun p _ _ h' => dictInv_mapSet T p.1 p.2 h')
  case rmAttr | mapDel => exact dictInv_mapDel _ h
  case mapSet n v => exact dictInv_mapSet T n v h
  case dot n v =>
    exact dotSet_ind T n v h (fun _ _ _ => dictInv_cls h _) (fun L w _ _ _ => dictInv_mapSet T L.attr _ h)
      (fun _ _ _ => dictInv_mapDel _ h) (fun _ h' => dictInv_handleClassAttr h')
  case addClass | rmClass | className => exact dictInv_cls h _
  case styDot | styProp | setStyle | styAssign | stySelf => exact dictInv_ensureStyle h _
  case styCopy => unfold assignStyleFrom; exact dictInv_ensureStyle h _
  case setStyles l => exact setStyles_ind l h (fun _ _ _ h' => dictInv_ensureStyle h' _)
  case sync => exact dictInv_handleClassAttr h

theorem dictInv_run (T : Tables) (ops : List Op) {e : El} (h : DictInv e) : DictInv (run T e ops) :=
  run_ind T ops h (fun op _ _ h' => dictInv_step T op h')

theorem dictInv_empty (tag : Str) (sc : Bool) : DictInv (El.empty tag sc) :=
  ⟨by simp [El.empty, akeys], by intro p hp; simp [El.empty] at hp, by simp [El.empty, ahas, aget]⟩

theorem dictInv_mk (T : Tables) (tag : Str) (sc : Bool) (attrs : List (Str × Option Str)) : DictInv (mk T tag sc attrs) :=
  mk_ind T tag sc attrs (dictInv_empty tag sc) (fun p _ _ h => dictInv_mapSet T _ p.2 h)

/-- every ordinary value in the dict is what `__setitem__` would store for it: under a boolean-string
    key (`TAG_ITEM_BINARY_ATTRIBUTES_STRING_ATTR`) it is `convertToBooleanString` of itself -/
def BinStrInv (T : Tables) (e : El) : Prop := ∀ k v, aget k e.dict = some (.val v) → normVal T k v = v

/-- the invariant passes to a state whose ordinary slots were all there before -/
theorem binStrInv_sub {T : Tables} {e e' : El} (h : BinStrInv T e)
    (hs : ∀ k v, aget k e'.dict = some (.val v) → aget k e.dict = some (.val v)) : BinStrInv T e' :=
  fun k v hk => h k v (hs k v hk)

/-- an ordinary slot found after `del d[k0]` was there before -/
theorem vals_adel {k0 k : Str} {v : Option Str} {d : AL Slot} (h : aget k (adel k0 d) = some (.val v)) :
    aget k d = some (.val v) := by
  by_cases hk : k = k0
  · subst hk; rw [aget_adel_same] at h; cases h
  · rwa [aget_adel_ne hk] at h

/-- an ordinary slot found after a class snapshot or the style object was written or deleted was there before -/
theorem vals_delOrSet {k0 k : Str} {b : Bool} {s : Slot} (hs : ∀ v, s ≠ .val v) {v : Option Str} {d : AL Slot}
    (h : aget k (delOrSet k0 b s d) = some (.val v)) : aget k d = some (.val v) := by
  by_cases hk : k = k0
  · subst hk
    rw [aget_delOrSet_same] at h
    cases b
    · exact absurd (Option.some.inj h) (hs v)
    · cases h
  · rwa [aget_delOrSet_ne hk] at h

theorem binStrInv_ensureStyle {T : Tables} {e : El} (h : BinStrInv T e) (m : AL Str) :
    BinStrInv T (ensureStyle { e with sty := m }) :=
  binStrInv_sub h (fun _ _ hk => vals_delOrSet (s := .sty) (fun _ hv => nomatch hv) (ensureStyle_dict _ ▸ hk))

theorem binStrInv_handleClassAttr {T : Tables} {e : El} (h : BinStrInv T e) : BinStrInv T (handleClassAttr e) :=
  binStrInv_sub h (fun _ _ hk =>
    vals_delOrSet (s := .cls _) (fun _ hv => nomatch hv) (vals_delOrSet (s := .sty) (fun _ hv => nomatch hv) (handleClassAttr_dict e ▸ hk)))

theorem binStrInv_mapSet (T : Tables) (k : Str) (v : Option Str) {e : El} (h : BinStrInv T e) :
    BinStrInv T (mapSet T k v e).2 := by
  refine mapSet_ind T k v h (fun _ => binStrInv_ensureStyle h _) (fun _ => h) (fun _ _ _ => ?_)
  · intro k' v' hk'
    by_cases he : k' = lower k
    · subst he
      rw [show aget (lower k) (aset (lower k) _ e.dict) = _ from aget_aset_same _ _ _] at hk'
      cases hk'
      exact normVal_idem T (lower k) v
    · exact h k' v' ((aget_aset_ne he _ _).symm.trans hk')

theorem binStrInv_mapDel (T : Tables) (k : Str) {e : El} (h : BinStrInv T e) : BinStrInv T (mapDel k e) :=
  mapDel_ind k (fun _ => binStrInv_ensureStyle h _) (fun _ => h) (fun _ _ => binStrInv_sub h (fun _ _ hk => vals_adel hk))

theorem binStrInv_step (T : Tables) (op : Op) {e : El} (h : BinStrInv T e) : BinStrInv T (step T e op).2 := by
  cases op <;> dsimp only [step]
  case setAttr n v => exact setAttribute_ind T n v h (binStrInv_mapSet T n v h)
  case setAttrs l => exact setAttributes_ind T l h (fun p _ _ h' => binStrInv_mapSet T p.1 p.2 h')
  case rmAttr | mapDel => exact binStrInv_mapDel T _ h
  case mapSet n v => exact binStrInv_mapSet T n v h
  case dot n v =>
    exact dotSet_ind T n v h (fun _ _ _ => h) (fun L w _ _ _ => binStrInv_mapSet T L.attr _ h)
      (fun _ _ _ => binStrInv_mapDel T _ h) (fun _ h' => binStrInv_handleClassAttr h')
  case addClass | rmClass | className => exact h
  case styDot | styProp | setStyle | styAssign | stySelf => exact binStrInv_ensureStyle h _
  case styCopy => unfold assignStyleFrom; exact binStrInv_ensureStyle h _
  case setStyles l => exact setStyles_ind l h (fun _ _ _ h' => binStrInv_ensureStyle h' _)
  case sync => exact binStrInv_handleClassAttr h

theorem binStrInv_run (T : Tables) (ops : List Op) {e : El} (h : BinStrInv T e) : BinStrInv T (run T e ops) :=
  run_ind T ops h (fun op _ _ h' => binStrInv_step T op h')

theorem binStrInv_mk (T : Tables) (tag : Str) (sc : Bool) (attrs : List (Str × Option Str)) : BinStrInv T (mk T tag sc attrs) :=
  mk_ind T tag sc attrs (fun k v hk => by simp [El.empty, aget] at hk) (fun p _ _ h => binStrInv_mapSet T _ p.2 h)

/-- the rendered `class` value reads back as the same list: every name is a `GoodName`, not only a `CleanName` -/
def Clean (e : El) : Prop := ∀ w ∈ e.cls, GoodName w

theorem clean_ensureStyle {e : El} (h : Clean e) (m : AL Str) : Clean (ensureStyle { e with sty := m }) := by
  unfold Clean; rw [ensureStyle_cls]; exact h

theorem clean_setClassName {v : Option Str} (hv : ∀ s, v = some s → GoodStr s) (e : El) : Clean (setClassName v e) := by
  intro w hw
  cases v with
  | none => rw [show (setClassName none e).cls = words [] from rfl, words_nil] at hw; cases hw
  | some s => exact goodName_words (hv s rfl) hw

theorem clean_mapSet (T : Tables) (k : Str) {v : Option Str} (hv : ∀ s, v = some s → GoodStr s) {e : El}
    (h : Clean e) : Clean (mapSet T k v e).2 :=
  mapSet_ind T k v h (fun _ => clean_ensureStyle h _) (fun _ => clean_setClassName hv e) (fun _ _ _ => h)

theorem clean_mapDel (k : Str) {e : El} (h : Clean e) : Clean (mapDel k e) :=
  mapDel_ind k (fun _ => clean_ensureStyle h _) (fun _ _ hw => nomatch hw) (fun _ _ => h)

/-- the operands that can reach the class list are operands of the property -/
def GoodOp : Op → Prop
  | .setAttr _ v => ∀ s, v = some s → GoodStr s
  | .mapSet _ v => ∀ s, v = some s → GoodStr s
  | .className v => ∀ s, v = some s → GoodStr s
  | .setAttrs l => ∀ p ∈ l, ∀ s, p.2 = some s → GoodStr s
  | .dot _ v => GoodStr v.tostr
  | .addClass s => GoodStr s
  | _ => True

theorem clean_step (T : Tables) (op : Op) (hop : GoodOp op) {e : El} (h : Clean e) : Clean (step T e op).2 := by
  have some_ok : ∀ {s : Str}, GoodStr s → ∀ s', some s = some s' → GoodStr s' := fun hs _ e' => Option.some.inj e' ▸ hs
  cases op <;> dsimp only [step]
  case setAttr n v => exact setAttribute_ind T n v h (clean_mapSet T n hop h)
  case setAttrs l => exact setAttributes_ind T l h (fun p hp _ h' => clean_mapSet T p.1 (hop p hp) h')
  case rmAttr | mapDel => exact clean_mapDel _ h
  case mapSet n v => exact clean_mapSet T n hop h
  case dot n v =>
    refine dotSet_ind T n v h (fun _ w hw => clean_setClassName ?_ e) (fun L w _ _ hw => clean_mapSet T L.attr (some_ok ?_) h)
      (fun _ _ _ => clean_mapDel _ h) (fun _ h' => h')
    · rcases hw with rfl | rfl
      · exact fun _ e' => nomatch e'
      · exact some_ok hop
    · rcases hw with rfl | rfl | rfl
      · exact goodStr_boolString v
      · exact goodStr_nil
      · exact hop
  case addClass s => exact good_addClassL hop h
  case rmClass s => exact fun w hw => h w (rmClassL_subset s hw)
  case className v => exact clean_setClassName hop e
  case styDot | styProp | setStyle | styAssign | stySelf => exact clean_ensureStyle h _
  case styCopy => unfold assignStyleFrom; exact clean_ensureStyle h _
  case setStyles l => exact setStyles_ind l h (fun _ _ _ h' => clean_ensureStyle h' _)
  case sync => exact h

theorem clean_run (T : Tables) (ops : List Op) {e : El} (hops : ∀ op ∈ ops, GoodOp op) (h : Clean e) : Clean (run T e ops) :=
  run_ind T ops h (fun op ho _ h' => clean_step T op (hops op ho) h')

theorem clean_mk (T : Tables) (tag : Str) (sc : Bool) (attrs : List (Str × Option Str))
    (h : ∀ p ∈ attrs, ∀ s, p.2 = some s → GoodStr s) : Clean (mk T tag sc attrs) :=
  mk_ind T tag sc attrs (fun _ hw => nomatch hw) (fun p hp _ h' => clean_mapSet T _ (h p hp) h')

theorem styRT_mapSet (T : Tables) (k : Str) (v : Option Str) {e : El} (h : StyRT e.sty) : StyRT (mapSet T k v e).2.sty :=
  mapSet_ind (P := fun e => StyRT e.sty) T k v h (fun _ => by rw [ensureStyle_sty]; exact styRT_styleToDict _)
    (fun _ => h) (fun _ _ _ => h)

theorem styRT_mapDel (k : Str) {e : El} (h : StyRT e.sty) : StyRT (mapDel k e).sty :=
  mapDel_ind (P := fun e => StyRT e.sty) k (fun _ => by rw [ensureStyle_sty]; exact styRT_nil) (fun _ => h) (fun _ _ => h)

/-- the names and values handed to the property writers are those of the property's domain -/
def GoodStyOp : Op → Prop
  | .styDot n v => GoodStyName (camelToDash n) ∧ ∀ s, v = some s → GoodStyVal s
  | .setStyle n v => GoodStyName (camelToDash n) ∧ ∀ s, v = some s → GoodStyVal s
  | .styProp n v => GoodStyName n ∧ ∀ s, v = some s → GoodStyVal s
  | .setStyles l => ∀ p ∈ l, GoodStyName (camelToDash p.1) ∧ ∀ s, p.2 = some s → GoodStyVal s
  | _ => True

theorem styRT_step (T : Tables) (op : Op) (hop : GoodStyOp op) {e : El} (h : StyRT e.sty) : StyRT (step T e op).2.sty := by
  cases op <;> dsimp only [step]
  case setAttr n v => exact setAttribute_ind (P := fun e => StyRT e.sty) T n v h (styRT_mapSet T n v h)
  case setAttrs l => exact setAttributes_ind (P := fun e => StyRT e.sty) T l h (fun p _ _ h' => styRT_mapSet T p.1 p.2 h')
  case rmAttr | mapDel => exact styRT_mapDel _ h
  case mapSet n v => exact styRT_mapSet T n v h
  case dot n v =>
    exact dotSet_ind (P := fun e => StyRT e.sty) T n v h (fun _ _ _ => h) (fun L w _ _ _ => styRT_mapSet T L.attr _ h)
      (fun _ _ _ => styRT_mapDel _ h) (fun _ h' => h')
  case addClass | rmClass | className | sync => exact h
  case styDot n v | setStyle n v => show StyRT (styleDotSet n v e).sty; rw [styleDotSet_sty]; exact styRT_write h hop.1 hop.2
  case styProp n v => rw [setProperty_sty]; exact styRT_write h hop.1 hop.2
  case setStyles l =>
    exact setStyles_ind (P := fun e => StyRT e.sty) l h
      (fun p hp e' h' => by rw [styleDotSet_sty]; exact styRT_write h' (hop p hp).1 (hop p hp).2)
  case styAssign v => rw [assignStyle_sty]; exact styRT_styleToDict _
  case styCopy src => rw [assignStyleFrom_sty]; exact styRT_styleToDict _
  case stySelf => rw [ensureStyle_sty]; exact h

theorem styRT_run (T : Tables) (ops : List Op) {e : El} (hops : ∀ op ∈ ops, GoodStyOp op) (h : StyRT e.sty) :
    StyRT (run T e ops).sty :=
  run_ind (P := fun e => StyRT e.sty) T ops h (fun op ho _ h' => styRT_step T op (hops op ho) h')

theorem styRT_mk (T : Tables) (tag : Str) (sc : Bool) (attrs : List (Str × Option Str)) : StyRT (mk T tag sc attrs).sty :=
  mk_ind (P := fun e => StyRT e.sty) T tag sc attrs styRT_nil (fun p _ _ h => styRT_mapSet T _ p.2 h)

theorem noAmp_mapSet (T : Tables) (k : Str) {v : Option Str} (hv : lower k = styleK → ∀ s, v = some s → '&' ∉ s)
    {e : El} (h : NoAmp e.sty) : NoAmp (mapSet T k v e).2.sty :=
  mapSet_ind (P := fun e => NoAmp e.sty) T k v h
    (fun hk => by rw [ensureStyle_sty]; exact noAmp_styleToDict (getD_no_amp (hv hk))) (fun _ => h) (fun _ _ _ => h)

theorem noAmp_mapDel (k : Str) {e : El} (h : NoAmp e.sty) : NoAmp (mapDel k e).sty :=
  mapDel_ind (P := fun e => NoAmp e.sty) k (fun _ => by rw [ensureStyle_sty]; exact noAmp_nil) (fun _ => h) (fun _ _ => h)

/-- The operand condition: whatever an operation hands to the style attribute — property names (after the
    camelCase → dash mapping), property values, whole-style strings, the value of a `style` attribute written
    through any attribute writer — is free of `&`. Operations that do not address `style` are unrestricted. -/
def AmpFreeOp (T : Tables) : Op → Prop
  | .setAttr n v => lower n = styleK → ∀ s, v = some s → '&' ∉ s
  | .setAttrs l => ∀ p ∈ l, lower p.1 = styleK → ∀ s, p.2 = some s → '&' ∉ s
  | .mapSet n v => lower n = styleK → ∀ s, v = some s → '&' ∉ s
  | .dot n v => ∀ L, aget n T.links = some L → lower L.attr = styleK → '&' ∉ v.tostr
  | .styDot n v => '&' ∉ camelToDash n ∧ ∀ s, v = some s → '&' ∉ s
  | .setStyle n v => '&' ∉ camelToDash n ∧ ∀ s, v = some s → '&' ∉ s
  | .styProp n v => '&' ∉ n ∧ ∀ s, v = some s → '&' ∉ s
  | .setStyles l => ∀ p ∈ l, '&' ∉ camelToDash p.1 ∧ ∀ s, p.2 = some s → '&' ∉ s
  | .styAssign v => ∀ s, v = some s → '&' ∉ s
  | .styCopy src => '&' ∉ src
  | _ => True

def AmpFreeAttrs (attrs : List (Str × Option Str)) : Prop :=
  ∀ p ∈ attrs, lower p.1 = styleK → ∀ s, p.2 = some s → '&' ∉ s

theorem noAmp_step (T : Tables) (op : Op) (hop : AmpFreeOp T op) {e : El} (h : NoAmp e.sty) : NoAmp (step T e op).2.sty := by
  cases op <;> dsimp only [step]
  case setAttr n v => exact setAttribute_ind (P := fun e => NoAmp e.sty) T n v h (noAmp_mapSet T n hop h)
  case setAttrs l =>
    exact setAttributes_ind (P := fun e => NoAmp e.sty) T l h (fun p hp _ h' => noAmp_mapSet T p.1 (hop p hp) h')
  case rmAttr | mapDel => exact noAmp_mapDel _ h
  case mapSet n v => exact noAmp_mapSet T n hop h
  case dot n v =>
    refine dotSet_ind (P := fun e => NoAmp e.sty) T n v h (fun _ _ _ => h)
      (fun L w _ hL hw => noAmp_mapSet T L.attr (fun hk s hs => Option.some.inj hs ▸ ?_) h)
      (fun _ _ _ => noAmp_mapDel _ h) (fun _ h' => h')
    rcases hw with rfl | rfl | rfl
    · exact fun hm => (goodStr_boolString v '&' hm).2 rfl
    · exact fun hm => nomatch hm
    · exact hop L hL hk
  case addClass | rmClass | className | sync => exact h
  case styDot n v | setStyle n v => show NoAmp (styleDotSet n v e).sty; rw [styleDotSet_sty]; exact noAmp_write h hop.1 hop.2
  case styProp n v => rw [setProperty_sty]; exact noAmp_write h hop.1 hop.2
  case setStyles l =>
    exact setStyles_ind (P := fun e => NoAmp e.sty) l h
      (fun p hp e' h' => by rw [styleDotSet_sty]; exact noAmp_write h' (hop p hp).1 (hop p hp).2)
  case styAssign v => rw [assignStyle_sty]; exact noAmp_styleToDict (getD_no_amp hop)
  case styCopy src => rw [assignStyleFrom_sty]; exact noAmp_styleToDict (amp_not_mem_asStr (noAmp_styleToDict hop))
  case stySelf => rw [ensureStyle_sty]; exact h

theorem noAmp_run (T : Tables) (ops : List Op) {e : El} (hops : ∀ op ∈ ops, AmpFreeOp T op) (h : NoAmp e.sty) :
    NoAmp (run T e ops).sty :=
  run_ind (P := fun e => NoAmp e.sty) T ops h (fun op ho _ h' => noAmp_step T op (hops op ho) h')

theorem noAmp_mk (T : Tables) (tag : Str) (sc : Bool) (attrs : List (Str × Option Str)) (ha : AmpFreeAttrs attrs) :
    NoAmp (mk T tag sc attrs).sty :=
  mk_ind (P := fun e => NoAmp e.sty) T tag sc attrs noAmp_nil
    (fun p hp _ h => noAmp_mapSet T _ (by rw [lower_idem]; exact ha p hp) h)

end AHP.Attrs
