/-
  AHP.Lemmas.Coll — `firstOcc` (the specification the C18 statements are written in: the operands that are new, first
  occurrence wins), `Coll.Inv` (the representation invariant) and the laws of `+=` / `-=` / `remove` under it;
  `UTree.containsUid_iff` (containment is membership in "itself and its descendants").
-/
import AHP.Model.Coll
namespace AHP

/-- Specification of "append the operands that are new, first occurrence wins". -/
def firstOcc : List Nat → List Nat → List Nat
  | _, [] => []
  | seen, x :: xs => if x ∈ seen then firstOcc seen xs else x :: firstOcc (x :: seen) xs

theorem mem_firstOcc {seen xs : List Nat} {y : Nat} :
    y ∈ firstOcc seen xs ↔ y ∈ xs ∧ y ∉ seen := by
  induction xs generalizing seen with
  | nil => simp [firstOcc]
  | cons x xs ih =>
    by_cases h : x ∈ seen
    · simp only [firstOcc, h, if_true, ih, List.mem_cons]
      exact ⟨fun ⟨a, b⟩ => ⟨Or.inr a, b⟩, fun ⟨a, b⟩ => ⟨a.resolve_left (fun e => b (e ▸ h)), b⟩⟩
    · simp only [firstOcc, h, if_false, List.mem_cons, ih, not_or]
      by_cases e : y = x
      · subst e; simp [h]
      · simp [e]

theorem nodup_firstOcc (seen xs : List Nat) : (firstOcc seen xs).Nodup := by
  induction xs generalizing seen with
  | nil => exact List.nodup_nil
  | cons x xs ih =>
    unfold firstOcc
    split
    · exact ih _
    · exact List.nodup_cons.mpr ⟨fun h => (mem_firstOcc.mp h).2 List.mem_cons_self, ih _⟩

theorem firstOcc_sublist (seen xs : List Nat) : (firstOcc seen xs).Sublist xs := by
  induction xs generalizing seen with
  | nil => exact .slnil
  | cons x xs ih =>
    unfold firstOcc
    split
    · exact (ih _).cons _
    · exact (ih _).cons_cons _

/-- `firstOcc` only depends on the *set* of already-seen elements. -/
theorem firstOcc_congr {s₁ s₂ : List Nat} (h : ∀ y, y ∈ s₁ ↔ y ∈ s₂) (xs : List Nat) :
    firstOcc s₁ xs = firstOcc s₂ xs := by
  induction xs generalizing s₁ s₂ with
  | nil => rfl
  | cons x xs ih =>
    have hc : ∀ y, y ∈ x :: s₁ ↔ y ∈ x :: s₂ := fun y => by simp only [List.mem_cons, h y]
    simp only [firstOcc, h x, ih h, ih hc]

theorem firstOcc_append (seen xs ys : List Nat) :
    firstOcc seen (xs ++ ys) = firstOcc seen xs ++ firstOcc (firstOcc seen xs ++ seen) ys := by
  induction xs generalizing seen with
  | nil => rfl
  | cons x xs ih =>
    by_cases hx : x ∈ seen
    · simp only [List.cons_append, firstOcc, hx, if_true, ih]
    · simp only [List.cons_append, firstOcc, hx, if_false, ih]
      congr 2
      exact firstOcc_congr (fun y => by simp only [List.mem_append, List.mem_cons]; exact or_left_comm) ys

theorem firstOcc_of_nodup_disjoint {seen xs : List Nat} (hn : xs.Nodup) (hd : ∀ y ∈ xs, y ∉ seen) :
    firstOcc seen xs = xs := by
  induction xs generalizing seen with
  | nil => rfl
  | cons x xs ih =>
    have hn' := List.nodup_cons.mp hn
    simp only [firstOcc, hd x List.mem_cons_self, if_false]
    congr 1
    apply ih hn'.2
    intro y hy hmem
    rcases List.mem_cons.mp hmem with rfl | h
    · exact hn'.1 hy
    · exact hd y (List.mem_cons_of_mem _ hy) h

theorem nodup_append_firstOcc {l seen : List Nat} (hl : l.Nodup) (hs : ∀ y ∈ l, y ∈ seen) (xs : List Nat) :
    (l ++ firstOcc seen xs).Nodup :=
  List.nodup_append.mpr ⟨hl, nodup_firstOcc _ _, fun a ha _ hb e => (mem_firstOcc.mp hb).2 (e ▸ hs a ha)⟩

namespace Coll

structure Inv (c : Coll) : Prop where
  nodup : c.items.Nodup
  uids_nodup : c.uids.Nodup
  same : ∀ x, x ∈ c.uids ↔ x ∈ c.items

theorem inv_empty : Inv empty := ⟨List.nodup_nil, List.nodup_nil, fun _ => Iff.rfl⟩

theorem hasTag_eq {c : Coll} (h : Inv c) (x : Nat) : c.hasTag x = decide (x ∈ c.items) := by
  simp [hasTag, h.same]

theorem iadd_cons (c : Coll) (x : Nat) (xs : List Nat) :
    c.iadd (x :: xs) = (if c.hasTag x then c else c.append x).iadd xs := rfl

theorem iadd_append (c : Coll) (xs ys : List Nat) : c.iadd (xs ++ ys) = (c.iadd xs).iadd ys :=
  List.foldl_append

theorem foldl_iadd {α : Type} (g : α → List Nat) (xs : List α) (r : Coll) :
    xs.foldl (fun r x => r.iadd (g x)) r = r.iadd (xs.flatMap g) := by
  induction xs generalizing r with
  | nil => rfl
  | cons x xs ih => rw [List.foldl_cons, ih, List.flatMap_cons, iadd_append]

/-- `+=` in any state, well formed or not: the test reads `uids`, and both lists grow by the operands it lets through. -/
theorem iadd_eq (c : Coll) (xs : List Nat) :
    c.iadd xs = ⟨c.items ++ firstOcc c.uids xs, c.uids ++ firstOcc c.uids xs⟩ := by
  induction xs generalizing c with
  | nil => simp [iadd, firstOcc]
  | cons x xs ih =>
    rw [iadd_cons, ih]
    by_cases hx : x ∈ c.uids
    · simp [hasTag, hx, firstOcc]
    · simp only [hasTag, append, List.contains_iff_mem, hx, if_false, firstOcc, List.append_assoc, List.singleton_append]
      rw [firstOcc_congr (s₂ := x :: c.uids) (fun y => by simp [or_comm])]

theorem iadd_spec {c : Coll} (h : Inv c) (xs : List Nat) :
    Inv (c.iadd xs) ∧ (c.iadd xs).items = c.items ++ firstOcc c.items xs := by
  rw [iadd_eq, firstOcc_congr h.same]
  exact ⟨⟨nodup_append_firstOcc h.nodup (fun _ a => a) xs, nodup_append_firstOcc h.uids_nodup (fun y => (h.same y).mp) xs,
    fun y => by simp only [List.mem_append, h.same]⟩, rfl⟩

theorem append_inv {c : Coll} (h : Inv c) {x : Nat} (hx : x ∉ c.items) : Inv (c.append x) := by
  simpa [iadd, hasTag_eq h, hx] using (iadd_spec h [x]).1

theorem ofList_spec (xs : List Nat) : Inv (ofList xs) ∧ (ofList xs).items = firstOcc [] xs :=
  iadd_spec inv_empty xs

theorem ofList_of_nodup {xs : List Nat} (h : xs.Nodup) : (ofList xs).items = xs := by
  rw [(ofList_spec xs).2]
  exact firstOcc_of_nodup_disjoint h (by simp)

theorem remove_spec {c : Coll} (h : Inv c) {x : Nat} (hx : x ∈ c.items) :
    ∃ r, c.remove x = some r ∧ Inv r ∧ r.items = c.items.filter (· ≠ x) := by
  refine ⟨⟨c.items.erase x, c.uids.erase x⟩, by simp [remove, hx, (h.same x).mpr hx],
    ⟨h.nodup.erase _, h.uids_nodup.erase _, fun y => ?_⟩, ?_⟩
  · simp only [h.nodup.mem_erase_iff, h.uids_nodup.mem_erase_iff, h.same]
  · simp only [h.nodup.erase_eq_filter]
    exact List.filter_congr (fun y _ => by by_cases e : y = x <;> simp [e])

theorem isub_spec {c : Coll} (h : Inv c) (xs : List Nat) :
    ∃ r, c.isub xs = some r ∧ Inv r ∧ r.items = c.items.filter (fun y => !xs.contains y) := by
  induction xs generalizing c with
  | nil => exact ⟨c, rfl, h, (List.filter_eq_self.mpr (by simp)).symm⟩
  | cons x xs ih =>
    by_cases hx : x ∈ c.items
    · obtain ⟨r, hr, hinv, hitems⟩ := remove_spec h hx
      obtain ⟨r', hr', hinv', hitems'⟩ := ih hinv
      refine ⟨r', by simp [isub, hasTag_eq h, hx, hr, hr'], hinv', ?_⟩
      rw [hitems', hitems, List.filter_filter]
      exact List.filter_congr (fun y _ => by by_cases e : y = x <;> simp [e, Bool.and_comm])
    · obtain ⟨r', hr', hinv', hitems'⟩ := ih h
      refine ⟨r', by simp [isub, hasTag_eq h, hx, hr'], hinv', ?_⟩
      rw [hitems']
      exact List.filter_congr (fun y hy => by simp [show y ≠ x from fun e => hx (e ▸ hy)])

end Coll

namespace UTree
mutual
theorem containsUid_iff (t : UTree) (y : Nat) : t.containsUid y = true ↔ y ∈ t.selfAndDesc := by
  cases t with
  | node u ks =>
    simp only [containsUid, selfAndDesc, uid, descList, Bool.or_eq_true, beq_iff_eq, List.mem_cons]
    rw [containsUidL_iff ks y, eq_comm]
theorem containsUidL_iff (ts : List UTree) (y : Nat) : containsUidL ts y = true ↔ y ∈ descListL ts := by
  cases ts with
  | nil => simp [containsUidL, descListL]
  | cons t ts =>
    simp only [containsUidL, descListL, Bool.or_eq_true, List.mem_append]
    rw [containsUid_iff t y, containsUidL_iff ts y]
    simp [selfAndDesc]
end
end UTree

end AHP
