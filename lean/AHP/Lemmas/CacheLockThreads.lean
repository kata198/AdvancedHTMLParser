/-
  AHP.Lemmas.CacheLockThreads — whole threads at the lock level (`ltStep`) against the quantum machine (`tstep`)
  (C15c).

  `Sim s q`: the quantum configuration `q` is the lock-level configuration `s` seen at its release points —
  same threads (a thread whose section has returned has its quantum behind it), same cache whenever the lock
  is free, and for the thread inside a section: its own remaining statements, run from the shared cache as
  it is *now*, end in exactly the cache and thread that `tstep` computes from `q.cache`, the cache as it
  was at `acquire`.  The step lemma `sim_step` has two halves: outside the sections a step is thread-local
  (`ltStep_outside`); inside an operation it is one `lstep`, and mutual exclusion (`LockBits.other_outside`) is what
  says that no other thread could have written in between.
-/
import AHP.Lemmas.CacheLockSys
import AHP.Lemmas.CacheHist
namespace AHP.Cache

section
variable {E K V T R : Type} [DecidableEq K]
variable (compile : E → Option V) (key : E → K) (eval : V → T → R) (MAX CLEAR : Nat)

/-- The program points of `s.toLSys` (`LTSys.toLSys_eq`): a thread between operations counts as returned. -/
def LTSys.pcs (s : LTSys E K V T R) : List (Pc K V) := s.threads.map (fun lt => lt.pc.getD (.done none false))

omit [DecidableEq K] in
theorem LTSys.toLSys_eq (s : LTSys E K V T R) : s.toLSys = ⟨s.sh, s.pcs⟩ := rfl

omit [DecidableEq K] in
theorem Pc.eq_done_of_isDone {p : Pc K V} (h : p.isDone = true) : ∃ r x, p = .done r x := by
  cases p <;> first | exact ⟨_, _, rfl⟩ | cases h

theorem ltStep_done {s : LTSys E K V T R} {i : Nat} {th : Thread E V T R} {r : Option V} {x : Bool}
    (hlt : s.threads[i]? = some ⟨th, some (.done r x)⟩) :
    ltStep compile key eval MAX CLEAR s i = some { s with threads := s.threads.set i ⟨th.cont compile eval r, none⟩ } := by
  unfold ltStep
  simp only [hlt]

theorem ltStep_sect {s : LTSys E K V T R} {i : Nat} {th : Thread E V T R} {p : Pc K V}
    (hlt : s.threads[i]? = some ⟨th, some p⟩) (hnd : p.isDone = false) :
    ltStep compile key eval MAX CLEAR s i =
      (lstep MAX CLEAR s.sh p).map (fun r => ⟨r.1, s.threads.set i ⟨th, some r.2⟩⟩) := by
  unfold ltStep
  simp only [hlt]
  split
  · rename_i h; cases h
  · rename_i h; cases h; cases hnd
  · rename_i h; cases h
    cases lstep MAX CLEAR s.sh p <;> rfl

/-- From `sh`, the own next statements of thread `th` at `p` complete the quantum `tstep c0 th`. -/
def Target (th : Thread E V T R) (c0 : State K V) (sh : Shared K V) (p : Pc K V) : Prop :=
  ∃ r x, Runs MAX CLEAR sh p ⟨false, (tstep compile key eval MAX CLEAR c0 th).1⟩ (.done r x) ∧
    th.cont compile eval r = (tstep compile key eval MAX CLEAR c0 th).2

/-- `wait` is a fact about the thread alone (it mentions neither the shared cell nor `q`): waiting at an `acquire`, its
    section run alone from any cache is its next quantum. -/
structure Sim (s : LTSys E K V T R) (q : Sys E K V T R) : Prop where
  threads : q.threads = s.threads.map (LThread.abs compile eval)
  free : s.sh.held = false → s.sh.cache = q.cache
  wait : ∀ (i : Nat) (lt : LThread E K V T R) (p : Pc K V), s.threads[i]? = some lt → lt.pc = some p →
    p.holds = false → p.isDone = false → ∀ c, Target compile key eval MAX CLEAR lt.th c ⟨false, c⟩ p
  mid : ∀ (i : Nat) (lt : LThread E K V T R) (p : Pc K V), s.threads[i]? = some lt → lt.pc = some p →
    p.holds = true → Target compile key eval MAX CLEAR lt.th q.cache s.sh p

theorem sim_init (evss : List (List (Event E T))) :
    Sim compile key eval MAX CLEAR (LTSys.init evss : LTSys E K V T R) (Sys.init evss) := by
  have hpc : ∀ (i : Nat) (lt : LThread E K V T R), (LTSys.init evss : LTSys E K V T R).threads[i]? = some lt →
      lt.pc = none := by
    intro i lt h
    obtain ⟨_, _, rfl⟩ := List.mem_map.mp (List.mem_of_getElem? h)
    rfl
  refine ⟨?_, fun _ => rfl, ?_, ?_⟩
  · simp [LTSys.init, Sys.init, LThread.abs]
  · intro i lt p h hp; rw [hpc i lt h] at hp; cases hp
  · intro i lt p h hp; rw [hpc i lt h] at hp; cases hp

omit [DecidableEq K] in
theorem bits_init (evss : List (List (Event E T))) :
    LockBits (LTSys.init evss : LTSys E K V T R).sh.held (LTSys.init evss : LTSys E K V T R).pcs :=
  LockBits.of_outside rfl (by
    intro pc hpc
    simp only [LTSys.pcs, LTSys.init, List.map_map, List.mem_map] at hpc
    obtain ⟨_, _, rfl⟩ := hpc
    rfl)

omit [DecidableEq K] in
theorem pcs_getElem? {s : LTSys E K V T R} {i : Nat} {lt : LThread E K V T R} (h : s.threads[i]? = some lt) :
    s.pcs[i]? = some (lt.pc.getD (.done none false)) := by
  simp [LTSys.pcs, List.getElem?_map, h]

omit [DecidableEq K] in
theorem pcs_holder {s : LTSys E K V T R} {i : Nat} {pc : Pc K V} (h : s.pcs[i]? = some pc) (hh : pc.holds = true) :
    ∃ th, s.threads[i]? = some ⟨th, some pc⟩ := by
  obtain ⟨⟨th, p⟩, hlt, rfl⟩ := Option.map_eq_some_iff.mp (List.getElem?_map.symm.trans h)
  cases p with
  | none => cases hh
  | some p => exact ⟨th, hlt⟩

omit [DecidableEq K] in
theorem LockBits.held_threads {s : LTSys E K V T R} (h : LockBits s.sh.held s.pcs) :
    s.sh.held = true ↔ ∃ (i : Nat) (lt : LThread E K V T R), s.threads[i]? = some lt ∧
      (lt.pc.getD (.done none false)).holds = true :=
  h.held.trans ⟨fun ⟨i, _, hpc, hh⟩ => let ⟨_, hlt⟩ := pcs_holder hpc hh; ⟨i, _, hlt, hh⟩,
    fun ⟨i, _, hlt, hh⟩ => ⟨i, _, pcs_getElem? hlt, hh⟩⟩

omit [DecidableEq K] in
theorem pcs_set (s : LTSys E K V T R) (sh' : Shared K V) (i : Nat) (lt' : LThread E K V T R) :
    (⟨sh', s.threads.set i lt'⟩ : LTSys E K V T R).pcs = s.pcs.set i (lt'.pc.getD (.done none false)) := by
  simp [LTSys.pcs, List.map_set]

omit [DecidableEq K] in
theorem abs_of_not_done {th : Thread E V T R} {p : Pc K V} (h : p.isDone = false) :
    LThread.abs compile eval (⟨th, some p⟩ : LThread E K V T R) = th := by
  cases p <;> first | rfl | (simp [Pc.isDone] at h)

/-- Waiting threads keep their clause (it mentions neither cell nor cache); `hoth` is owed only for threads inside a
    section — none when thread `i` moves inside one (`LockBits.other_outside`), unchanged when cell and cache are. -/
theorem Sim.frame {s : LTSys E K V T R} {q : Sys E K V T R} {i : Nat} {lt lt' : LThread E K V T R} {sh' : Shared K V}
    {c' : State K V} (hsim : Sim compile key eval MAX CLEAR s q) (hlt : s.threads[i]? = some lt)
    (hfree : sh'.held = false → sh'.cache = c')
    (hwait : ∀ p, lt'.pc = some p → p.holds = false → p.isDone = false →
      ∀ c, Target compile key eval MAX CLEAR lt'.th c ⟨false, c⟩ p)
    (hmid : ∀ p, lt'.pc = some p → p.holds = true → Target compile key eval MAX CLEAR lt'.th c' sh' p)
    (hoth : ∀ (k : Nat) (x : LThread E K V T R), k ≠ i → s.threads[k]? = some x → ∀ p, x.pc = some p → p.holds = true →
      Target compile key eval MAX CLEAR x.th c' sh' p) :
    Sim compile key eval MAX CLEAR ⟨sh', s.threads.set i lt'⟩ ⟨c', q.threads.set i (lt'.abs compile eval)⟩ :=
  ⟨by rw [hsim.threads, List.map_set], hfree,
    fun k x p hk => forall_getElem?_set hlt
      (P := fun _ lt => ∀ p, lt.pc = some p → p.holds = false → p.isDone = false →
        ∀ c, Target compile key eval MAX CLEAR lt.th c ⟨false, c⟩ p)
      hwait (fun k x _ hk p => hsim.wait k x p hk) k x hk p,
    fun k x p hk => forall_getElem?_set hlt
      (P := fun _ lt => ∀ p, lt.pc = some p → p.holds = true → Target compile key eval MAX CLEAR lt.th c' sh' p)
      hmid hoth k x hk p⟩

/-- A thread in an operation that can take its next statement has its quantum ahead of it: the one it carries while
    inside, or — waiting at `acquire` on a free lock, the cache being the quantum machine's — its section run alone. -/
theorem Sim.target {s : LTSys E K V T R} {q : Sys E K V T R} {i : Nat} {th : Thread E V T R} {p p' : Pc K V}
    {sh' : Shared K V} (hsim : Sim compile key eval MAX CLEAR s q) (hlt : s.threads[i]? = some ⟨th, some p⟩)
    (hnd : p.isDone = false) (hl : lstep MAX CLEAR s.sh p = some (sh', p')) :
    Target compile key eval MAX CLEAR th q.cache s.sh p := by
  cases hh : p.holds with
  | true => exact hsim.mid i _ p hlt rfl hh
  | false =>
    have hfree : s.sh.held = false := by
      cases hx : s.sh.held with
      | false => rfl
      | true => rw [lstep_blocked MAX CLEAR hh hnd hx] at hl; cases hl
    have hw := hsim.wait i _ p hlt rfl hh hnd s.sh.cache
    rwa [← shared_eta_free hfree, hsim.free hfree] at hw

theorem Target.step {th : Thread E V T R} {c0 : State K V} {sh sh' : Shared K V} {p p' : Pc K V}
    (ht : Target compile key eval MAX CLEAR th c0 sh p) (hnd : p.isDone = false)
    (hl : lstep MAX CLEAR sh p = some (sh', p')) : Target compile key eval MAX CLEAR th c0 sh' p' :=
  let ⟨r, x, hruns, hcont⟩ := ht
  ⟨r, x, hruns.after_step rfl hnd hl, hcont⟩

omit [DecidableEq K] in
theorem commits_start {th : Thread E V T R} {ev : Event E T} {rest : List (Event E T)} {e : E}
    (htodo : th.todo = ev :: rest) (he : ev.expr? = some e) : LThread.commits (⟨th, none⟩ : LThread E K V T R) = false := by
  unfold LThread.commits
  simp only [htodo]
  cases ev <;> first | rfl | cases he

omit [DecidableEq K] in
theorem LThread.outside_or_inside (lt : LThread E K V T R) :
    (∀ p, lt.pc = some p → p.isDone = true) ∨ ∃ th p, lt = ⟨th, some p⟩ ∧ p.isDone = false := by
  obtain ⟨th, pc⟩ := lt
  cases pc with
  | none => exact Or.inl fun p hp => by cases hp
  | some p =>
    cases hd : p.isDone with
    | true => exact Or.inl fun p' hp' => by cases hp'; exact hd
    | false => exact Or.inr ⟨th, p, rfl, hd⟩

/-- What a thread does outside the sections.  Between operations: finished, it idles; at `slots[j].evaluate(t)` it
    evaluates, thread-locally — the one step here that is a quantum (`commits`); at an expression event it goes to
    the `acquire` of `getCachedExpression`, or, with a store pending, of `setCachedExpression`, whose section run
    alone is exactly its next quantum (`get_section_runs`, `set_section_runs`).  After a section has returned it
    continues thread-locally (`Thread.cont`), which the quantum machine has seen already.  So: never blocked, the
    shared cell untouched, outside again afterwards, and for the quantum machine a stutter or the local quantum. -/
theorem ltStep_outside {s : LTSys E K V T R} {i : Nat} {lt : LThread E K V T R}
    (hlt : s.threads[i]? = some lt) (hout : ∀ p, lt.pc = some p → p.isDone = true) :
    ∃ lt' : LThread E K V T R, ltStep compile key eval MAX CLEAR s i = some ⟨s.sh, s.threads.set i lt'⟩ ∧
      (lt'.pc.getD (.done none false)).holds = false ∧
      (∀ p, lt'.pc = some p → ∀ c, Target compile key eval MAX CLEAR lt'.th c ⟨false, c⟩ p) ∧
      ∀ c, (if lt.commits then tstep compile key eval MAX CLEAR c (lt.abs compile eval) else (c, lt.abs compile eval))
        = (c, lt'.abs compile eval) := by
  obtain ⟨th, pc⟩ := lt
  cases pc with
  | some p =>
    obtain ⟨r, x, rfl⟩ := Pc.eq_done_of_isDone (hout p rfl)
    exact ⟨⟨th.cont compile eval r, none⟩, ltStep_done compile key eval MAX CLEAR hlt, rfl, (fun p hp => by cases hp),
      fun c => rfl⟩
  | none =>
    cases htodo : th.todo with
    | nil =>
      refine ⟨⟨th, none⟩, ?_, rfl, (fun p hp => by cases hp), fun c => ?_⟩
      · unfold ltStep; simp only [hlt, htodo]; rw [set_getElem?_self hlt]
      · simp only [LThread.commits, htodo]; rfl
    | cons ev rest =>
      cases he : ev.expr? with
      | none =>
        obtain ⟨j, t, rfl⟩ := Event.eq_evalSlot_of_expr? he
        refine ⟨⟨th.evalHeld eval j t rest, none⟩, ?_, rfl, (fun p hp => by cases hp), fun c => ?_⟩
        · unfold ltStep; simp only [hlt, htodo]
        · simp only [LThread.commits, htodo]; exact tstep_evalSlot c htodo
      | some e =>
        have hs : ltStep compile key eval MAX CLEAR s i = some ⟨s.sh, s.threads.set i ⟨th, some (match th.pending with
            | none => .getAcquire (key e)
            | some v => .setAcquire (key e) v false)⟩⟩ := by
          unfold ltStep
          cases ev <;> first | (cases he; simp only [hlt, htodo]; cases th.pending <;> rfl) | cases he
        cases hp : th.pending with
        | none =>
          rw [hp] at hs
          refine ⟨_, hs, rfl, fun p hp' c => ?_, fun c => by rw [commits_start htodo he]; rfl⟩
          cases hp'
          rw [Target, tstep_get c htodo he hp]
          exact ⟨_, false, get_section_runs MAX CLEAR c (key e), rfl⟩
        | some v =>
          rw [hp] at hs
          refine ⟨_, hs, rfl, fun p hp' c => ?_, fun c => by rw [commits_start htodo he]; rfl⟩
          cases hp'
          rw [Target, tstep_set c htodo he hp]
          exact ⟨none, false, set_section_runs MAX CLEAR c (key e) v, rfl⟩

theorem sysStep_ite {q : Sys E K V T R} {i : Nat} {th : Thread E V T R} (h : q.threads[i]? = some th) (b : Bool) :
    (if b then sysStep compile key eval MAX CLEAR q i else q) =
      ⟨(if b then tstep compile key eval MAX CLEAR q.cache th else (q.cache, th)).1,
        q.threads.set i (if b then tstep compile key eval MAX CLEAR q.cache th else (q.cache, th)).2⟩ := by
  cases b
  · simp only [Bool.false_eq_true, ite_false, set_getElem?_self h]
  · exact sysStep_eq h

/-- One step of one lock-level thread is a stutter or exactly one quantum of that thread, and mutual exclusion
    is kept.  The quantum happens at the step `LThread.commits` names: a `release` or a thread-local evaluation. -/
theorem sim_step {s s' : LTSys E K V T R} {q : Sys E K V T R} {i : Nat}
    (hbits : LockBits s.sh.held s.pcs) (hsim : Sim compile key eval MAX CLEAR s q)
    (hstep : ltStep compile key eval MAX CLEAR s i = some s') :
    LockBits s'.sh.held s'.pcs ∧
    Sim compile key eval MAX CLEAR s'
      (if (s.threads[i]?).any LThread.commits then sysStep compile key eval MAX CLEAR q i else q) := by
  cases hlt : s.threads[i]? with
  | none => unfold ltStep at hstep; simp [hlt] at hstep
  | some lt =>
  have hqi : q.threads[i]? = some (lt.abs compile eval) := by rw [hsim.threads, List.getElem?_map, hlt]; rfl
  rw [show (some lt).any LThread.commits = lt.commits from rfl, sysStep_ite compile key eval MAX CLEAR hqi]
  rcases lt.outside_or_inside with hout | ⟨th, p, rfl, hnd⟩
  · obtain ⟨lt', e, h2, hw, hq'⟩ := ltStep_outside compile key eval MAX CLEAR hlt hout
    cases hstep.symm.trans e
    have h1 : (lt.pc.getD (.done none false)).holds = false := by
      cases hp : lt.pc with
      | none => rfl
      | some p => exact Pc.not_holds_of_isDone (hout p hp)
    rw [hq' q.cache]
    exact ⟨by rw [pcs_set]; exact hbits.update_outside (pcs_getElem? hlt) h1 h2,
      hsim.frame compile key eval MAX CLEAR hlt hsim.free (fun p hp _ _ => hw p hp)
        (fun p hp hh => by rw [hp] at h2; exact absurd (hh.symm.trans h2) (by decide))
        (fun k x _ hk p => hsim.mid k x p hk)⟩
  · rw [ltStep_sect compile key eval MAX CLEAR hlt hnd] at hstep
    cases hl : lstep MAX CLEAR s.sh p with
    | none => rw [hl] at hstep; cases hstep
    | some r =>
    obtain ⟨sh', p'⟩ := r
    rw [hl] at hstep
    cases hstep
    have hk := lstep_kind hl
    have hpcs : s.pcs[i]? = some p := pcs_getElem? hlt
    refine ⟨by rw [pcs_set]; exact hbits.step hpcs hk, ?_⟩
    rw [show LThread.commits (⟨th, some p⟩ : LThread E K V T R) = p.isRelease from rfl, abs_of_not_done compile eval hnd]
    -- the quantum thread `i` is about to complete, one statement further
    have ht' := (hsim.target compile key eval MAX CLEAR hlt hnd hl).step compile key eval MAX CLEAR hnd hl
    -- the other threads are outside every section: thread `i` acquires, works or releases
    have hoth : ∀ (c' : State K V) (k : Nat) (x : LThread E K V T R), k ≠ i → s.threads[k]? = some x → ∀ pk, x.pc = some pk →
        pk.holds = true → Target compile key eval MAX CLEAR x.th c' sh' pk := fun c' k x hki hk' pk hpk hh =>
      absurd (hh.symm.trans (hbits.other_outside hpcs (by rw [pcs_getElem? hk', hpk]; rfl) hki hk hnd)) (by decide)
    rcases hk.released_or_inside hnd with ⟨hr, hd', hfree'⟩ | ⟨hr, hh', hheld'⟩
    · -- the section has returned: the shared cache is the quantum's result, the thread's continuation its thread
      obtain ⟨r, x, hruns, hcont⟩ := ht'
      obtain ⟨h3, rfl⟩ := hruns.of_done hd'
      rw [hr, if_pos rfl, ← hcont]
      exact hsim.frame compile key eval MAX CLEAR (lt' := ⟨th, some (.done r x)⟩) hlt (fun _ => by rw [← h3])
        (fun pk hpk _ hd => by cases hpk; cases hd)
        (fun pk hpk hh => by cases hpk; cases hh) (hoth _)
    · -- inside before and after the step: the quantum machine sees the same thread
      rw [hr, if_neg Bool.false_ne_true]
      have h := hsim.frame compile key eval MAX CLEAR (lt' := ⟨th, some p'⟩) hlt
        (fun hf => absurd (hheld'.symm.trans hf) (by decide))
        (fun pk hpk hh _ => by cases hpk; rw [hh'] at hh; cases hh) (fun pk hpk _ => by cases hpk; exact ht') (hoth _)
      rwa [abs_of_not_done compile eval (Pc.not_done_of_holds hh')] at h

theorem sysRun_ite_append (q : Sys E K V T R) (b : Bool) (i : Nat) (l : List Nat) :
    sysRun compile key eval MAX CLEAR q ((if b then [i] else []) ++ l) =
      sysRun compile key eval MAX CLEAR (if b then sysStep compile key eval MAX CLEAR q i else q) l := by
  cases b <;> rfl

theorem sim_run (sched : List Nat) : ∀ (s : LTSys E K V T R) (q : Sys E K V T R),
    LockBits s.sh.held s.pcs → Sim compile key eval MAX CLEAR s q →
    LockBits (ltRun compile key eval MAX CLEAR s sched).sh.held (ltRun compile key eval MAX CLEAR s sched).pcs ∧
    Sim compile key eval MAX CLEAR (ltRun compile key eval MAX CLEAR s sched)
      (sysRun compile key eval MAX CLEAR q (ltProject compile key eval MAX CLEAR s sched)) := by
  induction sched with
  | nil => intro s q hb hs; exact ⟨hb, hs⟩
  | cons i rest ih =>
    intro s q hb hs
    unfold ltRun ltProject
    cases hstep : ltStep compile key eval MAX CLEAR s i with
    | none =>
      simp only [Option.getD_none]
      exact ih s q hb hs
    | some s' =>
      simp only [Option.getD_some]
      obtain ⟨hb', hs'⟩ := sim_step compile key eval MAX CLEAR hb hs hstep
      rw [sysRun_ite_append]
      exact ih s' _ hb' hs'

theorem ltStep_isSome {s : LTSys E K V T R} {i : Nat} {lt : LThread E K V T R} (hlt : s.threads[i]? = some lt)
    (h : ∀ p, lt.pc = some p → p.isDone = false → (lstep MAX CLEAR s.sh p).isSome = true) :
    (ltStep compile key eval MAX CLEAR s i).isSome = true := by
  rcases lt.outside_or_inside with hout | ⟨th, p, rfl, hd⟩
  · obtain ⟨_, e, _⟩ := ltStep_outside compile key eval MAX CLEAR hlt hout
    rw [e]; rfl
  · rw [ltStep_sect compile key eval MAX CLEAR hlt hd, Option.isSome_map]; exact h p rfl hd

end
end AHP.Cache
