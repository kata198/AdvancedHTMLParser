/-
  AHP.Lemmas.Conv — lemmas for C19: `dictSet`/`dictDel` of Model/Conv are the dict of `Lemmas/Dict`; on a name that `plainName` /
  `boolName` / `boolStrName` accept the attribute store is a map from the lower-case name; each function of conversions.py on a
  text, for all parameters (what C19b states); a read path that the documented rule demands gives `Spec.expected`; `cellOK` taken
  apart into what depends on the dot name only (in a form the kernel evaluates cheaply) and what depends on the element type; a
  rule that passes `ruleTotal` cannot raise when read; an assignment on a cell and reading back; the element built for
  `<tag attr="text">`.  Also the definitions the C19 statements are made of that are not part of the executable model
  (`Elem.entry`, `ValueErrorOnly`, `stOf`, `ruleTotal`, `setResult`, `stAfter`, `commonOK`, `nameOK`, `linkOK`, `constructed`).
-/
import AHP.Model.ConvSpec
import AHP.Lemmas.Str
import AHP.Lemmas.Dict
namespace AHP.Conv
open AHP AHP.Gen AHP.Conv.Spec

theorem dictSet_eq {β} (k : String) (v : β) (l : List (String × β)) : dictSet k v l = Dict.set l k v := by
  induction l with
  | nil => rfl
  | cons p r ih => rw [dictSet, Dict.set, ih]

theorem dictDel_eq {β} (k : String) (l : List (String × β)) : dictDel k l = Dict.del l k := by
  induction l with
  | nil => rfl
  | cons p r ih =>
    obtain ⟨k', v'⟩ := p
    by_cases h : k' = k
    · subst h; rw [dictDel, if_pos rfl, ih, Dict.del_cons_self]
    · rw [dictDel, if_neg h, ih, Dict.del_cons_ne h]

theorem lookup_dictSet_self {β} (k : String) (v : β) (l : List (String × β)) : (dictSet k v l).lookup k = some v := by
  rw [dictSet_eq]; exact Dict.lookup_set_self ..

theorem lowerS_idem (s : String) : lowerS (lowerS s) = lowerS s := by
  simp only [lowerS, String.toList_ofList, lower_idem]

theorem lowerS_htmlName (prop : String) : lowerS (htmlName prop) = htmlName prop := by
  unfold htmlName
  repeat' split
  any_goals decide +kernel
  exact lowerS_idem prop

theorem decide_True' [inst : Decidable True] : @decide True inst = true := decide_eq_true trivial

/-! ### how the store treats an attribute name -/

/-- What `plainName` (`b = s = false`), `boolName` (`b`) and `boolStrName` (`s`) ask of a name. -/
structure NameFacts (T : Tables) (a : String) (b s : Bool) : Prop where
  bool : T.booleans.contains a = b
  boolL : T.booleans.contains (lowerS a) = b
  boolStr : T.boolStrings.contains (lowerS a) = s
  nc : lowerS a ≠ "class"
  nst : lowerS a ≠ "style"

theorem nameFacts_iff {T : Tables} {a : String} :
    (plainName T a = true ↔ NameFacts T a false false) ∧ (boolName T a = true ↔ NameFacts T a true false)
      ∧ (boolStrName T a = true ↔ NameFacts T a false true) := by
  refine ⟨?_, ?_, ?_⟩ <;>
    simp only [plainName, boolName, boolStrName, lowerS_idem, beq_self_eq_true, Bool.and_true, Bool.and_eq_true,
      Bool.not_eq_true', bne_iff_ne, ne_eq] <;>
    exact ⟨fun ⟨⟨⟨⟨h1, h2⟩, h3⟩, h4⟩, h5⟩ => ⟨h1, h2, h3, h4, h5⟩, fun f => ⟨⟨⟨⟨f.1, f.2⟩, f.3⟩, f.4⟩, f.5⟩⟩

theorem plainName_iff {T : Tables} {a : String} : plainName T a = true ↔ NameFacts T a false false := nameFacts_iff.1
theorem boolName_iff {T : Tables} {a : String} : boolName T a = true ↔ NameFacts T a true false := nameFacts_iff.2.1
theorem boolStrName_iff {T : Tables} {a : String} : boolStrName T a = true ↔ NameFacts T a false true := nameFacts_iff.2.2

theorem NameFacts.lower {T : Tables} {a : String} {b s : Bool} (f : NameFacts T a b s) : NameFacts T (lowerS a) b s := by
  refine ⟨f.boolL, ?_, ?_, ?_, ?_⟩ <;> rw [lowerS_idem]
  · exact f.boolL
  · exact f.boolStr
  · exact f.nc
  · exact f.nst

/-! ### the store as a map -/

abbrev Elem.entry (e : Elem) (k : String) : Option (Option Str) := e.attrs.lookup k

/-- `getAttribute` of a name with `NameFacts … b s`, from its entry in the dict:
a boolean attribute reads `False` when absent, `True` when value-less or empty, else its text; any other the text (the
true/false string for a true/false-string attribute), `None` when value-less, the default when absent. -/
def attrValue (b s : Bool) (dflt : PyV) (o : Option (Option Str)) : PyV :=
  let v := if s then .str (convertToBooleanString (entryVal o)) else entryVal o
  if b then (if o.isSome then (if !truthy v then .bool true else v) else .bool false) else (if o.isSome then v else dflt)

theorem attrValue_none (d : PyV) : attrValue false false d none = d := rfl
theorem attrValue_text (d : PyV) (v : Str) : attrValue false false d (some (some v)) = .str v := rfl

section
variable {T : Tables} {a : String} {b s : Bool}

theorem dictContains_eq (e : Elem) (f : NameFacts T a b s) : e.dictContains a = (e.entry (lowerS a)).isSome := by
  unfold Elem.dictContains
  simp only [f.nc, if_false]

theorem hasAttribute_eq (e : Elem) (f : NameFacts T a b s) : e.hasAttribute a = (e.entry (lowerS a)).isSome := by
  rw [Elem.hasAttribute, dictContains_eq e f.lower, lowerS_idem]

theorem dictGetItem_eq (e : Elem) (f : NameFacts T a b s) :
    e.dictGetItem T a = if s then .str (convertToBooleanString (entryVal (e.entry (lowerS a)))) else entryVal (e.entry (lowerS a)) := by
  unfold Elem.dictGetItem
  simp only [f.nc, f.nst, f.boolStr, if_false]

theorem dictGet_eq (e : Elem) (f : NameFacts T a b s) (dflt : PyV) :
    e.dictGet T a dflt = if (e.entry (lowerS a)).isSome then e.dictGetItem T (lowerS a) else dflt := by
  unfold Elem.dictGet Elem.inKeys
  simp only [f.nc, f.nst, decide_false, Bool.false_or, if_false]

theorem getAttribute_eq (e : Elem) (f : NameFacts T a b s) (dflt : PyV) :
    e.getAttribute T a dflt = attrValue b s dflt (e.entry (lowerS a)) := by
  rw [Elem.getAttribute, f.bool, dictContains_eq e f, dictGet_eq e f, dictGetItem_eq e f, dictGetItem_eq e f.lower, lowerS_idem]
  rfl

theorem getAttribute_lower (e : Elem) (f : NameFacts T a b s) (dflt : PyV) :
    e.getAttribute T (lowerS a) dflt = e.getAttribute T a dflt := by
  rw [getAttribute_eq e f, getAttribute_eq e f.lower, lowerS_idem]

end

/-! ### the meaning of the converters (conversions.py), for all parameters and all texts -/

/-- Python's `int()` on text fails with `ValueError` only. -/
def ValueErrorOnly (parseInt : Str → Except PyErr Int) : Prop :=
  ∀ s e, parseInt s = .error e → e = .valueError

theorem clamp_eq (lo hi n : Int) (h : lo ≤ hi) : clampHi (some hi) (clampLo (some lo) n) = Spec.clamp lo hi n := by
  unfold clampHi clampLo Spec.clamp
  simp only
  split <;> split <;> omega

theorem intOrMinusOne_none (pi : Str → Except PyErr Int) : convertToIntOrNegativeOneIfUnset pi .none = .int (-1) := rfl
theorem intOrMinusOne_empty (pi : Str → Except PyErr Int) : convertToIntOrNegativeOneIfUnset pi (.str []) = .int (-1) := rfl

theorem intOrMinusOne_text (parseInt : Str → Except PyErr Int) (s : Str) (h : s ≠ []) :
    convertToIntOrNegativeOneIfUnset parseInt (.str s) = (match parseInt s with | .ok n => .int n | .error _ => .int 0) := by
  cases s with
  | nil => exact absurd rfl h
  | cons c r =>
    unfold convertToIntOrNegativeOneIfUnset
    simp only [isNoneOrEmpty, Bool.false_eq_true, if_false, pyInt]
    cases parseInt (c :: r) <;> rfl

theorem positiveInt_text (parseInt : Str → Except PyErr Int) (s : Str) (d : Lit) :
    convertToPositiveInt parseInt (.str s) d = (match parseInt s with | .ok n => if n < 0 then d.toPy else .int n | .error _ => d.toPy) := by
  unfold convertToPositiveInt
  simp only [pyInt]
  cases parseInt s <;> rfl

theorem positiveInt_int (pi : Str → Except PyErr Int) (n : Int) (d : Lit) :
    convertToPositiveInt pi (.int n) d = if n < 0 then d.toPy else .int n := rfl

theorem isNoneOrEmpty_str (s : Str) : isNoneOrEmpty (.str s) = decide (s = []) := by
  cases s <;> rfl

/-- `convertToIntRange` and `convertToIntRangeCapped` are one pipeline: an unset or empty value gives `E`; then `int()`, of whose
failures only `ValueError` is caught (`I`), any other is raised again; a number goes on to `F`. -/
def intConv (parseInt : Str → Except PyErr Int) (v : PyV) (E I : Except PyErr PyV) (F : Int → Except PyErr PyV) : Except PyErr PyV :=
  if isNoneOrEmpty v then E
  else match pyInt parseInt v with
    | .error .valueError => I
    | .error e => .error e
    | .ok n => F n

theorem intRange_intConv (parseInt : Str → Except PyErr Int) (v : PyV) (lo hi : Option Int) (inv : Inv) (emp : Emp) :
    convertToIntRange parseInt v lo hi inv emp = intConv parseInt v (handleEmpty inv emp) (handleInvalid inv) fun n =>
      if (match lo with | some l => decide (n < l) | none => false) then handleInvalid inv
      else if (match hi with | some h => decide (n > h) | none => false) then handleInvalid inv
      else .ok (.int n) := rfl

theorem intCapped_intConv (parseInt : Str → Except PyErr Int) (v : PyV) (lo hi : Option Int) (inv : Inv) (emp : Emp) :
    convertToIntRangeCapped parseInt v lo hi inv emp
      = intConv parseInt v (handleEmpty inv emp) (handleInvalid inv) fun n => .ok (.int (clampHi hi (clampLo lo n))) := rfl

theorem intConv_plain {parseInt : Str → Except PyErr Int} (hpi : ValueErrorOnly parseInt) {v : PyV} (hv : plain v = true)
    (E I : Except PyErr PyV) (F : Int → Except PyErr PyV) :
    intConv parseInt v E I F = if isNoneOrEmpty v then E else match pyInt parseInt v with | .ok n => F n | .error _ => I := by
  unfold intConv
  split
  · rfl
  · next he =>
    cases v with
    | str s =>
      simp only [pyInt]
      cases h : parseInt s with
      | ok n => rfl
      | error err => cases hpi _ _ h; rfl
    | none => exact absurd rfl he
    | int n => rfl
    | bool b => rfl
    | _ => exact absurd hv (by simp [plain])

theorem intConv_text {parseInt : Str → Except PyErr Int} (hpi : ValueErrorOnly parseInt) {s : Str} (h : s ≠ [])
    (E I : Except PyErr PyV) (F : Int → Except PyErr PyV) :
    intConv parseInt (.str s) E I F = match parseInt s with | .ok n => F n | .error _ => I := by
  rw [intConv_plain hpi rfl, isNoneOrEmpty_str, decide_eq_false h]; rfl

theorem intConv_total {parseInt : Str → Except PyErr Int} (hpi : ValueErrorOnly parseInt) {v : PyV} (hv : plain v = true)
    {E I : Except PyErr PyV} {F : Int → Except PyErr PyV} (hE : ∃ r, E = .ok r) (hI : ∃ r, I = .ok r) (hF : ∀ n, ∃ r, F n = .ok r) :
    ∃ r, intConv parseInt v E I F = .ok r := by
  rw [intConv_plain hpi hv]
  split
  · exact hE
  · split
    · exact hF _
    · exact hI

theorem intRange_empty (pi : Str → Except PyErr Int) (lo hi : Option Int) (inv : Inv) (emp : Emp) :
    convertToIntRange pi (.str []) lo hi inv emp = handleEmpty inv emp := rfl

theorem intRange_text (parseInt : Str → Except PyErr Int) (hpi : ValueErrorOnly parseInt) (s : Str) (h : s ≠ []) (lo : Int) (inv : Inv) (emp : Emp) :
    convertToIntRange parseInt (.str s) (some lo) none inv emp
      = (match parseInt s with | .ok n => if n < lo then handleInvalid inv else .ok (.int n) | .error _ => handleInvalid inv) := by
  rw [intRange_intConv, intConv_text hpi h]
  cases parseInt s <;> simp only [decide_eq_true_eq, Bool.false_eq_true, if_false]

theorem intCapped_empty (pi : Str → Except PyErr Int) (lo hi : Option Int) (inv : Inv) (emp : Emp) :
    convertToIntRangeCapped pi (.str []) lo hi inv emp = handleEmpty inv emp := rfl

theorem intCapped_text (parseInt : Str → Except PyErr Int) (hpi : ValueErrorOnly parseInt) (s : Str) (h : s ≠ []) (lo hi : Int) (hlh : lo ≤ hi)
    (inv : Inv) (emp : Emp) :
    convertToIntRangeCapped parseInt (.str s) (some lo) (some hi) inv emp
      = (match parseInt s with | .ok n => .ok (.int (Spec.clamp lo hi n)) | .error _ => handleInvalid inv) := by
  rw [intCapped_intConv, intConv_text hpi h]
  cases parseInt s <;> simp only [clamp_eq lo hi _ hlh]

theorem lower_eq_nil (s : Str) : lower s = [] ↔ s = [] := by
  cases s <;> simp [lower]

theorem possible_text (s : Str) (ms : List String) (inv : Inv) (emp : Emp) :
    convertPossibleValues (.str s) ms inv emp
      = if s = [] then handleEmpty inv emp
        else if ms.contains (String.ofList (lower s)) then .ok (.str (lower s)) else handleInvalid inv := by
  unfold convertPossibleValues
  simp only [tostr, lower_eq_nil]
  by_cases hs : s = []
  · simp only [hs, if_true]
  · simp only [hs, if_false]
    rfl

/-! ### reading a property whose dispatch is the one its documented rule demands -/

/-- The attribute state of an entry (value-less entries are outside the property's quantifier). -/
def stOf : Option (Option Str) → St
  | some (some s) => .text s
  | _ => .absent

theorem boolStr_roundtrip (v : Str) :
    convertBooleanStringToBoolean (.str (convertToBooleanString (.str v)))
      = !(lower v = str "false" || lower v = str "0") := by
  unfold convertToBooleanString
  simp only
  cases (decide (lower v = str "false") || decide (lower v = str "0")) <;> simp <;> decide

theorem evalGet_disp (T : Tables) (parseInt : Str → Except PyErr Int) (hpi : ValueErrorOnly parseInt) (e : Elem) (attr : String) (r : SRule)
    (hok : getOK T (disp attr r).get = true) (hl : lowerS attr = attr) (hwf : wf r = true)
    (hst' : r = .className ∨ e.entry attr ≠ some none) :
    evalGet T parseInt e (disp attr r).get = .ok (expected parseInt r (stOf (e.entry attr)) e.ancestors e.classNames) := by
  have ga : ∀ {b s}, NameFacts T attr b s → ∀ d, e.getAttribute T attr d = attrValue b s d (e.entry attr) :=
    fun f d => by rw [getAttribute_eq e f, hl]
  have ha : ∀ {b s}, NameFacts T attr b s → e.hasAttribute attr = (e.entry attr).isSome :=
    fun f => by rw [hasAttribute_eq e f, hl]
  generalize e.entry attr = o at hst' ga ha ⊢
  by_cases hr : r = .className
  · subst hr; rcases o with _ | _ | s <;> rfl
  -- every other rule: the entry is absent (`none`) or holds a text (`some (some s)`)
  have hst : o ≠ some none := hst'.resolve_left hr
  cases r with
  | className => exact absurd rfl hr
  | parentForm => rcases o with _ | _ | s <;> rfl
  | boolean =>
    simp only [disp, getOK] at hok
    simp only [disp, evalGet, ga (boolName_iff.mp hok)]
    rcases o with _ | _ | s
    · rfl
    · exact absurd rfl hst
    · cases s <;> rfl
  | boolString =>
    simp only [disp, getOK] at hok
    simp only [disp, evalGet, ga (boolStrName_iff.mp hok)]
    rcases o with _ | _ | s
    · rfl
    · exact absurd rfl hst
    · exact congrArg (Except.ok ∘ PyV.bool) (boolStr_roundtrip s)
  | intOrMinusOne =>
    simp only [disp, getOK, ruleOK] at hok
    simp only [disp, evalGet, evalRule, evalConv, ga (plainName_iff.mp hok)]
    rcases o with _ | _ | s
    · rfl
    · exact absurd rfl hst
    · by_cases hs : s = []
      · subst hs; rfl
      · simp only [attrValue_text, stOf, expected, hs, if_false, intOrMinusOne_text parseInt s hs]
        cases parseInt s <;> rfl
  | capped lo hi a i =>
    simp only [disp, getOK, ruleOK] at hok
    simp only [wf, Bool.and_eq_true, decide_eq_true_eq] at hwf
    simp only [disp, evalGet, evalRule, evalConv, ga (plainName_iff.mp hok)]
    rcases o with _ | _ | s
    · -- absent: the code converts the default `a`; `wf` puts it inside `lo..hi`, so clamping gives it back
      simp only [attrValue_none, stOf, expected, Lit.toPy, convertToIntRangeCapped, isNoneOrEmpty, pyInt, Bool.false_eq_true,
        if_false, clamp_eq lo hi a hwf.1.1, Spec.clamp]
      congr 2
      omega
    · exact absurd rfl hst
    · by_cases hs : s = []
      · subst hs; rfl
      · simp only [attrValue_text, stOf, expected, hs, if_false, intCapped_text parseInt hpi s hs lo hi hwf.1.1]
        cases parseInt s <;> rfl
  | nonNegative d =>
    simp only [disp, getOK, ruleOK] at hok
    simp only [disp, evalGet, evalRule, evalConv, ga (plainName_iff.mp hok)]
    rcases o with _ | _ | s
    · simp only [attrValue_none, stOf, expected, Lit.toPy, positiveInt_int]
      split <;> rfl
    · exact absurd rfl hst
    · simp only [attrValue_text, stOf, expected, positiveInt_text, Lit.toPy]
      cases parseInt s <;> rfl
  | atLeast lo d =>
    simp only [disp, getOK, ruleOK] at hok
    simp only [disp, evalGet, evalRule, evalConv, ga (plainName_iff.mp hok)]
    rcases o with _ | _ | s
    · simp only [attrValue_none, stOf, expected, Lit.toPy, convertToIntRange, isNoneOrEmpty, pyInt, Bool.false_eq_true, if_false,
        handleInvalid]
      split <;> rfl
    · exact absurd rfl hst
    · by_cases hs : s = []
      · subst hs; rfl
      · simp only [attrValue_text, stOf, expected, hs, if_false, intRange_text parseInt hpi s hs, handleInvalid, Lit.toPy]
        cases parseInt s with
        | error _ => rfl
        | ok n => simp only; split <;> rfl
  | maxLength =>
    simp only [disp, getOK, ruleOK, mlRule] at hok
    simp only [disp, mlRule, evalGet, evalRule, ha (plainName_iff.mp hok), ga (plainName_iff.mp hok)]
    rcases o with _ | _ | s
    · rfl
    · exact absurd rfl hst
    · by_cases hs : s = []
      · subst hs; rfl
      · simp only [Option.isSome, Bool.not_true, Bool.false_eq_true, if_false, attrValue_text, stOf, expected, hs,
          intRange_text parseInt hpi s hs, handleInvalid, Lit.toPy]
        cases parseInt s with
        | error _ => rfl
        | ok n => simp only; split <;> rfl
  | «enum» ms a i em =>
    simp only [disp, getOK, ruleOK] at hok
    simp only [disp, evalGet, evalRule, evalConv, ga (plainName_iff.mp hok)]
    rcases o with _ | _ | s
    · -- absent: the code converts the default `a`; `wf` says the conversion gives `a` back
      simp only [attrValue_none, stOf, expected]
      simp only [wf] at hwf
      cases hc : convertPossibleValues a.toPy ms (Inv.val i) (empOf em) with
      | error err => rw [hc] at hwf; exact absurd hwf (by simp)
      | ok v => rw [hc] at hwf; simp only [decide_eq_true_eq] at hwf; rw [hwf]
    · exact absurd rfl hst
    · simp only [attrValue_text, stOf, expected, possible_text]
      by_cases hs : s = []
      · subst hs
        cases em <;> rfl
      · simp only [hs, if_false, handleInvalid]
        split <;> rfl
  | tokens =>
    simp only [disp, getOK, ruleOK] at hok
    simp only [disp, evalGet, evalRule, evalConv, ga (plainName_iff.mp hok)]
    rcases o with _ | _ | s
    · rfl
    · exact absurd rfl hst
    · simp only [attrValue_text, stOf, expected, domTokenList, tokensOf]
      split <;> rfl
  | string d =>
    simp only [disp, getOK] at hok
    simp only [disp, evalGet, ga (plainName_iff.mp hok)]
    rcases o with _ | _ | s
    · rfl
    · exact absurd rfl hst
    · rfl

/-! ### names are compared in lower case: the normal form of a dispatch entry behaves the same -/

theorem evalRule_resolve (T : Tables) (parseInt : Str → Except PyErr Int) (e : Elem) (r : Rule) :
    evalRule T parseInt e (resolve e.tag r) = evalRule T parseInt e r := by
  induction r with
  | conv c a d => rfl
  | parentTag n => rfl
  | byTag t a b iha ihb =>
    simp only [resolve, evalRule]
    split
    · exact iha
    · exact ihb
  | maxLength => rfl

theorem ruleOK_resolve (T : Tables) (tag : String) (r : Rule) (h : ruleOK T r = true) : ruleOK T (resolve tag r) = true := by
  induction r with
  | conv c a d => exact h
  | parentTag n => exact h
  | byTag t a b iha ihb =>
    simp only [ruleOK, Bool.and_eq_true] at h
    simp only [resolve]
    split
    · exact iha h.1
    · exact ihb h.2
  | maxLength => exact h

theorem evalGet_norm (T : Tables) (parseInt : Str → Except PyErr Int) (e : Elem) (g : GetKind) (h : getOK T g = true) :
    evalGet T parseInt e (normGet e.tag g) = evalGet T parseInt e g := by
  cases g with
  | className => rfl
  | special r =>
    have hr := ruleOK_resolve T e.tag r h
    have he := evalRule_resolve T parseInt e r
    simp only [normGet]
    split
    · rename_i a d heq
      rw [heq] at hr he
      simp only [evalGet, ← he, evalRule, evalConv, getAttribute_lower e (plainName_iff.mp hr)]
    · simp only [evalGet, he]
  | boolStr a => simp only [normGet, evalGet, getAttribute_lower e (boolStrName_iff.mp h)]
  | boolean a => simp only [normGet, evalGet, getAttribute_lower e (boolName_iff.mp h)]
  | string a d => simp only [normGet, evalGet, getAttribute_lower e (plainName_iff.mp h)]

theorem getOK_norm (T : Tables) (tag : String) (g : GetKind) (h : getOK T g = true) : getOK T (normGet tag g) = true := by
  cases g with
  | className => rfl
  | special r =>
    have hr := ruleOK_resolve T tag r h
    simp only [normGet]
    split
    · rename_i a d heq
      rw [heq] at hr
      exact plainName_iff.mpr (plainName_iff.mp hr).lower
    · exact hr
  | boolStr a => exact boolStrName_iff.mpr (boolStrName_iff.mp h).lower
  | boolean a => exact boolName_iff.mpr (boolName_iff.mp h).lower
  | string a d => exact plainName_iff.mpr (plainName_iff.mp h).lower

/-! ### one cell of the table: the dispatch computed from the tables is the documented one -/

/-- The entry `dispatch` returns for a linked name: it does not depend on the element type. -/
def linkedDisp (T : Tables) (prop : String) : Disp :=
  if prop = "className" then { get := .className, set := .className, validate := none }
  else { get := getKind T prop, set := setKind T prop, validate := T.validated.lookup prop }

theorem dispatch_eq (T : Tables) (tag prop : String) :
    dispatch T tag prop = if prop = "className" ∨ isLinked T tag prop = true then some (linkedDisp T prop) else none := by
  unfold dispatch linkedDisp
  by_cases h : prop = "className"
  · simp only [h, true_or, if_true]
  · simp only [h, false_or, if_false]

theorem linkedDisp_special {T : Tables} {prop : String} {r : Rule} (h : (linkedDisp T prop).get = .special r) :
    T.specials.lookup prop = some r := by
  unfold linkedDisp getKind at h
  split at h
  · cases h
  · split at h
    · cases h; assumption
    · simp only at h
      (repeat' split at h) <;> cases h

/-! #### the parts of `cellOK` in a form the kernel evaluates cheaply

Two things are dear in the kernel.  It is call-by-name: `lowerS a` is evaluated anew (through `String.toList`, quadratic in the
length of a literal) wherever it is compared, and comparing two computed strings is dearer still.  Almost every attribute name of
the tables is already lower-case: `lowerL` finds that out in one pass over the characters and then hands on the literal itself.
And `String` equality of two literals goes through the instances of `List UInt8`, byte by byte, at every entry of every table
searched: `code` turns a string into a number once (`code_inj`), and `cHas`, `cLookup`, `ceq` search and compare by numbers.
Each definition below is the one of `Model/Conv` or `Model/ConvSpec` with `lowerL` and codes, and comes with the lemma that says so. -/

def isLower (a : String) : Bool := a.toList.all fun c => lowerChar c == c

theorem lowerS_of_isLower {a : String} (h : isLower a = true) : lowerS a = a := by
  have : lower a.toList = a.toList :=
    (List.map_congr_left fun c hc => eq_of_beq (List.all_eq_true.mp h c hc)).trans (List.map_id _)
  rw [lowerS, this, String.ofList_toList]

def lowerL (a : String) : String := if isLower a then a else lowerS a

theorem lowerL_eq (a : String) : lowerL a = lowerS a := by
  unfold lowerL
  split
  · next h => exact (lowerS_of_isLower h).symm
  · rfl

/-- A string as a number: its UTF-8 bytes as digits 1 … 256 to the base 257, the first byte lowest. -/
def code (s : String) : Nat := s.toByteArray.data.toList.foldr (fun b n => n * 257 + (b.toNat + 1)) 0

theorem code_inj {s t : String} (h : code s = code t) : s = t := by
  have key : ∀ l₁ l₂ : List UInt8,
      l₁.foldr (fun b n => n * 257 + (b.toNat + 1)) 0 = l₂.foldr (fun b n => n * 257 + (b.toNat + 1)) 0 → l₁ = l₂ := by
    intro l₁
    induction l₁ with
    | nil => intro l₂ h; cases l₂ with
      | nil => rfl
      | cons b l => simp only [List.foldr] at h; omega
    | cons a l₁ ih => intro l₂ h; cases l₂ with
      | nil => simp only [List.foldr] at h; omega
      | cons b l₂ =>
        simp only [List.foldr] at h
        have ha := a.toNat_lt; have hb := b.toNat_lt
        have h1 : a.toNat = b.toNat := by omega
        rw [ih l₂ (by omega), UInt8.toNat_inj.mp h1]
  have := key _ _ h
  rw [← String.toByteArray_inj]
  cases hs : s.toByteArray; cases ht : t.toByteArray
  rw [hs, ht] at this
  exact congrArg _ (Array.toList_inj.mp this)

/-- `a = b`, `l.contains a`, `l.lookup k` with the strings compared by their codes: the kernel computes the code of a literal once
and then compares numbers. -/
def ceq (a b : String) : Bool := code a == code b
def cHas (l : List String) (a : String) : Bool := (l.map code).contains (code a)
def cLookup {β} (l : List (String × β)) (k : String) : Option β := (l.map fun p => (code p.1, p.2)).lookup (code k)

theorem ceq_eq (a b : String) : ceq a b = decide (a = b) := by
  by_cases h : a = b
  · rw [h, ceq, beq_self_eq_true, decide_eq_true rfl]
  · rw [ceq, beq_false_of_ne fun e => h (code_inj e), decide_eq_false h]

theorem cHas_eq (l : List String) (a : String) : cHas l a = l.contains a := by
  induction l with
  | nil => rfl
  | cons b l ih =>
    simp only [cHas, List.map_cons, List.contains_cons] at ih ⊢
    rw [ih, show (code a == code b) = (a == b) from ceq_eq a b]

theorem cLookup_eq {β} (l : List (String × β)) (k : String) : cLookup l k = l.lookup k := by
  induction l with
  | nil => rfl
  | cons p l ih =>
    obtain ⟨k', v⟩ := p
    simp only [cLookup, List.map_cons] at ih ⊢
    by_cases h : k = k'
    · subst h; simp only [List.lookup_cons_self]
    · rw [List.lookup_cons, List.lookup_cons, beq_false_of_ne h, beq_false_of_ne fun e => h (code_inj e), ih]

/-- `plainName` (`b = s = false`), `boolName` (`b`), `boolStrName` (`s`), without their last conjunct (`lowerS_idem`) -/
def nameKind' (T : Tables) (a : String) (b s : Bool) : Bool :=
  let k := lowerL a
  cHas T.booleans a == b && cHas T.booleans k == b && cHas T.boolStrings k == s && k != "class" && k != "style"

theorem nameKind'_eq (T : Tables) (a : String) : nameKind' T a false false = plainName T a ∧ nameKind' T a true false = boolName T a
    ∧ nameKind' T a false true = boolStrName T a := by
  simp [nameKind', plainName, boolName, boolStrName, lowerL_eq, lowerS_idem, cHas_eq]

def ruleOK' (T : Tables) : Rule → Bool
  | .conv _ a _ => nameKind' T a false false
  | .parentTag _ => true
  | .byTag _ a b => ruleOK' T a && ruleOK' T b
  | .maxLength a _ _ _ _ _ _ _ => nameKind' T a false false

theorem ruleOK'_eq (T : Tables) (r : Rule) : ruleOK' T r = ruleOK T r := by
  induction r <;> simp only [ruleOK', ruleOK, nameKind'_eq, *]

def getOK' (T : Tables) : GetKind → Bool
  | .className => true
  | .special r => ruleOK' T r
  | .boolStr a => nameKind' T a false true
  | .boolean a => nameKind' T a true false
  | .string a _ => nameKind' T a false false

def validL (a : String) : Bool := isValidAttributeName a && (isLower a || isValidAttributeName (lowerS a))

theorem validL_eq (a : String) : validL a = (isValidAttributeName a && isValidAttributeName (lowerS a)) := by
  unfold validL
  cases h : isLower a
  · rfl
  · rw [lowerS_of_isLower h, Bool.true_or, Bool.and_true, Bool.and_self]

def setOK' (T : Tables) : SetKind → Bool
  | .className => true
  | .boolStr a => nameKind' T a false true && validL a
  | .boolean a => nameKind' T a true false && validL a
  | .string a => nameKind' T a false false && validL a

theorem dispOK'_eq (T : Tables) (d : Disp) : (getOK' T d.get && setOK' T d.set) = dispOK T d := by
  unfold dispOK
  congr 1
  · cases d.get <;> simp only [getOK', getOK, nameKind'_eq, ruleOK'_eq]
  · cases d.set <;> simp only [setOK', setOK, nameKind'_eq, validL_eq, Bool.and_assoc]

def normGet' (tag : String) : GetKind → GetKind
  | .className => .className
  | .special r =>
    match resolve tag r with
    | .conv .raw a d => .string (lowerL a) d
    | r' => .special r'
  | .boolStr a => .boolStr (lowerL a)
  | .boolean a => .boolean (lowerL a)
  | .string a d => .string (lowerL a) d

def normSet' : SetKind → SetKind
  | .className => .className
  | .boolStr a => .boolStr (lowerL a)
  | .boolean a => .boolean (lowerL a)
  | .string a => .string (lowerL a)

theorem norm'_eq (tag : String) (d : Disp) : (⟨normGet' tag d.get, normSet' d.set, d.validate⟩ : Disp) = norm tag d := by
  unfold norm
  congr 1
  · cases d.get <;> simp only [normGet', normGet, lowerL_eq]
    split <;> simp_all
  · cases d.set <;> simp only [normSet', normSet, lowerL_eq]

/-- `htmlName prop`, as the literal of the rename table (or `prop` itself) wherever that literal is it, so that the kernel compares
literals and not the computed `lowerS prop`. -/
def hName' (T : Tables) (prop : String) : String :=
  if ceq prop "className" then "class" else if ceq prop "httpEquiv" then "http-equiv"
  else if ceq prop "acceptCharset" then "accept-charset" else if ceq prop "encoding" then "enctype"
  else match cLookup T.renames prop with
    | none => lowerL prop
    | some a => if lowerS prop = a then a else lowerS prop

theorem hName'_eq (T : Tables) (prop : String) : hName' T prop = htmlName prop := by
  simp only [hName', htmlName, ceq_eq, decide_eq_true_eq]
  repeat' split
  all_goals first | rfl | exact lowerL_eq prop | (rename_i h; exact h.symm)

/-- `linkedDisp T prop` for a name other than `className` whose attribute name (`renamed T prop`) is `a`, the tables searched
by codes.  A name that is not renamed is handed on as the literal it is, so its code is computed once. -/
def dispOf (T : Tables) (prop a : String) : Disp :=
  { get := match cLookup T.specials prop with
      | some r => .special r
      | none =>
        if cHas T.boolStrings a then .boolStr a
        else if cHas T.booleans a then .boolean a
        else .string a (if cHas T.events a then .none else .str "")
    set := if cHas T.boolStrings a then .boolStr a else if cHas T.booleans a then .boolean a else .string a
    validate := cLookup T.validated prop }

def linkedDisp' (T : Tables) (prop : String) : Disp :=
  if ceq prop "className" then { get := .className, set := .className, validate := none }
  else match cLookup T.renames prop with
    | none => dispOf T prop prop
    | some a => dispOf T prop a

theorem linkedDisp'_eq (T : Tables) (prop : String) : linkedDisp' T prop = linkedDisp T prop := by
  simp only [linkedDisp', linkedDisp, ceq_eq, decide_eq_true_eq]
  split
  · rfl
  · next h =>
    have : dispOf T prop (renamed T prop) = ⟨getKind T prop, setKind T prop, T.validated.lookup prop⟩ := by
      simp only [dispOf, getKind, setKind, cHas_eq, cLookup_eq, if_neg h]; rfl
    rw [← this, cLookup_eq, renamed]
    cases T.renames.lookup prop <;> rfl

/-- What `cellOK` asks of a linked name.  (Its last conjunct, `lowerS_htmlName`, holds of every name.) -/
def propOK (T : Tables) (tag prop : String) : Bool :=
  decide ((⟨normGet' tag (linkedDisp' T prop).get, normSet' (linkedDisp' T prop).set, (linkedDisp' T prop).validate⟩ : Disp)
      = disp (hName' T prop) (srule tag prop))
    && (getOK' T (linkedDisp' T prop).get && setOK' T (linkedDisp' T prop).set) && !cHas T.rawAttrs prop
    && wf (srule tag prop)

theorem propOK_eq (T : Tables) (tag prop : String) :
    propOK T tag prop = (decide (norm tag (linkedDisp T prop) = disp (htmlName prop) (srule tag prop)) && dispOK T (linkedDisp T prop)
      && !T.rawAttrs.contains prop && wf (srule tag prop)) := by
  rw [propOK, linkedDisp'_eq, norm'_eq, dispOK'_eq, hName'_eq, cHas_eq]

theorem cellOK_eq (T : Tables) (tag prop : String) :
    cellOK T tag prop = ((decide (prop = "className") || isLinked T tag prop) && propOK T tag prop) := by
  unfold cellOK
  rw [dispatch_eq, propOK_eq]
  by_cases h : prop = "className" ∨ isLinked T tag prop = true
  · have : (decide (prop = "className") || isLinked T tag prop) = true := by simpa using h
    simp only [if_pos h, this, lowerS_htmlName, beq_self_eq_true, Bool.and_true, Bool.true_and]
  · have : (decide (prop = "className") || isLinked T tag prop) = false := by simpa using h
    simp only [if_neg h, this, Bool.false_and]

/-! #### a name is checked once, whatever the element type -/

/-- the rule does not look at the element type -/
def noByTag : Rule → Bool
  | .byTag _ _ _ => false
  | _ => true

/-- The dot names whose documented rule does not depend on the element type: all but the four on which `srule` looks at `tag`. -/
def tagFree (p : String) : Bool := p != "size" && p != "cols" && p != "rows" && p != "autocomplete"

theorem resolve_noByTag (tag : String) (r : Rule) (h : noByTag r = true) : resolve tag r = r := by
  cases r <;> first | rfl | exact absurd h (by simp [noByTag])

theorem srule_tagFree (tag p : String) (h : tagFree p = true) : srule tag p = srule "" p := by
  simp only [tagFree, Bool.and_eq_true, bne_iff_ne, ne_eq] at h
  obtain ⟨⟨⟨h1, h2⟩, h3⟩, h4⟩ := h
  simp only [srule, h1, h2, h3, h4, if_false]

theorem normGet_tagFree {g : GetKind} (h : ∀ r, g = .special r → noByTag r = true) (tag tag' : String) :
    normGet tag g = normGet tag' g := by
  cases g with
  | special r => simp only [normGet, resolve_noByTag _ r (h r rfl)]
  | _ => rfl

/-- The element type enters `propOK` through `srule` (four names) and through a `byTag` rule only. -/
theorem propOK_tagFree {T : Tables} {prop : String} (htf : tagFree prop = true)
    (hsp : (T.specials.lookup prop).all noByTag = true) (tag : String) : propOK T tag prop = propOK T "" prop := by
  have : norm tag (linkedDisp T prop) = norm "" (linkedDisp T prop) :=
    congrArg (Disp.mk · _ _) (normGet_tagFree (fun r hr => by rw [linkedDisp_special hr] at hsp; exact hsp) tag "")
  rw [propOK_eq, propOK_eq, this, srule_tagFree tag prop htf]

/-- A dot name, checked once for all element types: its rule does not depend on the element type (or it is one of the four names
left to `linkOK`) and its cell is right for the element type `""`. -/
def nameOK (T : Tables) (prop : String) : Bool :=
  !tagFree prop || ((cLookup T.specials prop).all noByTag && propOK T "" prop)

/-- An element type: its entry in the table of names is the list `p.2`, and the cells of the names that depend on the element
type are right for it. -/
def linkOK (T : Tables) (p : String × List String) : Bool :=
  cLookup T.tagProps p.1 == some p.2 && p.2.all fun prop => tagFree prop || propOK T p.1 prop

/-- A common name, checked once: it is linked for every element type, nothing in its rule depends on the element type, and its
cell is right for the element type `""` — a stand-in, no entry of the table: by `propOK_tagFree` any would do. -/
def commonOK (T : Tables) (p : String) : Bool :=
  T.links.contains p && tagFree p && (match T.specials.lookup p with | some r => noByTag r | none => true) && cellOK T "" p

theorem cellOK_of_linked {T : Tables} {tag prop : String} (hl : isLinked T tag prop = true) (hn : nameOK T prop = true)
    (hc : (tagFree prop || propOK T tag prop) = true) : cellOK T tag prop = true := by
  rw [cellOK_eq, hl, Bool.or_true, Bool.true_and]
  cases htf : tagFree prop with
  | false => simpa only [htf, Bool.false_or] using hc
  | true =>
    simp only [nameOK, cLookup_eq, htf, Bool.not_true, Bool.false_or, Bool.and_eq_true] at hn
    rw [propOK_tagFree htf hn.1, hn.2]

theorem isLinked_of_lookup {T : Tables} {tag prop : String} {ps : List String} (h : T.tagProps.lookup tag = some ps)
    (hp : prop ∈ ps) : isLinked T tag prop = true := by
  simp only [isLinked, h, Option.getD_some, List.contains_iff_mem.mpr hp, Bool.or_true]

theorem commonOK_eq (T : Tables) (p : String) : commonOK T p = (T.links.contains p && tagFree p && nameOK T p) := by
  unfold commonOK nameOK
  rw [cellOK_eq, cLookup_eq]
  cases hl : T.links.contains p with
  | false => rfl
  | true =>
    have : isLinked T "" p = true := by simp only [isLinked, hl, Bool.true_or]
    rw [this]
    cases tagFree p with
    | false => rfl
    | true =>
      cases T.specials.lookup p <;>
        simp only [Option.all_none, Option.all_some, Bool.or_true, Bool.true_and, Bool.not_true, Bool.false_or]

theorem cellOK_common (T : Tables) (p : String) (h : commonOK T p = true) (tag : String) : cellOK T tag p = true := by
  simp only [commonOK_eq, Bool.and_eq_true] at h
  exact cellOK_of_linked (by simp only [isLinked, h.1.1, Bool.true_or]) h.2 (by rw [h.1.2]; rfl)

structure CellFacts (T : Tables) (tag prop : String) : Prop where
  disp : dispatch T tag prop = some (linkedDisp T prop)
  get : normGet tag (linkedDisp T prop).get = (Spec.disp (htmlName prop) (srule tag prop)).get
  set : normSet (linkedDisp T prop).set = (Spec.disp (htmlName prop) (srule tag prop)).set
  validate : (linkedDisp T prop).validate = (Spec.disp (htmlName prop) (srule tag prop)).validate
  getOK : getOK T (linkedDisp T prop).get = true
  setOK : setOK T (linkedDisp T prop).set = true
  notRaw : T.rawAttrs.contains prop = false
  wf : wf (srule tag prop) = true
  lower : lowerS (htmlName prop) = htmlName prop

theorem cellOK_facts {T : Tables} {tag prop : String} (h : cellOK T tag prop = true) : CellFacts T tag prop := by
  simp only [cellOK_eq, propOK_eq, dispOK, Bool.and_eq_true, Bool.or_eq_true, decide_eq_true_eq, Bool.not_eq_true'] at h
  obtain ⟨hl, ⟨⟨hn, h2, h3⟩, h4⟩, h5⟩ := h
  have hv : (norm tag (linkedDisp T prop)).validate = _ := congrArg Disp.validate hn
  exact ⟨by rw [dispatch_eq, if_pos hl], congrArg Disp.get hn, congrArg Disp.set hn, hv, h2, h3, h4, h5, lowerS_htmlName prop⟩

theorem getProp_of_cellOK (T : Tables) (parseInt : Str → Except PyErr Int) (hpi : ValueErrorOnly parseInt) (e : Elem) (prop : String)
    (hc : cellOK T e.tag prop = true) (hpy : e.pyattrs.lookup prop = none)
    (hst : srule e.tag prop = .className ∨ e.entry (htmlName prop) ≠ some none) :
    getProp T parseInt e prop
      = .ok (expected parseInt (srule e.tag prop) (stOf (e.entry (htmlName prop))) e.ancestors e.classNames) := by
  have f := cellOK_facts hc
  unfold getProp
  simp only [hpy, f.disp]
  rw [← evalGet_norm T parseInt e _ f.getOK, f.get]
  apply evalGet_disp T parseInt hpi e _ _ _ f.lower f.wf hst
  rw [← f.get]
  exact getOK_norm T e.tag _ f.getOK

/-! ### totality -/

/-- the invalid result is a value to return, not an exception to raise -/
def isVal : Inv → Bool
  | .val _ => true
  | .raise _ => false

/-- The attribute does not read as the style object.  `dictGet` lower-cases the name and hands it to `dictGetItem`, which
lower-cases again: the two conjuncts are the two keys looked at (equal by `lowerS_idem`). -/
def nameTotal (a : String) : Bool := lowerS a != "style" && lowerS (lowerS a) != "style"

/-- the converter `c` cannot raise on what `getAttribute a` with default `d` returns -/
def convTotal (T : Tables) (a : String) (d : Lit) : Gen.Conv → Bool
  | .raw => true
  -- DOMTokenList(v) raises on a number or boolean: the attribute must read as text or None, the default must be one
  | .tokens => !T.booleans.contains a && (match d with | .none => true | .str _ => true | _ => false)
  | .intOrMinusOne => true
  | .positiveInt _ => true
  | .possible _ inv _ => isVal inv
  | .intRange _ _ inv _ => isVal inv
  | .intCapped _ _ inv _ => isVal inv

/-- A special-value rule that cannot raise when read: no exception as its invalid result, and its attribute is not
`style` (whose value is an object, not text). -/
def ruleTotal (T : Tables) : Rule → Bool
  | .conv c a d => nameTotal a && convTotal T a d c
  | .parentTag _ => true
  | .byTag _ a b => ruleTotal T a && ruleTotal T b
  | .maxLength a _ _ _ _ _ getInv _ => nameTotal a && isVal getInv

theorem plain_lit (l : Lit) : plain l.toPy = true := by cases l <;> rfl

def strOrNone : PyV → Bool
  | .none => true
  | .str _ => true
  | _ => false

theorem strOrNone_plain {v : PyV} (h : strOrNone v = true) : plain v = true := by
  cases v <;> first | rfl | exact absurd h (by simp [strOrNone])

theorem strOrNone_dictGetItem (T : Tables) (e : Elem) (k : String) (h : lowerS k ≠ "style") : strOrNone (e.dictGetItem T k) = true := by
  unfold Elem.dictGetItem
  simp only [h, if_false]
  split
  · rfl
  · split
    · rfl
    · rcases e.attrs.lookup (lowerS k) with _ | _ | _ <;> rfl

theorem dictGet_cases (T : Tables) (e : Elem) (a : String) (d : PyV) (h : nameTotal a = true) :
    e.dictGet T a d = d ∨ strOrNone (e.dictGet T a d) = true := by
  simp only [nameTotal, Bool.and_eq_true, bne_iff_ne, ne_eq] at h
  unfold Elem.dictGet
  simp only
  split
  · exact .inr rfl
  · split
    · exact .inr (strOrNone_dictGetItem T e _ h.2)
    · exact .inl rfl

theorem plain_getAttribute (T : Tables) (e : Elem) (a : String) (d : PyV) (hd : plain d = true) (h : nameTotal a = true) :
    plain (e.getAttribute T a d) = true := by
  unfold Elem.getAttribute
  split
  · split
    · simp only
      split
      · rfl
      · simp only [nameTotal, Bool.and_eq_true, bne_iff_ne, ne_eq] at h
        exact strOrNone_plain (strOrNone_dictGetItem T e a h.1)
    · rfl
  · rcases dictGet_cases T e a d h with h1 | h1
    · rw [h1]; exact hd
    · exact strOrNone_plain h1

theorem domTokenList_total (v : PyV) (h : strOrNone v = true) : ∃ r, domTokenList v = .ok r := by
  cases v with
  | none => exact ⟨_, rfl⟩
  | str s =>
    unfold domTokenList
    simp only
    split <;> exact ⟨_, rfl⟩
  | _ => exact absurd h (by simp [strOrNone])

theorem handleInvalid_val (inv : Inv) (h : isVal inv = true) : ∃ v, handleInvalid inv = .ok v := by
  cases inv with
  | val l => exact ⟨_, rfl⟩
  | raise x => exact absurd h (by simp [isVal])

theorem handleEmpty_val (inv : Inv) (emp : Emp) (h : isVal inv = true) : ∃ v, handleEmpty inv emp = .ok v := by
  cases emp with
  | val l => exact ⟨_, rfl⟩
  | invalid => exact handleInvalid_val inv h

theorem intRange_total (parseInt : Str → Except PyErr Int) (hpi : ValueErrorOnly parseInt) (v : PyV) (hv : plain v = true)
    (lo hi : Option Int) (inv : Inv) (emp : Emp) (h : isVal inv = true) :
    ∃ r, convertToIntRange parseInt v lo hi inv emp = .ok r := by
  rw [intRange_intConv]
  refine intConv_total hpi hv (handleEmpty_val inv emp h) (handleInvalid_val inv h) fun n => ?_
  repeat' split
  all_goals first | exact handleInvalid_val inv h | exact ⟨_, rfl⟩

theorem intCapped_total (parseInt : Str → Except PyErr Int) (hpi : ValueErrorOnly parseInt) (v : PyV) (hv : plain v = true)
    (lo hi : Option Int) (inv : Inv) (emp : Emp) (h : isVal inv = true) :
    ∃ r, convertToIntRangeCapped parseInt v lo hi inv emp = .ok r :=
  intCapped_intConv .. ▸ intConv_total hpi hv (handleEmpty_val inv emp h) (handleInvalid_val inv h) fun _ => ⟨_, rfl⟩

theorem possible_total (v : PyV) (ms : List String) (inv : Inv) (emp : Emp) (h : isVal inv = true) :
    ∃ r, convertPossibleValues v ms inv emp = .ok r := by
  unfold convertPossibleValues
  split
  · exact handleEmpty_val inv emp h
  · simp only
    split
    · exact handleEmpty_val inv emp h
    · split
      · exact ⟨_, rfl⟩
      · exact handleInvalid_val inv h

theorem evalRule_total (T : Tables) (parseInt : Str → Except PyErr Int) (hpi : ValueErrorOnly parseInt) (e : Elem) (r : Rule)
    (h : ruleTotal T r = true) : ∃ v, evalRule T parseInt e r = .ok v := by
  induction r with
  | conv c a d =>
    simp only [ruleTotal, Bool.and_eq_true] at h
    have hv := plain_getAttribute T e a d.toPy (plain_lit d) h.1
    simp only [evalRule]
    cases c with
    | raw => exact ⟨_, rfl⟩
    | tokens =>
      simp only [convTotal, Bool.and_eq_true, Bool.not_eq_true'] at h
      simp only [evalConv]
      have hb := h.2.1
      have hd : strOrNone d.toPy = true := by
        cases d with
        | none => rfl
        | str s => rfl
        | int n => exact absurd h.2.2 (by simp)
        | bool b => exact absurd h.2.2 (by simp)
      have : e.getAttribute T a d.toPy = e.dictGet T a d.toPy := by
        unfold Elem.getAttribute; rw [hb]; simp
      rw [this]
      rcases dictGet_cases T e a d.toPy h.1 with h1 | h1
      · rw [h1]; exact domTokenList_total _ hd
      · exact domTokenList_total _ h1
    | intOrMinusOne => exact ⟨_, rfl⟩
    | positiveInt inv => exact ⟨_, rfl⟩
    | possible ms inv emp => exact possible_total _ ms inv emp h.2
    | intRange lo hi inv emp => exact intRange_total parseInt hpi _ hv lo hi inv emp h.2
    | intCapped lo hi inv emp => exact intCapped_total parseInt hpi _ hv lo hi inv emp h.2
  | parentTag n => exact ⟨_, rfl⟩
  | byTag t a b iha ihb =>
    simp only [ruleTotal, Bool.and_eq_true] at h
    simp only [evalRule]
    split
    · exact iha h.1
    · exact ihb h.2
  | maxLength a absent dflt lo hi emp gi si =>
    simp only [ruleTotal, Bool.and_eq_true] at h
    simp only [evalRule]
    split
    · exact ⟨_, rfl⟩
    · exact intRange_total parseInt hpi _ (plain_getAttribute T e a dflt.toPy (plain_lit dflt) h.1) lo hi gi emp h.2

theorem getProp_total (T : Tables) (hT : T.specials.all (fun p => ruleTotal T p.2) = true)
    (parseInt : Str → Except PyErr Int) (hpi : ValueErrorOnly parseInt) (e : Elem) (prop : String) :
    ∃ v, getProp T parseInt e prop = .ok v := by
  unfold getProp
  rw [dispatch_eq]
  split
  · exact ⟨_, rfl⟩
  · by_cases hl : prop = "className" ∨ isLinked T e.tag prop = true
    · simp only [if_pos hl]
      cases hg : (linkedDisp T prop).get with
      | special r =>
        exact evalRule_total T parseInt hpi e r (List.all_eq_true.mp hT _ (Dict.mem_of_lookup (linkedDisp_special hg)))
      | _ => exact ⟨_, rfl⟩
    · simp only [if_neg hl]; exact ⟨_, rfl⟩

/-! ### assignment -/

theorem setAttribute_str {T : Tables} {a : String} {b : Bool} (e : Elem) (f : NameFacts T a b false)
    (hv : isValidAttributeName a = true) (t : Str) :
    e.setAttribute T a (.str t) = .ok { e with attrs := dictSet (lowerS a) (some t) e.attrs } := by
  unfold Elem.setAttribute Elem.dictSetItem
  simp only [hv, Bool.not_true, Bool.false_eq_true, if_false, f.nc, f.nst, f.boolStr]

theorem setAttribute_boolStr {T : Tables} {a : String} {b : Bool} (e : Elem) (f : NameFacts T a b true)
    (hv : isValidAttributeName a = true) (v : PyV) :
    e.setAttribute T a v = .ok { e with attrs := dictSet (lowerS a) (some (convertToBooleanString v)) e.attrs } := by
  unfold Elem.setAttribute Elem.dictSetItem
  simp only [hv, Bool.not_true, Bool.false_eq_true, if_false, f.nc, f.nst, f.boolStr, if_true]

theorem removeAttribute_eq {T : Tables} {a : String} {b s : Bool} (e : Elem) (f : NameFacts T a b s) :
    e.removeAttribute a = { e with attrs := dictDel (lowerS a) e.attrs } := by
  unfold Elem.removeAttribute
  simp only [f.nc, f.nst, if_false]

/-- What `__setattr__` does on a name whose set-dispatch is `sk`, in terms of the lower-case attribute name. -/
def setResult (e : Elem) (v : PyV) : SetKind → Elem
  | .className => e.setClassName v
  | .boolStr a => { e with attrs := dictSet (lowerS a) (some (convertToBooleanString v)) e.attrs }
  | .boolean a => if truthy v then { e with attrs := dictSet (lowerS a) (some []) e.attrs }
                  else { e with attrs := dictDel (lowerS a) e.attrs }
  | .string a => { e with attrs := dictSet (lowerS a) (some (tostr v)) e.attrs }

theorem evalSet_eq (T : Tables) (e : Elem) (v : PyV) (sk : SetKind) (h : setOK T sk = true) :
    evalSet T e v sk = .ok (setResult e v sk) := by
  cases sk with
  | className => rfl
  | boolStr a =>
    simp only [setOK, Bool.and_eq_true] at h
    simp only [evalSet, setResult, setAttribute_boolStr e (boolStrName_iff.mp h.1.1) h.1.2]
  | boolean a =>
    simp only [setOK, Bool.and_eq_true] at h
    have f := boolName_iff.mp h.1.1
    simp only [evalSet, setResult]
    cases truthy v with
    | true => simp only [Bool.not_true, Bool.false_eq_true, if_false, if_true, setAttribute_str e f h.1.2]
    | false => simp only [Bool.not_false, if_true, Bool.false_eq_true, if_false, removeAttribute_eq e f]
  | string a =>
    simp only [setOK, Bool.and_eq_true] at h
    simp only [evalSet, setResult, setAttribute_str e (plainName_iff.mp h.1.1) h.1.2]

theorem setResult_norm (e : Elem) (v : PyV) (sk : SetKind) : setResult e v (normSet sk) = setResult e v sk := by
  cases sk <;> simp only [normSet, setResult, lowerS_idem]

theorem validate_maxLength (parseInt : Str → Except PyErr Int) (hpi : ValueErrorOnly parseInt) (attr : String) (v : PyV) (hv : plain v = true) :
    validateRule parseInt v (mlRule attr) = if outOfRange parseInt v then .error .indexSizeError else .ok () := by
  unfold validateRule mlRule outOfRange
  simp only [intRange_intConv, intConv_plain hpi hv]
  split
  · rfl
  · cases pyInt parseInt v with
    | error e => rfl
    | ok n => by_cases hlt : n < 0 <;> simp only [hlt, decide_true, decide_false, if_true, Bool.false_eq_true, if_false] <;> rfl

theorem setProp_of_cellOK (T : Tables) (parseInt : Str → Except PyErr Int) (hpi : ValueErrorOnly parseInt) (e : Elem) (prop : String) (v : PyV)
    (hc : cellOK T e.tag prop = true) (hv : plain v = true) :
    setProp T parseInt e prop v
      = if srule e.tag prop = .maxLength ∧ outOfRange parseInt v = true then .error .indexSizeError
        else .ok (setResult e v (Spec.disp (htmlName prop) (srule e.tag prop)).set) := by
  have f := cellOK_facts hc
  unfold setProp
  simp only [f.notRaw, Bool.false_eq_true, if_false, f.disp, f.validate, evalSet_eq T e v _ f.setOK, ← f.set, setResult_norm]
  cases hr : srule e.tag prop <;> simp only [Spec.disp, reduceCtorEq, false_and, if_false, true_and]
  rw [validate_maxLength parseInt hpi _ v hv]
  cases outOfRange parseInt v <;> rfl

/-- the attribute state after an assignment, per the documented rule -/
def stAfter (parseInt : Str → Except PyErr Int) (r : SRule) (v : PyV) : St :=
  match assign parseInt r v with
  | .store s => .text s
  | _ => .absent

theorem setResult_frame (e : Elem) (v : PyV) (sk : SetKind) :
    (setResult e v sk).tag = e.tag ∧ (setResult e v sk).pyattrs = e.pyattrs ∧ (setResult e v sk).ancestors = e.ancestors := by
  refine ⟨?_, ?_, ?_⟩ <;> cases sk <;> simp only [setResult, Elem.setClassName] <;> (try split) <;> rfl

theorem entry_setResult (parseInt : Str → Except PyErr Int) (e : Elem) (v : PyV) {attr : String} (hl : lowerS attr = attr) {r : SRule}
    (hr : r ≠ .className) (hacc : ¬ (r = .maxLength ∧ outOfRange parseInt v = true)) :
    (setResult e v (Spec.disp attr r).set).entry attr ≠ some none ∧
      stOf ((setResult e v (Spec.disp attr r).set).entry attr) = stAfter parseInt r v := by
  have str : (setResult e v (.string attr)).entry attr = some (some (tostr v)) := by
    simp only [setResult, Elem.entry, hl, lookup_dictSet_self]
  cases r with
  | className => exact absurd rfl hr
  | boolean =>
    simp only [Spec.disp, setResult, stAfter, assign]
    cases truthy v <;>
      simp only [if_true, Bool.false_eq_true, if_false, Elem.entry, hl, lookup_dictSet_self, dictDel_eq, Dict.lookup_del_self, stOf] <;> simp
  | boolString =>
    simp only [Spec.disp, setResult, Elem.entry, hl, lookup_dictSet_self, stOf, stAfter, assign]
    cases v <;> exact ⟨by simp, rfl⟩
  | maxLength =>
    have : outOfRange parseInt v = false := by
      cases h : outOfRange parseInt v with
      | false => rfl
      | true => exact absurd ⟨rfl, h⟩ hacc
    simp only [Spec.disp, str, stOf, stAfter, assign, this, Bool.false_eq_true, if_false]
    simp
  | _ => simp only [Spec.disp, str, stOf, stAfter, assign]; simp

theorem roundtrip_of_cellOK (T : Tables) (parseInt : Str → Except PyErr Int) (hpi : ValueErrorOnly parseInt) (e : Elem) (prop : String) (v : PyV)
    (hc : cellOK T e.tag prop = true) (hv : plain v = true) (hpy : e.pyattrs.lookup prop = none)
    (hacc : ¬ (srule e.tag prop = .maxLength ∧ outOfRange parseInt v = true)) :
    ∃ e', setProp T parseInt e prop v = .ok e' ∧ e'.tag = e.tag ∧ e'.ancestors = e.ancestors ∧
      getProp T parseInt e' prop = .ok (expected parseInt (srule e.tag prop) (stAfter parseInt (srule e.tag prop) v) e.ancestors e'.classNames) := by
  have hl := (cellOK_facts hc).lower
  obtain ⟨ht, hp, ha⟩ := setResult_frame e v (Spec.disp (htmlName prop) (srule e.tag prop)).set
  refine ⟨_, by rw [setProp_of_cellOK T parseInt hpi e prop v hc hv, if_neg hacc], ht, ha, ?_⟩
  by_cases hr : srule e.tag prop = .className
  · rw [getProp_of_cellOK T parseInt hpi _ prop (by rw [ht]; exact hc) (by rw [hp]; exact hpy) (.inl (by rw [ht]; exact hr)), ht, ha, hr]
    generalize stOf _ = s1
    generalize stAfter parseInt SRule.className v = s2
    cases s1 <;> cases s2 <;> rfl
  · obtain ⟨h1, h2⟩ := entry_setResult parseInt e v hl hr hacc
    rw [getProp_of_cellOK T parseInt hpi _ prop (by rw [ht]; exact hc) (by rw [hp]; exact hpy) (.inr h1), ht, ha, h2]

/-! ### the element the parser builds for `<tag attr="text">` -/

/-- `AdvancedTag(tag, [(attr, text)])` — the constructor call of `handle_starttag`. -/
def constructed (T : Tables) (tag attr : String) (anc : List String) (s : Str) : Elem :=
  Elem.ofAttrList T tag anc [(attr, some s)] (Elem.new tag anc)

theorem constructed_eq {T : Tables} {a : String} {b : Bool} (f : NameFacts T a b false) (hl : lowerS a = a)
    (hv : isValidAttributeName a = true) (tag : String) (anc : List String) (s : Str) :
    constructed T tag a anc s = { Elem.new tag anc with attrs := [(a, some s)] } := by
  obtain ⟨_, _, hb, nc, nst⟩ := f
  rw [hl] at hb nc nst
  unfold constructed Elem.ofAttrList
  simp only [hl, hv, Bool.not_true, Bool.false_eq_true, if_false]
  unfold Elem.dictSetItem
  simp only [hl, nc, nst, hb, if_false, Bool.false_eq_true]
  rfl

theorem setOK_name {T : Tables} {sk : SetKind} {h : String} (hok : setOK T sk = true)
    (hs : normSet sk = .string h ∨ normSet sk = .boolean h) : ∃ b, NameFacts T h b false ∧ isValidAttributeName h = true := by
  cases sk with
  | className => simp [normSet] at hs
  | boolStr a => simp [normSet] at hs
  | boolean a =>
    simp only [setOK, Bool.and_eq_true] at hok
    simp only [normSet, reduceCtorEq, SetKind.boolean.injEq, false_or] at hs
    exact hs ▸ ⟨_, (boolName_iff.mp hok.1.1).lower, hok.2⟩
  | string a =>
    simp only [setOK, Bool.and_eq_true] at hok
    simp only [normSet, reduceCtorEq, SetKind.string.injEq, or_false] at hs
    exact hs ▸ ⟨_, (plainName_iff.mp hok.1.1).lower, hok.2⟩

theorem getProp_constructed (T : Tables) (parseInt : Str → Except PyErr Int) (hpi : ValueErrorOnly parseInt) (tag prop : String)
    (hc : cellOK T tag prop = true) (anc : List String) (s : Str)
    (h1 : srule tag prop ≠ .className) (h2 : srule tag prop ≠ .boolString) :
    getProp T parseInt (constructed T tag (htmlName prop) anc s) prop
      = .ok (expected parseInt (srule tag prop) (.text s) anc []) := by
  have f := cellOK_facts hc
  have hset : (Spec.disp (htmlName prop) (srule tag prop)).set = .string (htmlName prop)
      ∨ (Spec.disp (htmlName prop) (srule tag prop)).set = .boolean (htmlName prop) := by
    cases hr : srule tag prop <;> first | exact absurd hr h1 | exact absurd hr h2 | exact .inl rfl | exact .inr rfl
  obtain ⟨b, nf, hv⟩ := setOK_name f.setOK (f.set ▸ hset)
  have hcon := constructed_eq nf f.lower hv tag anc s
  have lk : ({ Elem.new tag anc with attrs := [(htmlName prop, some s)] } : Elem).entry (htmlName prop) = some (some s) := by
    simp [Elem.entry, List.lookup]
  rw [hcon, getProp_of_cellOK T parseInt hpi _ prop hc rfl (.inr (by rw [lk]; simp)), lk]
  rfl

end AHP.Conv
