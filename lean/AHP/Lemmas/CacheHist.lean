/-
  AHP.Lemmas.CacheHist — histories and schedules over the cache (C15b, C15c at the quantum level).
  `specStep`/`specRun` is the cache-free specification: what an event shows when every expression
  is compiled from its text on the spot.  Everything that happens to the cache is a `get` or a `set` of a
  compiled form, so a property kept by those two (`Kept`) is kept by `newExpr`, `step`, `run`, `exec` — and by
  `tstep`, where the stored value is the thread's pending one: that it is a compiled form is the thread's
  invariant (`ThreadOK.pend`), so `tstep_keeps` takes the two premises by themselves.
-/
import AHP.Lemmas.Cache
namespace AHP.Cache

variable {E K V T R : Type} [DecidableEq K]

/-- One event, no cache: outcomes are functions of the expression text and the tree alone
    (`slots` only remembers which texts the live objects were built from, as their compiled forms). -/
def specStep (compile : E → Option V) (eval : V → T → R) (slots : List V) :
    Event E T → List V × Obs R
  | .new e =>
    match compile e with
    | some v => (slots ++ [v], .compiled)
    | none => (slots, .compileError)
  | .evalSlot i t =>
    match slots[i]? with
    | some v => (slots, .result (eval v t))
    | none => (slots, .noSlot)
  | .query e t =>
    match compile e with
    | some v => (slots, .result (eval v t))
    | none => (slots, .compileError)

def specRun (compile : E → Option V) (eval : V → T → R) : List V → List (Event E T) → List (Obs R)
  | _, [] => []
  | slots, ev :: evs =>
    (specStep compile eval slots ev).2 :: specRun compile eval (specStep compile eval slots ev).1 evs

section
variable {compile : E → Option V} {key : E → K} {eval : V → T → R} {MAX CLEAR : Nat}

variable (compile key MAX CLEAR) in
/-- `P` is kept by lookups and by stores of compiled forms — everything that ever happens to the cache. -/
structure Kept (P : State K V → Prop) : Prop where
  get : ∀ s k, P s → P (get s k).1
  set : ∀ s e v, P s → compile e = some v → P (set MAX CLEAR s (key e) v)

theorem inv_kept (hb : CLEAR < MAX) : Kept compile key MAX CLEAR (Inv MAX) :=
  ⟨fun _ k h => get_inv h k, fun _ e v h _ => set_inv hb h (key e) v⟩

theorem coh_kept (hinj : Function.Injective key) : Kept compile key MAX CLEAR (Coh compile key) :=
  ⟨fun _ k h => get_coh h k, fun _ e v h hv => set_coh hinj h e v hv⟩

theorem newExpr_keeps {P : State K V → Prop} (hk : Kept compile key MAX CLEAR P) {s : State K V} (h : P s) (e : E) :
    P (newExpr compile key MAX CLEAR s e).1 := by
  rw [newExpr_eq]
  split
  · exact hk.get s _ h
  · cases hc : compile e with
    | none => exact h
    | some v => exact hk.set s e v h hc

theorem newExpr_snd {s : State K V} (hc : Coh compile key s) (e : E) :
    (newExpr compile key MAX CLEAR s e).2 = compile e := by
  rw [newExpr_eq]
  split
  · rename_i v hv; exact (hc e v hv).symm
  · cases compile e <;> rfl

theorem step_cache (w : World K V) (ev : Event E T) :
    (step compile key eval MAX CLEAR w ev).1.cache =
      match ev.expr? with
      | some e => (newExpr compile key MAX CLEAR w.cache e).1
      | none => w.cache := by
  cases ev <;> simp only [step, Event.expr?] <;> split <;> simp_all

theorem step_keeps {P : State K V → Prop} (hk : Kept compile key MAX CLEAR P) {w : World K V} (h : P w.cache)
    (ev : Event E T) : P (step compile key eval MAX CLEAR w ev).1.cache := by
  rw [step_cache]
  split
  · exact newExpr_keeps hk h _
  · exact h

theorem run_keeps {P : State K V → Prop} (hk : Kept compile key MAX CLEAR P) (evs : List (Event E T)) :
    ∀ w : World K V, P w.cache → ∀ p ∈ run compile key eval MAX CLEAR w evs, P p.2 := by
  induction evs with
  | nil => intro w _ p hp; cases hp
  | cons ev evs ih =>
    intro w h p hp
    have h1 := step_keeps (eval := eval) hk h ev
    rcases List.mem_cons.mp hp with rfl | hp
    · exact h1
    · exact ih _ h1 p hp

theorem exec_keeps {P : State K V → Prop} (hk : Kept compile key MAX CLEAR P) (evs : List (Event E T)) :
    ∀ w : World K V, P w.cache → P (exec compile key eval MAX CLEAR w evs).cache := by
  induction evs with
  | nil => intro w h; exact h
  | cons ev evs ih => intro w h; exact ih _ (step_keeps hk h ev)

theorem run_inv (hb : CLEAR < MAX) (evs : List (Event E T)) :
    ∀ w : World K V, Inv MAX w.cache →
      ∀ p ∈ run compile key eval MAX CLEAR w evs, Inv MAX p.2 :=
  run_keeps (inv_kept hb) evs

theorem run_coh (hinj : Function.Injective key) (evs : List (Event E T)) :
    ∀ w : World K V, Coh compile key w.cache →
      ∀ p ∈ run compile key eval MAX CLEAR w evs, Coh compile key p.2 :=
  run_keeps (coh_kept hinj) evs

theorem exec_coh (hinj : Function.Injective key) (evs : List (Event E T)) :
    ∀ w : World K V, Coh compile key w.cache →
      Coh compile key (exec compile key eval MAX CLEAR w evs).cache :=
  exec_keeps (coh_kept hinj) evs

theorem step_spec (hinj : Function.Injective key) {w : World K V} (hc : Coh compile key w.cache)
    (ev : Event E T) :
    Coh compile key (step compile key eval MAX CLEAR w ev).1.cache ∧
    ((step compile key eval MAX CLEAR w ev).1.slots, (step compile key eval MAX CLEAR w ev).2)
      = specStep compile eval w.slots ev := by
  refine ⟨step_keeps (coh_kept hinj) hc ev, ?_⟩
  cases ev with
  | evalSlot i t =>
    simp only [step, specStep]
    cases w.slots[i]? <;> rfl
  | new e | query e _ =>
    have h2 := newExpr_snd (MAX := MAX) (CLEAR := CLEAR) hc e
    simp only [step, specStep]
    generalize newExpr compile key MAX CLEAR w.cache e = p at h2
    obtain ⟨c, r⟩ := p
    subst h2
    cases compile e <;> rfl

theorem run_obs_eq_spec (hinj : Function.Injective key) (evs : List (Event E T)) :
    ∀ w : World K V, Coh compile key w.cache →
      (run compile key eval MAX CLEAR w evs).map (·.1) = specRun compile eval w.slots evs := by
  induction evs with
  | nil => intro w _; rfl
  | cons ev evs ih =>
    intro w hc
    obtain ⟨h1, h2⟩ := step_spec (eval := eval) (MAX := MAX) (CLEAR := CLEAR) hinj hc ev
    unfold run specRun
    rw [← h2]
    exact congrArg _ (ih _ h1)

/-! One quantum by cases, written with `Thread.evalHeld` and `Thread.cont` (which `tstep` spells out): the form in
    which the lock level meets it, a section followed by the thread-local continuation. -/

theorem tstep_nil (c : State K V) {th : Thread E V T R} (htodo : th.todo = []) :
    tstep compile key eval MAX CLEAR c th = (c, th) := by
  unfold tstep; simp only [htodo]

theorem tstep_evalSlot (c : State K V) {th : Thread E V T R} {j : Nat} {t : T} {rest : List (Event E T)}
    (htodo : th.todo = .evalSlot j t :: rest) :
    tstep compile key eval MAX CLEAR c th = (c, th.evalHeld eval j t rest) := by
  unfold tstep
  simp only [htodo, Event.expr?]
  rfl

theorem tstep_get (c : State K V) {th : Thread E V T R} {ev : Event E T} {rest : List (Event E T)} {e : E}
    (htodo : th.todo = ev :: rest) (he : ev.expr? = some e) (hp : th.pending = none) :
    tstep compile key eval MAX CLEAR c th = ((get c (key e)).1, th.cont compile eval (get c (key e)).2) := by
  unfold tstep Thread.cont
  simp only [htodo, he, hp]
  generalize get c (key e) = p
  obtain ⟨c', r⟩ := p
  cases r with
  | some v => rfl
  | none =>
    simp only
    cases compile e <;> rfl

theorem tstep_set (c : State K V) {th : Thread E V T R} {ev : Event E T} {rest : List (Event E T)} {e : E} {v : V}
    (htodo : th.todo = ev :: rest) (he : ev.expr? = some e) (hp : th.pending = some v) :
    tstep compile key eval MAX CLEAR c th = (set MAX CLEAR c (key e) v, th.cont compile eval none) := by
  unfold tstep Thread.cont
  simp only [htodo, he, hp]

theorem Event.eq_evalSlot_of_expr? {ev : Event E T} (h : ev.expr? = none) : ∃ j t, ev = .evalSlot j t := by
  cases ev <;> first | exact ⟨_, _, rfl⟩ | cases h

theorem tstep_keeps {th : Thread E V T R} (P : State K V → Prop) (hget : ∀ s k, P s → P (get s k).1)
    (hset : ∀ (s : State K V) ev rest e v, th.todo = ev :: rest → ev.expr? = some e → th.pending = some v → P s →
      P (set MAX CLEAR s (key e) v))
    {c : State K V} (h : P c) : P (tstep compile key eval MAX CLEAR c th).1 := by
  cases htodo : th.todo with
  | nil => rw [tstep_nil c htodo]; exact h
  | cons ev rest =>
    cases he : ev.expr? with
    | none =>
      obtain ⟨j, t, rfl⟩ := Event.eq_evalSlot_of_expr? he
      rw [tstep_evalSlot c htodo]; exact h
    | some e =>
      cases hp : th.pending with
      | none => rw [tstep_get c htodo he hp]; exact hget c _ h
      | some v => rw [tstep_set c htodo he hp]; exact hset c ev rest e v htodo he hp h

theorem tstep_inv (hb : CLEAR < MAX) {c : State K V} (th : Thread E V T R) (hi : Inv MAX c) :
    Inv MAX (tstep compile key eval MAX CLEAR c th).1 :=
  tstep_keeps (Inv MAX) (fun _ k h => get_inv h k) (fun _ _ _ e v _ _ _ h => set_inv hb h (key e) v) hi

/-- What a thread has shown so far, followed by what the specification says it will still show, is
    its solo specification `target`; a pending store belongs to the head event and is its compiled form. -/
structure ThreadOK (compile : E → Option V) (eval : V → T → R) (th : Thread E V T R) (target : List (Obs R)) : Prop where
  obs : th.obs ++ specRun compile eval th.slots th.todo = target
  pend : ∀ v, th.pending = some v → ∃ ev rest e, th.todo = ev :: rest ∧ ev.expr? = some e ∧ compile e = some v

theorem ThreadOK.init (evs : List (Event E T)) :
    ThreadOK compile eval (Thread.init evs : Thread E V T R) (specRun compile eval [] evs) :=
  ⟨by simp [Thread.init], by intro v h; cases h⟩

theorem ThreadOK.pend_head {th : Thread E V T R} {tg : List (Obs R)} (hok : ThreadOK compile eval th tg)
    {ev : Event E T} {rest : List (Event E T)} {e : E} {v : V}
    (htodo : th.todo = ev :: rest) (he : ev.expr? = some e) (hp : th.pending = some v) : compile e = some v := by
  obtain ⟨ev', rest', e', h1, h2, h3⟩ := hok.pend v hp
  rw [htodo] at h1
  cases h1
  rw [he] at h2
  cases h2
  exact h3

theorem ThreadOK.pending_evalSlot {th : Thread E V T R} {tg : List (Obs R)} (hok : ThreadOK compile eval th tg)
    {j : Nat} {t : T} {rest : List (Event E T)} (htodo : th.todo = .evalSlot j t :: rest) : th.pending = none := by
  cases hp : th.pending with
  | none => rfl
  | some v =>
    obtain ⟨ev', rest', e, h1, h2, _⟩ := hok.pend v hp
    rw [htodo] at h1
    cases h1
    cases h2

theorem finish_ok {th : Thread E V T R} {tg : List (Obs R)} {ev : Event E T} {rest : List (Event E T)} {e : E} {v : V}
    (hok : ThreadOK compile eval th tg) (htodo : th.todo = ev :: rest) (he : ev.expr? = some e)
    (hv : compile e = some v) : ThreadOK compile eval (th.finish eval ev rest v) tg := by
  have hobs := hok.obs
  rw [htodo] at hobs
  refine ⟨?_, by cases ev <;> first | (intro v' h; cases h) | cases he⟩
  rw [← hobs]
  cases ev <;> first
    | (cases he; simp only [Thread.finish, specRun, specStep, hv, List.append_assoc, List.singleton_append])
    | cases he

theorem cont_of_pending {th : Thread E V T R} {ev : Event E T} {rest : List (Event E T)} {e : E} {v : V}
    (htodo : th.todo = ev :: rest) (he : ev.expr? = some e) (hp : th.pending = some v) (r : Option V) :
    th.cont compile eval r = th.finish eval ev rest v := by
  unfold Thread.cont; simp only [htodo, he, hp]

theorem cont_of_hit {th : Thread E V T R} {ev : Event E T} {rest : List (Event E T)} {e : E}
    (htodo : th.todo = ev :: rest) (he : ev.expr? = some e) (hp : th.pending = none) (v : V) :
    th.cont compile eval (some v) = th.finish eval ev rest v := by
  unfold Thread.cont; simp only [htodo, he, hp]

theorem cont_of_miss {th : Thread E V T R} {ev : Event E T} {rest : List (Event E T)} {e : E}
    (htodo : th.todo = ev :: rest) (he : ev.expr? = some e) (hp : th.pending = none) :
    th.cont compile eval none =
      match compile e with
      | none => { th with todo := rest, obs := th.obs ++ [.compileError] }
      | some v => { th with pending := some v } := by
  unfold Thread.cont; simp only [htodo, he, hp]
  cases compile e <;> rfl

theorem cont_ok {th : Thread E V T R} {tg : List (Obs R)} {ev : Event E T} {rest : List (Event E T)} {e : E}
    (hok : ThreadOK compile eval th tg) (htodo : th.todo = ev :: rest) (he : ev.expr? = some e)
    {r : Option V} (hr : ∀ v, r = some v → compile e = some v) : ThreadOK compile eval (th.cont compile eval r) tg := by
  cases hp : th.pending with
  | some v => rw [cont_of_pending htodo he hp]; exact finish_ok hok htodo he (hok.pend_head htodo he hp)
  | none =>
    cases r with
    | some v => rw [cont_of_hit htodo he hp]; exact finish_ok hok htodo he (hr v rfl)
    | none =>
      rw [cont_of_miss htodo he hp]
      cases hce : compile e with
      | some v => exact ⟨hok.obs, fun v' hv' => ⟨ev, rest, e, htodo, he, by cases hv'; exact hce⟩⟩
      | none =>
        refine ⟨?_, fun v hv => by have := hp.symm.trans hv; cases this⟩
        have hobs := hok.obs
        rw [htodo] at hobs
        rw [← hobs]
        cases ev <;> first
          | (cases he; simp only [specRun, specStep, hce, List.append_assoc, List.singleton_append])
          | cases he

theorem evalHeld_ok {th : Thread E V T R} {tg : List (Obs R)} {j : Nat} {t : T} {rest : List (Event E T)}
    (hok : ThreadOK compile eval th tg) (htodo : th.todo = .evalSlot j t :: rest) :
    ThreadOK compile eval (th.evalHeld eval j t rest) tg := by
  constructor
  · have hobs := hok.obs
    rw [htodo] at hobs
    rw [← hobs]
    simp only [Thread.evalHeld, specRun, specStep, List.append_assoc, List.singleton_append]
    cases th.slots[j]? <;> rfl
  · intro v hv
    rw [show (th.evalHeld eval j t rest).pending = th.pending from rfl, hok.pending_evalSlot htodo] at hv
    cases hv

theorem tstep_ok (hinj : Function.Injective key) {c : State K V} {th : Thread E V T R} {tg : List (Obs R)}
    (hc : Coh compile key c) (hok : ThreadOK compile eval th tg) :
    Coh compile key (tstep compile key eval MAX CLEAR c th).1 ∧
    ThreadOK compile eval (tstep compile key eval MAX CLEAR c th).2 tg := by
  refine ⟨tstep_keeps (Coh compile key) (fun _ k h => get_coh h k)
    (fun _ _ _ e v h1 h2 h3 h => set_coh hinj h e v (hok.pend_head h1 h2 h3)) hc, ?_⟩
  cases htodo : th.todo with
  | nil => rw [tstep_nil c htodo]; exact hok
  | cons ev rest =>
    cases he : ev.expr? with
    | none =>
      obtain ⟨j, t, rfl⟩ := Event.eq_evalSlot_of_expr? he
      rw [tstep_evalSlot c htodo]; exact evalHeld_ok hok htodo
    | some e =>
      cases hp : th.pending with
      | none =>
        rw [tstep_get c htodo he hp]
        exact cont_ok hok htodo he (fun v hv => hc e v ((get_snd c (key e)).symm.trans hv))
      | some v =>
        rw [tstep_set c htodo he hp]
        exact cont_ok (r := none) hok htodo he (fun v hv => by cases hv)

theorem finish_measure (th : Thread E V T R) {ev : Event E T} {rest : List (Event E T)} {e : E} (he : ev.expr? = some e)
    (v : V) : (th.finish eval ev rest v).measure = 2 * rest.length := by
  cases ev <;> first | (cases he; simp [Thread.finish, Thread.measure]) | cases he

theorem cont_measure {th : Thread E V T R} {ev : Event E T} {rest : List (Event E T)} {e : E}
    (htodo : th.todo = ev :: rest) (he : ev.expr? = some e) (r : Option V) :
    (th.cont compile eval r).measure < th.measure := by
  have hm : 2 * rest.length < th.measure := by
    simp only [Thread.measure, htodo, List.length_cons]
    split <;> omega
  cases hp : th.pending with
  | some v => rw [cont_of_pending htodo he hp, finish_measure th he]; exact hm
  | none =>
    cases r with
    | some v => rw [cont_of_hit htodo he hp, finish_measure th he]; exact hm
    | none =>
      rw [cont_of_miss htodo he hp]
      cases compile e with
      | none => simp [Thread.measure, htodo, hp]
      | some v => simp [Thread.measure, htodo, hp]; omega

/-- An unfinished thread is never blocked and every quantum makes progress. -/
theorem tstep_measure {c : State K V} {th : Thread E V T R} {tg : List (Obs R)} (hok : ThreadOK compile eval th tg)
    (hne : th.todo ≠ []) :
    (tstep compile key eval MAX CLEAR c th).2.measure < th.measure := by
  cases htodo : th.todo with
  | nil => exact absurd htodo hne
  | cons ev rest =>
    cases he : ev.expr? with
    | none =>
      obtain ⟨j, t, rfl⟩ := Event.eq_evalSlot_of_expr? he
      rw [tstep_evalSlot c htodo]
      simp [Thread.evalHeld, Thread.measure, htodo, hok.pending_evalSlot htodo]
    | some e =>
      cases hp : th.pending with
      | none => rw [tstep_get c htodo he hp]; exact cont_measure htodo he _
      | some v => rw [tstep_set c htodo he hp]; exact cont_measure htodo he _

theorem sysStep_eq {q : Sys E K V T R} {i : Nat} {th : Thread E V T R} (h : q.threads[i]? = some th) :
    sysStep compile key eval MAX CLEAR q i =
      ⟨(tstep compile key eval MAX CLEAR q.cache th).1, q.threads.set i (tstep compile key eval MAX CLEAR q.cache th).2⟩ := by
  unfold sysStep
  simp only [h]

theorem sysRun_inv (hb : CLEAR < MAX) (sched : List Nat) : ∀ (q : Sys E K V T R), Inv MAX q.cache →
    Inv MAX (sysRun compile key eval MAX CLEAR q sched).cache :=
  foldl_keeps (P := fun q : Sys E K V T R => Inv MAX q.cache) (fun q i h => by
    unfold sysStep
    cases q.threads[i]? with
    | none => exact h
    | some th => exact tstep_inv hb th h) sched

end
end AHP.Cache
