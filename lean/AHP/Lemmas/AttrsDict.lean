/-
  AHP.Lemmas.AttrsDict — the insertion-ordered association list that models a Python dict (`aget`, `aset`, `adel`,
  `akeys` of AHP/Model/Attrs.lean).  They are `List.lookup`, `Dict.set`, `Dict.del`, `Dict.keys` (`aget_eq` … `akeys_eq`), and
  the laws are those of `Lemmas/Dict`, read through these four equalities; the defining equations of the model's functions and
  the laws the stack cites by name are stated on the model's functions.  Then writes under a map of the values, the step
  "delete the key or write it" (`delOrSet`, which is `Dict.delOrSet`: `delOrSet_eq`), and moving a key to the end (`moveLast`).
-/
import AHP.Model.Attrs
import AHP.Lemmas.Dict
namespace AHP.Attrs
open AHP

variable {α : Type}

theorem aget_eq (k : Str) : ∀ d : AL α, aget k d = d.lookup k
  | [] => rfl
  | (k', v) :: r => by
    by_cases h : k' = k
    · subst h; rw [aget, if_pos rfl, List.lookup_cons_self]
    · rw [aget, if_neg h, aget_eq k r, Dict.lookup_cons_ne (Ne.symm h)]

theorem aset_eq (k : Str) (v : α) : ∀ d : AL α, aset k v d = Dict.set d k v
  | [] => rfl
  | (k', v') :: r => by
    by_cases h : k' = k
    · subst h; rw [aset, if_pos rfl, Dict.set_cons_self]
    · rw [aset, if_neg h, aset_eq k v r, Dict.set_cons_ne h]

theorem adel_eq (k : Str) (d : AL α) : adel k d = Dict.del d k := rfl

theorem akeys_eq (d : AL α) : akeys d = Dict.keys d := rfl

theorem aset_nil (k : Str) (x : α) : aset k x ([] : AL α) = [(k, x)] := rfl

theorem aset_cons_same (k : Str) (x v0 : α) (r : AL α) : aset k x ((k, v0) :: r) = (k, x) :: r := by
  rw [aset, if_pos rfl]

theorem aset_cons_ne {k k0 : Str} (h : k0 ≠ k) (x v0 : α) (r : AL α) :
    aset k x ((k0, v0) :: r) = (k0, v0) :: aset k x r := by
  rw [aset, if_neg h]

theorem adel_nil (k : Str) : adel k ([] : AL α) = [] := rfl

theorem adel_cons_same (k : Str) (v : α) (r : AL α) : adel k ((k, v) :: r) = adel k r := Dict.del_cons_self k v r

theorem adel_cons_ne {k k0 : Str} (h : k0 ≠ k) (v : α) (r : AL α) : adel k ((k0, v) :: r) = (k0, v) :: adel k r :=
  Dict.del_cons_ne h v r

theorem akeys_cons (k : Str) (v : α) (r : AL α) : akeys ((k, v) :: r) = k :: akeys r := rfl

theorem aget_aset_same (k : Str) (v : α) (d : AL α) : aget k (aset k v d) = some v := by
  rw [aget_eq, aset_eq, Dict.lookup_set_self]

theorem aget_aset_ne {k k' : Str} (h : k' ≠ k) (v : α) (d : AL α) : aget k' (aset k v d) = aget k' d := by
  rw [aget_eq, aget_eq, aset_eq, Dict.lookup_set_ne h]

theorem aget_adel_same (k : Str) (d : AL α) : aget k (adel k d) = none := by
  rw [aget_eq, adel_eq, Dict.lookup_del_self]

theorem aget_adel_ne {k k' : Str} (h : k' ≠ k) (d : AL α) : aget k' (adel k d) = aget k' d := by
  rw [aget_eq, aget_eq, adel_eq, Dict.lookup_del_ne h]

theorem aget_eq_none_iff {k : Str} {d : AL α} : aget k d = none ↔ k ∉ akeys d := by
  rw [aget_eq]; exact Dict.lookup_eq_none_iff

theorem ahas_iff_mem {k : Str} {d : AL α} : ahas k d = true ↔ k ∈ akeys d := by
  unfold ahas
  rw [Option.isSome_iff_ne_none, Ne, aget_eq_none_iff, Classical.not_not]

theorem aget_of_mem_nodup {k : Str} {v : α} {d : AL α} (hn : (akeys d).Nodup) (h : (k, v) ∈ d) : aget k d = some v := by
  rw [aget_eq]; exact Dict.lookup_of_mem hn h

theorem nodup_aset (k : Str) (v : α) {d : AL α} (h : (akeys d).Nodup) : (akeys (aset k v d)).Nodup := by
  rw [aset_eq]; exact Dict.nodup_set k v h

theorem mem_aset {k : Str} {v : α} {p : Str × α} {d : AL α} (h : p ∈ aset k v d) : p = (k, v) ∨ p ∈ d :=
  Dict.mem_set (aset_eq k v d ▸ h)

theorem mem_adel {k : Str} {p : Str × α} {d : AL α} : p ∈ adel k d ↔ p ∈ d ∧ p.1 ≠ k := Dict.mem_del

theorem nodup_adel (k : Str) {d : AL α} (h : (akeys d).Nodup) : (akeys (adel k d)).Nodup := Dict.nodup_del k h

theorem akeys_append (a b : AL α) : akeys (a ++ b) = akeys a ++ akeys b := List.map_append

theorem adel_of_not_mem {k : Str} {d : AL α} (h : k ∉ akeys d) : adel k d = d := Dict.del_of_not_mem h

theorem aget_map {α β : Type} (f : α → β) (k : Str) (d : AL α) :
    aget k (d.map (fun p => (p.1, f p.2))) = (aget k d).map f := by
  rw [aget_eq, aget_eq]; exact Dict.lookup_map (fun _ => f) k d

theorem akeys_map {α β : Type} (f : α → β) (d : AL α) : akeys (d.map (fun p => (p.1, f p.2))) = akeys d :=
  Dict.keys_map (fun _ => f) d

theorem aset_map {α β : Type} (f : α → β) (k : Str) (x : α) (d : AL α) :
    (aset k x d).map (fun p => (p.1, f p.2)) = aset k (f x) (d.map (fun p => (p.1, f p.2))) := by
  rw [aset_eq, aset_eq]; exact Dict.set_map (fun _ => f) k x d

theorem aset_map_congr {α β : Type} {f g : α → β} (k : Str) (y : β) : ∀ {d : AL α}, (akeys d).Nodup →
    (∀ p ∈ d, p.1 ≠ k → f p.2 = g p.2) →
    aset k y (d.map (fun p => (p.1, f p.2))) = aset k y (d.map (fun p => (p.1, g p.2)))
  | [], _, _ => rfl
  | (k0, v0) :: r, hn, h => by
    have hn' : k0 ∉ akeys r ∧ (akeys r).Nodup := List.nodup_cons.mp hn
    by_cases h0 : k0 = k
    · subst h0
      simp only [List.map_cons, aset, if_true]
      congr 1
      apply List.map_congr_left
      intro p hp
      have hne : p.1 ≠ k0 := fun e => hn'.1 (e ▸ List.mem_map_of_mem (f := fun p : Str × α => p.1) hp)
      rw [h p (List.mem_cons_of_mem _ hp) hne]
    · simp only [List.map_cons, aset, h0, if_false]
      rw [h (k0, v0) (by simp) h0, aset_map_congr k y hn'.2 (fun p hp => h p (List.mem_cons_of_mem _ hp))]

theorem adel_map_congr {α β : Type} {f g : α → β} (k : Str) : ∀ {d : AL α},
    (∀ p ∈ d, p.1 ≠ k → f p.2 = g p.2) →
    adel k (d.map (fun p => (p.1, f p.2))) = adel k (d.map (fun p => (p.1, g p.2)))
  | [], _ => rfl
  | (k0, v0) :: r, h => by
    have ih := adel_map_congr (f := f) (g := g) k (d := r) (fun p hp => h p (List.mem_cons_of_mem _ hp))
    by_cases h0 : k0 = k
    · subst h0
      simp only [List.map_cons]
      rw [adel_cons_same, adel_cons_same, ih]
    · simp only [List.map_cons]
      rw [adel_cons_ne h0, adel_cons_ne h0, ih, h (k0, v0) (by simp) h0]

/-- "delete the key or write it": the step `_handleClassAttr` and `_ensureHtmlAttribute` take, and what a property write with
    an empty value does -/
def delOrSet (k : Str) (b : Bool) (x : α) (d : AL α) : AL α := if b then adel k d else aset k x d

theorem delOrSet_eq (k : Str) (b : Bool) (x : α) (d : AL α) : delOrSet k b x d = Dict.delOrSet d k b x := by
  cases b
  · exact aset_eq k x d
  · rfl

theorem aget_delOrSet_same (k : Str) (b : Bool) (x : α) (d : AL α) : aget k (delOrSet k b x d) = if b then none else some x := by
  rw [aget_eq, delOrSet_eq]; exact Dict.lookup_delOrSet_self k b x d

theorem aget_delOrSet_ne {k k' : Str} (h : k' ≠ k) (b : Bool) (x : α) (d : AL α) : aget k' (delOrSet k b x d) = aget k' d := by
  rw [aget_eq, aget_eq, delOrSet_eq]; exact Dict.lookup_delOrSet_ne h b x d

theorem delOrSet_self {k : Str} {b : Bool} {x : α} {d : AL α} (h : aget k d = if b then none else some x) : delOrSet k b x d = d := by
  rw [delOrSet_eq]; exact Dict.delOrSet_self ((aget_eq k d).symm.trans h)

theorem nodup_delOrSet (k : Str) (b : Bool) (x : α) {d : AL α} (h : (akeys d).Nodup) : (akeys (delOrSet k b x d)).Nodup := by
  rw [delOrSet_eq]; exact Dict.nodup_delOrSet k b x h

theorem mem_delOrSet {k : Str} {b : Bool} {x : α} {d : AL α} {p : Str × α} (h : p ∈ delOrSet k b x d) : p = (k, x) ∨ p ∈ d :=
  Dict.mem_delOrSet (delOrSet_eq k b x d ▸ h)

theorem delOrSet_map {α β : Type} (f : α → β) (k : Str) (b : Bool) (x : α) (d : AL α) :
    (delOrSet k b x d).map (fun p => (p.1, f p.2)) = delOrSet k b (f x) (d.map (fun p => (p.1, f p.2))) := by
  rw [delOrSet_eq, delOrSet_eq]; exact Dict.delOrSet_map (fun _ => f) k b x d

theorem delOrSet_adel_comm {k k' : Str} (h : k ≠ k') (b : Bool) (x : α) (d : AL α) :
    delOrSet k b x (adel k' d) = adel k' (delOrSet k b x d) := by
  rw [delOrSet_eq, delOrSet_eq]; exact Dict.delOrSet_del_comm h b x d

theorem delOrSet_aset_comm {k k' : Str} (h : k ≠ k') (b : Bool) (x y : α) (d : AL α)
    (hm : b = false → k ∈ akeys d ∨ k' ∈ akeys d) : delOrSet k b x (aset k' y d) = aset k' y (delOrSet k b x d) := by
  rw [delOrSet_eq, delOrSet_eq, aset_eq, aset_eq]; exact Dict.delOrSet_set_comm h b x y d hm

theorem adel_delOrSet (k : Str) (b : Bool) (x : α) (d : AL α) : adel k (delOrSet k b x d) = adel k d := by
  rw [delOrSet_eq]; exact Dict.del_delOrSet k b x d

/-- the second step wins, unless a deletion is followed by a write of a key that was there (it moves to the end) -/
theorem delOrSet_twice (k : Str) (b b' : Bool) (x y : α) {d : AL α} (h : b = true → b' = false → k ∉ akeys d) :
    delOrSet k b' y (delOrSet k b x d) = delOrSet k b' y d := by
  rw [delOrSet_eq, delOrSet_eq, delOrSet_eq]; exact Dict.delOrSet_twice k b b' x y h

def moveLast {α : Type} (k : Str) (l : AL α) : AL α :=
  l.filter (fun p => decide (p.1 ≠ k)) ++ l.filter (fun p => decide (p.1 = k))

theorem filter_key {k : Str} {l : AL α} (hn : (akeys l).Nodup) :
    l.filter (fun p => decide (p.1 = k)) = (match aget k l with | some v => [(k, v)] | none => []) := by
  rw [aget_eq]
  refine (List.filter_congr fun _ _ => (Bool.beq_eq_decide_eq _ _).symm).trans ((Dict.filter_key hn).trans ?_)
  cases l.lookup k <;> rfl

theorem filter_eq_of_not_mem {k : Str} {l : AL α} (h : k ∉ akeys l) : l.filter (fun p => decide (p.1 = k)) = [] :=
  List.filter_eq_nil_iff.mpr fun p hp hq => h (of_decide_eq_true hq ▸ List.mem_map_of_mem (f := (·.1)) hp)

theorem moveLast_eq_self_iff {l : AL α} (hn : (akeys l).Nodup) (k : Str) :
    moveLast k l = l ↔ (k ∉ akeys l ∨ (akeys l).getLast? = some k) := by
  constructor
  · intro h
    by_cases hk : k ∈ akeys l
    · right
      have hv : ∃ v, aget k l = some v := by
        cases hg : aget k l with
        | none => exact absurd hk (aget_eq_none_iff.mp hg)
        | some v => exact ⟨v, rfl⟩
      obtain ⟨v, hv⟩ := hv
      have hB : l.filter (fun p => decide (p.1 = k)) = [(k, v)] := by rw [filter_key hn, hv]
      have : akeys l = akeys (l.filter (fun p => decide (p.1 ≠ k))) ++ [k] := by
        have := congrArg akeys h.symm
        unfold moveLast at this
        rw [akeys_append, hB] at this
        simpa [akeys] using this
      rw [this, List.getLast?_append]
      rfl
    · exact Or.inl hk
  · rintro (hk | hk)
    · unfold moveLast
      rw [show l.filter (fun p => decide (p.1 ≠ k)) = l from adel_of_not_mem hk, filter_eq_of_not_mem hk, List.append_nil]
    · unfold akeys at hk
      rw [List.getLast?_map] at hk
      cases hl : l.getLast? with
      | none => rw [hl] at hk; cases hk
      | some p =>
        rw [hl] at hk
        simp only [Option.map_some, Option.some.injEq] at hk
        obtain ⟨l', rfl⟩ := List.getLast?_eq_some_iff.mp hl
        have hn2 : k ∉ akeys l' := by
          rw [akeys_append] at hn
          intro hm
          exact (List.nodup_append.mp hn).2.2 k hm k (by simp [akeys, hk]) rfl
        unfold moveLast
        rw [List.filter_append, List.filter_append, show l'.filter (fun p => decide (p.1 ≠ k)) = l' from adel_of_not_mem hn2,
          filter_eq_of_not_mem hn2]
        simp [hk]

theorem filterMap_drop_key (k : Str) : ∀ (l : AL α),
    l.filterMap (fun p => if p.1 = k then none else some p) = adel k l
  | [] => rfl
  | p :: r => by
    show _ = List.filter _ (p :: r)
    by_cases h : p.1 = k <;> simp [h, filterMap_drop_key k r, adel]

theorem adel_map_names (s : Str) (f : Str → Option Str) (names : List Str) :
    adel s (names.map (fun j => (j, f j))) = (names.filter (fun x => decide (x ≠ s))).map (fun j => (j, f j)) := by
  unfold adel
  rw [List.filter_map]
  rfl

end AHP.Attrs
