/-
  AHP.Lemmas.TreeModels — the hub tree, the maps between the six tree models, and serialisation.

  The document tree is modelled six times (Model/Tree.lean, Dom.lean, Pickle.lean, Search.lean, XPath.lean,
  Format.lean).  `HN` below is the common refinement the consistency theorems go through: a block is a text
  or an element with an identity, a name, the attribute store of model (1) (the one that keeps most state),
  the self-closing flag and its blocks — no cached field.  Every other model is an image of it (`toTree`, `toPk`, `g3`
  of Lemmas/TreeModelsOrder.lean, `toDoc` of Lemmas/TreeModelsXPath.lean, `toFmt` after `toTree`; `ofDom` maps the DOM
  model into it), and every `AHP.Node` is the image of a hub tree (`number`, identities in creation order).
-/
import AHP.Lemmas.AttrStoresRender
import AHP.Lemmas.Dom
import AHP.Model.Pickle
import AHP.Model.Format
namespace AHP.TM
open AHP AHP.AttrStores

inductive HN where
  | text (s : Str)
  | el (id : Nat) (name : Str) (attrs : AttrState) (sc : Bool) (kids : List HN)
  deriving Repr, Inhabited

/-- identity of a block (0 for text; only used on elements) -/
def HN.id : HN → Nat
  | .text _ => 0
  | .el i _ _ _ _ => i

def HN.name : HN → Str
  | .text _ => []
  | .el _ n _ _ _ => n

def HN.attrs : HN → AttrState
  | .text _ => AttrState.empty
  | .el _ _ a _ _ => a

def HN.kids : HN → List HN
  | .text _ => []
  | .el _ _ _ _ ks => ks

def HN.isEl : HN → Bool
  | .text _ => false
  | .el _ _ _ _ _ => true

/-- what model (1) keeps of an element: name and attribute store (the entries of `els`, Lemmas/TreeModelsCreate.lean) -/
def HN.key : HN → Str × AttrState
  | .text _ => ([], AttrState.empty)
  | .el _ n a _ _ => (n, a)

/-- ids of the element entries of a block list (`children`) -/
def kidIds : List HN → List Nat
  | [] => []
  | .text _ :: ks => kidIds ks
  | .el i _ _ _ _ :: ks => i :: kidIds ks

/-- concatenation of the text entries of a block list (`text`) -/
def kidText : List HN → Str
  | [] => []
  | .text s :: ks => s ++ kidText ks
  | .el .. :: ks => kidText ks

mutual
def HN.ids : HN → List Nat
  | .text _ => []
  | .el i _ _ _ ks => i :: idsL ks
def idsL : List HN → List Nat
  | [] => []
  | k :: ks => k.ids ++ idsL ks
end

mutual
def HN.size : HN → Nat
  | .text _ => 0
  | .el _ _ _ _ ks => 1 + sizeL ks
def sizeL : List HN → Nat
  | [] => 0
  | k :: ks => k.size + sizeL ks
end

mutual
/-- every attribute store in the tree is a Python dict (pairwise distinct keys) — `AttrStores.Inv` -/
def HN.AttrInv : HN → Prop
  | .text _ => True
  | .el _ _ a _ ks => Inv a ∧ AttrInvL ks
def AttrInvL : List HN → Prop
  | [] => True
  | k :: ks => k.AttrInv ∧ AttrInvL ks
end

@[simp] theorem idsL_nil : idsL [] = [] := by simp [idsL]
@[simp] theorem idsL_cons (k : HN) (ks : List HN) : idsL (k :: ks) = k.ids ++ idsL ks := by simp [idsL]
@[simp] theorem ids_text (s : Str) : (HN.text s).ids = [] := by simp [HN.ids]
@[simp] theorem ids_el (i n a sc ks) : (HN.el i n a sc ks).ids = i :: idsL ks := by simp [HN.ids]
@[simp] theorem sizeL_nil : sizeL [] = 0 := by simp [sizeL]
@[simp] theorem sizeL_cons (k : HN) (ks : List HN) : sizeL (k :: ks) = k.size + sizeL ks := by simp [sizeL]
@[simp] theorem size_text (s : Str) : (HN.text s).size = 0 := by simp [HN.size]
@[simp] theorem size_el (i n a sc ks) : (HN.el i n a sc ks).size = 1 + sizeL ks := by simp [HN.size]
@[simp] theorem attrInvL_nil : AttrInvL [] = True := by simp [AttrInvL]
@[simp] theorem attrInvL_cons (k : HN) (ks : List HN) : AttrInvL (k :: ks) = (k.AttrInv ∧ AttrInvL ks) := by
  simp [AttrInvL]
@[simp] theorem attrInv_text (s : Str) : (HN.text s).AttrInv = True := by simp [HN.AttrInv]
@[simp] theorem attrInv_el (i n a sc ks) : (HN.el i n a sc ks).AttrInv = (Inv a ∧ AttrInvL ks) := by
  simp [HN.AttrInv]

mutual
/-- induction over a tree with the blocks of an element as a list: for properties whose step over a forest is by
    membership (`mem_walkL` of Lemmas/TreeModelsXPath.lean), one case per constructor and no second statement for the forest -/
theorem HN.ind {P : HN → Prop} (text : ∀ s, P (.text s))
    (el : ∀ i n a sc ks, (∀ k ∈ ks, P k) → P (.el i n a sc ks)) : ∀ h, P h
  | .text s => text s
  | .el i n a sc ks => el i n a sc ks (HN.indL text el ks)
theorem HN.indL {P : HN → Prop} (text : ∀ s, P (.text s))
    (el : ∀ i n a sc ks, (∀ k ∈ ks, P k) → P (.el i n a sc ks)) : ∀ ks : List HN, ∀ k ∈ ks, P k
  | [], _, h => nomatch h
  | k :: ks, x, h => (List.mem_cons.mp h).elim (fun e => e ▸ HN.ind text el k) (HN.indL text el ks x)
end

theorem sizeL_append (a b : List HN) : sizeL (a ++ b) = sizeL a + sizeL b := by
  induction a with
  | nil => simp
  | cons k a ih => simp [ih, Nat.add_assoc]

mutual
theorem length_ids : ∀ h : HN, h.ids.length = h.size
  | .text _ => by simp
  | .el _ _ _ _ ks => by simp [length_idsL ks]; omega
theorem length_idsL : ∀ ks : List HN, (idsL ks).length = sizeL ks
  | [] => by simp
  | k :: ks => by simp [length_ids k, length_idsL ks]
end

mutual
def HN.toTree : HN → Node
  | .text s => .text s
  | .el _ n a sc ks => .elem n a sc (toTreeL ks)
def toTreeL : List HN → List Node
  | [] => []
  | k :: ks => k.toTree :: toTreeL ks
end

@[simp] theorem toTreeL_nil : toTreeL [] = [] := by simp [toTreeL]
@[simp] theorem toTreeL_cons (k : HN) (ks : List HN) : toTreeL (k :: ks) = k.toTree :: toTreeL ks := by
  simp [toTreeL]
@[simp] theorem toTree_text (s : Str) : (HN.text s).toTree = .text s := by simp [HN.toTree]
@[simp] theorem toTree_el (i n a sc ks) : (HN.el i n a sc ks).toTree = .elem n a sc (toTreeL ks) := by
  simp [HN.toTree]

theorem toTreeL_eq_map (ks : List HN) : toTreeL ks = ks.map HN.toTree := by
  induction ks with
  | nil => simp
  | cons k ks ih => simp [ih]

mutual
/-- every `AHP.Node` is the image of a hub tree: identities allocated in creation (= document) order from `n` -/
def number : Node → Nat → HN × Nat
  | .text s, n => (.text s, n)
  | .elem nm a sc ks, n => (.el n nm a sc (numberL ks (n + 1)).1, (numberL ks (n + 1)).2)
def numberL : List Node → Nat → List HN × Nat
  | [], n => ([], n)
  | k :: ks, n => ((number k n).1 :: (numberL ks (number k n).2).1, (numberL ks (number k n).2).2)
end

@[simp] theorem number_text (s n) : number (.text s) n = (.text s, n) := by simp [number]
theorem number_elem (nm a sc ks n) :
    number (.elem nm a sc ks) n = (.el n nm a sc (numberL ks (n + 1)).1, (numberL ks (n + 1)).2) := by simp [number]
@[simp] theorem numberL_nil (n) : numberL [] n = ([], n) := by simp [numberL]
theorem numberL_cons (k ks n) : numberL (k :: ks) n =
    ((number k n).1 :: (numberL ks (number k n).2).1, (numberL ks (number k n).2).2) := by simp [numberL]

mutual
theorem toTree_number : ∀ (t : Node) (n : Nat), (number t n).1.toTree = t
  | .text s, n => by simp
  | .elem nm a sc ks, n => by rw [number_elem]; simp [toTreeL_numberL ks (n + 1)]
theorem toTreeL_numberL : ∀ (ks : List Node) (n : Nat), toTreeL (numberL ks n).1 = ks
  | [], n => by simp
  | k :: ks, n => by rw [numberL_cons]; simp [toTree_number k n, toTreeL_numberL ks _]
end

mutual
theorem number_ids : ∀ (t : Node) (n : Nat),
    (number t n).1.ids = List.range' n (number t n).1.size ∧ (number t n).2 = n + (number t n).1.size
  | .text s, n => by simp
  | .elem nm a sc ks, n => by
    obtain ⟨h1, h2⟩ := numberL_ids ks (n + 1)
    rw [number_elem]
    simp only [ids_el, size_el, h1, h2]
    refine ⟨?_, by omega⟩
    rw [Nat.add_comm 1, List.range'_succ]
theorem numberL_ids : ∀ (ks : List Node) (n : Nat),
    idsL (numberL ks n).1 = List.range' n (sizeL (numberL ks n).1) ∧ (numberL ks n).2 = n + sizeL (numberL ks n).1
  | [], n => by simp
  | k :: ks, n => by
    obtain ⟨h1, h2⟩ := number_ids k n
    obtain ⟨h3, h4⟩ := numberL_ids ks (number k n).2
    rw [numberL_cons]
    simp only [idsL_cons, sizeL_cons, h1, h3, h4]
    rw [h2] at h3 ⊢
    refine ⟨?_, by omega⟩
    simp
end

mutual
/-- `HN.AttrInv` for a tree of model (1): every attribute store in it is a dict (`attrInv_toTree` carries one to the other) -/
def TreeInv : Node → Prop
  | .text _ => True
  | .elem _ a _ ks => Inv a ∧ TreeInvL ks
def TreeInvL : List Node → Prop
  | [] => True
  | k :: ks => TreeInv k ∧ TreeInvL ks
end

mutual
theorem attrInv_toTree : ∀ h : HN, h.AttrInv → TreeInv h.toTree
  | .text _, _ => by simp [TreeInv]
  | .el _ _ _ _ ks, hi => by
    simp only [attrInv_el] at hi
    simp only [toTree_el, TreeInv]
    exact ⟨hi.1, attrInvL_toTreeL ks hi.2⟩
theorem attrInvL_toTreeL : ∀ ks : List HN, AttrInvL ks → TreeInvL (toTreeL ks)
  | [], _ => by simp [TreeInvL]
  | k :: ks, hi => by
    simp only [attrInvL_cons] at hi
    simp only [toTreeL_cons, TreeInvL]
    exact ⟨attrInv_toTree k hi.1, attrInvL_toTreeL ks hi.2⟩
end

/-- the raw attribute list of a DOM element as a store of model (1): the list is the dict; no class names, no style -/
def plainState (attrs : List Attr) : AttrState := ⟨attrs, [], []⟩

mutual
def ofDom : Dom.DN → HN
  | .text s => .text s
  | .el m bs => .el m.id m.name (plainState m.attrs) m.sc (ofDomL bs)
def ofDomL : List Dom.DN → List HN
  | [] => []
  | b :: bs => ofDom b :: ofDomL bs
end

@[simp] theorem ofDomL_nil : ofDomL [] = [] := by simp [ofDomL]
@[simp] theorem ofDomL_cons (b : Dom.DN) (bs : List Dom.DN) : ofDomL (b :: bs) = ofDom b :: ofDomL bs := by
  simp [ofDomL]
@[simp] theorem ofDom_text (s : Str) : ofDom (.text s) = .text s := by simp [ofDom]
@[simp] theorem ofDom_el (m : Dom.Meta) (bs : List Dom.DN) :
    ofDom (.el m bs) = .el m.id m.name (plainState m.attrs) m.sc (ofDomL bs) := by simp [ofDom]

theorem kidIds_ofDomL (bs : List Dom.DN) : kidIds (ofDomL bs) = Dom.elemIds bs := by
  induction bs with
  | nil => rfl
  | cons b bs ih => cases b <;> simp [kidIds, ih]

theorem kidText_ofDomL (bs : List Dom.DN) : kidText (ofDomL bs) = Dom.textOf bs := by
  induction bs with
  | nil => rfl
  | cons b bs ih => cases b <;> simp [kidText, ih]

/-- The attribute lists `getStartTag` of the DOM model renders the way models (1), (3), (4) do: no `class`, no
    `style` key (they live outside the dict), and no boolean attribute with an empty value (rendered bare). -/
def PlainAttrs (attrs : List Attr) : Prop :=
  ∀ p ∈ attrs, p.1 ≠ kClass ∧ p.1 ≠ kStyle ∧ ¬ (p.2 = some [] ∧ binaryAttrs.contains p.1 = true)

mutual
def PlainDom : Dom.DN → Prop
  | .text _ => True
  | .el m bs => PlainAttrs m.attrs ∧ PlainDomL bs
def PlainDomL : List Dom.DN → Prop
  | [] => True
  | b :: bs => PlainDom b ∧ PlainDomL bs
end

@[simp] theorem plainDomL_nil : PlainDomL [] = True := by simp [PlainDomL]
@[simp] theorem plainDomL_cons (b : Dom.DN) (bs : List Dom.DN) : PlainDomL (b :: bs) = (PlainDom b ∧ PlainDomL bs) := by
  simp [PlainDomL]
@[simp] theorem plainDom_text (s : Str) : PlainDom (.text s) = True := by simp [PlainDom]
@[simp] theorem plainDom_el (m : Dom.Meta) (bs : List Dom.DN) :
    PlainDom (.el m bs) = (PlainAttrs m.attrs ∧ PlainDomL bs) := by simp [PlainDom]

theorem view_plainState {attrs : List Attr} (h : PlainAttrs attrs) : (plainState attrs).view = attrs := by
  have hk : ∀ k, (∀ p ∈ attrs, p.1 ≠ k) → k ∉ keys attrs := fun k hne hm => by
    obtain ⟨p, hp, e⟩ := List.mem_map.mp hm
    exact hne p hp e
  unfold AttrState.view plainState
  simp only [List.isEmpty_nil, if_true]
  rw [tok_class, tok_style, dictDel_of_not_mem (hk _ fun p hp => (h p hp).1),
    dictDel_of_not_mem (hk _ fun p hp => (h p hp).2.1)]

/-- the DOM view and the formatter write `escapeQuotes` as the same `flatMap` -/
theorem escapeQuotes_dom (v : Str) : Dom.escapeQuotes v = escQ v := escQ_fmt v

theorem attrStr_dom {p : Attr} (h : ¬ (p.2 = some [] ∧ binaryAttrs.contains p.1 = true)) :
    Dom.attrStr p = renderAttr p := by
  obtain ⟨k, v⟩ := p
  cases v with
  | none => rfl
  | some s =>
    simp only [Dom.attrStr, renderAttr, escapeQuotes_dom]
    cases s with
    | nil =>
      have hm : k ∉ binaryAttrs := fun hm => h ⟨rfl, List.contains_iff_mem.mpr hm⟩
      simp [hm, escQ]
    | cons c r => simp

theorem attrsStr_dom : ∀ {attrs : List Attr}, (∀ p ∈ attrs, ¬ (p.2 = some [] ∧ binaryAttrs.contains p.1 = true)) →
    Dom.attrsStr attrs = renderAttrs attrs
  | [], _ => by simp [Dom.attrsStr, renderAttrs]
  | [a], h => by
    simp only [Dom.attrsStr, renderAttrs, List.isEmpty_cons, Bool.false_eq_true, if_false, List.map_cons,
      List.map_nil, joinWith, List.append_nil]
    rw [attrStr_dom (h a (by simp))]
  | a :: b :: r, h => by
    have ih := attrsStr_dom (attrs := b :: r) (fun p hp => h p (by simp [hp]))
    have e : Dom.attrsStr (a :: b :: r) = ' ' :: Dom.attrStr a ++ Dom.attrsStr (b :: r) := rfl
    rw [e, ih, attrStr_dom (h a (by simp))]
    simp [renderAttrs, joinWith]

theorem startTag_dom (m : Dom.Meta) (h : PlainAttrs m.attrs) :
    Dom.startTag m = startTag m.name (plainState m.attrs) m.sc := by
  unfold Dom.startTag startTag startTagI
  rw [view_plainState h, attrsStr_dom (fun p hp => (h p hp).2.2)]
  rfl

theorem endTag_dom (m : Dom.Meta) : Dom.endTag m = endTag m.name m.sc := by
  unfold Dom.endTag endTag
  cases m.sc <;> simp

mutual
theorem outerHTML_toTree : ∀ n : Dom.DN, PlainDom n → Dom.outerHTML n = (ofDom n).toTree.html
  | .text s, _ => by simp [Dom.outerHTML, Node.html]
  | .el m bs, h => by
    simp only [plainDom_el] at h
    simp only [Dom.outerHTML, ofDom_el, toTree_el, Node.html, startTag_dom m h.1, endTag_dom, innerL_toTree bs h.2]
theorem innerL_toTree : ∀ bs : List Dom.DN, PlainDomL bs → Dom.innerL bs = htmlL (toTreeL (ofDomL bs))
  | [], _ => by simp [Dom.innerL, htmlL]
  | b :: bs, h => by
    simp only [plainDomL_cons] at h
    simp [Dom.innerL, htmlL, outerHTML_toTree b h.1, innerL_toTree bs h.2]
end

mutual
def HN.toPk (par own : Option Nat) : HN → Pk.DN
  | .text s => .text s
  | .el i n a sc ks => .el i i n (toP a) sc (toPkL (some i) own ks) (kidIds ks) (kidText ks) par own
def toPkL (par own : Option Nat) : List HN → List Pk.DN
  | [] => []
  | k :: ks => k.toPk par own :: toPkL par own ks
end

@[simp] theorem toPkL_nil (p o) : toPkL p o [] = [] := by simp [toPkL]
@[simp] theorem toPkL_cons (p o) (k : HN) (ks : List HN) : toPkL p o (k :: ks) = k.toPk p o :: toPkL p o ks := by
  simp [toPkL]
@[simp] theorem toPk_text (p o) (s : Str) : (HN.text s).toPk p o = .text s := by simp [HN.toPk]
@[simp] theorem toPk_el (p o i n a sc ks) : (HN.el i n a sc ks).toPk p o =
    .el i i n (toP a) sc (toPkL (some i) o ks) (kidIds ks) (kidText ks) p o := by simp [HN.toPk]

theorem pk_endTag (n : Str) (sc : Bool) : (if sc then [] else str "</" ++ n ++ str ">") = endTag n sc := by
  unfold endTag; cases sc <;> simp [str]

mutual
theorem pk_html : ∀ (h : HN) (p o : Option Nat), h.AttrInv → Pk.DN.html (h.toPk p o) = h.toTree.html
  | .text s, _, _, _ => by simp [Pk.DN.html, Node.html]
  | .el i n a sc ks, p, o, hi => by
    simp only [attrInv_el] at hi
    simp only [toPk_el, toTree_el, Pk.DN.html, Node.html, startTag_toP n sc hi.1, pk_endTag,
      pk_htmlL ks (some i) o hi.2]
theorem pk_htmlL : ∀ (ks : List HN) (p o : Option Nat), AttrInvL ks → Pk.DN.htmlL (toPkL p o ks) = htmlL (toTreeL ks)
  | [], _, _, _ => by simp [Pk.DN.htmlL, htmlL]
  | k :: ks, p, o, hi => by
    simp only [attrInvL_cons] at hi
    simp [Pk.DN.htmlL, htmlL, pk_html k p o hi.1, pk_htmlL ks p o hi.2]
end

theorem pk_inner (h : HN) (p o : Option Nat) (hi : h.AttrInv) (hel : ∃ i n a sc ks, h = .el i n a sc ks) :
    Pk.DN.inner (h.toPk p o) = h.toTree.innerHTML := by
  obtain ⟨i, n, a, sc, ks, rfl⟩ := hel
  simp only [attrInv_el] at hi
  simp only [toPk_el, toTree_el, Pk.DN.inner, Node.innerHTML, pk_htmlL ks (some i) o hi.2]

theorem inv_plainState {attrs : List Attr} (h : (keys attrs).Nodup) : Inv (plainState attrs) := h

mutual
/-- the raw attribute list of every element of a DOM tree has pairwise distinct keys, so that its image has `HN.AttrInv`
    (`attrInv_ofDom`) -/
def DictDom : Dom.DN → Prop
  | .text _ => True
  | .el m bs => (keys m.attrs).Nodup ∧ DictDomL bs
def DictDomL : List Dom.DN → Prop
  | [] => True
  | b :: bs => DictDom b ∧ DictDomL bs
end

mutual
theorem attrInv_ofDom : ∀ n : Dom.DN, DictDom n → (ofDom n).AttrInv
  | .text _, _ => by simp
  | .el m bs, h => by
    simp only [DictDom] at h
    simp only [ofDom_el, attrInv_el]
    exact ⟨inv_plainState h.1, attrInvL_ofDomL bs h.2⟩
theorem attrInvL_ofDomL : ∀ bs : List Dom.DN, DictDomL bs → AttrInvL (ofDomL bs)
  | [], _ => by simp
  | b :: bs, h => by
    simp only [DictDomL] at h
    simp only [ofDomL_cons, attrInvL_cons]
    exact ⟨attrInv_ofDom b h.1, attrInvL_ofDomL bs h.2⟩
end

def rawAttrs (attrs : List Attr) : Pk.Attrs := toP (plainState attrs)

mutual
/-- the DOM element copied field by field into the pickle model's element (cached fields as stored) -/
def rawPk : Dom.DN → Pk.DN
  | .text s => .text s
  | .el m bs => .el m.id m.id m.name (rawAttrs m.attrs) m.sc (rawPkL bs) m.children m.text m.parent m.owner
def rawPkL : List Dom.DN → List Pk.DN
  | [] => []
  | b :: bs => rawPk b :: rawPkL bs
end

mutual
/-- C04's invariant says exactly that the stored fields are the recomputed ones -/
theorem rawPk_eq_toPk : ∀ (n : Dom.DN) (p o : Option Nat), Dom.OK p o n → rawPk n = (ofDom n).toPk p o
  | .text s, _, _, _ => by simp [rawPk]
  | .el m bs, p, o, h => by
    simp only [rawPk, ofDom_el, toPk_el, kidIds_ofDomL, kidText_ofDomL, h.parent, h.owner, h.children, h.text, rawAttrs,
      rawPkL_eq_toPkL bs (some m.id) o h.kids]
theorem rawPkL_eq_toPkL : ∀ (bs : List Dom.DN) (p o : Option Nat), Dom.OKL p o bs → rawPkL bs = toPkL p o (ofDomL bs)
  | [], _, _, _ => by simp [rawPkL]
  | b :: bs, p, o, h => by
    simp only [Dom.OKL_cons] at h
    simp [rawPkL, rawPk_eq_toPk b p o h.1, rawPkL_eq_toPkL bs p o h.2]
end

mutual
def toFmt : Node → Fmt.Node
  | .text s => .text false s
  | .elem n a sc ks => .elem .normal n (toF a) sc [] (toFmtL ks)
def toFmtL : List Node → List Fmt.Node
  | [] => []
  | k :: ks => toFmt k :: toFmtL ks
end

@[simp] theorem toFmtL_nil : toFmtL [] = [] := by simp [toFmtL]
@[simp] theorem toFmtL_cons (k : Node) (ks : List Node) : toFmtL (k :: ks) = toFmt k :: toFmtL ks := by simp [toFmtL]
@[simp] theorem toFmt_text (s : Str) : toFmt (.text s) = .text false s := by simp [toFmt]
@[simp] theorem toFmt_elem (n a sc ks) : toFmt (.elem n a sc ks) = .elem .normal n (toF a) sc [] (toFmtL ks) := by
  simp [toFmt]

theorem toFmtL_eq_map (ks : List Node) : toFmtL ks = ks.map toFmt := by
  induction ks with
  | nil => simp
  | cons k ks ih => simp [ih]

theorem toFmtL_append (a b : List Node) : toFmtL (a ++ b) = toFmtL a ++ toFmtL b := by
  simp [toFmtL_eq_map]

theorem toFmtL_reverse (a : List Node) : toFmtL a.reverse = (toFmtL a).reverse := by
  simp [toFmtL_eq_map]

theorem fmt_endTag (n : Str) (sc : Bool) (kids : List Fmt.Node) : Fmt.endTag n sc [] kids = endTag n sc := by
  unfold Fmt.endTag endTag
  cases sc <;> simp [str]

mutual
theorem fmt_outer : ∀ t : Node, TreeInv t → Fmt.outer (toFmt t) = t.html
  | .text s, _ => by simp [Fmt.outer, Node.html]
  | .elem n a sc ks, h => by
    simp only [TreeInv] at h
    have hs := startTag_toF n [] sc h.1
    simp only [toFmt_elem, Fmt.outer, Fmt.startTag, Node.html, fmt_endTag, fmt_innerL ks h.2, hs, startTag]
theorem fmt_innerL : ∀ ks : List Node, TreeInvL ks → Fmt.innerL (toFmtL ks) = htmlL ks
  | [], _ => by simp [Fmt.innerL, htmlL]
  | k :: ks, h => by
    simp only [TreeInvL] at h
    simp [Fmt.innerL, htmlL, fmt_outer k h.1, fmt_innerL ks h.2]
end

end AHP.TM
