/-
  C03 — a COST model of the plain parser's handlers: cost ≤ |tokens| · (2·maxDepth + 1), and not linear in |tokens|.

  `invocations_linear` (Props/C03.lean) counts handler CALLS.  A call is not constant time:

  * `handle_endtag` first runs `for i in range(len(inTag)): if inTag[i].tagName == tagName: … break` — from the
    OUTERMOST open element — and then `while inTag[-1].tagName != tagName: inTag.pop()` from the innermost.
    Unit of `stepCost`: one per handler call, one per `tagName` comparison of either loop.
  * every other handler does a bounded amount of stack work (one `inTag[-1]`, at most one `append`): cost 1.
    (Building the element costs time proportional to the token's own attribute list, and `appendText` is
    `self.text += text`, which copies the element's accumulated text — CPython's in-place `+=` does not apply
    to an attribute target — so it costs accumulated + appended characters.  That part is `textCost` below.)

  Proved: `runCost ≤ |tokens| · (2·maxDepth + 1)` — linear for bounded nesting depth, quadratic in general,
  and `opens k ++ strays k` (k start tags, then k end tags of a name that is not open) costs exactly `k² + 2k`.
-/
import AHP.Lemmas.TotalBuilder
namespace AHP
open Spec

/-- comparisons made by a loop that walks a list of names up to and including the first `n` (or to the end) -/
def scanCost (n : Str) : List Str → Nat
  | [] => 0
  | m :: r => if m = n then 1 else 1 + scanCost n r

/-- `handle_endtag` over the open names (innermost first): the call, the `foundIt` scan from the outermost,
    and — when found — the closing loop from the innermost -/
def endCost (open_ : List Str) (n : Str) : Nat :=
  1 + scanCost n open_.reverse + (if open_.contains n then scanCost n open_ else 0)

def stepCost (s : TState) : Token → Nat
  | .end_ n => endCost (names s) n
  | _ => 1

/-- cost of a pass (a raising handler is still called) -/
def runCost (s : TState) : List Token → Nat
  | [] => 0
  | t :: ts => stepCost s t + (match stepT s t with
    | .ok s' => runCost s' ts
    | _ => 0)

def maxDepth (s : TState) : List Token → Nat
  | [] => s.stack.length
  | t :: ts => match stepT s t with
    | .ok s' => max s.stack.length (maxDepth s' ts)
    | _ => s.stack.length

theorem scanCost_le (n : Str) (l : List Str) : scanCost n l ≤ l.length := by
  induction l with
  | nil => simp [scanCost]
  | cons m r ih => simp only [scanCost, List.length_cons]; split <;> omega

theorem stepCost_le (s : TState) (t : Token) : stepCost s t ≤ 2 * s.stack.length + 1 := by
  cases t <;> simp only [stepCost] <;> try omega
  rename_i n
  unfold endCost
  have h1 := scanCost_le n (names s).reverse
  have h2 := scanCost_le n (names s)
  have hl : (names s).length = s.stack.length := by simp [names]
  simp only [List.length_reverse] at h1
  split <;> omega

theorem depth_le_maxDepth (s : TState) (ts : List Token) : s.stack.length ≤ maxDepth s ts := by
  cases ts with
  | nil => exact Nat.le_refl _
  | cons t ts =>
    simp only [maxDepth]
    split
    · exact Nat.le_max_left _ _
    · exact Nat.le_refl _

theorem runCost_le (ts : List Token) : ∀ s : TState, runCost s ts ≤ ts.length * (2 * maxDepth s ts + 1) := by
  induction ts with
  | nil => intro s; simp [runCost]
  | cons t ts ih =>
    intro s
    have h1 := stepCost_le s t
    have h2 := depth_le_maxDepth s (t :: ts)
    have h3 : stepCost s t ≤ 2 * maxDepth s (t :: ts) + 1 := by omega
    simp only [runCost, List.length_cons]
    rw [Nat.add_mul, Nat.one_mul]
    rcases stepT_ok_or_multipleRoot s t with ⟨s', hs⟩ | hs <;> simp only [hs]
    · have h4 : maxDepth s' ts ≤ maxDepth s (t :: ts) := by
        simp only [maxDepth, hs]; exact Nat.le_max_right _ _
      have h6 : ts.length * (2 * maxDepth s' ts + 1) ≤ ts.length * (2 * maxDepth s (t :: ts) + 1) :=
        Nat.mul_le_mul_left _ (by omega)
      have h5 := ih s'
      omega
    · omega

theorem stepT_depth (s s' : TState) (t : Token) (h : stepT s t = .ok s') :
    s'.stack.length ≤ s.stack.length + 1 := by
  rcases stepT_ok_cases h with rfl | ⟨x, _, rfl⟩ | ⟨n, a, _, rfl⟩ | ⟨n, a, _, _, rfl⟩ | ⟨n, _, rfl⟩
  · omega
  · rw [len_addNode]; omega
  · rw [len_addNode]; omega
  · simp
  · have hl : ∀ x : TState, (names x).length = x.stack.length := by intro x; simp [names]
    rcases names_handleEnd s n with ⟨_, he⟩ | ⟨pre, post, h1, _, h3⟩
    · rw [he]; omega
    · rw [← hl, ← hl, h3, h1]; simp; omega

theorem maxDepth_le (ts : List Token) : ∀ s : TState, maxDepth s ts ≤ s.stack.length + ts.length := by
  induction ts with
  | nil => intro s; simp [maxDepth]
  | cons t ts ih =>
    intro s
    simp only [maxDepth, List.length_cons]
    rcases stepT_ok_or_multipleRoot s t with ⟨s', hs⟩ | hs <;> simp only [hs]
    · have := ih s'
      have := stepT_depth s s' t hs
      exact Nat.max_le.mpr ⟨by omega, by omega⟩
    · omega

theorem runCost_append (l1 : List Token) : ∀ (l2 : List Token) (s s' : TState), runT s l1 = .ok s' →
    runCost s (l1 ++ l2) = runCost s l1 + runCost s' l2 := by
  induction l1 with
  | nil => intro l2 s s' h; simp [runT] at h; rw [h]; simp [runCost]
  | cons t l1 ih =>
    intro l2 s s' h
    simp only [runT] at h
    cases hs : stepT s t <;> rw [hs] at h <;> simp at h
    simp only [List.cons_append, runCost, hs]
    rw [ih l2 _ s' h]; omega

/-! ### the family that is not linear: `k` start tags, then `k` end tags of a name that is not open -/

def nameA : Str := "a".toList
def nameB : Str := "b".toList
def opens (k : Nat) : List Token := List.replicate k (.start nameA [])
def strays (k : Nat) : List Token := List.replicate k (.end_ nameB)
def deep (k : Nat) : TState := ⟨List.replicate k ⟨nameA, AttrState.empty, []⟩, none⟩

theorem stepT_deep_open (j : Nat) : stepT (deep j) (.start nameA []) = .ok (deep (j + 1)) := by
  have hv : AHP.isVoid nameA = false := by decide +kernel
  have hl : lower nameA = nameA := by decide +kernel
  cases j with
  | zero => simp [stepT, handleStart, deep, TState.hasRoot, hv, hl, intake]
  | succ j => simp [stepT, handleStart, deep, TState.hasRoot, hv, hl, intake, List.replicate_succ]

theorem names_deep (k : Nat) : names (deep k) = List.replicate k nameA := by
  simp [names, deep]

theorem names_deep_contains (k : Nat) : (names (deep k)).contains nameB = false := by
  rw [names_deep]
  induction k with
  | zero => rfl
  | succ k ih => rw [List.replicate_succ, List.contains_cons, ih]; decide +kernel

theorem stepT_deep_stray (k : Nat) : stepT (deep k) (.end_ nameB) = .ok (deep k) := by
  rw [show stepT (deep k) (.end_ nameB) = .ok (handleEnd (deep k) nameB) from rfl,
    handleEnd_stray (names_deep_contains k)]

theorem scanCost_replicate (k : Nat) : scanCost nameB (List.replicate k nameA) = k := by
  induction k with
  | zero => rfl
  | succ k ih =>
    rw [List.replicate_succ]
    have : ¬ nameA = nameB := by decide +kernel
    simp only [scanCost, this, if_false, ih]; omega

theorem stepCost_deep_stray (k : Nat) : stepCost (deep k) (.end_ nameB) = k + 1 := by
  have hc := names_deep_contains k
  rw [names_deep] at hc
  simp only [stepCost, endCost, names_deep, List.reverse_replicate, scanCost_replicate, hc]
  simp; omega

theorem run_opens (k : Nat) : ∀ j : Nat, runT (deep j) (opens k) = .ok (deep (j + k)) ∧ runCost (deep j) (opens k) = k := by
  induction k with
  | zero => intro j; exact ⟨rfl, rfl⟩
  | succ k ih =>
    intro j
    have h := ih (j + 1)
    have e : j + 1 + k = j + (k + 1) := by omega
    rw [e] at h
    simp only [opens, List.replicate_succ] at h ⊢
    simp only [runT, runCost, stepT_deep_open, stepCost]
    exact ⟨h.1, by rw [h.2]; omega⟩

theorem run_strays (j : Nat) : ∀ k : Nat, runT (deep k) (strays j) = .ok (deep k) ∧ runCost (deep k) (strays j) = j * (k + 1) := by
  induction j with
  | zero => intro k; exact ⟨rfl, by simp [strays, runCost]⟩
  | succ j ih =>
    intro k
    have h := ih k
    simp only [strays, List.replicate_succ] at h ⊢
    simp only [runT, runCost, stepT_deep_stray, stepCost_deep_stray]
    exact ⟨h.1, by rw [h.2, Nat.succ_mul]; omega⟩

theorem cost_opens_strays (k : Nat) : runCost TState.init (opens k ++ strays k) = k * k + 2 * k := by
  have h1 := run_opens k 0
  have h2 := run_strays k k
  have hi : deep 0 = TState.init := rfl
  rw [hi, Nat.zero_add] at h1
  rw [runCost_append _ _ _ _ h1.1, h1.2, h2.2, Nat.mul_succ]; omega

theorem opens_strays_length (k : Nat) : (opens k ++ strays k).length = 2 * k := by
  simp [opens, strays]; omega

/-! ### `self.text += text`: the concatenation copies the element's accumulated text -/

def nodeTextLen : Node → Nat
  | .text s => s.length
  | .elem .. => 0

/-- `len(tag.text)` of an open element -/
def Frame.textLen (f : Frame) : Nat := (f.rev.map nodeTextLen).sum

/-- length of the string a token's handler appends (0: no `appendText`) -/
def tokText : Token → Nat
  | .data d => d.length
  | .entity e => e.length + 2
  | .charref c => c.length + 3
  | .comment c => c.length + 7
  | _ => 0

/-- characters copied by `self.text += text` -/
def textCost (s : TState) (t : Token) : Nat :=
  match s.stack with
  | f :: _ => if tokText t = 0 then 0 else f.textLen + tokText t
  | [] => 0

def runTextCost (s : TState) : List Token → Nat
  | [] => 0
  | t :: ts => textCost s t + (match stepT s t with
    | .ok s' => runTextCost s' ts
    | _ => 0)

def totalText (ts : List Token) : Nat := (ts.map tokText).sum

def TextBound (b : Nat) (s : TState) : Prop := ∀ f ∈ s.stack, f.textLen ≤ b

theorem textBound_init : TextBound 0 TState.init := by intro f hf; simp [TState.init] at hf

theorem textBound_mono {b b' : Nat} {s : TState} (h : TextBound b s) (hb : b ≤ b') : TextBound b' s :=
  fun f hf => Nat.le_trans (h f hf) hb

theorem textBound_addElem {b : Nat} {s : TState} (h : TextBound b s) (n : Str) (a : AttrState) (sc : Bool) (ks : List Node) :
    TextBound b (addNode s (.elem n a sc ks)) := by
  intro f hf
  rcases mem_stack_addNode hf with ⟨g, hg, rfl⟩ | hf
  · simpa [Frame.textLen, nodeTextLen] using h g hg
  · exact h f hf

theorem textBound_addText {b : Nat} {s : TState} (h : TextBound b s) (t : Str) :
    TextBound (b + t.length) (addNode s (.text t)) := by
  intro f hf
  rcases mem_stack_addNode hf with ⟨g, hg, rfl⟩ | hf
  · have := h g hg
    simp only [Frame.textLen, List.map_cons, List.sum_cons, nodeTextLen] at this ⊢
    omega
  · exact Nat.le_trans (h f hf) (Nat.le_add_right _ _)

theorem textBound_pop1 {b : Nat} {s : TState} (h : TextBound b s) : TextBound b (pop1 s) := by
  unfold pop1
  cases hs : s.stack with
  | nil => exact h
  | cons g gs =>
    have : TextBound b { s with stack := gs } := fun f hf => h f (by rw [hs]; exact List.mem_cons_of_mem _ hf)
    exact textBound_addElem this _ _ _ _

theorem tokText_of_textOf {t : Token} {x : Str} (h : Spec.textOf t = some x) : tokText t = x.length := by
  cases t with
  | comment c => cases h; simp [tokText]
  | data d => simp only [Spec.textOf] at h; split at h <;> cases h; rfl
  | entity e => cases h; simp [tokText]
  | charref c => cases h; simp [tokText]
  | _ => cases h

theorem stepT_textBound {b : Nat} (s s' : TState) (t : Token) (hs : stepT s t = .ok s') (h : TextBound b s) :
    TextBound (b + tokText t) s' := by
  rcases stepT_ok_cases hs with rfl | ⟨x, hx, rfl⟩ | ⟨n, a, _, rfl⟩ | ⟨n, a, _, _, rfl⟩ | ⟨n, _, rfl⟩
  · exact textBound_mono h (Nat.le_add_right _ _)
  · rw [tokText_of_textOf hx]; exact textBound_addText h x
  · exact textBound_mono (textBound_addElem h _ _ _ _) (Nat.le_add_right _ _)
  · intro f hf
    rcases List.mem_cons.mp hf with rfl | hf
    · simp [Frame.textLen]
    · exact Nat.le_trans (h f hf) (Nat.le_add_right _ _)
  · exact textBound_mono (handleEnd_pops (fun _ _ h => textBound_pop1 h) s n h) (Nat.le_add_right _ _)

theorem textCost_le {b : Nat} (s : TState) (t : Token) (h : TextBound b s) : textCost s t ≤ b + tokText t := by
  unfold textCost
  cases hs : s.stack with
  | nil => simp
  | cons f fs =>
    simp only
    have := h f (by rw [hs]; exact List.mem_cons_self)
    split <;> omega

theorem runTextCost_le (ts : List Token) : ∀ (b : Nat) (s : TState), TextBound b s →
    runTextCost s ts ≤ ts.length * (b + totalText ts) := by
  induction ts with
  | nil => intro b s _; simp [runTextCost]
  | cons t ts ih =>
    intro b s h
    have h1 := textCost_le s t h
    simp only [runTextCost, List.length_cons, Nat.succ_mul, totalText, List.map_cons, List.sum_cons]
    have hT : totalText ts = (ts.map tokText).sum := rfl
    rcases stepT_ok_or_multipleRoot s t with ⟨s', hs⟩ | hs <;> simp only [hs]
    · have h2 := ih (b + tokText t) s' (stepT_textBound s s' t hs h)
      rw [hT] at h2
      have e : b + tokText t + (ts.map tokText).sum = b + (tokText t + (ts.map tokText).sum) := by omega
      rw [e] at h2
      omega
    · omega

/-! ### the family on which the concatenation is quadratic: `<a>` followed by `k` references `&amp;` -/

def ampRef : Token := .entity "amp".toList
def refs (k : Nat) : List Token := List.replicate k ampRef
def acc (j : Nat) : TState := ⟨[⟨nameA, AttrState.empty, List.replicate j (.text "&amp;".toList)⟩], none⟩

def tri : Nat → Nat
  | 0 => 0
  | k + 1 => tri k + (k + 1)

theorem sq_le_two_tri (k : Nat) : k * k ≤ 2 * tri k := by
  induction k with
  | zero => simp [tri]
  | succ k ih =>
    simp only [tri, Nat.mul_add, Nat.add_mul, Nat.mul_one, Nat.one_mul]
    omega

theorem stepT_acc (j : Nat) : stepT (acc j) ampRef = .ok (acc (j + 1)) := by
  simp [stepT, ampRef, addTextStrict, acc, addNode, List.replicate_succ]

theorem textLen_acc (j : Nat) : ∀ f ∈ (acc j).stack, f.textLen = 5 * j := by
  intro f hf
  simp only [acc, List.mem_singleton] at hf
  subst hf
  simp only [Frame.textLen]
  induction j with
  | zero => rfl
  | succ j ih =>
    rw [List.replicate_succ, List.map_cons, List.sum_cons, ih]
    have : nodeTextLen (.text "&amp;".toList) = 5 := by decide +kernel
    omega

theorem textCost_acc (j : Nat) : textCost (acc j) ampRef = 5 * j + 5 := by
  have h := textLen_acc j _ (by simp [acc] : (⟨nameA, AttrState.empty, List.replicate j (.text "&amp;".toList)⟩ : Frame) ∈ (acc j).stack)
  have ht : tokText ampRef = 5 := by decide +kernel
  simp only [textCost, acc, ht] at h ⊢
  simp only [h]; simp

theorem runTextCost_cons_ok (s s' : TState) (t : Token) (ts : List Token) (h : stepT s t = .ok s') :
    runTextCost s (t :: ts) = textCost s t + runTextCost s' ts := by
  simp only [runTextCost, h]

theorem textCost_refs (k : Nat) : ∀ j : Nat, runTextCost (acc j) (refs k) = 5 * (j * k) + 5 * tri k := by
  induction k with
  | zero => intro j; simp [refs, runTextCost, tri]
  | succ k ih =>
    intro j
    have h := ih (j + 1)
    have e : refs (k + 1) = ampRef :: refs k := by simp [refs, List.replicate_succ]
    rw [e, runTextCost_cons_ok _ _ _ _ (stepT_acc j), textCost_acc, h]
    show 5 * j + 5 + (5 * ((j + 1) * k) + 5 * tri k) = 5 * (j * (k + 1)) + 5 * (tri k + (k + 1))
    rw [Nat.add_mul, Nat.mul_add j k 1, Nat.one_mul, Nat.mul_one]
    omega

end AHP
