/-
  AHP.Lemmas.TreeModelsCreate — creation order = document order, proved on the builder model; `getHTML` of the two
  plain-parser models.

  `handle_starttag` / `handle_startendtag` create one element per start token, in token order.  Whatever the
  nesting, implicit closes and stray end tags, the elements of the finished tree in document order are exactly
  those elements in creation order (`run_els`, `finish_els`).  This is the fact C07 (the index is filled "as elements
  are created") and C14 (row index = uid) take for granted.  Every attribute store of a parsed document is
  a dict (`feedTokens_treeInv`), hence `parseStr` + `getHTML` of the two plain-parser models agree (`plain_html_agree`).
-/
import AHP.Lemmas.TreeModelsOrder
import AHP.Lemmas.TreeModelsBuild
namespace AHP.TM
open AHP AHP.AttrStores

/-- the element a callback creates: name as stored, attribute store after `__init__` -/
def created : Token → List (Str × AttrState)
  | .start n a => [(lower n, intake a AttrState.empty)]
  | .startend n a => [(lower n, intake a AttrState.empty)]
  | _ => []

mutual
/-- the elements of a tree of model (1) in document order, each as (name, attribute store) -/
def els : Node → List (Str × AttrState)
  | .text _ => []
  | .elem n a _ ks => (n, a) :: elsL ks
def elsL : List Node → List (Str × AttrState)
  | [] => []
  | k :: ks => els k ++ elsL ks
end

@[simp] theorem elsL_nil : elsL [] = [] := by simp [elsL]
@[simp] theorem elsL_cons (k : Node) (ks : List Node) : elsL (k :: ks) = els k ++ elsL ks := by simp [elsL]
@[simp] theorem els_text (s : Str) : els (.text s) = [] := by simp [els]
@[simp] theorem els_elem (n a sc ks) : els (.elem n a sc ks) = (n, a) :: elsL ks := by simp [els]

theorem elsL_append (a b : List Node) : elsL (a ++ b) = elsL a ++ elsL b := by
  induction a with
  | nil => simp
  | cons x xs ih => simp [ih]

/-- the elements of the open part of the tree: outermost open element first, each followed by its finished blocks -/
def stackEls : List Frame → List (Str × AttrState)
  | [] => []
  | f :: fs => stackEls fs ++ (f.name, f.attrs) :: elsL f.rev.reverse

/-- all elements created so far, in document order (with something open, `root` is not yet assigned) -/
def stateEls (t : TState) : List (Str × AttrState) :=
  match t.stack with
  | [] => (match t.root with | some r => els r | none => [])
  | f :: fs => stackEls (f :: fs)

theorem stateEls_addNode_open (t : TState) (c : Node) (h : t.stack ≠ []) :
    stateEls (addNode t c) = stateEls t ++ els c := by
  cases ht : t.stack with
  | nil => exact absurd ht h
  | cons f fs =>
    simp only [stateEls, addNode, ht, stackEls, List.reverse_cons, elsL_append, elsL_cons, elsL_nil, List.append_nil,
      List.append_assoc, List.cons_append]

theorem stateEls_addNode_top (t : TState) (c : Node) (h : t.stack = []) : stateEls (addNode t c) = els c := by
  simp [stateEls, addNode, h]

theorem stateEls_pop1 (t : TState) : stateEls (pop1 t) = stateEls t := by
  unfold pop1
  cases ht : t.stack with
  | nil => rfl
  | cons f fs =>
    cases fs with
    | nil =>
      rw [stateEls_addNode_top _ _ rfl]
      simp [stateEls, ht, stackEls, Frame.close]
    | cons g gs =>
      rw [stateEls_addNode_open _ _ (by simp)]
      simp [stateEls, ht, stackEls, Frame.close]

theorem stateEls_handleEnd (t : TState) (n : Str) : stateEls (handleEnd t n) = stateEls t :=
  handleEnd_pops (P := fun t' => stateEls t' = stateEls t) (fun t' _ h => (stateEls_pop1 t').trans h) t n rfl

theorem finish_els (t : TState) :
    (match (finish t).root with | some r => els r | none => []) = stateEls t := by
  obtain ⟨h1, h2⟩ := finish_pops (P := fun t' => stateEls t' = stateEls t)
    (fun t' _ h => (stateEls_pop1 t').trans h) t rfl
  rw [← h1]; simp [stateEls, h2]

theorem stateEls_handleStart {t t' : TState} {n : Str} {a : List Attr} {sc : Bool}
    (h : handleStart t n a sc = .ok t') : stateEls t' = stateEls t ++ [(lower n, intake a AttrState.empty)] := by
  unfold handleStart at h
  simp only at h
  split at h
  · rename_i hg
    cases ht : t.stack with
    | nil =>
      have hr : t.root = none := by
        cases hr : t.root with
        | none => rfl
        | some r => simp [TState.hasRoot, ht, hr] at hg
      split at h <;> cases h <;> simp [stateEls, stackEls, addNode, ht, hr]
    | cons f fs =>
      split at h <;> cases h <;> simp [stateEls, stackEls, addNode, ht, elsL_append]
  · cases h

theorem stateEls_stepT {t t' : TState} {tok : Token} (h : stepT t tok = .ok t') :
    stateEls t' = stateEls t ++ created tok := by
  have text : ∀ x : Str, addTextStrict t x = .ok t' → stateEls t' = stateEls t ++ [] := by
    intro x hx
    unfold addTextStrict at hx
    split at hx
    · cases hx
    · rename_i he
      injection hx with hx; subst hx
      rw [stateEls_addNode_open _ _ (by intro h0; simp [h0] at he)]; simp
  cases tok with
  | start n a => exact stateEls_handleStart h
  | startend n a => exact stateEls_handleStart h
  | end_ n =>
    simp only [stepT, Outcome.ok.injEq] at h
    subst h
    simp only [created, List.append_nil]
    exact stateEls_handleEnd t n
  | data d =>
    simp only [stepT] at h
    simp only [created, List.append_nil]
    split at h
    · injection h with h; subst h; rfl
    · split at h
      · rename_i he
        injection h with h; subst h
        rw [stateEls_addNode_open _ _ (by intro h0; simp [h0] at he)]; simp
      · split at h
        · injection h with h; subst h; rfl
        · cases h
  | entity e | charref e | comment e => exact text _ h
  | decl d | unknownDecl d | pi d => simp only [stepT, Outcome.ok.injEq] at h; subst h; simp [created]

theorem run_els : ∀ (ts : List Token) (b b' : BState), run b ts = .ok b' →
    stateEls b'.tree = stateEls b.tree ++ ts.flatMap created
  | [], b, b', h => by simp only [run, Outcome.ok.injEq] at h; subst h; simp
  | tok :: ts, b, b', h => by
    rw [run_unfold] at h
    rcases stepT_ok_or_multipleRoot b.tree tok with ⟨t1, ho⟩ | ho <;> rw [ho] at h
    · rw [run_els ts ⟨t1, stepD b.doctype tok⟩ b' h, stateEls_stepT ho]
      simp
    · cases h

def docEls (d : Doc) : List (Str × AttrState) := match d.root with | some r => els r | none => []

theorem doc_els (ts : List Token) (b : BState) (h : run BState.init ts = .ok b) : docEls b.doc = ts.flatMap created := by
  have := run_els ts BState.init b h
  unfold docEls BState.doc
  rw [finish_els, this]
  simp [stateEls, BState.init, TState.init]

mutual
theorem els_toTree : ∀ (h : HN) (p : Option Nat), els h.toTree = (h.subs p).map (fun e => e.2.key)
  | .text _, _ => by simp
  | .el i n a sc ks, p => by simp [HN.key, elsL_toTreeL ks (some i)]
theorem elsL_toTreeL : ∀ (ks : List HN) (p : Option Nat), elsL (toTreeL ks) = (subsL p ks).map (fun e => e.2.key)
  | [], _ => by simp
  | k :: ks, p => by simp [els_toTree k p, elsL_toTreeL ks p]
end

mutual
theorem treeInv_of_els : ∀ t : Node, (∀ x ∈ els t, Inv x.2) → TreeInv t
  | .text _, _ => by simp [TreeInv]
  | .elem n a sc ks, h => by
    simp only [els_elem, List.mem_cons, forall_eq_or_imp] at h
    simp only [TreeInv]
    exact ⟨h.1, treeInvL_of_elsL ks h.2⟩
theorem treeInvL_of_elsL : ∀ ks : List Node, (∀ x ∈ elsL ks, Inv x.2) → TreeInvL ks
  | [], _ => by simp [TreeInvL]
  | k :: ks, h => by
    simp only [elsL_cons, List.mem_append] at h
    simp only [TreeInvL]
    exact ⟨treeInv_of_els k (fun x hx => h x (Or.inl hx)), treeInvL_of_elsL ks (fun x hx => h x (Or.inr hx))⟩
end

theorem created_inv (tok : Token) : ∀ x ∈ created tok, Inv x.2 := by
  cases tok <;> simp [created] <;> exact inv_intake _ inv_empty

theorem run_treeInv (ts : List Token) (b : BState) (h : run BState.init ts = .ok b) :
    ∀ r, b.doc.root = some r → TreeInv r := by
  intro r hr
  apply treeInv_of_els
  have := doc_els ts b h
  simp only [docEls, hr] at this
  rw [this]
  intro x hx
  obtain ⟨tok, _, hx⟩ := List.mem_flatMap.mp hx
  exact created_inv tok x hx

theorem feedTokens_treeInv {toks : List Token} {d : Doc} {sp : Bool} (h : feedTokens toks = .doc d sp) :
    ∀ r, d.root = some r → TreeInv r := by
  obtain ⟨b, hb, rfl⟩ := feedTokens_doc h
  exact run_treeInv _ b hb

theorem doctypeLine_eq (dt : Option Str) :
    Fmt.doctypeLine dt = (match dt with
      | some d => if d.isEmpty then [] else '<' :: '!' :: d ++ ['>', '\n']
      | none => []) := by
  cases dt with
  | none => rfl
  | some d => simp only [Fmt.doctypeLine]; split <;> simp [str]

theorem docHTML_erase (dt : Option Str) (n : Option Fmt.Node) : Fmt.docHTML dt (n.map eraseN) = Fmt.docHTML dt n := by
  rcases n with _ | ⟨v, s⟩ | ⟨k, nm, st, sc, ind, ks⟩
  · rfl
  · rfl
  · have ho := outer_erase (.elem k nm st sc ind ks)
    rw [eraseN_elem] at ho
    simp only [Option.map_some, eraseN_elem, Fmt.docHTML, innerL_erase, ho]

theorem docHTML_toFmt (dt : Option Str) (r : Node) (h : TreeInv r) :
    Fmt.docHTML dt (some (toFmt r)) = .ok (AHP.docHTML dt r) := by
  have hw : Fmt.wrapper = wrapperName := rfl
  cases r with
  | text s => simp only [toFmt_text, Fmt.docHTML, AHP.docHTML, doctypeLine_eq]; rfl
  | elem n a sc ks =>
    have hin := fmt_innerL ks (by simp only [TreeInv] at h; exact h.2)
    have hout := fmt_outer _ h
    rw [toFmt_elem] at hout
    simp only [toFmt_elem, Fmt.docHTML, AHP.docHTML, doctypeLine_eq, Node.innerHTML, hin, hout, hw]
    split <;> rfl

theorem plain_html_agree (toks : List Token) (hd : LeadDeclOK toks) :
    Fmt.Plain.html (toks.map tokF) =
      (match feedTokens toks with
       | .doc d _ => (match d.html with | some s => .ok s | none => .error .noRoot)
       | .raised _ => .error .multipleRoot) := by
  unfold Fmt.Plain.html
  rcases feed_sim toks hd with ⟨b, sp, s, hf, hp, hs⟩ | ⟨hf, hp⟩ <;> rw [hf, hp]
  simp only [Doc.html]
  rw [hs.doctype, ← docHTML_erase, sim_root hs, show (finish b.tree).root = b.doc.root from rfl]
  cases hr : b.doc.root with
  | none => rfl
  | some r => exact docHTML_toFmt _ r (feedTokens_treeInv hf r hr)

/-- reads an `Except` result off its `toOption` (equality of `Except` values is not decidable by instance) -/
theorem eq_ok_of_toOption {ε α} {x : Except ε α} {a : α} (h : x.toOption = some a) : x = .ok a := by
  cases x with
  | ok b => exact congrArg Except.ok (Option.some.inj h)
  | error e => cases h

end AHP.TM
