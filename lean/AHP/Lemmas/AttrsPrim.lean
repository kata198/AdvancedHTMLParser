/-
  AHP.Lemmas.AttrsPrim — every writer of the attribute store as a composition of primitive updates (replace the class
  list; replace the style map and run `_ensureHtmlAttribute`; write / delete one ordinary key of the dict;
  `_handleClassAttr`): the shape of `__setitem__`, `__delitem__`, `setAttribute`, and, for an arbitrary predicate on
  states, induction over the control structure of the composite operations (the `_ind` lemmas).  Also the
  readers' effect on the state, what `getAttributesList()` shows for a slot (`slotView`), and the branch of `getStartTag`'s
  loop on a value that is not `None`.
-/
import AHP.Lemmas.AttrsStyle
namespace AHP.Attrs
open AHP

theorem classK_ne_styleK : classK ≠ styleK := by decide
theorem styleK_ne_classK : styleK ≠ classK := by decide
theorem validName_classK : validName classK = true := by decide
theorem validName_styleK : validName styleK = true := by decide
theorem lower_classK : lower classK = classK := by decide
theorem lower_styleK : lower styleK = styleK := by decide

/-- the value `__setitem__` stores under an ordinary key -/
def normVal (T : Tables) (k : Str) (v : Option Str) : Option Str :=
  if T.binStr.contains k then some (boolString v) else v

theorem normVal_of_not_binStr (T : Tables) {k : Str} (h : T.binStr.contains k = false) (v : Option Str) :
    normVal T k v = v := by
  unfold normVal; rw [h]; rfl

theorem normVal_idem (T : Tables) (k : Str) (v : Option Str) : normVal T k (normVal T k v) = normVal T k v := by
  unfold normVal
  split
  · rw [boolString_idem]
  · rfl

theorem ensureStyle_cls (e : El) : (ensureStyle e).cls = e.cls := by
  unfold ensureStyle; split <;> rfl

theorem ensureStyle_sty (e : El) : (ensureStyle e).sty = e.sty := by
  unfold ensureStyle; split <;> rfl

theorem assignStyle_eq (v : Option Str) (e : El) : assignStyle v e = ensureStyle { e with sty := styleToDict (v.getD []) } := rfl

theorem assignStyleFrom_eq (s : Str) (e : El) :
    assignStyleFrom (styleToDict s) e = ensureStyle { e with sty := styleToDict s } := by
  unfold assignStyleFrom assignStyle
  simp only [Option.getD_some]
  rw [styleToDict_render_idem]

theorem mapSet_invalid (T : Tables) {k : Str} (h : validName k = false) (v : Option Str) (e : El) :
    mapSet T k v e = (.keyError, e) := by
  unfold mapSet
  simp only [validName_lower, h]
  rfl

theorem mapSet_ordinary (T : Tables) {k : Str} (hv : validName k = true) (hc : lower k ≠ classK) (hs : lower k ≠ styleK)
    (v : Option Str) (e : El) :
    mapSet T k v e = (.ok, { e with dict := aset (lower k) (Slot.val (normVal T (lower k) v)) e.dict }) := by
  unfold mapSet normVal
  simp only [validName_lower, hv, hc, hs, Bool.not_true, Bool.false_eq_true, if_false]

theorem mapSet_class (T : Tables) {k : Str} (hk : lower k = classK) (v : Option Str) (e : El) :
    mapSet T k v e = (.ok, { e with cls := words (v.getD []) }) := by
  unfold mapSet
  simp only [hk]
  have h1 : (!validName classK) = false := by decide
  simp only [h1, Bool.false_eq_true, if_false, classK_ne_styleK, if_true]
  rfl

theorem mapSet_style (T : Tables) {k : Str} (hk : lower k = styleK) (v : Option Str) (e : El) :
    mapSet T k v e = (.ok, ensureStyle { e with sty := styleToDict (v.getD []) }) := by
  unfold mapSet
  simp only [hk]
  have h1 : (!validName styleK) = false := by decide
  simp only [h1, Bool.false_eq_true, if_false, if_true]
  rw [assignStyleFrom_eq]

theorem mapSet_cases (T : Tables) (k : Str) (v : Option Str) (e : El) :
    mapSet T k v e = (.keyError, e) ∨
    (lower k = styleK ∧ mapSet T k v e = (.ok, ensureStyle { e with sty := styleToDict (v.getD []) })) ∨
    (lower k = classK ∧ mapSet T k v e = (.ok, { e with cls := words (v.getD []) })) ∨
    (validName (lower k) = true ∧ lower k ≠ classK ∧ lower k ≠ styleK ∧
      mapSet T k v e = (.ok, { e with dict := aset (lower k) (Slot.val (normVal T (lower k) v)) e.dict })) := by
  by_cases hv : validName k = true
  · by_cases hs : lower k = styleK
    · exact Or.inr (Or.inl ⟨hs, mapSet_style T hs v e⟩)
    · by_cases hc : lower k = classK
      · exact Or.inr (Or.inr (Or.inl ⟨hc, mapSet_class T hc v e⟩))
      · exact Or.inr (Or.inr (Or.inr ⟨by rw [validName_lower]; exact hv, hc, hs, mapSet_ordinary T hv hc hs v e⟩))
  · exact Or.inl (mapSet_invalid T (by simpa using hv) v e)

theorem mapDel_ordinary {k : Str} (hc : lower k ≠ classK) (hs : lower k ≠ styleK) (e : El) :
    mapDel k e = { e with dict := adel (lower k) e.dict } := by
  unfold mapDel
  simp only [hc, hs, if_false]

theorem mapDel_class {k : Str} (hk : lower k = classK) (e : El) : mapDel k e = { e with cls := [] } := by
  unfold mapDel
  simp only [hk, classK_ne_styleK, if_false, if_true]
  unfold setClassName
  simp only [Option.getD_some]
  rw [words_nil]

theorem mapDel_style {k : Str} (hk : lower k = styleK) (e : El) : mapDel k e = ensureStyle { e with sty := [] } := by
  unfold mapDel
  simp only [hk, if_true]
  unfold assignStyle
  simp only [Option.getD_some]
  rw [styleToDict_nil]

theorem mapDel_cases (k : Str) (e : El) :
    (lower k = styleK ∧ mapDel k e = ensureStyle { e with sty := [] }) ∨
    (lower k = classK ∧ mapDel k e = { e with cls := [] }) ∨
    (lower k ≠ classK ∧ lower k ≠ styleK ∧ mapDel k e = { e with dict := adel (lower k) e.dict }) := by
  by_cases hs : lower k = styleK
  · exact Or.inl ⟨hs, mapDel_style hs e⟩
  · by_cases hc : lower k = classK
    · exact Or.inr (Or.inl ⟨hc, mapDel_class hc e⟩)
    · exact Or.inr (Or.inr ⟨hc, hs, mapDel_ordinary hc hs e⟩)

theorem setAttribute_invalid (T : Tables) {k : Str} (h : validName k = false) (v : Option Str) (e : El) :
    setAttribute T k v e = (.keyError, e) := by
  unfold setAttribute
  simp [h]

theorem setAttribute_eq_mapSet (T : Tables) {k : Str} (hv : validName k = true) (v : Option Str) (e : El) :
    setAttribute T k v e = mapSet T k v e := by
  unfold setAttribute
  simp [hv]

theorem setAttribute_valid (T : Tables) {k : Str} (h : validName k = true) (v : Option Str) (e : El) :
    (setAttribute T k v e).1 = .ok := by
  rw [setAttribute_eq_mapSet T h]
  by_cases hs : lower k = styleK
  · rw [mapSet_style T hs]
  · by_cases hc : lower k = classK
    · rw [mapSet_class T hc]
    · rw [mapSet_ordinary T h hc hs]

theorem setAttributes_cons_valid (T : Tables) {n : Str} (hn : validName n = true) (v : Option Str)
    (r : List (Str × Option Str)) (e : El) :
    setAttributes T ((n, v) :: r) e = setAttributes T r (setAttribute T n v e).2 := by
  have ho := setAttribute_valid T hn v e
  simp only [setAttributes]
  rcases hs : setAttribute T n v e with ⟨o, e'⟩
  rw [hs] at ho
  simp only at ho
  subst ho
  rfl

theorem assignStyle_sty (v : Option Str) (e : El) : (assignStyle v e).sty = styleToDict (v.getD []) := by
  unfold assignStyle; rw [ensureStyle_sty]

theorem assignStyleFrom_sty (m : AL Str) (e : El) : (assignStyleFrom m e).sty = styleToDict (asStr m) := by
  unfold assignStyleFrom; rw [assignStyle_sty]; rfl

theorem styleDotSet_sty (n : Str) (v : Option Str) (e : El) :
    (styleDotSet n v e).sty = delOrSet (camelToDash n) (emptyVal v) (v.getD []) e.sty := by
  unfold styleDotSet; simp only; rw [ensureStyle_sty]; rfl

theorem setProperty_sty (n : Str) (v : Option Str) (e : El) :
    (setProperty n v e).sty = delOrSet n (emptyVal v) (v.getD []) e.sty := by
  unfold setProperty; rw [ensureStyle_sty]; rfl

theorem setClassName_sty (v : Option Str) (e : El) : (setClassName v e).sty = e.sty := rfl

theorem handleClassAttr_cls (e : El) : (handleClassAttr e).cls = e.cls := rfl

/-- what a slot shows in `getAttributesList()` -/
def slotView (sty : AL Str) : Slot → Option Str
  | .val v => v
  | .cls s => some s
  | .sty => some (asStr sty)

theorem slotVal_tostrOpt (e : El) (s : Slot) : (slotVal e s).tostrOpt = slotView e.sty s := by
  cases s with
  | val v => cases v <;> rfl
  | cls s => rfl
  | sty => rfl

theorem attrsList_eq_slotView (e : El) :
    (attrsList e).1 = (handleClassAttr e).dict.map (fun p => (p.1, slotView e.sty p.2)) := by
  show ((handleClassAttr e).dict.map _).map _ = _
  rw [List.map_map]
  exact List.map_congr_left fun p _ => congrArg (Prod.mk p.1) (slotVal_tostrOpt (handleClassAttr e) p.2)

theorem renderItem_of_ne_none (T : Tables) (k : Str) {v : PyVal} (hn : v ≠ .none) :
    renderItem T (k, v) =
      (let s := if v.falsy then [] else (v.tostrOpt).getD []
       if !s.isEmpty || !T.binary.contains k then RItem.quoted k (escQ s) else .bare k) := by
  cases v with
  | none => exact absurd rfl hn
  | str _ => rfl
  | bool _ => rfl
  | style _ => rfl

/-- a reader either leaves the state alone or runs `_handleClassAttr` -/
theorem mapGet_snd (T : Tables) (k : Str) (d : PyVal) (e : El) :
    (mapGet T k d e).2 = e ∨ (mapGet T k d e).2 = handleClassAttr e := by
  unfold mapGet
  simp only
  split
  · exact Or.inl rfl
  · split
    · exact Or.inl rfl
    · right
      split <;> rfl

theorem getAttribute_snd (T : Tables) (k : Str) (d : PyVal) (e : El) :
    (getAttribute T k d e).2 = e ∨ (getAttribute T k d e).2 = handleClassAttr e := by
  unfold getAttribute
  split
  · split
    · exact Or.inl rfl
    · exact Or.inl rfl
  · exact mapGet_snd T k d e

theorem mapSet_ind {P : El → Prop} (T : Tables) (k : Str) (v : Option Str) {e : El} (h : P e)
    (hsty : lower k = styleK → P (ensureStyle { e with sty := styleToDict (v.getD []) }))
    (hcls : lower k = classK → P { e with cls := words (v.getD []) })
    (hval : validName (lower k) = true → lower k ≠ classK → lower k ≠ styleK →
      P { e with dict := aset (lower k) (Slot.val (normVal T (lower k) v)) e.dict }) : P (mapSet T k v e).2 := by
  rcases mapSet_cases T k v e with h' | ⟨hk, h'⟩ | ⟨hk, h'⟩ | ⟨hv, hc, hs, h'⟩ <;> rw [h']
  · exact h
  · exact hsty hk
  · exact hcls hk
  · exact hval hv hc hs

theorem mapDel_ind {P : El → Prop} (k : Str) {e : El} (hsty : lower k = styleK → P (ensureStyle { e with sty := [] }))
    (hcls : lower k = classK → P { e with cls := [] })
    (hdel : lower k ≠ classK → lower k ≠ styleK → P { e with dict := adel (lower k) e.dict }) : P (mapDel k e) := by
  rcases mapDel_cases k e with ⟨hk, h'⟩ | ⟨hk, h'⟩ | ⟨hc, hs, h'⟩ <;> rw [h']
  · exact hsty hk
  · exact hcls hk
  · exact hdel hc hs

theorem setAttribute_ind {P : El → Prop} (T : Tables) (k : Str) (v : Option Str) {e : El} (h : P e)
    (hm : P (mapSet T k v e).2) : P (setAttribute T k v e).2 := by
  unfold setAttribute
  split
  · exact h
  · exact hm

theorem setAttributes_ind {P : El → Prop} (T : Tables) : ∀ (l : List (Str × Option Str)) {e : El}, P e →
    (∀ p ∈ l, ∀ e, P e → P (mapSet T p.1 p.2 e).2) → P (setAttributes T l e).2
  | [], _, h, _ => h
  | (n, v) :: r, e, h, hl => by
    unfold setAttributes
    have h1 := setAttribute_ind T n v h (hl (n, v) (by simp) e h)
    split
    · next e' heq =>
      rw [heq] at h1
      exact setAttributes_ind T r h1 (fun p hp => hl p (List.mem_cons_of_mem _ hp))
    · next o e' _ heq => rw [heq] at h1; exact h1

theorem setStyles_ind {P : El → Prop} (l : List (Str × Option Str)) {e : El} (h : P e)
    (hl : ∀ p ∈ l, ∀ e, P e → P (styleDotSet p.1 p.2 e)) : P (setStyles l e) := by
  unfold setStyles
  induction l generalizing e with
  | nil => exact h
  | cons p l ih =>
    exact ih (hl p (by simp) e h) (fun q hq => hl q (List.mem_cons_of_mem _ hq))

/-- `tag.<name> = value` is `className = …`, nothing, one `setAttribute` on the linked attribute (with one of three
    operands; for a boolean-string name followed by a read that may synchronise), or `removeAttribute` -/
theorem dotSet_ind {P : El → Prop} (T : Tables) (n : Str) (v : DotVal) {e : El} (h : P e)
    (hcls : n = classNameK → ∀ w, (w = none ∨ w = some v.tostr) → P (setClassName w e))
    (hset : ∀ L w, n ≠ classNameK → aget n T.links = some L → (w = v.boolString ∨ w = [] ∨ w = v.tostr) →
      P (mapSet T L.attr (some w) e).2)
    (hdel : ∀ L, n ≠ classNameK → aget n T.links = some L → P (mapDel (lower L.attr) e))
    (hsync : ∀ e', P e' → P (handleClassAttr e')) : P (dotSet T n v e).2 := by
  unfold dotSet
  split
  · next hn => cases v <;> exact hcls hn _ (by simp)
  · next hn =>
    split
    · exact h
    · next L hL =>
      have hs : ∀ w, (w = v.boolString ∨ w = [] ∨ w = v.tostr) → P (setAttribute T L.attr (some w) e).2 :=
        fun w hw => setAttribute_ind T _ _ h (hset L w hn hL hw)
      split
      · exact h
      · split
        · have h1 := hs _ (Or.inl rfl)
          split
          · next e' heq =>
            rw [heq] at h1
            dsimp only
            rcases getAttribute_snd T L.attr PyVal.none e' with hg | hg <;> rw [hg]
            · exact h1
            · exact hsync _ h1
          · next r hne => exact h1
        · split
          · split
            · exact hs _ (Or.inr (Or.inl rfl))
            · exact hdel L hn hL
          · exact hs _ (Or.inr (Or.inr rfl))

theorem run_ind {P : El → Prop} (T : Tables) (ops : List Op) {e : El} (h : P e)
    (hs : ∀ op ∈ ops, ∀ e, P e → P (step T e op).2) : P (run T e ops) := by
  unfold run
  induction ops generalizing e with
  | nil => exact h
  | cons op ops ih => exact ih (hs op (by simp) e h) (fun o ho => hs o (List.mem_cons_of_mem _ ho))

theorem run_snoc (T : Tables) (e : El) (ops : List Op) (op : Op) : run T e (ops ++ [op]) = (step T (run T e ops) op).2 := by
  unfold run
  rw [List.foldl_append]
  rfl

theorem mk_ind {P : El → Prop} (T : Tables) (tag : Str) (sc : Bool) (attrs : List (Str × Option Str))
    (h0 : P (El.empty tag sc)) (hs : ∀ p ∈ attrs, ∀ e, P e → P (mapSet T (lower p.1) p.2 e).2) :
    P (mk T tag sc attrs) := by
  unfold mk
  generalize El.empty tag sc = e at h0
  induction attrs generalizing e with
  | nil => exact h0
  | cons p l ih =>
    refine ih (fun q hq => hs q (List.mem_cons_of_mem _ hq)) _ ?_
    unfold initStep
    simp only
    split
    · exact hs p (by simp) e h0
    · exact h0

end AHP.Attrs
