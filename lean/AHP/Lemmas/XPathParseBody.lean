/-
  C14f, predicate level.  The tokenizer loop (`loop` / `item` of AHP.Model.XPathParse, taken at sufficient fuel: `Loop` / `Item`)
  against texts: `Reads nm t es` says that the loop reads the text `t` as the elements `es`, whatever follows, together with
  what a surrounding text needs to know of the shape of `t`.  It is closed under everything the grammar of predicates does
  (atoms, groups, calls with comma-separated arguments, binary operators; any white space, any spelling of the words), so one
  induction over the surface syntax puts the rendered text in (`reads`).  `ChainOK` / `chainOKs` at the end are the loop statement with
  the rounds counted against the fuel (`cost`, `RestOK`), stated for its own sake: nothing rests on it.
-/
import AHP.Lemmas.XPathParseFuel
import AHP.Lemmas.XPathParseText
namespace AHP.XPath

variable {N : Type}

/-! ### The loop without its fuel

  `loop` and `item` recurse on a fuel argument; with fuel beyond twice the length of the text the answer no longer
  depends on it (`loop_fuel`).  `Loop` / `Item` are the two at that fuel, and the equations below are all the round trip
  uses of them. -/

def Loop (nm : Num N) (mode : Mode) (s : Str) (cur done : List (BE N)) : Option (List (BE N) × List (BE N) × Str) :=
  loop nm (2 * s.length + 1) mode s cur done

def Item (nm : Num N) (s : Str) : Option (BE N × Str) := item nm (2 * s.length) s

theorem loop_eq_Loop (nm : Num N) {f : Nat} {s : Str} (hf : 2 * s.length + 1 ≤ f) (mode : Mode) (cur done : List (BE N)) :
    loop nm f mode s cur done = Loop nm mode s cur done := by
  obtain ⟨k, rfl⟩ := Nat.exists_eq_add_of_le hf
  exact loop_fuel nm s _ (Nat.le_refl _) mode cur done k

theorem Loop_item (nm : Num N) (mode : Mode) {s : Str} (cur done : List (BE N)) {e : BE N} {rest : Str}
    (hs : s ≠ []) (hc : groupClose s = none) (ha : nextArg s = none) (hi : Item nm s = some (e, rest)) :
    Loop nm mode s cur done = Loop nm mode rest (cur ++ [e]) done := by
  have he : s.isEmpty = false := by simpa using hs
  have hlen := item_length nm _ s e rest hi
  rw [Loop, loop]
  simp only [he, hc, ha, show item nm (2 * s.length) s = some (e, rest) from hi, Bool.false_eq_true, if_false, ite_self]
  exact loop_eq_Loop nm (by omega) mode _ done

theorem Loop_close (nm : Num N) {mode : Mode} {s : Str} (cur done : List (BE N)) {rest : Str}
    (hs : s ≠ []) (hm : mode ≠ .top) (hc : groupClose s = some rest) :
    Loop nm mode s cur done = some (cur, done, rest) := by
  have he : s.isEmpty = false := by simpa using hs
  simp [Loop, loop, he, hc, hm]

theorem Loop_comma (nm : Num N) {s : Str} (cur done : List (BE N)) {rest : Str}
    (hs : s ≠ []) (hc : groupClose s = none) (ha : nextArg s = some rest) (hcur : cur ≠ []) :
    Loop nm .args s cur done = Loop nm .args rest [] (done ++ [.group cur]) := by
  have he : s.isEmpty = false := by simpa using hs
  have hce : cur.isEmpty = false := by simpa using hcur
  have hlen := nextArg_length ha
  rw [Loop, loop]
  simp only [he, hc, ha, hce, Bool.false_eq_true, if_false, if_true, reduceCtorEq]
  exact loop_eq_Loop nm (by omega) .args _ _

theorem Item_plain (nm : Num N) {c : Char} {r : Str} (h : plainHead c = true) : Item nm (c :: r) = restTok nm (c :: r) :=
  item_plain nm (2 * r.length + 1) h

theorem Item_gen (nm : Num N) {c : Char} {r : Str} {x : BE N × Str} (h1 : isSpTab c = false) (h2 : c ≠ '(')
    (hg : genTok (c :: r) = some x) : Item nm (c :: r) = some x :=
  item_gen nm (2 * r.length + 1) h1 h2 hg

/-- the inner loop of a group or call, which `item` runs with what is left of its own fuel -/
theorem inner_Loop (nm : Num N) (mode : Mode) {body : Str} {r : Str} (h : body.length ≤ r.length) :
    loop nm (2 * r.length + 1) mode (strip body) ([] : List (BE N)) [] = Loop nm mode (strip body) [] [] :=
  loop_eq_Loop nm (by have := strip_length_le body; omega) mode [] []

theorem Loop_paren (nm : Num N) {mode : Mode} (hm : mode ≠ .top) {w : Str} (hw : w.all isSpTab = true) (rest : Str)
    (cur done : List (BE N)) : Loop nm mode (skipSp (w ++ ')' :: rest)) cur done = some (cur, done, skipSp rest) := by
  rw [skipSp_ws_cons hw (by decide)]
  exact Loop_close nm _ _ (by simp) hm (groupClose_paren rest)

theorem Item_group (nm : Num N) {w : Str} {c : Char} {t : Str} {cur done : List (BE N)} {rest : Str}
    (hg : Good ('(' :: (w ++ c :: t))) (hw : w.all isSpTab = true) (hc : isWs c = false)
    (hl : Loop nm .group (c :: t) [] [] = some (cur, done, rest)) :
    Item nm ('(' :: (w ++ c :: t)) = some (.group cur, rest) := by
  have : groupOpen ('(' :: (w ++ c :: t)) = some (w ++ c :: t) := by
    simp [groupOpen, skipSp, isSpTab, List.dropWhile, dotPlusEnd_plain (r := w ++ c :: t) (by simp) hg.tail.nonl]
  rw [show Item nm ('(' :: (w ++ c :: t)) = item nm (2 * (w ++ c :: t).length + 1 + 1) ('(' :: (w ++ c :: t)) from rfl, item_succ, this]
  dsimp only
  rw [inner_Loop nm .group (Nat.le_refl (w ++ c :: t).length), hg.tail.strip hw hc, hl]

/-! ### Function calls as one round -/

theorem fnItem_hit (nm : Num N) (f : Nat) {t w body : Str} {mk : List (BE N) → Option (BE N)} :
    ∀ (pre post : List (Str × (List (BE N) → Option (BE N)))), (∀ q ∈ pre, fnOpenTok q.1 t = none) →
      fnOpenTok w t = some body →
      fnItem nm f t (pre ++ (w, mk) :: post) =
        match loop nm f .args (strip body) [] [] with
        | some (cur, done, rest) => (mk (finishArgs cur done)).map (·, rest)
        | none => none
  | [], post, _, ho => by simp only [List.nil_append, fnItem, ho]; rfl
  | (w', mk') :: pre, post, hp, ho => by
    rw [List.cons_append, fnItem_skip nm f mk' _ (hp (w', mk') List.mem_cons_self)]
    exact fnItem_hit nm f pre post (fun q hq => hp q (List.mem_cons_of_mem _ hq)) ho

/-- One of the function calls of `item`: its word does not start with the first letter of `wText`, `wLast` or `wPosition`
    (`head`: the argument-less generators `genTok` tries first fail on it), and no word tried before it matches one of its
    spellings (`split`). -/
structure FnCall (w : Str) (mk : List (BE N) → Option (BE N)) : Prop where
  word : wordOk w = true
  head : ∀ x t, w = x :: t → x ≠ 't' ∧ x ≠ 'l' ∧ x ≠ 'p'
  split : ∃ pre post, callFns = pre ++ (w, mk) :: post ∧
    ∀ (v rest : Str), v.map lowerChar = w → ∀ q ∈ pre, wordCI q.1 (v ++ rest) = none

theorem fnCall_concat : FnCall wConcat (mkConcat (N := N)) :=
  ⟨words_ok _ (by simp), fun _ _ h => by cases h; decide, [], _, rfl, fun _ _ _ _ hq => by cases hq⟩

theorem fnCall_contains : FnCall wContains (mkContains (N := N)) :=
  ⟨words_ok _ (by simp), fun _ _ h => by cases h; decide, [(wConcat, mkConcat)], _, rfl,
    fun v rest hv q hq => by
      obtain rfl := List.mem_singleton.1 hq
      exact wordCI_spelled_ne wConcat wContains v rest hv (by decide) (by decide)⟩

theorem fnCall_nspace : FnCall wNspace (mkNspace (N := N)) :=
  ⟨words_ok _ (by simp), fun _ _ h => by cases h; decide, [(wConcat, mkConcat), (wContains, mkContains)], _, rfl,
    fun v rest hv q hq => by
      rcases List.mem_cons.1 hq with rfl | hq
      · exact wordCI_spelled_ne wConcat wNspace v rest hv (by decide) (by decide)
      · obtain rfl := List.mem_singleton.1 hq
        exact wordCI_spelled_ne wContains wNspace v rest hv (by decide) (by decide)⟩

theorem Item_call (nm : Num N) {w : Str} {mk : List (BE N) → Option (BE N)} (hc : FnCall w mk)
    {v w1 w2 : Str} {c : Char} {t : Str} {cur done : List (BE N)} {rest : Str}
    (hv : v.map lowerChar = w) (h1 : w1.all isSpTab = true) (h2 : w2.all isSpTab = true) (hg : Good (w2 ++ c :: t))
    (hcw : isWs c = false) (hl : Loop nm .args (c :: t) [] [] = some (cur, done, rest)) :
    Item nm (v ++ (w1 ++ ('(' :: (w2 ++ c :: t)))) = (mk (finishArgs cur done)).map (·, rest) := by
  obtain ⟨pre, post, hfns, hpre⟩ := hc.split
  have hopen := fnOpenTok_spelled w v w1 (w2 ++ c :: t) hv h1 (by simp) hg.nonl
  have hpre' := fun q hq => fnOpenTok_none (hpre v (w1 ++ ('(' :: (w2 ++ c :: t))) hv q hq)
  obtain ⟨_, d, r, rfl, hd⟩ := wordOk_spelled hc.word hv
  obtain ⟨hs, hp, ha, _⟩ := letter_facts hd
  have hsp := (startOk_facts hs).2.1
  obtain ⟨n1, n2, n3⟩ := hc.head _ _ (by rw [← hv]; rfl)
  have hgen : genTok (N := N) (d :: (r ++ (w1 ++ ('(' :: (w2 ++ c :: t))))) = none := by
    simp [genTok, attrTok_head ha, fn0Tok_head n1, fn0Tok_head n2, fn0Tok_head n3]
  rw [List.cons_append] at hopen hpre' ⊢
  rw [show Item nm (d :: (r ++ (w1 ++ '(' :: (w2 ++ c :: t)))) = item nm (2 * (r ++ (w1 ++ '(' :: (w2 ++ c :: t))).length + 1 + 1) _ from rfl,
    item_succ, groupOpen_head hsp hp, skipSp_cons_of_not hsp, hgen, hfns, fnItem_hit nm _ pre post hpre' hopen,
    inner_Loop nm .args (by simp only [List.length_append, List.length_cons]; omega), hg.strip h2 hcw, hl]

/-! ### Texts the loop reads -/

/-- The loop, in any of its three modes, on `t` followed by an admissible `rest`: the elements `es` are appended and the loop
    stands at `rest`.  With it, what a text around `t` needs to know of `t`: it gets through the whole-text scanners, starts
    with a character that neither closes a level nor is white space, ends tight, and is no shorter than its elements are many
    (a round of the loop per element: `ChainOK`). -/
structure Reads (nm : Num N) (t : Str) (es : List (BE N)) : Prop where
  safe : Safe t
  head : ∃ c r, t = c :: r ∧ startOk c = true
  tight : EndsTight t
  ne : es ≠ []
  len : es.length ≤ t.length
  run : ∀ (mode : Mode) (rest : Str) (cur done : List (BE N)), Good (t ++ rest) → okFollow rest = true →
    Loop nm mode (t ++ rest) cur done = Loop nm mode (skipSp rest) (cur ++ es) done

theorem Reads.good {nm : Num N} {t : Str} {es : List (BE N)} (h : Reads nm t es) : Good t := ⟨h.safe.nonl, h.tight⟩

theorem Reads.atom {nm : Num N} {t : Str} {e : BE N} (hs : Safe t) (hh : ∃ c r, t = c :: r ∧ startOk c = true)
    (ht : EndsTight t)
    (hi : ∀ rest, Good (t ++ rest) → okFollow rest = true → Item nm (t ++ rest) = some (e, skipSp rest)) :
    Reads nm t [e] := by
  obtain ⟨c, r, rfl, hc⟩ := hh
  obtain ⟨_, h2, h3, h4, _⟩ := startOk_facts hc
  exact ⟨hs, ⟨c, r, rfl, hc⟩, ht, by simp, by simp, fun mode rest cur done hg hr =>
    Loop_item nm mode cur done (by simp) (groupClose_head h2 h3) (nextArg_head h2 h4) (hi rest hg hr)⟩

theorem Reads.solid {nm : Num N} {t : Str} {e : BE N} (hs : ∀ c ∈ t, solidC c = true)
    (hh : ∃ c r, t = c :: r ∧ startOk c = true)
    (hi : ∀ rest, Good (t ++ rest) → okFollow rest = true → Item nm (t ++ rest) = some (e, skipSp rest)) :
    Reads nm t [e] :=
  .atom (.solid hs) hh (by obtain ⟨c, r, rfl, _⟩ := hh; exact endsTight_solid hs (by simp) []) hi

theorem reads_num (nm : Num N) (l : NumLit) (x : N) (hw : l.wf = true) (hp : nm.parse l.text = some x) :
    Reads nm l.text [.val (.num x)] := by
  obtain ⟨c, r, ht, hc⟩ := numLit_head l hw
  obtain ⟨h2, _, _, h5⟩ := numChars_head c hc
  refine .solid (fun c hc => numChars_solid c (numLit_mem l c hc))
    ⟨c, r, ht, startOk_of_plainHead h2 (solidC_facts (numChars_solid c hc)).2 h5⟩ fun rest _ hr => ?_
  have hres := restTok_num nm l x rest hw hp (numStop_of_follow hr)
  rw [ht] at hres ⊢
  rw [List.cons_append, Item_plain nm h2]
  exact hres

theorem reads_str (nm : Num N) (b : Bool) (s : Str) (h : strOk s = true) :
    Reads nm (quoteWith b s :: (s ++ [quoteWith b s])) [.val (.str s)] := by
  obtain ⟨h1, h2, h3⟩ := strOk_facts b h
  have hq := quoteWith_facts b s
  refine .atom ⟨.quoted _ s [] (quoteWith_cases _ s) h1 h3 .nil, ?_⟩ ⟨_, _, rfl, hq.2.2⟩ (endsTight_snoc (_ :: s) hq.2.1)
    fun rest _ _ => ?_
  · simp only [List.mem_cons, List.mem_append, not_or]
    exact ⟨fun e => hq.1 e.symm, by simpa using h2, fun e => hq.1 e.symm, by simp⟩
  · simp only [List.cons_append, List.append_assoc, List.nil_append]
    rw [Item_plain nm (plainHead_quoteWith _ s)]
    exact restTok_str nm _ s rest h

theorem reads_attr (nm : Num N) (n : Str) (h : attrNameOk n = true) : Reads nm ('@' :: n) [.attr n] :=
  .solid (attrName_solid h) ⟨'@', n, rfl, by decide⟩ fun rest _ hr =>
    Item_gen nm (by decide) (by decide) (genTok_attr n rest h hr)

theorem Reads.word {nm : Num N} {w v w1 w2 inner w3 : Str} {e : BE N} (hw : wordOk w = true) (hv : v.map lowerChar = w)
    (h1 : w1.all isSpTab = true) (h2 : w2.all isSpTab = true) (h3 : w3.all isSpTab = true) (hin : Safe inner)
    (hi : ∀ rest, Good (v ++ (w1 ++ ('(' :: (w2 ++ (inner ++ (w3 ++ [')']))))) ++ rest) → okFollow rest = true →
      Item nm (v ++ (w1 ++ ('(' :: (w2 ++ (inner ++ (w3 ++ [')']))))) ++ rest) = some (e, skipSp rest)) :
    Reads nm (v ++ (w1 ++ ('(' :: (w2 ++ (inner ++ (w3 ++ [')'])))))) [e] := by
  obtain ⟨hs, c, r, hcr, hca⟩ := wordOk_spelled hw hv
  refine .atom ?_ ⟨c, _, by rw [hcr]; rfl, (letter_facts hca).1⟩ ?_ hi
  · exact (Safe.solid hs).append ((Safe.ws h1).append (.cons (by decide)
      ((Safe.ws h2).append (hin.append ((Safe.ws h3).append (.cons (by decide) .nil))))))
  · rw [← List.append_assoc, ← List.append_assoc, ← List.cons_append, ← List.append_assoc, ← List.append_assoc]
    exact endsTight_snoc _ (by decide)

theorem reads_fn0 (nm : Num N) {w : Str} {e : BE N} (hw : (w, e) ∈ [(wText, BE.text), (wLast, BE.last), (wPosition, BE.position)])
    {v w1 w2 : Str} (hv : v.map lowerChar = w) (h1 : w1.all isSpTab = true) (h2 : w2.all isSpTab = true) :
    Reads nm (v ++ (w1 ++ ('(' :: (w2 ++ [')'])))) [e] := by
  have hok : wordOk w = true := by
    have := hw
    simp only [List.mem_cons, Prod.mk.injEq, List.not_mem_nil, or_false] at this
    rcases this with ⟨rfl, _⟩ | ⟨rfl, _⟩ | ⟨rfl, _⟩ <;> exact words_ok _ (by simp)
  refine Reads.word (inner := []) (w3 := []) hok hv h1 h2 rfl .nil fun rest _ _ => ?_
  obtain ⟨_, c, r, rfl, hc⟩ := wordOk_spelled hok hv
  obtain ⟨hs, hp, _, _⟩ := letter_facts hc
  have hg := genTok_fn0 hw _ w1 w2 rest hv h1 h2
  simp only [List.append_assoc, List.cons_append, List.nil_append] at hg ⊢
  exact Item_gen nm (startOk_facts hs).2.1 hp hg

theorem reads_nspace0 (nm : Num N) {v w1 w2 : Str} (hv : v.map lowerChar = wNspace) (h1 : w1.all isSpTab = true)
    (h2 : w2.all isSpTab = true) : Reads nm (v ++ (w1 ++ ('(' :: (w2 ++ [')'])))) [(.nspace0 : BE N)] := by
  refine Reads.word (inner := []) (w3 := []) (words_ok wNspace (by simp)) hv h1 h2 rfl .nil fun rest hg _ => ?_
  have ht : (v ++ (w1 ++ ('(' :: (w2 ++ ([] ++ ([] ++ [')'])))))) ++ rest = v ++ (w1 ++ ('(' :: (w2 ++ ')' :: rest))) := by simp
  rw [ht] at hg ⊢
  exact Item_call nm fnCall_nspace hv h1 h2 hg.drop.drop.tail (by decide)
    (Loop_close nm [] [] (by simp) (by decide) (groupClose_paren rest))

theorem Reads.group {nm : Num N} {t : Str} {es : List (BE N)} (h : Reads nm t es) {w1 w2 : Str}
    (h1 : w1.all isSpTab = true) (h2 : w2.all isSpTab = true) :
    Reads nm ('(' :: (w1 ++ (t ++ (w2 ++ [')'])))) [.group es] := by
  refine .atom (.cons (by decide) ((Safe.ws h1).append (h.safe.append ((Safe.ws h2).append (.cons (by decide) .nil)))))
    ⟨'(', _, rfl, by decide⟩ ?_ fun rest hg _ => ?_
  · rw [← List.append_assoc, ← List.append_assoc, ← List.cons_append]
    exact endsTight_snoc _ (by decide)
  · obtain ⟨c, r, rfl, hcs⟩ := h.head
    have ht : ('(' :: (w1 ++ ((c :: r) ++ (w2 ++ [')'])))) ++ rest = '(' :: (w1 ++ (c :: (r ++ (w2 ++ ')' :: rest)))) := by simp
    rw [ht] at hg ⊢
    have hl := h.run .group _ [] [] hg.tail.drop (okFollow_ws_cons h2 rest (.inr (by decide)))
    rw [Loop_paren nm (by decide) h2] at hl
    exact Item_group nm hg h1 (startOk_facts hcs).1 hl

/-- the text of the arguments of a call, with their commas, and the groups they are read as -/
inductive Args (nm : Num N) : Str → List (BE N) → Prop
  | one {t : Str} {es : List (BE N)} : Reads nm t es → Args nm t [.group es]
  | cons {t w1 w2 ts : Str} {es gs : List (BE N)} : Reads nm t es → w1.all isSpTab = true → w2.all isSpTab = true →
      Args nm ts gs → Args nm (t ++ (w1 ++ (',' :: (w2 ++ ts)))) (.group es :: gs)

theorem Args.safe {nm : Num N} {t : Str} {gs : List (BE N)} (h : Args nm t gs) : Safe t := by
  induction h with
  | one h => exact h.safe
  | cons h h1 h2 _ ih => exact h.safe.append ((Safe.ws h1).append (.cons (by decide) ((Safe.ws h2).append ih)))

theorem Args.head {nm : Num N} {t : Str} {gs : List (BE N)} (h : Args nm t gs) : ∃ c r, t = c :: r ∧ startOk c = true := by
  cases h with
  | one h => exact h.head
  | cons h _ _ _ => obtain ⟨c, r, rfl, hc⟩ := h.head; exact ⟨c, _, rfl, hc⟩

/-- from the first character of an argument to just after the `)` -/
theorem Args.run {nm : Num N} {t : Str} {gs : List (BE N)} (h : Args nm t gs) :
    ∀ (w3 rest : Str) (done : List (BE N)), w3.all isSpTab = true → Good (t ++ (w3 ++ ')' :: rest)) →
      ∃ cur' done', Loop nm .args (t ++ (w3 ++ ')' :: rest)) [] done = some (cur', done', skipSp rest)
        ∧ finishArgs cur' done' = done ++ gs := by
  induction h with
  | @one t es h =>
    intro w3 rest done hw3 hg
    rw [h.run .args _ [] done hg (okFollow_ws_cons hw3 rest (.inr (by decide))), Loop_paren nm (by decide) hw3, List.nil_append]
    refine ⟨_, _, rfl, ?_⟩
    have : es.isEmpty = false := by simpa using h.ne
    simp [finishArgs, this]
  | @cons t w1 w2 ts es gs h h1 h2 ha ih =>
    intro w3 rest done hw3 hg
    obtain ⟨c, r, hcr, hcs⟩ := ha.head
    simp only [List.append_assoc, List.cons_append] at hg ⊢
    have hsk : skipSp (w2 ++ (ts ++ (w3 ++ ')' :: rest))) = ts ++ (w3 ++ ')' :: rest) := by
      rw [hcr]; exact skipSp_ws_cons h2 (startOk_facts hcs).2.1 _
    rw [h.run .args _ [] done hg (okFollow_ws_cons h1 _ (.inr (by decide))), skipSp_ws_cons h1 (by decide), List.nil_append,
      Loop_comma nm _ _ (by simp) (groupClose_head (by decide) (by decide)) (nextArg_comma _) h.ne, hsk]
    obtain ⟨cur', done', e1, e2⟩ := ih w3 rest (done ++ [.group es]) hw3 hg.drop.drop.tail.drop
    exact ⟨cur', done', e1, by rw [e2]; simp⟩

theorem Reads.call {nm : Num N} {w : Str} {mk : List (BE N) → Option (BE N)} (hc : FnCall w mk) {v w1 w2 w3 ts : Str}
    {gs : List (BE N)} {e : BE N} (hv : v.map lowerChar = w) (h1 : w1.all isSpTab = true) (h2 : w2.all isSpTab = true)
    (h3 : w3.all isSpTab = true) (ha : Args nm ts gs) (hmk : mk gs = some e) :
    Reads nm (v ++ (w1 ++ ('(' :: (w2 ++ (ts ++ (w3 ++ [')'])))))) [e] := by
  refine Reads.word hc.word hv h1 h2 h3 ha.safe fun rest hg _ => ?_
  obtain ⟨c, r, hcr, hcs⟩ := ha.head
  have ht : (v ++ (w1 ++ ('(' :: (w2 ++ (ts ++ (w3 ++ [')'])))))) ++ rest
      = v ++ (w1 ++ ('(' :: (w2 ++ (ts ++ (w3 ++ ')' :: rest))))) := by simp
  rw [ht] at hg ⊢
  have hg1 := hg.drop.drop.tail
  obtain ⟨cur', done', e1, e2⟩ := ha.run w3 rest [] h3 hg1.drop
  rw [hcr, List.cons_append] at hg1 e1 ⊢
  rw [Item_call nm hc hv h1 h2 hg1 (startOk_facts hcs).1 e1, show finishArgs cur' done' = gs by simpa using e2, hmk]
  rfl

theorem needL_head {o : Op} (h : needL o = false) : ∃ c t, opText o = c :: t ∧ c ∈ followChars ∧ isWordOp o = false := by
  rcases o with (_ | _ | _ | _ | _ | _) | (_ | _ | _ | _ | _ | _) | (_ | _) <;> simp [needL] at h <;>
    exact ⟨_, _, rfl, by decide, rfl⟩

theorem Reads.bin {nm : Num N} {tl tr : Str} {el er : List (BE N)} (hl : Reads nm tl el) (hr : Reads nm tr er) (o : Op)
    {v wL wR : Str} (hv : OpSpelled o v) (hL : wL.all isSpTab = true) (hR : wR.all isSpTab = true)
    (hnL : needL o = true → wL ≠ []) (hnR : needR o = true → wR ≠ []) :
    Reads nm (tl ++ (wL ++ (v ++ (wR ++ tr)))) (el ++ .op o :: er) := by
  have hsol := hv.solid
  obtain ⟨oc, ot, rfl, hop⟩ := plainHead_spelled_op o _ hv
  obtain ⟨hsp, _, hp3, hp4, _⟩ := plainHead_facts hop
  obtain ⟨c, t, rfl, hcs⟩ := hl.head
  obtain ⟨c2, t2, hc2, hcs2⟩ := hr.head
  refine ⟨hl.safe.append ((Safe.ws hL).append ((Safe.solid hsol).append ((Safe.ws hR).append hr.safe))),
    ⟨c, _, rfl, hcs⟩, ?_, by simp, ?_, fun mode rest cur done hg hrest => ?_⟩
  · rw [hc2, ← List.append_assoc, ← List.append_assoc, ← List.append_assoc, endsTight_append_cons, ← hc2]
    exact hr.tight
  · have h1 := hl.len
    have h2 := hr.len
    simp only [List.length_append, List.length_cons] at h1 ⊢
    omega
  · have htext : ((c :: t) ++ (wL ++ ((oc :: ot) ++ (wR ++ tr)))) ++ rest
        = (c :: t) ++ (wL ++ (oc :: (ot ++ (wR ++ (tr ++ rest))))) := by simp
    rw [htext] at hg ⊢
    have hf1 : okFollow (wL ++ (oc :: (ot ++ (wR ++ (tr ++ rest))))) = true := by
      apply okFollow_ws_cons hL
      cases hn : needL o with
      | true => exact .inl (hnL hn)
      | false =>
        obtain ⟨c', t', hct, hcf, hw⟩ := needL_head hn
        right
        have : oc :: ot = opText o := by simpa [OpSpelled, hw] using hv
        rw [hct] at this
        rw [(List.cons.inj this).1]; exact hcf
    rw [hl.run mode _ cur done hg hf1, skipSp_ws_cons hL hsp]
    have hstop : opStop o (wR ++ (tr ++ rest)) := by
      cases hw : wR with
      | nil =>
        have hn : needR o = false := by
          cases hn : needR o with
          | false => rfl
          | true => exact absurd hw (hnR hn)
        simp only [List.nil_append, hc2, List.cons_append, opStop]
        exact ⟨(startOk_facts hcs2).2.2.2.2, by simp [hn]⟩
      | cons d t' =>
        have hd : d = ' ' ∨ d = '\t' := ws_mem hR (by rw [hw]; simp)
        simp only [List.cons_append, opStop]
        rcases hd with rfl | rfl <;> exact ⟨by decide, fun _ => by decide⟩
    have hsk : skipSp (tr ++ rest) = tr ++ rest := by rw [hc2]; exact skipSp_cons_of_not (startOk_facts hcs2).2.1
    have hitem : Item nm (oc :: (ot ++ (wR ++ (tr ++ rest)))) = some (.op o, tr ++ rest) := by
      rw [Item_plain nm hop, ← List.cons_append, restTok_op nm o _ _ hv hstop, skipSp_append_ws hR, hsk]
    rw [Loop_item nm mode _ done (by simp) (groupClose_head hsp hp3) (nextArg_head hsp hp4) hitem,
      hr.run mode rest _ done hg.drop.drop.tail.drop.drop hrest]
    simp [List.append_assoc]

/-! ### The surface syntax and its abstract form -/

theorem wfs_mem (nm : Num N) : ∀ (ps : List (S N)), S.wfs nm ps → ∀ p ∈ ps, S.wf nm p
  | [], _, p, hp => by cases hp
  | q :: qs, h, p, hp => by
    have hh : S.wf nm q ∧ S.wfs nm qs := h
    rcases List.mem_cons.1 hp with rfl | hp'
    · exact hh.1
    · exact wfs_mem nm qs hh.2 p hp'

theorem toPs_eq_map : ∀ (ps : List (S N)), S.toPs ps = ps.map S.toP
  | [] => rfl
  | p :: ps => by simp [S.toPs, toPs_eq_map ps]

theorem toPs_length (ps : List (S N)) : (S.toPs ps).length = ps.length := by
  rw [toPs_eq_map, List.length_map]

theorem flattenArgs_length (ps : List (P N)) : (flattenArgs ps).length = ps.length := by
  induction ps with
  | nil => rfl
  | cons p ps ih => simp [flattenArgs, ih]

mutual
theorem toP_noNull : ∀ (p : S N), P.noNull p.toP = true
  | .num _ _ => rfl
  | .str _ => rfl
  | .attr _ => rfl
  | .text => rfl
  | .last => rfl
  | .position => rfl
  | .nspace0 => rfl
  | .concat args => by simp only [S.toP, P.noNull]; exact toPs_noNull args
  | .contains a b => by simp [S.toP, P.noNull, toP_noNull a, toP_noNull b]
  | .nspace1 a => by simp [S.toP, P.noNull, toP_noNull a]
  | .group p => by simp [S.toP, P.noNull, toP_noNull p]
  | .bin _ l r => by simp [S.toP, P.noNull, toP_noNull l, toP_noNull r]
theorem toPs_noNull : ∀ (ps : List (S N)), P.noNullList (S.toPs ps) = true
  | [] => rfl
  | p :: ps => by simp [S.toPs, P.noNullList, toP_noNull p, toPs_noNull ps]
end

theorem mem_toSStep_preds {ss : List (SurfStep N)} {s' : SStep N} {p' : P N} (hs : s' ∈ ss.map SurfStep.toSStep)
    (hp : p' ∈ s'.preds) : ∃ s ∈ ss, ∃ p ∈ s.preds, p' = p.toP := by
  obtain ⟨s, hsm, rfl⟩ := List.mem_map.1 hs
  simp only [SurfStep.toSStep, toPs_eq_map] at hp
  obtain ⟨p, hpm, rfl⟩ := List.mem_map.1 hp
  exact ⟨s, hsm, p, hpm, rfl⟩

/-! ### The text of a well-formed predicate, in any layout -/

mutual
theorem reads (nm : Num N) (st : Style) : ∀ (π : List Nat) (p : S N), S.wf nm p → Reads nm (renderS st π p) (flatten p.toP)
  | _, .num l x, h => reads_num nm l x h.1 h.2
  | π, .str s, h => reads_str nm (st.single π) s h
  | _, .attr n, h => reads_attr nm n h
  | π, .text, _ => reads_fn0 nm (by simp) (spell_word st π (by simp)) (sp_all st _ _) (sp_all st _ _)
  | π, .last, _ => reads_fn0 nm (by simp) (spell_word st π (by simp)) (sp_all st _ _) (sp_all st _ _)
  | π, .position, _ => reads_fn0 nm (by simp) (spell_word st π (by simp)) (sp_all st _ _) (sp_all st _ _)
  | π, .nspace0, _ => reads_nspace0 nm (spell_word st π (by simp)) (sp_all st _ _) (sp_all st _ _)
  | π, .group p, h => (reads nm st (0 :: π) p h).group (sp_all st _ _) (sp_all st _ _)
  | π, .bin o l r, h =>
    (reads nm st (0 :: π) l h.1).bin (reads nm st (1 :: π) r h.2) o (spellOp_spelled st π o) (sepOf_all (sp_all st _ _))
      (sepOf_all (sp_all st _ _)) (fun hn => by rw [hn]; exact sepOf_ne_nil) (fun hn => by rw [hn]; exact sepOf_ne_nil)
  | π, .nspace1 a, h =>
    .call fnCall_nspace (spell_word st π (by simp)) (sp_all st _ _) (sp_all st _ _) (sp_all st _ _)
      (.one (reads nm st (0 :: π) a h)) rfl
  | π, .contains a b, h =>
    .call fnCall_contains (spell_word st π (by simp)) (sp_all st _ _) (sp_all st _ _) (sp_all st _ _)
      (.cons (reads nm st (0 :: π) a h.1) (sp_all st _ _) (sp_all st _ _) (.one (reads nm st (1 :: π) b h.2))) rfl
  | π, .concat args, h => by
    have hargs : 2 ≤ args.length ∧ S.wfs nm args := h
    refine .call fnCall_concat (spell_word st π (by simp)) (sp_all st _ _) (sp_all st _ _) (sp_all st _ _)
      (readsArgs nm st π args 0 (by intro e; rw [e] at hargs; simp at hargs) hargs.2) ?_
    have hlen : ¬ (flattenArgs (S.toPs args)).length < 2 := by rw [flattenArgs_length, toPs_length]; omega
    simp [mkConcat, hlen]
theorem readsArgs (nm : Num N) (st : Style) (π : List Nat) : ∀ (ps : List (S N)) (k : Nat), ps ≠ [] → S.wfs nm ps →
    Args nm (renderArgs st π k ps) (flattenArgs (S.toPs ps))
  | [], _, h, _ => absurd rfl h
  | [p], k, _, h => by simpa [renderArgs, S.toPs, flattenArgs] using Args.one (reads nm st (k :: π) p h.1)
  | p :: q :: qs, k, _, h =>
    .cons (reads nm st (k :: π) p h.1) (sp_all st _ _) (sp_all st _ _) (readsArgs nm st π (q :: qs) (k + 1) (by simp) h.2)
end

theorem renderArgs_safe (nm : Num N) (st : Style) (π : List Nat) (k : Nat) (ps : List (S N)) (h : S.wfs nm ps) :
    Safe (renderArgs st π k ps) := by
  cases ps with
  | nil => exact .nil
  | cons p ps => exact (readsArgs nm st π (p :: ps) k (by simp) h).safe

/-- `parseBodyStringIntoBodyElements` (before constant folding) on the text of a well-formed predicate, in any
    layout: its in-order flat list. -/
theorem parseBody_render (nm : Num N) (st : Style) (π : List Nat) (p : S N) (hw : S.wf nm p) :
    parseBody nm (renderS st π p) = some (flatten p.toP) := by
  have hok := reads nm st π p hw
  obtain ⟨c, r, hcr, hcs⟩ := hok.head
  have hst : strip (renderS st π p) = renderS st π p := by
    have := hok.good
    rw [hcr] at this ⊢
    exact this.strip (w := []) rfl (startOk_facts hcs).1
  have := hok.run .top [] [] [] (by simpa using hok.good) rfl
  simp only [List.append_nil, List.nil_append, skipSp_nil] at this
  rw [parseBody, hst, loop_eq_Loop nm (Nat.le_succ _), this]
  rfl

/-! ### The same with the fuel counted -/

/-- rounds of the tokenizer loop a predicate takes: one per top-level element -/
def cost : S N → Nat
  | .bin _ l r => cost l + cost r + 1
  | _ => 1

/-- The loop, in any of its three modes, on the text of `p` followed by `rest`: after `cost p` rounds the
    elements of `p` have been appended and the loop stands at `rest`. -/
def ChainOK (nm : Num N) (st : Style) (π : List Nat) (p : S N) : Prop :=
  ∀ (f : Nat) (mode : Mode) (rest : Str) (cur done : List (BE N)),
    RestOK rest → 2 * (renderS st π p ++ rest).length < f + cost p →
    loop nm (f + cost p) mode (renderS st π p ++ rest) cur done
      = loop nm f mode (skipSp rest) (cur ++ flatten p.toP) done

theorem cost_eq : ∀ p : S N, cost p = (flatten p.toP).length
  | .bin o l r => by
    rw [cost, S.toP, flatten, List.length_append, List.length_cons, cost_eq l, cost_eq r, Nat.add_assoc]
  | .num _ _ | .str _ | .attr _ | .text | .last | .position | .concat _ | .contains _ _ | .nspace0 | .nspace1 _ | .group _ => rfl

/-- `Reads.run` at the fuel the hypothesis of `ChainOK` grants: `cost p ≤ |text of p|`, so what is left covers `rest` -/
theorem chainOK (nm : Num N) (st : Style) (π : List Nat) (p : S N) (hw : S.wf nm p) : ChainOK nm st π p := by
  intro f mode rest cur done hr hf
  have hok := reads nm st π p hw
  have hc := hok.len
  rw [← cost_eq] at hc
  obtain ⟨c, r, hcr, _⟩ := hok.head
  have h1 : (renderS st π p).length ≠ 0 := by rw [hcr]; simp
  have hsk := skipSp_length_le rest
  rw [loop_eq_Loop nm hf, loop_eq_Loop nm (by rw [List.length_append] at hf; omega)]
  refine hok.run mode rest cur done ⟨?_, ?_⟩ hr.follow
  · simp only [List.mem_append, not_or]
    exact ⟨hok.safe.nonl, hr.nonl⟩
  · cases rest with
    | nil => simpa using hok.tight
    | cons d r => exact (endsTight_append_cons _ d r).2 hr.last

theorem chainOKs (nm : Num N) (st : Style) (π : List Nat) : ∀ (ps : List (S N)) (k : Nat), S.wfs nm ps →
    ∀ (j : Nat) (p : S N), ps[j]? = some p → ChainOK nm st ((k + j) :: π) p :=
  fun ps _ h _ p hp => chainOK nm st _ p (wfs_mem nm ps h p (List.mem_of_getElem? hp))

end AHP.XPath
