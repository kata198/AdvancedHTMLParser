/-
  The recursive-descent specification (`Spec/Build`) on its own, then the refinement between it and the open-element stack
  machine (core of C02a, `Props/C02.lean`; `items_fuel` also serves the fragment lemmas of C20), then the top level of a parse:
  the pass from the initial state is `Spec.single`, and `items_append_stop` for the wrapped second pass.
-/
import AHP.Lemmas.Builder
namespace AHP
open Spec

/-! ### the specification: its equations by kind of token, and the rest it leaves -/

theorem items_text {t : Token} (h1 : ∀ n, t = .end_ n → False) (h2 : ∀ n a, t = .start n a → False)
    (h3 : ∀ n a, t = .startend n a → False) (k : Nat) (open_ : List Str) (ts : List Token) :
    items (k + 1) open_ (t :: ts) = match textOf t with
      | some x => (.text x :: (items k open_ ts).1, (items k open_ ts).2)
      | none => items k open_ ts := by
  cases t with
  | end_ n => exact absurd rfl (h1 n)
  | start n a => exact absurd rfl (h2 n a)
  | startend n a => exact absurd rfl (h3 n a)
  | _ => rfl

theorem items_start_open {n : Str} (hv : ¬ Spec.isVoid (lower n) = true) (k : Nat) (open_ : List Str)
    (a : List Attr) (ts : List Token) :
    items (k + 1) open_ (.start n a :: ts) =
      (.elem (lower n) (intake a AttrState.empty) false (items k (lower n :: open_) ts).1 ::
        (items k open_ (afterContent (lower n) (items k (lower n :: open_) ts).2)).1,
       (items k open_ (afterContent (lower n) (items k (lower n :: open_) ts).2)).2) := by
  simp [items, hv]

theorem single_other {t : Token} (h2 : ∀ n a, t = .start n a → False) (h3 : ∀ n a, t = .startend n a → False)
    (k : Nat) (ts : List Token) : single (k + 1) (t :: ts) = if isOuter t then single k ts else none := by
  cases t with
  | start n a => exact absurd rfl (h2 n a)
  | startend n a => exact absurd rfl (h3 n a)
  | _ => rfl

theorem afterContent_suffix (n : Str) (c : List Token) : ∃ pre, c = pre ++ afterContent n c := by
  unfold afterContent
  split
  · split
    · exact ⟨[_], rfl⟩
    · exact ⟨[], rfl⟩
  · exact ⟨[], rfl⟩

theorem afterContent_len (n : Str) (c2 : List Token) : (afterContent n c2).length ≤ c2.length := by
  obtain ⟨pre, h⟩ := afterContent_suffix n c2
  rw [congrArg List.length h, List.length_append]; exact Nat.le_add_left _ _

theorem afterContent_append (n w : Str) (hne : w ≠ n) (c : List Token) :
    afterContent n (c ++ [.end_ w]) = afterContent n c ++ [.end_ w] := by
  cases c with
  | nil => simp [afterContent, hne]
  | cons t c =>
    cases t <;> simp only [afterContent, List.cons_append]
    split <;> rfl

theorem afterContent_forall {P : Token → Prop} {n : Str} {c : List Token} (h : ∀ t ∈ c, P t) :
    ∀ t ∈ afterContent n c, P t := by
  obtain ⟨pre, e⟩ := afterContent_suffix n c
  exact fun t ht => h t (by rw [e]; exact List.mem_append_right _ ht)

/-! The cases of `fun_induction items` (here and wherever it is used) are the equations of `Spec.items` in order: 1 no fuel,
    2 end of input, 3 end tag of an open name (stop), 4 stray end tag, 5 void start tag, 6 non-void start tag (content, then
    siblings), 7 self-closed start tag, 8 any other token with a text block, 9 any other token without one. -/

theorem items_rest (k : Nat) : ∀ (open_ : List Str) (ts : List Token), ts.length < k →
    ((items k open_ ts).2 = [] ∨ ∃ m r2, (items k open_ ts).2 = .end_ m :: r2 ∧ m ∈ open_) ∧
    (items k open_ ts).2.length ≤ ts.length := by
  intro open_ ts hk
  fun_induction items k open_ ts <;> try replace hk := Nat.lt_of_succ_lt_succ hk
  case case1 => cases hk
  case case2 => exact ⟨Or.inl rfl, Nat.le_refl _⟩
  case case3 n ts h => exact ⟨Or.inr ⟨n, ts, rfl, by simpa using h⟩, Nat.le_refl _⟩
  case case6 n _ c _ ihc ihs =>
    have hc : (afterContent n c.2).length ≤ _ := Nat.le_trans (afterContent_len n c.2) (ihc hk).2
    have hs := ihs (Nat.lt_of_le_of_lt hc hk)
    exact ⟨hs.1, Nat.le_succ_of_le (Nat.le_trans hs.2 hc)⟩
  all_goals
    rename_i ih
    exact ⟨(ih hk).1, Nat.le_succ_of_le (ih hk).2⟩

theorem afterContent_items_len (k : Nat) (open_ : List Str) (n : Str) (ts : List Token) (hk : ts.length < k) :
    (afterContent n (items k open_ ts).2).length ≤ ts.length :=
  Nat.le_trans (afterContent_len _ _) (items_rest k open_ ts hk).2

theorem items_suffix (k : Nat) : ∀ (open_ : List Str) (ts : List Token), ts.length < k →
    ∃ pre, ts = pre ++ (items k open_ ts).2 := by
  intro open_ ts hk
  fun_induction items k open_ ts <;> try replace hk := Nat.lt_of_succ_lt_succ hk
  case case1 => cases hk
  case case2 => exact ⟨[], rfl⟩
  case case3 => exact ⟨[], rfl⟩
  case case6 n a ts n' hv c sib ihc ihs =>
    obtain ⟨pre1, hp1⟩ := ihc hk
    obtain ⟨pre2, hp2⟩ := ihs (Nat.lt_of_le_of_lt (afterContent_items_len _ _ _ _ hk) hk)
    obtain ⟨pre3, hp3⟩ := afterContent_suffix n' c.2
    refine ⟨.start n a :: pre1 ++ pre3 ++ pre2, ?_⟩
    simp only [List.cons_append, List.append_assoc]
    rw [← hp2, ← hp3, ← hp1]
  all_goals
    rename_i ih
    obtain ⟨pre, hp⟩ := ih hk
    exact ⟨_ :: pre, by rw [List.cons_append, ← hp]⟩

theorem items_rest_forall (P : Token → Prop) (k : Nat) : ∀ (open_ : List Str) (ts : List Token),
    ts.length < k → (∀ t ∈ ts, P t) → ∀ t ∈ (items k open_ ts).2, P t := by
  intro open_ ts hk hP t ht
  obtain ⟨pre, e⟩ := items_suffix k open_ ts hk
  exact hP t (by rw [e]; exact List.mem_append_right _ ht)

/-- an element whose content has been read up to what stopped it (`rest`): end of input (closed by `finish`), its own
    end tag (consumed), or an ancestor's (left in place, the element closed implicitly) -/
theorem runT_close_element (s : TState) (n : Str) (a : AttrState) (kids : List Node) (rest : List Token)
    (hrest : rest = [] ∨ ∃ m r2, rest = .end_ m :: r2 ∧ m ∈ n :: names s) :
    (runT (addNodes { s with stack := ⟨n, a, []⟩ :: s.stack } kids) rest).fin
      = (runT (addNode s (.elem n a false kids)) (afterContent n rest)).fin := by
  have hp := pop1_push s n a kids
  have hnm : names (addNodes { s with stack := ⟨n, a, []⟩ :: s.stack } kids) = n :: names s := by
    rw [names_addNodes]; rfl
  have hne2 : (addNodes { s with stack := ⟨n, a, []⟩ :: s.stack } kids).stack ≠ [] :=
    names_ne_nil.mp (by rw [hnm]; simp)
  rcases hrest with rfl | ⟨m, r2, rfl, hmem⟩
  · simp only [afterContent, runT, Outcome.fin]
    rw [finish_pop1 _ hne2, hp]
  · by_cases hmn : m = n
    · rw [hmn]
      simp only [afterContent, if_true, runT]
      rw [show stepT _ (.end_ n) = _ from stepT_close_own s n a kids]
    · have hmem' : m ∈ names s := (List.mem_cons.mp hmem).resolve_left hmn
      obtain ⟨f, fs, h1⟩ := List.exists_cons_of_ne_nil hne2
      have hf : f.name = n ∧ fs.map (·.name) = names s := by
        simp only [names, h1, List.map_cons, List.cons.injEq] at hnm; exact hnm
      have : handleEnd (addNodes { s with stack := ⟨n, a, []⟩ :: s.stack } kids) m
          = handleEnd (addNode s (.elem n a false kids)) m := by
        rw [handleEnd_ancestor h1 (by rw [hf.1]; exact fun h => hmn h.symm) (by rw [hf.2]; exact hmem'), hp]
      simp only [afterContent, if_neg hmn, runT, stepT]
      rw [this]

/-- main refinement lemma: processing `ts` on the stack machine inside an open element and closing
    everything at the end equals adding the recursive-descent items and continuing with the rest -/
theorem runT_items (k : Nat) : ∀ (s : TState) (ts : List Token), ts.length < k → s.stack ≠ [] →
    (runT s ts).fin = (runT (addNodes s (items k (names s) ts).1) (items k (names s) ts).2).fin := by
  -- by the recursion of `items`, with the state's open names as a variable of its own
  suffices h : ∀ (open_ : List Str) (ts : List Token), ts.length < k → ∀ s : TState, s.stack ≠ [] →
      names s = open_ →
      (runT s ts).fin = (runT (addNodes s (items k open_ ts).1) (items k open_ ts).2).fin from
    fun s ts hk hne => h (names s) ts hk s hne rfl
  intro open_ ts hk
  fun_induction items k open_ ts <;> intro s hne hn <;> try replace hk := Nat.lt_of_succ_lt_succ hk
  case case1 => cases hk
  case case2 => rfl
  case case3 => rfl
  case case4 n ts hnot ih =>
    have : handleEnd s n = s := handleEnd_stray (by rw [hn]; simpa using hnot)
    simp only [runT, stepT, this]
    exact ih hk s hne hn
  case case5 n a ts n' hv r ih =>
    have hst : stepT s (.start n a) = .ok (addNode s (.elem n' (intake a AttrState.empty) true [])) := by
      simp only [stepT]; rw [handleStart_inside s hne]; simp [n', hv]
    simp only [runT, hst, addNodes_cons]
    exact ih hk _ (addNode_stack_ne_nil hne _) (by rw [names_addNode, hn])
  case case7 n a ts r ih =>
    have hst : stepT s (.startend n a) = .ok (addNode s (.elem (lower n) (intake a AttrState.empty) true [])) := by
      simp only [stepT]; rw [handleStart_inside s hne]; simp
    simp only [runT, hst, addNodes_cons]
    exact ih hk _ (addNode_stack_ne_nil hne _) (by rw [names_addNode, hn])
  case case8 t ts h1 h2 h3 r x hx ih =>
    simp only [runT, stepT_text_inside hne h1 h2 h3, hx, addNodes_cons]
    exact ih hk _ (addNode_stack_ne_nil hne _) (by rw [names_addNode, hn])
  case case9 t ts h1 h2 h3 r hx ih =>
    simp only [runT, stepT_text_inside hne h1 h2 h3, hx]
    exact ih hk s hne hn
  case case6 open_ n a ts n' hv c sib ihc ihs =>
    -- push the frame, read the content (`ihc`), close the element, go on with the siblings (`ihs`)
    have hst : stepT s (.start n a) = .ok { s with stack := ⟨n', intake a AttrState.empty, []⟩ :: s.stack } := by
      simp only [stepT]; rw [handleStart_inside s hne]; simp [n', hv]
    have hrest := (items_rest _ (n' :: open_) ts hk).1
    have hlen : (afterContent n' c.2).length < _ := Nat.lt_of_le_of_lt (afterContent_items_len _ _ _ _ hk) hk
    simp only [runT, hst, addNodes_cons]
    rw [ihc hk _ (List.cons_ne_nil _ _) (by simp [names, ← hn]), runT_close_element s n' _ c.1 c.2 (hn ▸ hrest)]
    exact ihs hlen _ (addNode_stack_ne_nil hne _) (by rw [names_addNode, hn])

theorem items_fuel (k : Nat) : ∀ (k' : Nat) (open_ : List Str) (ts : List Token),
    ts.length < k → ts.length < k' → items k open_ ts = items k' open_ ts := by
  intro k' open_ ts hk hk'
  fun_induction items k open_ ts generalizing k' <;> try replace hk := Nat.lt_of_succ_lt_succ hk
  case case1 => cases hk
  all_goals
    rcases k' with _ | k'
    · exact absurd hk' (Nat.not_lt_zero _)
    try replace hk' := Nat.lt_of_succ_lt_succ hk'
  case case2 => rfl
  case case3 h => simp only [items, h, if_true]
  case case4 h ih => simp only [items, h]; exact ih k' hk hk'
  case case5 n a ts n' hv r ih => simp only [items, n', hv, if_true, r, ih k' hk hk']
  case case7 n a ts r ih => simp only [items, r, ih k' hk hk']
  case case8 t ts h1 h2 h3 r x hx ih => rw [items_text h1 h2 h3, hx, ← ih k' hk hk']
  case case9 t ts h1 h2 h3 r hx ih => rw [items_text h1 h2 h3, hx, ← ih k' hk hk']
  case case6 open_ n a ts n' hv c sib ihc ihs =>
    have hl : (afterContent n' c.2).length ≤ ts.length := afterContent_items_len _ (n' :: open_) n' ts hk
    rw [items_start_open hv, ← ihc k' hk hk',
      ← ihs k' (Nat.lt_of_le_of_lt hl hk) (Nat.lt_of_le_of_lt hl hk')]

/-! ## Whole documents against the specification -/

theorem runT_epilog (r : Node) : ∀ ts : List Token,
    runT ⟨[], some r⟩ ts = if epilogOk ts then .ok ⟨[], some r⟩ else .multipleRoot := by
  intro ts
  induction ts with
  | nil => rfl
  | cons t ts ih =>
    have hcons : epilogOk (t :: ts) = (isOuter t && epilogOk ts) := rfl
    by_cases ho : isOuter t = true
    · simp only [runT, stepT_outer_empty ⟨[], some r⟩ rfl t ho, ih, hcons, ho, Bool.true_and]
    · have ho' : isOuter t = false := by simpa using ho
      have : stepT ⟨[], some r⟩ t = .multipleRoot := by
        cases t with
        | start n a => exact handleStart_done r n a false
        | startend n a => exact handleStart_done r n a true
        | _ => exact stepT_text_outside rfl ho' (fun _ _ h => by cases h) (fun _ _ h => by cases h)
      simp only [runT, this, hcons, ho', Bool.false_and]
      rfl

/-- the whole pass from the initial state, not only what precedes the root -/
theorem runT_prolog (k : Nat) : ∀ ts : List Token, ts.length < k →
    (runT TState.init ts).fin = match single k ts with
      | some r => .ok ⟨[], r⟩
      | none => .multipleRoot := by
  induction k with
  | zero => intro ts h; cases h
  | succ k ih =>
    intro ts hk
    cases ts with
    | nil => rfl
    | cons t ts =>
      have hk' : ts.length < k := Nat.lt_of_succ_lt_succ hk
      -- once the root element is complete; the right-hand side has the shape `single` unfolds to in the three start cases
      have hdone : ∀ (e : Node) (l : List Token), (runT ⟨[], some e⟩ l).fin =
          match (if epilogOk l then some (some e) else none) with
          | some r => .ok ⟨[], r⟩
          | none => .multipleRoot := by
        intro e l; rw [runT_epilog]; split <;> rfl
      by_cases hse : ∃ n a, t = .startend n a
      · obtain ⟨n, a, rfl⟩ := hse
        simp only [runT, stepT, handleStart_init, Bool.true_or, if_true, single]
        exact hdone _ _
      by_cases hst : ∃ n a, t = .start n a
      · obtain ⟨n, a, rfl⟩ := hst
        by_cases hv : Spec.isVoid (lower n) = true
        · simp only [runT, stepT, handleStart_init, hv, Bool.or_true, if_true, single]
          exact hdone _ _
        · -- the root's content by `runT_items`, then what stopped it
          simp only [runT, stepT, handleStart_init, hv, Bool.false_or, Bool.false_eq_true, if_false, single]
          rw [runT_items k ⟨[⟨lower n, intake a AttrState.empty, []⟩], none⟩ ts hk' (List.cons_ne_nil _ _)]
          exact (runT_close_element ⟨[], none⟩ (lower n) _ _ _ (items_rest k [lower n] ts hk').1).trans (hdone _ _)
      · rw [single_other (fun n a h => hst ⟨n, a, h⟩) (fun n a h => hse ⟨n, a, h⟩)]
        by_cases ho : isOuter t = true
        · simp only [runT, stepT_outer_empty TState.init rfl t ho, ho, if_true]
          exact ih ts hk'
        · have ho' : isOuter t = false := by simpa using ho
          have := stepT_text_outside (s := TState.init) rfl ho' (fun n a h => hst ⟨n, a, h⟩) (fun n a h => hse ⟨n, a, h⟩)
          simp only [runT, this, ho']
          rfl

/-- the condition on the tokens is `¬ mentionsWrapper t` with `w` for the wrapper's name -/
theorem items_append_stop (w : Str) (k : Nat) : ∀ (open_ : List Str) (ts : List Token),
    ts.length + 1 < k →
    (∀ t ∈ ts, (match t with
        | .start n _ => lower n ≠ w | .startend n _ => lower n ≠ w | .end_ n => n ≠ w | _ => True)) →
    items k (open_ ++ [w]) (ts ++ [.end_ w]) = ((items k open_ ts).1, (items k open_ ts).2 ++ [.end_ w]) := by
  intro open_ ts hk hw
  fun_induction items k open_ ts <;> try replace hk := Nat.lt_of_succ_lt_succ hk
  case case1 => cases hk
  case case2 => simp [items]
  all_goals
    simp only [List.length_cons] at hk
    have ht := hw _ List.mem_cons_self
    have hw' := fun x hx => hw x (List.mem_cons_of_mem _ hx)
  case case3 k open_ n ts h =>
    have hc : (open_ ++ [w]).contains n = true := by simp [List.contains_eq_mem] at h ⊢; exact Or.inl h
    simp only [List.cons_append, items, hc, if_true]
  case case4 k open_ n ts h ih =>
    have hn : n ≠ w := ht
    have hc : (open_ ++ [w]).contains n = false := by simp [List.contains_eq_mem, hn] at h ⊢; exact h
    simp only [List.cons_append, items, hc, Bool.false_eq_true, if_false]
    exact ih hk hw'
  case case5 k open_ n a ts n' hv r ih => simp only [List.cons_append, items, n', hv, if_true, r, ih hk hw']
  case case7 k open_ n a ts r ih => simp only [List.cons_append, items, r, ih hk hw']
  case case8 k open_ t ts h1 h2 h3 r x hx ih =>
    rw [List.cons_append, items_text h1 h2 h3, hx, ih hk hw']
  case case9 k open_ t ts h1 h2 h3 r hx ih =>
    rw [List.cons_append, items_text h1 h2 h3, hx, ih hk hw']
  case case6 k open_ n a ts n' hv c sib ihc ihs =>
    simp only [n', c, sib, List.cons_append] at ihc ihs hv ⊢
    have hn : lower n ≠ w := ht
    have hlt : ts.length < k := Nat.lt_of_succ_lt hk
    have hl := afterContent_items_len k (lower n :: open_) (lower n) ts hlt
    rw [items_start_open hv, ihc hk hw', afterContent_append _ _ (fun h => hn h.symm),
      ihs (by omega) (afterContent_forall (items_rest_forall _ k (lower n :: open_) ts hlt hw'))]

end AHP
