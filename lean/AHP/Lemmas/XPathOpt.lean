/-
  C14b: the compile-time folder `optimize` (`_optimizeStaticValueCalculations` of the fixed tree, DESIGN §8) is sound.

  `MT` is a predicate at the level the folder sees it: a tree of binary operators whose leaves are
  arbitrary non-operator body elements (static values, or anything dynamic: generators, groups).
  `sfold k` folds an operator of class `k` exactly when both operands are (or have just become) static
  values; `optPass k` on the in-order list does the same (`optPass_tree`), and that changes no value
  (`sfold_sound`).  `Refines nm t o` is what a folding pass may do to the in-order list of `t`; the folder as a
  whole is two such passes (`optimize_refines`).
-/
import AHP.Lemmas.XPath
namespace AHP.XPath

variable {N : Type}

def BE.isOp : BE N → Bool
  | .op _ => true
  | _ => false

inductive MT (N : Type) where
  | leaf (e : BE N)
  | node (o : Op) (l r : MT N)

namespace MT

def flat : MT N → List (BE N)
  | leaf e => [e]
  | node o l r => l.flat ++ .op o :: r.flat

/-- the grammar of `P.wf` (top operator of class `< k`, left operand `≤`, right `<`); a leaf is anything but an operator -/
def wf : Nat → MT N → Bool
  | _, leaf e => !e.isOp
  | k, node o l r => decide (o.cls < k) && wf (o.cls + 1) l && wf o.cls r

def asVal : MT N → Option (Val N)
  | leaf (.val v) => some v
  | _ => none

theorem asVal_some {t : MT N} {v : Val N} (h : asVal t = some v) : t = leaf (.val v) := by
  cases t with
  | node _ _ _ => simp [asVal] at h
  | leaf e => cases e <;> simp [asVal] at h; subst h; rfl

/-- `none` = the pre-calculation raises -/
def sfold (nm : Num N) (k : Nat) : MT N → Option (MT N)
  | leaf e => some (leaf e)
  | node o l r =>
    match l.sfold nm k, r.sfold nm k with
    | some l', some r' =>
      if o.cls = k then
        match asVal l', asVal r' with
        | some a, some b => (applyOp nm o a b).map (fun v => leaf (.val v))
        | _, _ => some (node o l' r')
      else some (node o l' r')
    | _, _ => none

theorem wf_mono {a b : Nat} (h : a ≤ b) {t : MT N} (hw : wf a t = true) : wf b t = true := by
  cases t with
  | leaf e => exact hw
  | node o l r =>
    simp only [wf, Bool.and_eq_true, decide_eq_true_eq] at hw ⊢
    exact ⟨⟨by omega, hw.1.2⟩, hw.2⟩

theorem sfold_id (nm : Num N) {k : Nat} : ∀ {t : MT N}, wf k t = true → t.sfold nm k = some t := by
  intro t
  induction t with
  | leaf e => intro _; rfl
  | node o l r ihl ihr =>
    intro hw
    simp only [wf, Bool.and_eq_true, decide_eq_true_eq] at hw
    have hl := ihl (wf_mono (by omega) hw.1.2)
    have hr := ihr (wf_mono (by omega) hw.2)
    have : o.cls ≠ k := by omega
    simp [sfold, hl, hr, this]

theorem sfold_node {nm : Num N} {k : Nat} {o : Op} {l r t' : MT N} (h : (node o l r).sfold nm k = some t') :
    ∃ l' r', l.sfold nm k = some l' ∧ r.sfold nm k = some r' ∧
      (t' = node o l' r' ∨ ∃ a b v, l' = leaf (.val a) ∧ r' = leaf (.val b) ∧ applyOp nm o a b = some v ∧ t' = leaf (.val v)) := by
  simp only [sfold] at h
  cases hl : l.sfold nm k with
  | none => simp [hl] at h
  | some l' =>
    cases hr : r.sfold nm k with
    | none => simp [hl, hr] at h
    | some r' =>
      refine ⟨l', r', rfl, rfl, ?_⟩
      simp only [hl, hr] at h
      split at h
      · split at h
        · next a b ha hb =>
          cases hap : applyOp nm o a b with
          | none => rw [hap] at h; cases h
          | some v => rw [hap] at h; cases h; exact .inr ⟨a, b, v, asVal_some ha, asVal_some hb, hap, rfl⟩
        · cases h; exact .inl rfl
      · cases h; exact .inl rfl

theorem sfold_wf (nm : Num N) {k : Nat} : ∀ {t t' : MT N} {b : Nat}, wf b t = true → t.sfold nm k = some t' →
    wf b t' = true := by
  intro t
  induction t with
  | leaf e => intro t' b hw h; cases h; exact hw
  | node o l r ihl ihr =>
    intro t' b hw h
    simp only [wf, Bool.and_eq_true, decide_eq_true_eq] at hw
    obtain ⟨l', r', hl, hr, rfl | ⟨a, b', v, _, _, _, rfl⟩⟩ := sfold_node h
    · simp only [wf, Bool.and_eq_true, decide_eq_true_eq]
      exact ⟨⟨hw.1.1, ihl hw.1.2 hl⟩, ihr hw.2 hr⟩
    · rfl

end MT

theorem MT.flat_ne_nil : ∀ (t : MT N), t.flat ≠ []
  | .leaf e => by simp [MT.flat]
  | .node o l r => by simp [MT.flat]

theorem optPass_nil (nm : Num N) (k : Nat) (s : Bool) (acc : List (BE N)) :
    optPass nm k s [] acc = some acc.reverse := by
  cases s <;> simp [optPass]

theorem optPass_skip (nm : Num N) (k : Nat) (e : BE N) (rest acc : List (BE N)) :
    optPass nm k true (e :: rest) acc = optPass nm k false rest acc := by
  conv => lhs; unfold optPass

theorem optPass_nonop (nm : Num N) (k : Nat) {e : BE N} (he : e.isOp = false) (rest acc : List (BE N)) :
    optPass nm k false (e :: rest) acc = optPass nm k false rest (e :: acc) := by
  cases e with
  | op o => simp [BE.isOp] at he
  | _ => conv => lhs; unfold optPass

theorem optPass_op_ne (nm : Num N) {k : Nat} {o : Op} (h : o.cls ≠ k) (rest acc : List (BE N)) :
    optPass nm k false (.op o :: rest) acc = optPass nm k false rest (.op o :: acc) := by
  conv => lhs; unfold optPass
  simp [h]

theorem optPass_op_eq (nm : Num N) {k : Nat} {o : Op} (h : o.cls = k) (rest acc : List (BE N)) :
    optPass nm k false (.op o :: rest) acc =
      match foldAt nm k o acc rest with
      | none => optPass nm k false rest (.op o :: acc)
      | some none => none
      | some (some v) => optPass nm k true rest (.val v :: acc.tail) := by
  conv => lhs; unfold optPass
  simp only [h, ite_true]
  cases foldAt nm k o acc rest with
  | none => rfl
  | some x => cases x <;> rfl

/-- what precedes a subtree whose operators have class `< b`: nothing, or an operator of class `≥ b` -/
def ctxL (b : Nat) : List (BE N) → Prop
  | [] => True
  | .op o :: _ => b ≤ o.cls
  | _ :: _ => False

/-- what follows it: nothing, or an operator of class `≥ b - 1` -/
def ctxR (b : Nat) : List (BE N) → Prop
  | [] => True
  | .op o :: _ => b ≤ o.cls + 1
  | _ :: _ => False

theorem ctxL_mono {a b : Nat} (h : a ≤ b) {l : List (BE N)} (hc : ctxL b l) : ctxL a l := by
  cases l with
  | nil => trivial
  | cons e tl => cases e <;> simp only [ctxL] at hc ⊢ <;> omega

theorem ctxR_mono {a b : Nat} (h : a ≤ b) {l : List (BE N)} (hc : ctxR b l) : ctxR a l := by
  cases l with
  | nil => trivial
  | cons e tl => cases e <;> simp only [ctxR] at hc ⊢ <;> omega

theorem leftOk_of_ctxL {k b : Nat} (h : k < b) {l : List (BE N)} (hc : ctxL b l) : leftOk k l = true := by
  cases l with
  | nil => rfl
  | cons e tl => cases e <;> simp only [ctxL, leftOk, decide_eq_true_eq] at hc ⊢ <;> omega

theorem rightOk_of_ctxR {k b : Nat} (h : k < b) {l : List (BE N)} (hc : ctxR b l) : rightOk k l = true := by
  cases l with
  | nil => rfl
  | cons e tl => cases e <;> simp only [ctxR, rightOk, decide_eq_true_eq] at hc ⊢ <;> omega

/-- The static value at the head of a list, provided what follows it passes `ok`.  "Is a static value" is `MT.asVal` of the
    element as a leaf, so that the leaf case of `staticHead_flat` holds by definition. -/
def staticHead (ok : List (BE N) → Bool) : List (BE N) → Option (Val N)
  | e :: tl => if ok tl then (MT.leaf e).asVal else none
  | [] => none

theorem staticHead_some {ok : List (BE N) → Bool} {l : List (BE N)} {v : Val N} (h : staticHead ok l = some v) :
    ∃ tl, l = .val v :: tl := by
  cases l with
  | nil => cases h
  | cons e tl =>
    simp only [staticHead] at h
    split at h
    · cases MT.asVal_some h; exact ⟨tl, rfl⟩
    · cases h

theorem foldAt_eq (nm : Num N) (k : Nat) (o : Op) (acc rest : List (BE N)) :
    foldAt nm k o acc rest =
      match staticHead (leftOk k) acc, staticHead (rightOk k) rest with
      | some l, some r => some (applyOp nm o l r)
      | _, _ => none := by
  unfold foldAt
  split
  · next a acc' b rest' =>
    simp only [staticHead, MT.asVal]
    cases leftOk k acc' <;> cases rightOk k rest' <;> rfl
  · next h =>
    cases hl : staticHead (leftOk k) acc with
    | none => rfl
    | some a =>
      cases hr : staticHead (rightOk k) rest with
      | none => rfl
      | some b =>
        obtain ⟨_, rfl⟩ := staticHead_some hl
        obtain ⟨_, rfl⟩ := staticHead_some hr
        exact (h _ _ _ _ rfl rfl).elim

/-- From its left end the in-order list of a tree shows a static value only when the tree is one: in a node the first
    leaf is followed by an operator of the tree, which `ok` rejects. -/
theorem staticHead_flat {ok : List (BE N) → Bool} {j : Nat} (hop : ∀ o tl, o.cls < j → ok (.op o :: tl) = false) :
    ∀ {t : MT N}, MT.wf j t = true → ∀ rest, staticHead ok (t.flat ++ rest) = if ok rest then t.asVal else none
  | .leaf e, _, rest => rfl
  | .node o l r, hw, rest => by
    simp only [MT.wf, Bool.and_eq_true, decide_eq_true_eq] at hw
    rw [MT.flat, List.append_assoc, List.cons_append, staticHead_flat hop (MT.wf_mono (by omega) hw.1.2),
      hop o _ hw.1.1]
    simp [MT.asVal]

theorem staticHead_flat_reverse {ok : List (BE N) → Bool} {j : Nat} (hop : ∀ o tl, o.cls < j → ok (.op o :: tl) = false) :
    ∀ {t : MT N}, MT.wf j t = true → ∀ acc, staticHead ok (t.flat.reverse ++ acc) = if ok acc then t.asVal else none
  | .leaf e, _, acc => rfl
  | .node o l r, hw, acc => by
    simp only [MT.wf, Bool.and_eq_true, decide_eq_true_eq] at hw
    rw [MT.flat, List.reverse_append, List.reverse_cons, List.append_assoc, List.append_assoc, List.singleton_append,
      staticHead_flat_reverse hop (MT.wf_mono (by omega) hw.2), hop o _ hw.1.1]
    simp [MT.asVal]

/-- between two subtrees the folder decides as `sfold` does -/
theorem foldAt_flat (nm : Num N) {k b : Nat} (hk : k < b) (o : Op) {l r : MT N} (hl : MT.wf (k + 1) l = true)
    (hr : MT.wf k r = true) {acc rest : List (BE N)} (hL : ctxL b acc) (hR : ctxR b rest) :
    foldAt nm k o (l.flat.reverse ++ acc) (r.flat ++ rest) =
      match l.asVal, r.asVal with
      | some x, some y => some (applyOp nm o x y)
      | _, _ => none := by
  rw [foldAt_eq, staticHead_flat_reverse (fun o tl h => by simp [leftOk]; omega) hl,
    staticHead_flat (fun o tl h => by simp [rightOk]; omega) hr, leftOk_of_ctxL hk hL, rightOk_of_ctxR hk hR]
  rfl

theorem optPass_tree (nm : Num N) (k : Nat) : ∀ (t : MT N) (b : Nat), MT.wf b t = true →
    ∀ (rest acc : List (BE N)), ctxL b acc → ctxR b rest →
      optPass nm k false (t.flat ++ rest) acc =
        (t.sfold nm k).bind (fun t' => optPass nm k false rest (t'.flat.reverse ++ acc)) := by
  intro t
  induction t with
  | leaf e =>
    intro b hw rest acc _ _
    simp only [MT.wf, Bool.not_eq_eq_eq_not, Bool.not_true] at hw
    exact optPass_nonop nm k hw rest acc
  | node o l r ihl ihr =>
    intro b hw rest acc hL hR
    simp only [MT.wf, Bool.and_eq_true, decide_eq_true_eq] at hw
    obtain ⟨⟨hob, hwl⟩, hwr⟩ := hw
    -- when the operator stays, the right operand is processed behind it
    have hstay : ∀ l' : MT N, optPass nm k false (r.flat ++ rest) (.op o :: (l'.flat.reverse ++ acc)) =
        (r.sfold nm k).bind fun r' => optPass nm k false rest ((MT.node o l' r').flat.reverse ++ acc) := by
      intro l'
      rw [ihr _ hwr _ _ (by simp [ctxL]) (ctxR_mono (by omega) hR)]
      cases r.sfold nm k <;> simp [MT.flat]
    simp only [MT.flat, List.append_assoc, List.cons_append]
    rw [ihl _ hwl _ _ (ctxL_mono (by omega) hL) (by simp [ctxR]), MT.sfold]
    cases hl : l.sfold nm k with
    | none => rfl
    | some l' =>
      simp only [Option.bind_some]
      by_cases hk : o.cls = k
      · have hwr' : MT.wf k r = true := hk ▸ hwr
        rw [optPass_op_eq nm hk, foldAt_flat nm (by omega) o (hk ▸ MT.sfold_wf nm hwl hl) hwr' hL hR, hstay,
          MT.sfold_id nm hwr']
        simp only [hk, ite_true, Option.bind_some]
        cases ha : l'.asVal with
        | none => rfl
        | some a =>
          cases hb : r.asVal with
          | none => rfl
          | some vb =>
            cases MT.asVal_some ha
            cases MT.asVal_some hb
            dsimp only
            cases applyOp nm o a vb with
            | none => rfl
            | some v => exact optPass_skip nm k _ rest _
      · rw [optPass_op_ne nm hk, hstay]
        cases r.sfold nm k with
        | none => rfl
        | some r' => simp [hk]

private theorem map_val_some {o : Option (Val N)} {e' : BE N} (h : o.map BE.val = some e') : ∃ v, e' = .val v := by
  cases o with
  | none => cases h
  | some v => cases h; exact ⟨v, rfl⟩

theorem resolve_nonop_val (nm : Num N) (c : Ctx) {e e' : BE N} (he : e.isOp = false)
    (h : resolve nm c e = some e') : ∃ v, e' = .val v := by
  cases e with
  | op o => simp [BE.isOp] at he
  | val v | text | last | position | nspace0 => cases h; exact ⟨_, rfl⟩
  | attr name =>
    simp only [resolve] at h
    split at h
    · cases h
    · split at h <;> (cases h; exact ⟨_, rfl⟩)
  | group l => rw [resolve_group_eq] at h; exact map_val_some h
  | concatFn args | containsFn a b | nspace1 a => exact map_val_some h

def MT.toVT (nm : Num N) (c : Ctx) : MT N → Option (VT N)
  | .leaf e => (valOf (resolve nm c e)).map .leaf
  | .node o l r =>
    match l.toVT nm c, r.toVT nm c with
    | some a, some b => some (.node o a b)
    | _, _ => none

theorem MT.resolve_flat (nm : Num N) (c : Ctx) : ∀ (t : MT N) (b : Nat), MT.wf b t = true →
    resolveList nm c t.flat = (t.toVT nm c).map VT.flat ∧ ∀ s, t.toVT nm c = some s → VT.wf b s = true := by
  intro t
  induction t with
  | leaf e =>
    intro b hw
    simp only [MT.wf, Bool.not_eq_eq_eq_not, Bool.not_true] at hw
    simp only [MT.flat, MT.toVT, resolveList_single]
    cases hr : resolve nm c e with
    | none => exact ⟨rfl, by intro s h; simp [valOf] at h⟩
    | some e' =>
      obtain ⟨v, rfl⟩ := resolve_nonop_val nm c hw hr
      refine ⟨rfl, ?_⟩
      intro s h
      simp only [valOf, Option.map_some, Option.some.injEq] at h
      subst h; rfl
  | node o l r ihl ihr =>
    intro b hw
    simp only [MT.wf, Bool.and_eq_true, decide_eq_true_eq] at hw
    have ⟨hl, hlw⟩ := ihl _ hw.1.2
    have ⟨hr, hrw⟩ := ihr _ hw.2
    exact ⟨resolveList_node nm c o hl hr, VT.node?_wf hw.1.1 hlw hrw⟩

def MT.eval (nm : Num N) (c : Ctx) (t : MT N) : Option (Val N) := (t.toVT nm c).bind (VT.eval nm)

theorem MT.evalLevel_flat (nm : Num N) (c : Ctx) (t : MT N) (hw : MT.wf 3 t = true) :
    evalLevel nm c t.flat = t.eval nm c :=
  have ⟨h1, h2⟩ := MT.resolve_flat nm c t 3 hw
  evalLevel_of_flat nm c h1 h2

theorem MT.eval_node (nm : Num N) (c : Ctx) (o : Op) (l r : MT N) :
    (MT.node o l r).eval nm c =
      match l.eval nm c, r.eval nm c with
      | some a, some b => applyOp nm o a b
      | _, _ => none := by
  exact VT.node?_eval nm o (l.toVT nm c) (r.toVT nm c)

theorem MT.eval_leaf (nm : Num N) (c : Ctx) (e : BE N) : (MT.leaf e).eval nm c = valOf (resolve nm c e) := by
  simp only [MT.eval, MT.toVT]
  cases valOf (resolve nm c e) <;> rfl

theorem MT.eval_val (nm : Num N) (c : Ctx) (v : Val N) : (MT.leaf (BE.val v)).eval nm c = some v :=
  MT.eval_leaf nm c (.val v)

/-- Folding static operands changes no value; a fold that raises means the level raises for every tag. -/
theorem sfold_sound (nm : Num N) (c : Ctx) (k : Nat) : ∀ (t : MT N),
    match t.sfold nm k with
    | some t' => t'.eval nm c = t.eval nm c
    | none => t.eval nm c = none := by
  intro t
  induction t with
  | leaf e => simp [MT.sfold]
  | node o l r ihl ihr =>
    simp only [MT.sfold]
    cases hl : l.sfold nm k with
    | none =>
      rw [hl] at ihl
      simp only [MT.eval_node, ihl]
    | some l' =>
      rw [hl] at ihl
      cases hr : r.sfold nm k with
      | none =>
        rw [hr] at ihr
        simp only [MT.eval_node, ihr]
        cases l.eval nm c <;> rfl
      | some r' =>
        rw [hr] at ihr
        simp only at ihl ihr
        have hnode : (MT.node o l' r').eval nm c = (MT.node o l r).eval nm c := by
          simp only [MT.eval_node, ihl, ihr]
        by_cases hk : o.cls = k
        · simp only [hk, ite_true]
          cases ha : MT.asVal l' with
          | none => exact hnode
          | some a =>
            cases hb : MT.asVal r' with
            | none => exact hnode
            | some b =>
              have e1 := MT.asVal_some ha
              have e2 := MT.asVal_some hb
              subst e1 e2
              have heq : (MT.node o l r).eval nm c = applyOp nm o a b := by
                rw [← hnode, MT.eval_node, MT.eval_val, MT.eval_val]
              cases hap : applyOp nm o a b with
              | none => rw [heq]; simp only [hap, Option.map_none]
              | some v => rw [heq]; simp only [hap, Option.map_some]; exact MT.eval_val nm c v
        · simp only [hk, ite_false]; exact hnode

/-- static leaves are not Null (the grammar has number and string literals only) -/
def MT.noNull : MT N → Bool
  | .leaf (.val v) => !v.isNull
  | .leaf _ => true
  | .node _ l r => l.noNull && r.noNull

theorem MT.sfold_noNull (nm : Num N) {k : Nat} : ∀ {t t' : MT N}, t.noNull = true → t.sfold nm k = some t' →
    t'.noNull = true := by
  intro t
  induction t with
  | leaf e => intro t' hn h; cases h; exact hn
  | node o l r ihl ihr =>
    intro t' hn h
    simp only [MT.noNull, Bool.and_eq_true] at hn
    obtain ⟨l', r', hl, hr, rfl | ⟨a, b, v, _, _, hap, rfl⟩⟩ := MT.sfold_node h
    · simp only [MT.noNull, Bool.and_eq_true]
      exact ⟨ihl hn.1 hl, ihr hn.2 hr⟩
    · simp [MT.noNull, applyOp_not_null nm o a b v hap]

/-- What a compile step may do to the in-order list of `t`: return the in-order list of a well-formed tree with the same
    value for every tag (and no Null literal if `t` had none), or raise when `t` has no value on any tag. -/
def Refines (nm : Num N) (t : MT N) : Option (List (BE N)) → Prop
  | some l => ∃ t' : MT N, l = t'.flat ∧ MT.wf 3 t' = true ∧ (t.noNull = true → t'.noNull = true) ∧
      ∀ c, t'.eval nm c = t.eval nm c
  | none => ∀ c, t.eval nm c = none

theorem Refines.bind {nm : Num N} {t : MT N} {o : Option (List (BE N))} {g : List (BE N) → Option (List (BE N))}
    (h : Refines nm t o) (hg : ∀ t' : MT N, MT.wf 3 t' = true → Refines nm t' (g t'.flat)) : Refines nm t (o.bind g) := by
  cases o with
  | none => exact h
  | some l =>
    obtain ⟨t', rfl, w', n', e'⟩ := h
    have h2 := hg t' w'
    simp only [Option.bind_some]
    cases hgl : g t'.flat with
    | none => rw [hgl] at h2; exact fun c => (e' c).symm.trans (h2 c)
    | some l2 =>
      rw [hgl] at h2
      obtain ⟨t2, e2, w2, n2, ev2⟩ := h2
      exact ⟨t2, e2, w2, fun hn => n2 (n' hn), fun c => (ev2 c).trans (e' c)⟩

theorem optPass_refines (nm : Num N) (k : Nat) (t : MT N) (hw : MT.wf 3 t = true) :
    Refines nm t (optPass nm k false t.flat []) := by
  have p := optPass_tree nm k t 3 hw [] [] trivial trivial
  simp only [List.append_nil, optPass_nil, List.reverse_reverse] at p
  rw [p]
  cases h : t.sfold nm k with
  | none =>
    intro c
    have s := sfold_sound nm c k t
    rw [h] at s
    exact s
  | some t' =>
    refine ⟨t', rfl, MT.sfold_wf nm hw h, fun hn => MT.sfold_noNull nm hn h, fun c => ?_⟩
    have s := sfold_sound nm c k t
    rw [h] at s
    exact s

/-- C14b core: the folder on the in-order list of a well-formed mixed tree (lists of at most two elements are returned as
    they are, then the arithmetic and the comparison pass). -/
theorem optimize_refines (nm : Num N) (t : MT N) (hw : MT.wf 3 t = true) : Refines nm t (optimize nm t.flat) := by
  unfold optimize
  split
  · exact ⟨t, rfl, hw, id, fun _ => rfl⟩
  · exact (optPass_refines nm 0 t hw).bind (fun t' hw' => optPass_refines nm 1 t' hw')

theorem optimize_sound (nm : Num N) (c : Ctx) (t : MT N) (hw : MT.wf 3 t = true) :
    match optimize nm t.flat with
    | some l' => evalLevel nm c l' = evalLevel nm c t.flat
    | none => evalLevel nm c t.flat = none := by
  have h := optimize_refines nm t hw
  rw [MT.evalLevel_flat nm c t hw]
  cases ho : optimize nm t.flat with
  | none => rw [ho] at h; exact h c
  | some l' =>
    rw [ho] at h
    obtain ⟨t', rfl, w', _, e'⟩ := h
    exact (MT.evalLevel_flat nm c t' w').trans (e' c)

end AHP.XPath
