/-
  AHP.Lemmas.TreeModelsBuild — the two models of the plain parser's `handle_*` callbacks build the same tree.

  `AHP.step`/`run`/`feedTokens` (Model/Builder.lean, C01–C03, C13) and `Fmt.Plain.step`/`run`/`feed`
  (Model/Format.lean, C11/C12) are simulated step by step: the formatter model's state, with the ghost `verb`
  flag of its text blocks erased, is the image (`toFmt`, `frameF`) of the builder model's state.
-/
import AHP.Lemmas.TreeModels
import AHP.Lemmas.Builder
import AHP.Lemmas.Tree
namespace AHP.TM
open AHP AHP.AttrStores

def tokF : Token → Fmt.Tok
  | .decl s => .decl s
  | .unknownDecl s => .unknownDecl s
  | .comment s => .comment s
  | .pi s => .pi s
  | .start n a => .start n a
  | .startend n a => .startend n a
  | .end_ n => .end_ n
  | .data s => .data s
  | .entity s => .entity s
  | .charref s => .charref s

mutual
/-- forget which callback wrote a text block (no function of the formatter model reads the flag) -/
def eraseN : Fmt.Node → Fmt.Node
  | .text _ s => .text false s
  | .elem k n st sc ind ks => .elem k n st sc ind (eraseL ks)
def eraseL : List Fmt.Node → List Fmt.Node
  | [] => []
  | k :: ks => eraseN k :: eraseL ks
end

@[simp] theorem eraseL_nil : eraseL [] = [] := by simp [eraseL]
@[simp] theorem eraseL_cons (k : Fmt.Node) (ks : List Fmt.Node) : eraseL (k :: ks) = eraseN k :: eraseL ks := by
  simp [eraseL]
@[simp] theorem eraseN_text (v s) : eraseN (.text v s) = .text false s := by simp [eraseN]
@[simp] theorem eraseN_elem (k n st sc ind ks) : eraseN (.elem k n st sc ind ks) = .elem k n st sc ind (eraseL ks) := by
  simp [eraseN]

theorem eraseL_eq_map (ks : List Fmt.Node) : eraseL ks = ks.map eraseN := by
  induction ks with
  | nil => simp
  | cons k ks ih => simp [ih]

theorem eraseL_reverse (ks : List Fmt.Node) : eraseL ks.reverse = (eraseL ks).reverse := by
  simp [eraseL_eq_map]

mutual
theorem eraseN_toFmt : ∀ t : Node, eraseN (toFmt t) = toFmt t
  | .text s => by simp
  | .elem n a sc ks => by simp [eraseL_toFmtL ks]
theorem eraseL_toFmtL : ∀ ks : List Node, eraseL (toFmtL ks) = toFmtL ks
  | [] => by simp
  | k :: ks => by simp [eraseN_toFmt k, eraseL_toFmtL ks]
end

mutual
theorem outer_erase : ∀ n : Fmt.Node, Fmt.outer (eraseN n) = Fmt.outer n
  | .text _ s => by simp [Fmt.outer]
  | .elem k n st sc ind ks => by
    have hl : Fmt.lastTextEndsWith ind (eraseL ks) = Fmt.lastTextEndsWith ind ks := by
      unfold Fmt.lastTextEndsWith
      rw [eraseL_eq_map, List.getLast?_map]
      cases ks.getLast? with
      | none => rfl
      | some x => cases x <;> simp
    simp only [eraseN_elem, Fmt.outer, innerL_erase ks, Fmt.endTag, hl]
theorem innerL_erase : ∀ ks : List Fmt.Node, Fmt.innerL (eraseL ks) = Fmt.innerL ks
  | [] => by simp
  | k :: ks => by simp [Fmt.innerL, outer_erase k, innerL_erase ks]
end

def eraseFrame (f : Fmt.Frame) : Fmt.Frame := { f with rev := eraseL f.rev }

def frameF (f : Frame) : Fmt.Frame := ⟨.normal, f.name, toF f.attrs, [], toFmtL f.rev⟩

/-- The simulation relation: the formatter-model state, ghost flags erased, is the image of the builder-model
    state (tree part `t`, doctype `dt`); the indentation counters are never touched by the plain parser. -/
structure Sim (s : Fmt.St) (t : TState) (dt : Option Str) : Prop where
  stack : s.stack.map eraseFrame = t.stack.map frameF
  closed : s.closed.map eraseN = t.root.map toFmt
  doctype : s.doctype = dt
  level : s.level = 0
  inPre : s.inPre = 0

theorem sim_init : Sim {} TState.init none := ⟨rfl, rfl, rfl, rfl, rfl⟩

theorem eraseN_close {f' : Fmt.Frame} {f : Frame} (h : eraseFrame f' = frameF f) :
    eraseN (Fmt.Frame.close f') = toFmt (Frame.close f) := by
  obtain ⟨k, n, st, ind, rev⟩ := f'
  simp only [eraseFrame, frameF, Fmt.Frame.mk.injEq] at h
  obtain ⟨rfl, rfl, rfl, rfl, h5⟩ := h
  simp only [Fmt.Frame.close, Frame.close, eraseN_elem, toFmt_elem, eraseL_reverse, toFmtL_reverse, h5]

theorem names_of_stack {fs' : List Fmt.Frame} {fs : List Frame} (h : fs'.map eraseFrame = fs.map frameF) :
    fs'.map (·.name) = fs.map (·.name) := by
  have := congrArg (List.map (·.name)) h
  simpa [List.map_map, Function.comp_def, eraseFrame, frameF] using this

theorem Sim.stack_cases {s : Fmt.St} {t : TState} {dt : Option Str} (h : Sim s t dt) :
    (s.stack = [] ∧ t.stack = []) ∨
    ∃ f' fs' g gs, s.stack = f' :: fs' ∧ t.stack = g :: gs ∧ eraseFrame f' = frameF g ∧
      fs'.map eraseFrame = gs.map frameF := by
  have hs := h.stack
  cases hs' : s.stack <;> cases ht : t.stack <;> rw [hs', ht] at hs <;>
    simp only [List.map_cons, List.map_nil, List.cons.injEq, reduceCtorEq] at hs
  · exact Or.inl ⟨rfl, rfl⟩
  · exact Or.inr ⟨_, _, _, _, rfl, rfl, hs.1, hs.2⟩

theorem frame_cons {f' : Fmt.Frame} {g : Frame} (h : eraseFrame f' = frameF g) {n' : Fmt.Node} {c : Node}
    (hn : eraseN n' = toFmt c) : eraseFrame { f' with rev := n' :: f'.rev } = frameF { g with rev := c :: g.rev } := by
  simp only [eraseFrame, frameF, Fmt.Frame.mk.injEq] at h ⊢
  obtain ⟨a1, a2, a3, a4, a5⟩ := h
  exact ⟨a1, a2, a3, a4, by simp [hn, a5]⟩

theorem sim_attach {s : Fmt.St} {t : TState} {dt : Option Str} (h : Sim s t dt) {n' : Fmt.Node} {c : Node}
    (hn : eraseN n' = toFmt c) :
    Sim { s with stack := (Fmt.attach n' s.stack s.closed).1, closed := (Fmt.attach n' s.stack s.closed).2 }
      (addNode t c) dt := by
  rcases h.stack_cases with ⟨hs, ht⟩ | ⟨f', fs', g, gs, hs, ht, hf, hfs⟩
  · exact ⟨by simp [Fmt.attach, addNode, hs, ht], by simp [Fmt.attach, addNode, hs, ht, hn], h.doctype, h.level, h.inPre⟩
  · refine ⟨?_, by simpa [Fmt.attach, addNode, hs, ht] using h.closed, h.doctype, h.level, h.inPre⟩
    simp only [Fmt.attach, addNode, hs, ht, List.map_cons, List.cons.injEq]
    exact ⟨frame_cons hf hn, hfs⟩

theorem sim_push {s : Fmt.St} {t : TState} {dt : Option Str} (h : Sim s t dt) (n : Str) (a : AttrState) :
    Sim { s with stack := ⟨.normal, n, toF a, [], []⟩ :: s.stack } { t with stack := ⟨n, a, []⟩ :: t.stack } dt := by
  obtain ⟨hs, hc, hd, hl, hp⟩ := h
  refine ⟨?_, hc, hd, hl, hp⟩
  simp [hs, eraseFrame, frameF]

theorem pop_eq (s : Fmt.St) : Fmt.Plain.pop s =
    match s.stack with
    | [] => s
    | f :: fs => { s with stack := (Fmt.attach f.close fs s.closed).1, closed := (Fmt.attach f.close fs s.closed).2 } := by
  unfold Fmt.Plain.pop; cases s.stack <;> rfl

theorem sim_pop {s : Fmt.St} {t : TState} {dt : Option Str} (h : Sim s t dt) : Sim (Fmt.Plain.pop s) (pop1 t) dt := by
  rw [pop_eq]
  unfold pop1
  rcases h.stack_cases with ⟨hs, ht⟩ | ⟨f', fs', g, gs, hs, ht, hf, hfs⟩
  · rw [hs, ht]; exact h
  · rw [hs, ht]
    exact sim_attach (s := { s with stack := fs' }) (t := { t with stack := gs })
      ⟨hfs, h.closed, h.doctype, h.level, h.inPre⟩ (eraseN_close hf)

theorem len_of_sim {s : Fmt.St} {t : TState} {dt : Option Str} (h : Sim s t dt) : s.stack.length = t.stack.length := by
  have := congrArg List.length h.stack
  simpa using this

theorem len_pop1 (t : TState) : (pop1 t).stack.length = t.stack.length - 1 := AHP.len_pop1 t

theorem names_pop1 (t : TState) : names (pop1 t) = (names t).tail := names_pop1_tail t

/-- the pop loop followed by the final pop (formatter model) is the fused loop of the builder model, as long as
    the name is among the first `k` open elements -/
theorem sim_popTo (n : Str) : ∀ (k : Nat) {s : Fmt.St} {t : TState} {dt : Option Str}, Sim s t dt →
    n ∈ (names t).take k → Sim (Fmt.Plain.pop (Fmt.Plain.endLoop n k s)) (popTo n k t) dt
  | 0, _, _, _, _, hn => by simp at hn
  | k + 1, s, t, dt, h, hn => by
    rcases h.stack_cases with ⟨_, ht⟩ | ⟨f', fs', g, gs, hs, ht, hf, _⟩
    · simp [names, ht] at hn
    · have hname : f'.name = g.name := congrArg Fmt.Frame.name hf
      simp only [Fmt.Plain.endLoop, popTo, hs, ht, hname]
      by_cases hg : g.name = n
      · simp only [hg, ne_eq, not_true_eq_false, if_false, if_true]
        exact sim_pop h
      · simp only [hg, ne_eq, not_false_eq_true, if_true, if_false]
        apply sim_popTo n k (sim_pop h)
        rw [names_pop1_tail]
        simp only [names, ht, List.map_cons, List.take_succ_cons, List.mem_cons, List.tail_cons] at hn ⊢
        exact hn.resolve_left (fun e => hg e.symm)

theorem any_name {α : Type} (g : α → Str) (n : Str) :
    ∀ l : List α, l.any (fun f => decide (g f = n)) = (l.map g).contains n
  | [] => rfl
  | x :: xs => by
    simp only [List.any_cons, List.map_cons, List.contains_cons, any_name g n xs]
    congr 1
    by_cases h : g x = n
    · simp [h]
    · have h' : ¬ n = g x := fun e => h e.symm
      simp [h, h']

theorem sim_handleEnd {s : Fmt.St} {t : TState} {dt : Option Str} (h : Sim s t dt) (n : Str) :
    Sim (Fmt.Plain.handleEnd s n) (handleEnd t n) dt := by
  have hnames := names_of_stack h.stack
  have hany : s.stack.any (fun f => f.name = n) = (t.stack.map (·.name)).contains n := by
    rw [← hnames]; exact any_name (·.name) n s.stack
  unfold Fmt.Plain.handleEnd handleEnd
  rw [hany]
  by_cases hc : (t.stack.map (·.name)).contains n = true
  · simp only [hc, Bool.not_true, Bool.false_eq_true, if_false, if_true]
    rw [len_of_sim h]
    apply sim_popTo n _ h
    rw [List.take_of_length_le (by simp [names])]
    simpa [names] using hc
  · simp only [hc, Bool.not_false, if_true]
    exact h

theorem sim_appendText {s : Fmt.St} {t : TState} {dt : Option Str} (h : Sim s t dt) (hne : t.stack ≠ [])
    (verb : Bool) (x : Str) : Sim (Fmt.appendText s verb x) (addNode t (.text x)) dt := by
  rcases h.stack_cases with ⟨_, ht⟩ | ⟨f', fs', g, gs, hs, _, _, _⟩
  · exact absurd ht hne
  · have := sim_attach h (n' := .text verb x) (c := .text x) (by simp)
    simpa [Fmt.appendText, Fmt.attach, hs] using this

theorem stack_empty_iff {s : Fmt.St} {t : TState} {dt : Option Str} (h : Sim s t dt) :
    s.stack.isEmpty = t.stack.isEmpty := by
  have := len_of_sim h
  cases hs : s.stack <;> cases ht : t.stack <;> simp [hs, ht] at this ⊢

/-- the two "is this data blank" tests are one: `not data.strip()` on both sides (`pyStrip_eq`, Lemmas/AttrStoresStr.lean) -/
theorem isBlank_eq_pyStrip (d : Str) : isBlank d = (Fmt.pyStrip d).isEmpty := by
  rw [pyStrip_eq]; rfl

/-- one step on both sides: both accept and the new states are related (doctype `dt`, which the tree step does not
    carry), or both raise `MultipleRootNodeException` -/
def SimOut (dt : Option Str) : Outcome TState → Except Fmt.Err Fmt.St → Prop
  | .ok t, .ok s => Sim s t dt
  | .multipleRoot, .error .multipleRoot => True
  | _, _ => False

theorem fmt_isVoid (n : Str) : Fmt.isVoid n = AHP.isVoid n := rfl

theorem noRoot_of_sim {s : Fmt.St} {t : TState} {dt : Option Str} (h : Sim s t dt) : s.noRoot = !t.hasRoot := by
  unfold Fmt.St.noRoot TState.hasRoot
  rw [stack_empty_iff h]
  have : s.closed.isNone = t.root.isNone := by
    have := congrArg Option.isNone h.closed
    simpa using this
  rw [this]
  cases t.stack.isEmpty <;> cases t.root <;> rfl

theorem mkStore_intake (l : List Attr) : Fmt.mkStore l {} = toF (intake l AttrState.empty) := by
  rw [empty_toF]; exact mkStore_toF l inv_empty

theorem sim_handleStart {s : Fmt.St} {t : TState} {dt : Option Str} (h : Sim s t dt) (n : Str) (a : List Attr)
    (sc : Bool) : SimOut dt (handleStart t n a sc) (Fmt.Plain.handleStart s n a sc) := by
  unfold handleStart Fmt.Plain.handleStart
  have e : (t.hasRoot && t.stack.isEmpty) = !(!t.hasRoot || !t.stack.isEmpty) := by
    cases t.hasRoot <;> cases t.stack.isEmpty <;> rfl
  simp only [mkStore_intake a, noRoot_of_sim h, stack_empty_iff h, fmt_isVoid, Bool.not_not, e]
  cases (!t.hasRoot || !t.stack.isEmpty) with
  | false => trivial
  | true =>
    simp only [Bool.not_true, Bool.false_eq_true, if_false, if_true]
    split
    · exact sim_attach h (by simp)
    · exact sim_push h _ _

theorem sim_verbatim {s : Fmt.St} {t : TState} {dt : Option Str} (h : Sim s t dt) (x : Str) :
    SimOut dt (addTextStrict t x) (Fmt.handleVerbatim s x) := by
  unfold addTextStrict Fmt.handleVerbatim
  rw [stack_empty_iff h]
  by_cases he : t.stack.isEmpty = true
  · simp only [he, if_true]; trivial
  · simp only [he, Bool.false_eq_true, if_false]
    exact sim_appendText h (by intro h0; simp [h0] at he) true x

theorem sim_data {s : Fmt.St} {t : TState} {dt : Option Str} (h : Sim s t dt) (d : Str) :
    SimOut dt (stepT t (.data d)) (Fmt.Plain.handleData s d) := by
  have hd := isBlank_eq_pyStrip d
  unfold Fmt.Plain.handleData
  simp only [stepT]
  by_cases he : d.isEmpty = true
  · simp only [he, if_true]; exact h
  · simp only [he, Bool.false_eq_true, if_false]
    rcases h.stack_cases with ⟨hs, ht⟩ | ⟨f', fs', g, gs, hs, ht, _, _⟩
    · simp only [hs, ht, List.isEmpty_nil, Bool.not_true, Bool.false_eq_true, if_false, hd]
      by_cases hb : (Fmt.pyStrip d).isEmpty = true
      · simp only [hb, if_true]; exact h
      · simp only [hb, Bool.false_eq_true, if_false]; trivial
    · simp only [hs, ht, List.isEmpty_cons, Bool.not_false, if_true]
      have := sim_appendText h (by simp [ht]) false d
      simpa [SimOut, hs] using this

theorem truthy_eq (dt : Option Str) (d : Str) :
    (if Fmt.truthy dt then dt else some d) = stepD dt (.unknownDecl d) := by
  cases dt with
  | none => rfl
  | some d0 => cases d0 <;> rfl

theorem sim_step {s : Fmt.St} {t : TState} {dt : Option Str} (h : Sim s t dt) (tok : Token) :
    SimOut (stepD dt tok) (stepT t tok) (Fmt.Plain.step s (tokF tok)) := by
  cases tok with
  | start n a => exact sim_handleStart h n a false
  | startend n a => exact sim_handleStart h n a true
  | end_ n => exact sim_handleEnd h n
  | data d => exact sim_data h d
  | entity e | charref e | comment e => exact sim_verbatim h _
  | decl d => exact ⟨h.stack, h.closed, rfl, h.level, h.inPre⟩
  | unknownDecl d =>
    simp only [tokF, Fmt.Plain.step, stepT, SimOut]
    by_cases ht : Fmt.truthy s.doctype = true
    · simp only [ht, if_true]
      refine ⟨h.stack, h.closed, ?_, h.level, h.inPre⟩
      rw [← truthy_eq, ← h.doctype, ht, if_pos rfl]
    · simp only [ht, Bool.false_eq_true, if_false]
      refine ⟨h.stack, h.closed, ?_, h.level, h.inPre⟩
      rw [← truthy_eq, ← h.doctype]
      simp [ht]
  | pi p => exact h

/-- `SimOut` for a whole pass, where the builder's state carries its own doctype -/
def SimRun : Outcome BState → Except Fmt.Err Fmt.St → Prop
  | .ok b, .ok s => Sim s b.tree b.doctype
  | .multipleRoot, .error .multipleRoot => True
  | _, _ => False

theorem SimRun.ok {b : BState} {r : Except Fmt.Err Fmt.St} (h : SimRun (.ok b) r) :
    ∃ s, r = .ok s ∧ Sim s b.tree b.doctype := by
  cases r with
  | ok s => exact ⟨s, rfl, h⟩
  | error e => exact h.elim

theorem SimRun.multipleRoot {r : Except Fmt.Err Fmt.St} (h : SimRun .multipleRoot r) : r = .error .multipleRoot := by
  cases r with
  | ok s => exact h.elim
  | error e => cases e <;> first | rfl | exact h.elim

theorem sim_run : ∀ (ts : List Token) {s : Fmt.St} {b : BState}, Sim s b.tree b.doctype →
    SimRun (run b ts) (Fmt.Plain.run (ts.map tokF) s)
  | [], _, _, h => h
  | tok :: ts, s, b, h => by
    have h1 := sim_step h tok
    rw [run_unfold]
    simp only [List.map_cons, Fmt.Plain.run]
    rcases stepT_ok_or_multipleRoot b.tree tok with ⟨t', ho⟩ | ho <;> rw [ho] at h1 ⊢
    · cases hr : Fmt.Plain.step s (tokF tok) with
      | ok s' => rw [hr] at h1; exact sim_run ts (b := ⟨t', stepD b.doctype tok⟩) h1
      | error e => rw [hr] at h1; exact h1.elim
    · cases hr : Fmt.Plain.step s (tokF tok) with
      | ok s' => rw [hr] at h1; exact h1.elim
      | error e => rw [hr] at h1; cases e <;> first | trivial | exact h1.elim

theorem root_pop (s : Fmt.St) : (Fmt.Plain.pop s).root = s.root := by
  rw [pop_eq]
  unfold Fmt.St.root
  rcases hs : s.stack with _ | ⟨f, _ | ⟨g, fs⟩⟩ <;> simp [hs, Fmt.rootOfStack, Fmt.attach, Fmt.zipUp]

theorem sim_root {s : Fmt.St} {t : TState} {dt : Option Str} (h : Sim s t dt) :
    s.root.map eraseN = (finish t).root.map toFmt := by
  -- closing an element on both sides keeps the states related and does not move the formatter model's root
  obtain ⟨⟨s', hs', hr⟩, hst⟩ := finish_pops (P := fun t' => ∃ s', Sim s' t' dt ∧ s'.root = s.root)
    (fun t' _ ⟨s', h1, h2⟩ => ⟨_, sim_pop h1, (root_pop s').trans h2⟩) t ⟨s, h, rfl⟩
  rcases hs'.stack_cases with ⟨h0, _⟩ | ⟨_, _, _, _, _, h0, _⟩
  · rw [← hr, Fmt.St.root, h0]; exact hs'.closed
  · rw [hst] at h0; cases h0

/-- Where the two token-level renderings of `utils.addStartTag` could disagree: a leading declaration that is
    not a doctype.  The tokenizer calls `handle_decl` for `<!doctype …>` only. -/
def LeadDeclOK : List Token → Prop
  | .decl d :: _ => Fmt.isDoctype d = true
  | .data _ :: .decl d :: _ => Fmt.isDoctype d = true
  | _ => True

theorem wrapToks_eq (toks : List Token) (h : LeadDeclOK toks) :
    (wrapToks toks).map tokF = Fmt.wrapToks (toks.map tokF) := by
  unfold wrapToks
  cases toks with
  | nil => simp [leadDoctype, Fmt.wrapToks, tokF, wrapperName, Fmt.wrapper]
  | cons t r =>
    cases t with
    | decl d =>
      simp only [LeadDeclOK] at h
      simp [leadDoctype, Fmt.wrapToks, tokF, h, wrapperName, Fmt.wrapper]
    | data ws =>
      cases r with
      | nil => simp [leadDoctype, Fmt.wrapToks, tokF, wrapperName, Fmt.wrapper]
      | cons t2 r2 =>
        cases t2 with
        | decl d =>
          simp only [LeadDeclOK] at h
          simp only [leadDoctype, wsNL_eq_doctypeLead, List.map_cons, tokF, Fmt.wrapToks, h, Bool.and_true]
          cases Fmt.doctypeLead ws <;> simp [tokF, wrapperName, Fmt.wrapper]
        | _ => simp [leadDoctype, Fmt.wrapToks, tokF, wrapperName, Fmt.wrapper]
    | _ => simp [leadDoctype, Fmt.wrapToks, tokF, wrapperName, Fmt.wrapper]

/-- what the two models of `feed` are compared on: doctype and root, ghost flags erased -/
def viewF (s : Fmt.St) : Option Str × Option Fmt.Node := (s.doctype, s.root.map eraseN)

def viewB (d : Doc) : Option Str × Option Fmt.Node := (d.doctype, d.root.map toFmt)

/-- the image of a `feed` result; the formatter model has one exception here, `MultipleRootNodeException` -/
def feedViewF : FeedResult → Except Fmt.Err (Option Str × Option Fmt.Node)
  | .doc d _ => .ok (viewB d)
  | .raised _ => .error .multipleRoot

theorem view_of_sim {s : Fmt.St} {b : BState} (h : Sim s b.tree b.doctype) : viewF s = viewB b.doc := by
  unfold viewF viewB BState.doc
  rw [h.doctype, sim_root h]

theorem sim_pass (ts : List Token) :
    SimRun (run BState.init ts) (Fmt.Plain.run (ts.map tokF) {}) :=
  sim_run ts (b := BState.init) sim_init

theorem feed_sim (toks : List Token) (hd : LeadDeclOK toks) :
    (∃ (b : BState) (sp : Bool) (s : Fmt.St), feedTokens toks = .doc b.doc sp ∧
        Fmt.Plain.feed (toks.map tokF) = .ok s ∧ Sim s b.tree b.doctype) ∨
    (feedTokens toks = .raised .multipleRoot ∧ Fmt.Plain.feed (toks.map tokF) = .error .multipleRoot) := by
  have h1 := sim_pass toks
  have h2 := sim_pass (wrapToks toks)
  rw [wrapToks_eq toks hd] at h2
  unfold Fmt.Plain.feed
  rcases feedTokens_run toks with ⟨b, sp, hb, hsp, hf⟩ | ⟨ha, hb, hf⟩
  · cases sp
    · rw [if_neg Bool.false_ne_true] at hb
      rw [hb] at h1
      obtain ⟨s, hr, hs⟩ := h1.ok
      exact Or.inl ⟨b, false, s, hf, by rw [hr], hs⟩
    · rw [if_pos rfl] at hb
      rw [hsp rfl] at h1
      rw [hb] at h2
      obtain ⟨s, hr, hs⟩ := h2.ok
      exact Or.inl ⟨b, true, s, hf, by rw [h1.multipleRoot, hr], hs⟩
  · rw [ha] at h1
    rw [hb] at h2
    exact Or.inr ⟨hf, by rw [h1.multipleRoot, h2.multipleRoot]⟩

theorem feed_agree (toks : List Token) (hd : LeadDeclOK toks) :
    (Fmt.Plain.feed (toks.map tokF)).map viewF = feedViewF (feedTokens toks) := by
  rcases feed_sim toks hd with ⟨b, sp, s, hf, hp, hs⟩ | ⟨hf, hp⟩ <;> rw [hf, hp]
  · simp only [feedViewF, Except.map, view_of_sim hs]
  · rfl

end AHP.TM
