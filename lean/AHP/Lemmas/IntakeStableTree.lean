/-
  Trees whose attribute stores are `intake` images (`Node.Built`) are `Stable`, by the store-level `intake_view_stable`.
  Every tree the builder produces is such a tree (`feedTokens_built`: `built_inv` says that what the handlers create and
  close is `Built`, `feedTokens_inv` of `Lemmas/Builder.lean` does the induction), and so is every tree handed to the public
  constructor with raw attribute lists (`CNode`).  For a `Stable` tree in lexical normal form re-reading the stores does not
  change what the API shows (`lnode_obs_reintake`).
-/
import AHP.Lemmas.RoundTrip
import AHP.Lemmas.IntakeStable
namespace AHP

/-- a store built by `AdvancedTag.__init__` from some raw attribute list -/
def IsIntake (a : AttrState) : Prop := ∃ l : List Attr, a = intake l AttrState.empty

theorem isIntake_intake (l : List Attr) : IsIntake (intake l AttrState.empty) := ⟨l, rfl⟩
theorem isIntake_empty : IsIntake AttrState.empty := ⟨[], rfl⟩

theorem isIntake_viewStable {a : AttrState} (h : IsIntake a) : ViewStable a := by
  obtain ⟨l, rfl⟩ := h
  exact intake_view_stable l

theorem isIntake_reintakeA (a : AttrState) : IsIntake (reintakeA a) := ⟨a.view, rfl⟩

/-- … so a re-read store is re-read exactly ever after (a document can go round any number of times) -/
theorem reintakeA_viewStable (a : AttrState) : ViewStable (reintakeA a) :=
  isIntake_viewStable (isIntake_reintakeA a)

mutual
/-- every attribute store of the tree was built by the constructor from a raw list -/
def Node.Built : Node → Prop
  | .text _ => True
  | .elem _ a _ kids => IsIntake a ∧ BuiltL kids
def BuiltL : List Node → Prop
  | [] => True
  | k :: ks => k.Built ∧ BuiltL ks
end

theorem builtL_iff : ∀ ks : List Node, BuiltL ks ↔ ∀ k ∈ ks, k.Built
  | [] => by simp [BuiltL]
  | k :: ks => by simp [BuiltL, builtL_iff ks]

theorem builtL_reverse {ks : List Node} (h : BuiltL ks) : BuiltL ks.reverse := by
  rw [builtL_iff] at h ⊢
  intro k hk
  exact h k (List.mem_reverse.mp hk)

theorem builtL_append {xs ys : List Node} (hx : BuiltL xs) (hy : BuiltL ys) : BuiltL (xs ++ ys) := by
  rw [builtL_iff] at hx hy ⊢
  intro k hk
  rcases List.mem_append.mp hk with h | h
  · exact hx k h
  · exact hy k h

mutual
theorem built_stable (t : Node) (h : t.Built) : t.Stable := by
  match t, h with
  | .text _, _ => simp [Node.Stable]
  | .elem n a sc kids, h =>
    simp only [Node.Built] at h
    simp only [Node.Stable]
    exact ⟨isIntake_viewStable h.1, builtL_stable kids h.2⟩
theorem builtL_stable (ks : List Node) (h : BuiltL ks) : StableL ks := by
  match ks, h with
  | [], _ => simp [StableL]
  | k :: ks, h =>
    simp only [BuiltL] at h
    simp only [StableL]
    exact ⟨built_stable k h.1, builtL_stable ks h.2⟩
end

def Frame.Built (f : Frame) : Prop := IsIntake f.attrs ∧ BuiltL f.rev

theorem built_inv : BuilderInv Node.Built Frame.Built where
  text _ _ := trivial
  leaf _ a := ⟨isIntake_intake a, trivial⟩
  opened _ a _ := ⟨isIntake_intake a, trivial⟩
  push _ _ hf hc := ⟨hf.1, hc, hf.2⟩
  close _ hf := ⟨hf.1, builtL_reverse hf.2⟩

/-- **Every tree the builder produces is `Built`** — for every token list (any order, however nested, mentioning
    the wrapper name or not), first pass or wrapped second pass. -/
theorem feedTokens_built (toks : List Token) (d : Doc) (b : Bool) (h : feedTokens toks = .doc d b) :
    ∀ r, d.root = some r → r.Built :=
  feedTokens_inv built_inv toks d b h

theorem feedTokens_stable (toks : List Token) (d : Doc) (b : Bool) (h : feedTokens toks = .doc d b) :
    ∀ r, d.root = some r → r.Stable :=
  fun r hr => built_stable r (feedTokens_built toks d b h r hr)

/-- a tree as the constructor `AdvancedTag(name, attrList, isSelfClosing)` + `appendBlock` receive it: RAW attribute
    lists (any names, any letter case, duplicates, class / style / spellcheck), text blocks as text-like tokens -/
inductive CNode where
  | tok (t : Token)
  | elem (name : Str) (attrs : List Attr) (sc : Bool) (kids : List CNode)
  deriving Repr, Inhabited

mutual
/-- what the constructor builds: name lower-cased, attributes through `intake`, void names self-closing, the flag
    cleared as soon as a block is appended -/
def CNode.build : CNode → LNode
  | .tok t => .tok t
  | .elem n l sc kids =>
      .elem (lower n) (intake l AttrState.empty) (if kids.isEmpty then sc || isVoid (lower n) else false) (buildCL kids)
def buildCL : List CNode → List LNode
  | [] => []
  | k :: ks => k.build :: buildCL ks
end

mutual
theorem cnode_built (c : CNode) : c.build.toNode.Built := by
  match c with
  | .tok t => simp [CNode.build, LNode.toNode, Node.Built]
  | .elem n l sc kids =>
    simp only [CNode.build, LNode.toNode, Node.Built]
    exact ⟨isIntake_intake l, cnodeL_built kids⟩
theorem cnodeL_built (cs : List CNode) : BuiltL (toNodeL (buildCL cs)) := by
  match cs with
  | [] => simp [buildCL, toNodeL, BuiltL]
  | c :: cs =>
    simp only [buildCL, toNodeL, BuiltL]
    exact ⟨cnode_built c, cnodeL_built cs⟩
end

theorem cnode_stable (c : CNode) : c.build.toNode.Stable := built_stable _ (cnode_built c)
theorem cnodeL_stable (cs : List CNode) : StableL (toNodeL (buildCL cs)) := builtL_stable _ (cnodeL_built cs)

mutual
theorem lnode_obs_reintake (t : LNode) (hwf : t.WF) (hst : t.toNode.Stable) : t.toNode.reintake.obs = t.toNode.obs := by
  match t, hwf, hst with
  | .tok tk, _, _ => simp [LNode.toNode, Node.reintake]
  | .elem n a sc kids, hwf, hst =>
    simp only [LNode.toNode, Node.Stable] at hst
    simp only [LNode.toNode, Node.reintake, Node.obs]
    rw [show (reintakeA a).view = a.view from hst.1, lforest_obs_reintake kids hwf.kids hst.2]
theorem lforest_obs_reintake (ks : List LNode) (hwf : WFLL ks) (hst : StableL (toNodeL ks)) :
    obsL (reintakeL (toNodeL ks)) = obsL (toNodeL ks) := by
  match ks, hwf, hst with
  | [], _, _ => simp [toNodeL, reintakeL]
  | k :: ks, hwf, hst =>
    rw [reintakeL_toNodeL_cons k ks hwf.1, toNodeL, obsL, obsL, lnode_obs_reintake k hwf.1 hst.1,
      lforest_obs_reintake ks hwf.2 hst.2]
end

end AHP
