/-
  AHP.Lemmas.Observe — lemmas for C16: synchronising any set of attribute stores changes no public view.

  `CleanT` / `CleanH` (every attribute store of a tree / holder has unique keys) is the hypothesis: it makes the
  synchronisation idempotent, and `matSel` keeps it and every view (`snapEls_matSel`, `html_matSel`, …).  `Synced h h'`
  is all an observer does to its holder (`synced_obs`): some set of its elements synchronised.  C16 cites
  `snapHolder_obs` (the snapshot of the holder is unchanged) and `clean_obs` (the hypothesis is kept).
-/
import AHP.Model.Observe
import AHP.Lemmas.PickleAttrs
import AHP.Lemmas.PickleTree
namespace AHP.Pk
open AHP

mutual
/-- every attribute store in the tree has unique keys (an invariant of `dset`/`ddel`, hence of every store the
    constructor and the mutators build) -/
def CleanT : DN → Prop
  | .text _ => True
  | .el _ _ _ a _ blocks _ _ _ _ => (dkeys a.dict).Nodup ∧ CleanTL blocks
def CleanTL : List DN → Prop
  | [] => True
  | b :: bs => CleanT b ∧ CleanTL bs
end

theorem blockShape_matSelL (sel : Nat → Bool) (bs : List DN) : blockShape (matSelL sel bs) = blockShape bs := by
  induction bs with
  | nil => rfl
  | cons b bs ih => cases b <;> simp [matSelL, matSel, blockShape, ih]

theorem attrsList_sel (c : Bool) (a : Attrs) (h : (dkeys a.dict).Nodup) :
    Attrs.attrsList (if c then Attrs.handle a else a) = Attrs.attrsList a := by
  cases c
  · rfl
  · exact Attrs.attrsList_handle a h

theorem startTag_sel (c : Bool) (n : Str) (a : Attrs) (sc : Bool) (h : (dkeys a.dict).Nodup) :
    Attrs.startTag n (if c then Attrs.handle a else a) sc = Attrs.startTag n a sc := by
  cases c
  · rfl
  · exact Attrs.startTag_handle n a sc h

theorem nodup_sel (c : Bool) (a : Attrs) (h : (dkeys a.dict).Nodup) : (dkeys (if c then Attrs.handle a else a).dict).Nodup := by
  cases c
  · exact h
  · exact Attrs.nodup_handle a h

theorem snapElsL_matSelL (sel : Nat → Bool) (bs : List DN) (h : CleanTL bs) : snapElsL (matSelL sel bs) = snapElsL bs := by
  induction bs using DN.forest_induct with
  | nil => rfl
  | text s bs ih => simp only [matSelL, matSel, snapElsL, snapEls, ih h.2]
  | el o u n a sc blocks ch tx p ow bs ihb ih =>
    simp only [matSelL, matSel, snapElsL, snapEls, attrsList_sel _ a h.1.1, blockShape_matSelL, ihb h.1.2, ih h.2]
theorem snapEls_matSel (sel : Nat → Bool) (t : DN) (h : CleanT t) : snapEls (matSel sel t) = snapEls t := by
  simpa only [matSelL, snapElsL, List.append_nil] using snapElsL_matSelL sel [t] ⟨h, trivial⟩

theorem htmlL_matSelL (sel : Nat → Bool) (bs : List DN) (h : CleanTL bs) : DN.htmlL (matSelL sel bs) = DN.htmlL bs := by
  induction bs using DN.forest_induct with
  | nil => rfl
  | text s bs ih => simp only [matSelL, matSel, DN.htmlL, DN.html, ih h.2]
  | el o u n a sc blocks ch tx p ow bs ihb ih =>
    simp only [matSelL, matSel, DN.htmlL, DN.html, startTag_sel _ n a sc h.1.1, ihb h.1.2, ih h.2]
theorem html_matSel (sel : Nat → Bool) (t : DN) (h : CleanT t) : DN.html (matSel sel t) = DN.html t := by
  simpa only [matSelL, DN.htmlL, List.append_nil] using htmlL_matSelL sel [t] ⟨h, trivial⟩

theorem inner_matSel (sel : Nat → Bool) (t : DN) (h : CleanT t) : DN.inner (matSel sel t) = DN.inner t := by
  cases t with
  | text s => simp [matSel]
  | el o u n a sc blocks ch tx p ow =>
    simp only [CleanT] at h
    simp only [matSel, DN.inner]
    rw [htmlL_matSelL sel blocks h.2]

theorem cleanL_matSelL (sel : Nat → Bool) (bs : List DN) (h : CleanTL bs) : CleanTL (matSelL sel bs) := by
  induction bs using DN.forest_induct with
  | nil => trivial
  | text s bs ih => exact ⟨trivial, ih h.2⟩
  | el o u n a sc blocks ch tx p ow bs ihb ih => exact ⟨⟨nodup_sel _ a h.1.1, ihb h.1.2⟩, ih h.2⟩
theorem clean_matSel (sel : Nat → Bool) (t : DN) (h : CleanT t) : CleanT (matSel sel t) :=
  (cleanL_matSelL sel [t] ⟨h, trivial⟩).1

theorem materialiseL_eq (bs : List DN) : materialiseL bs = matSelL (fun _ => true) bs := by
  induction bs using DN.forest_induct with
  | nil => rfl
  | text s bs ih => simp only [materialiseL, materialise, matSelL, matSel, ih]
  | el o u n a sc blocks ch tx p ow bs ihb ih => simp only [materialiseL, materialise, matSelL, matSel, if_true, ihb, ih]
/-- `materialise` (what pickling does to the original) is the synchronisation of every element -/
theorem materialise_eq (t : DN) : materialise t = matSel (fun _ => true) t := by
  simpa only [materialiseL, matSelL, List.cons.injEq, and_true] using materialiseL_eq [t]

def CleanH : Holder → Prop
  | .tree t => CleanT t
  | .parser p => match p.root with
    | some r => CleanT r
    | none => True

theorem parserHtml_matSel (p : Parser) (r : DN) (hr : p.root = some r) (sel : Nat → Bool) (h : CleanT r) :
    Parser.html { p with root := some (matSel sel r) } = Parser.html p := by
  unfold Parser.html
  simp only [hr]
  cases r with
  | text s => simp [matSel]
  | el o u n a sc blocks ch tx pp ow =>
    have h1 := html_matSel sel (.el o u n a sc blocks ch tx pp ow) h
    have h2 := inner_matSel sel (.el o u n a sc blocks ch tx pp ow) h
    simp only [matSel] at h1 h2 ⊢
    rw [h1, h2]

theorem snapHolder_setRoot_matSel (h : Holder) (r : DN) (hr : h.root = some r) (hc : CleanT r) (sel : Nat → Bool) :
    snapHolder (h.setRoot (matSel sel r)) = snapHolder h := by
  cases h with
  | tree t =>
    simp only [Holder.root, Option.some.injEq] at hr
    subst hr
    simp only [Holder.setRoot, snapHolder]
    rw [html_matSel sel t hc, snapEls_matSel sel t hc]
  | parser p =>
    simp only [Holder.root] at hr
    simp only [Holder.setRoot, snapHolder]
    rw [parserHtml_matSel p r hr sel hc]
    simp only [hr, snapEls_matSel sel r hc]

theorem clean_setRoot_matSel (h : Holder) (r : DN) (hr : h.root = some r) (hc : CleanT r) (sel : Nat → Bool) :
    CleanH (h.setRoot (matSel sel r)) := by
  cases h with
  | tree t => simp only [Holder.setRoot, CleanH]; exact clean_matSel sel r hc
  | parser p => simp only [Holder.setRoot, CleanH]; exact clean_matSel sel r hc

theorem cleanT_of_cleanH (h : Holder) (r : DN) (hr : h.root = some r) (hc : CleanH h) : CleanT r := by
  cases h with
  | tree t => simp only [Holder.root, Option.some.injEq] at hr; subst hr; exact hc
  | parser p => simp only [Holder.root] at hr; simp only [CleanH, hr] at hc; exact hc

/-- `h'` is `h` with some set of the elements of its document synchronised: all an observer does to its holder. -/
def Synced (h h' : Holder) : Prop :=
  h' = h ∨ ∃ r sel, h.root = some r ∧ h' = h.setRoot (matSel sel r)

theorem Synced.snap {h h' : Holder} (hs : Synced h h') (hc : CleanH h) : snapHolder h' = snapHolder h := by
  obtain rfl | ⟨r, sel, hr, rfl⟩ := hs
  · rfl
  · exact snapHolder_setRoot_matSel h r hr (cleanT_of_cleanH h r hr hc) sel

theorem Synced.clean {h h' : Holder} (hs : Synced h h') (hc : CleanH h) : CleanH h' := by
  obtain rfl | ⟨r, sel, hr, rfl⟩ := hs
  · exact hc
  · exact clean_setRoot_matSel h r hr (cleanT_of_cleanH h r hr hc) sel

theorem Synced.kind {h h' : Holder} (hs : Synced h h') : (∃ t, h = .tree t) ↔ (∃ t, h' = .tree t) := by
  obtain rfl | ⟨r, sel, hr, rfl⟩ := hs
  · exact Iff.rfl
  · cases h with
    | tree t => exact ⟨fun _ => ⟨_, rfl⟩, fun _ => ⟨_, rfl⟩⟩
    | parser p => exact ⟨fun ⟨_, ht⟩ => (nomatch ht), fun ⟨_, ht⟩ => (nomatch ht)⟩

theorem synced_matFoot (f : Foot) (h : Holder) : Synced h (matFoot f h) := by
  unfold matFoot
  cases hr : h.root with
  | none => exact Or.inl rfl
  | some r => exact Or.inr ⟨r, _, hr, rfl⟩

/-- pickling synchronises the whole document and leaves everything else of the parser as it was -/
theorem synced_pickle (h : Holder) : Synced h (obsHolder .pickle h).1 := by
  cases h with
  | tree t => exact Or.inr ⟨t, fun _ => true, rfl, by simp [obsHolder, Holder.setRoot, materialise_eq]⟩
  | parser p =>
    cases hr : p.root with
    | none =>
      refine Or.inl ?_
      simp only [obsHolder, Parser.afterGetstate, hr, Option.map_none]
      -- `{ p with root := none }` is `p` when `p.root = none`: by the fields of `p`
      cases p; simp_all
    | some r =>
      exact Or.inr ⟨r, fun _ => true, hr, by simp [obsHolder, Holder.setRoot, Parser.afterGetstate, hr, materialise_eq]⟩

theorem synced_obs (o : Obs) (h : Holder) : Synced h (obsHolder o h).1 := by
  cases o with
  | pickle => exact synced_pickle h
  | _ => exact synced_matFoot _ h

theorem snapHolder_obs (o : Obs) (h : Holder) (hc : CleanH h) : snapHolder (obsHolder o h).1 = snapHolder h :=
  (synced_obs o h).snap hc

/-- the holder stays clean, so the argument can be repeated -/
theorem clean_obs (o : Obs) (h : Holder) (hc : CleanH h) : CleanH (obsHolder o h).1 :=
  (synced_obs o h).clean hc

end AHP.Pk
