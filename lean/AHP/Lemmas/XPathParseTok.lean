/-
  C14f, token level: what each regular expression of AHP.Model.XPathParse does on the text of one token, in any spelling and
  with any white space the expression allows, followed by a rest it does not run into; and on a text whose first character is
  not one of its own.
-/
import AHP.Lemmas.XPathNum
import AHP.Lemmas.Str
namespace AHP.XPath

variable {N : Type}

/-! ### White space, prefixes -/

theorem skipSp_nil : skipSp [] = [] := rfl

theorem skipSp_cons_of_not {c : Char} {r : Str} (h : isSpTab c = false) : skipSp (c :: r) = c :: r := by
  simp [skipSp, List.dropWhile, h]

theorem skipSp_space (r : Str) : skipSp (' ' :: r) = skipSp r := by
  simp [skipSp, List.dropWhile, isSpTab]

/-- The characters an atom can be followed by inside a predicate body: white space, `)`, `,` or the
    first character of a symbolic operator other than `-`. -/
def followChars : List Char := [' ', '\t', ')', ',', '=', '!', '<', '>', '|', '+', '*']

/-- the text after an atom: nothing, or it starts with one of `followChars` -/
def okFollow : Str → Bool
  | [] => true
  | c :: _ => followChars.contains c

/-- what `ChainOK` asks of the text after a predicate: an admissible first character, no line feed (the `.+` of a group or call runs
    to the end of the text) and no white space at the end (`strip` of what `.+` matched must not touch it) -/
structure RestOK (rest : Str) : Prop where
  follow : okFollow rest = true
  nonl : '\n' ∉ rest
  last : ∀ c, rest.getLast? = some c → isWs c = false

theorem RestOK.nil : RestOK [] := ⟨rfl, by simp, by simp⟩

theorem okFollow_head {rest : Str} (h : okFollow rest = true) (p : Char → Bool)
    (hp : ∀ c ∈ followChars, p c = false) : ∀ c r, rest = c :: r → p c = false := by
  intro c r hr
  subst hr
  simp only [okFollow, List.contains_iff_mem] at h
  exact hp c h

theorem okFollow_of_mem {c : Char} {r : Str} (h : c ∈ followChars) : okFollow (c :: r) = true := by
  simp only [okFollow, List.contains_iff_mem]; exact h

theorem skipSp_append_ws {w : Str} (hw : w.all isSpTab = true) (s : Str) : skipSp (w ++ s) = skipSp s := by
  induction w with
  | nil => rfl
  | cons c r ih =>
    simp only [List.all_cons, Bool.and_eq_true] at hw
    simp [skipSp, hw.1]
    exact ih hw.2

theorem skipSp_ws_cons {w : Str} (hw : w.all isSpTab = true) {c : Char} (hc : isSpTab c = false) (r : Str) :
    skipSp (w ++ c :: r) = c :: r := by
  rw [skipSp_append_ws hw, skipSp_cons_of_not hc]

/-! ### Spellings of a word -/

theorem wordCI_spelled : ∀ (w v rest : Str), v.map lowerChar = w → wordCI w (v ++ rest) = some rest
  | [], v, rest, h => by
    cases v with
    | nil => rfl
    | cons c t => simp at h
  | x :: w, v, rest, h => by
    cases v with
    | nil => simp at h
    | cons c t =>
      simp only [List.map_cons, List.cons.injEq] at h
      simp [wordCI, h.1, wordCI_spelled w t rest h.2]

theorem wordCI_some : ∀ (w s r : Str), wordCI w s = some r → ∃ pre, s = pre ++ r ∧ pre.map lowerChar = w
  | [], s, r, h => by
    simp only [wordCI, Option.some.injEq] at h
    exact ⟨[], by simp [h], rfl⟩
  | x :: w, [], r, h => by simp [wordCI] at h
  | x :: w, c :: cs, r, h => by
    simp only [wordCI] at h
    split at h
    · next hx =>
      obtain ⟨pre, h1, h2⟩ := wordCI_some w cs r h
      exact ⟨c :: pre, by simp [h1], by simp [hx, h2]⟩
    · cases h

/-- a spelling of `v` is not a spelling of a word that differs from `v` within its length -/
theorem wordCI_spelled_ne (w v u rest : Str) (hu : u.map lowerChar = v) (hk : w.length ≤ v.length)
    (hne : v.take w.length ≠ w) : wordCI w (u ++ rest) = none := by
  cases h : wordCI w (u ++ rest) with
  | none => rfl
  | some r =>
    exfalso
    obtain ⟨pre, h1, h2⟩ := wordCI_some w _ r h
    have hl : pre.length = w.length := by rw [← h2]; simp
    have hul : u.length = v.length := by rw [← hu]; simp
    have : pre = u.take w.length := by
      have := congrArg (List.take w.length) h1
      rw [List.take_append_of_le_length (by omega), ← hl, List.take_left'] at this
      · rw [hl] at this; exact this.symm
      · rfl
    apply hne
    rw [← hu, ← List.map_take, ← this, h2]

/-- Every fact used about the first character of a spelled word follows from its lower-case form. -/
theorem spelled_head {w : Str} {x : Char} {t v : Str} (hw : w = x :: t) (hv : v.map lowerChar = w) :
    ∃ c r, v = c :: r ∧ lowerChar c = x ∧ r.map lowerChar = t := by
  subst hw
  cases v with
  | nil => simp at hv
  | cons c r =>
    simp only [List.map_cons, List.cons.injEq] at hv
    exact ⟨c, r, rfl, hv.1, hv.2⟩

theorem ne_of_lowerChar {c x k : Char} (h : lowerChar c = x) (hk : lowerChar k ≠ x) : c ≠ k := by
  intro e; subst e; exact hk h

theorem isSpTab_of_lowerChar {c x : Char} (h : lowerChar c = x) (h1 : x ≠ ' ') (h2 : x ≠ '\t') : isSpTab c = false := by
  have a := ne_of_lowerChar (k := ' ') h (by simpa [lowerChar] using fun e => h1 e.symm)
  have b := ne_of_lowerChar (k := '\t') h (by simpa [lowerChar] using fun e => h2 e.symm)
  simp [isSpTab, a, b]

theorem isAlpha_of_lowerChar {c : Char} (h : isAlpha (lowerChar c) = true) : isAlpha c = true := by
  unfold lowerChar at h
  split at h
  · next hu => simp [isAlpha, hu.1, hu.2]
  · exact h

theorem spelled_letter {x : Char} {t v : Str} (hv : v.map lowerChar = x :: t) (hx : isAlpha x = true) :
    ∃ c r, v = c :: r ∧ lowerChar c = x ∧ isAlpha c = true := by
  obtain ⟨c, r, rfl, hc, _⟩ := spelled_head rfl hv
  exact ⟨c, r, rfl, hc, isAlpha_of_lowerChar (hc ▸ hx)⟩

theorem not_isDigit_of_isAlpha {c : Char} (h : isAlpha c = true) : isDigit c = false := by
  have hA : 'A' ≤ c := by
    simp only [isAlpha, Bool.or_eq_true, Bool.and_eq_true, decide_eq_true_eq] at h
    rcases h with h | h
    · exact Char.le_trans (by decide) h.1
    · exact h.1
  simp only [isDigit, Bool.and_eq_false_iff, decide_eq_false_iff_not]
  exact .inr fun h9 => absurd (Char.le_trans hA h9) (by decide)

/-! ### Heads that no value generator, group or function starts with -/

/-- neither `[ \t]`, a bracket, a comma or `@`, nor (in either case) the first letter of `text`, `last`, `position`,
    `concat` / `contains`, `normalize-space` -/
def plainHead (c : Char) : Bool :=
  !isSpTab c && c != '(' && c != ')' && c != ',' && c != '@' && lowerChar c != 't' && lowerChar c != 'l' &&
    lowerChar c != 'p' && lowerChar c != 'c' && lowerChar c != 'n'

theorem wordCI_head {w c : Char} {ws r : Str} (h : lowerChar c ≠ w) : wordCI (w :: ws) (c :: r) = none := by
  simp [wordCI, h]

theorem groupOpen_head {c : Char} {r : Str} (h1 : isSpTab c = false) (h2 : c ≠ '(') : groupOpen (c :: r) = none := by
  unfold groupOpen
  rw [skipSp_cons_of_not h1]
  split
  · next r' heq => cases heq; exact absurd rfl h2
  · rfl

theorem groupClose_head {c : Char} {r : Str} (h1 : isSpTab c = false) (h2 : c ≠ ')') : groupClose (c :: r) = none := by
  unfold groupClose
  rw [skipSp_cons_of_not h1]
  split
  · next r' heq => cases heq; exact absurd rfl h2
  · rfl

theorem nextArg_head {c : Char} {r : Str} (h1 : isSpTab c = false) (h2 : c ≠ ',') : nextArg (c :: r) = none := by
  unfold nextArg
  rw [skipSp_cons_of_not h1]
  split
  · next r' heq => cases heq; exact absurd rfl h2
  · rfl

theorem groupClose_paren (rest : Str) : groupClose (')' :: rest) = some (skipSp rest) := by
  simp [groupClose, skipSp, List.dropWhile, isSpTab]

theorem nextArg_comma (rest : Str) : nextArg (',' :: rest) = some (skipSp rest) := by
  simp [nextArg, skipSp, List.dropWhile, isSpTab]

theorem plainHead_facts {c : Char} (h : plainHead c = true) :
    isSpTab c = false ∧ c ≠ '(' ∧ c ≠ ')' ∧ c ≠ ',' ∧ c ≠ '@' ∧ lowerChar c ≠ 't' ∧ lowerChar c ≠ 'l' ∧
      lowerChar c ≠ 'p' ∧ lowerChar c ≠ 'c' ∧ lowerChar c ≠ 'n' := by
  simpa [plainHead, and_assoc] using h

theorem genTok_plain {c : Char} {r : Str} (h : plainHead c = true) : genTok (N := N) (c :: r) = none := by
  obtain ⟨_, _, _, _, h5, h6, h7, h8, _, _⟩ := plainHead_facts h
  have ha : attrTok (c :: r) = none := by
    unfold attrTok
    split
    · next r' heq => cases heq; exact absurd rfl h5
    · rfl
  simp [genTok, ha, fn0Tok, wordCI_head h6, wordCI_head h7, wordCI_head h8]

theorem fnOpenTok_head {w c : Char} {ws r : Str} (h : lowerChar c ≠ w) : fnOpenTok (w :: ws) (c :: r) = none := by
  simp [fnOpenTok, wordCI_head h]

theorem fnOpenTok_none {w : Str} {s : Str} (h : wordCI w s = none) : fnOpenTok w s = none := by
  simp [fnOpenTok, h]

/-! ### The function calls of `item` as a list -/

/-- The function calls `item` tries after the value generators, in the order of `VALUE_GENERATOR_RES`: the word and
    what is made of the parsed arguments. -/
def callFns : List (Str × (List (BE N) → Option (BE N))) :=
  [(wConcat, mkConcat), (wContains, mkContains), (wNspace, mkNspace)]

/-- `item` from the function calls on: `item` spells the three calls out one after the other, here the calls are a list. -/
def fnItem (nm : Num N) (f : Nat) (t : Str) : List (Str × (List (BE N) → Option (BE N))) → Option (BE N × Str)
  | [] => restTok nm t
  | (w, mk) :: fs =>
    match fnOpenTok w t with
    | some body =>
      match loop nm f .args (strip body) [] [] with
      | some (cur, done, rest) => (mk (finishArgs cur done)).map (·, rest)
      | none => none
    | none => fnItem nm f t fs

theorem item_succ (nm : Num N) (f : Nat) (s : Str) :
    item nm (f + 1) s =
      match groupOpen s with
      | some body =>
        match loop nm f .group (strip body) [] [] with
        | some (cur, _, rest) => some (.group cur, rest)
        | none => none
      | none =>
        match genTok (skipSp s) with
        | some x => some x
        | none => fnItem nm f (skipSp s) callFns := by
  rw [item]; rfl

theorem fnItem_skip (nm : Num N) (f : Nat) {t w : Str} (mk : List (BE N) → Option (BE N))
    (fs : List (Str × (List (BE N) → Option (BE N)))) (h : fnOpenTok w t = none) :
    fnItem nm f t ((w, mk) :: fs) = fnItem nm f t fs := by
  simp only [fnItem, h]

theorem item_plain (nm : Num N) (f : Nat) {c : Char} {r : Str} (h : plainHead c = true) :
    item nm (f + 1) (c :: r) = restTok nm (c :: r) := by
  obtain ⟨h1, h2, _, _, _, _, _, _, h9, h10⟩ := plainHead_facts h
  rw [item_succ, groupOpen_head h1 h2, skipSp_cons_of_not h1, genTok_plain h]
  simp only [callFns, wConcat, wContains, wNspace, fnItem, fnOpenTok_head h9, fnOpenTok_head h10]

/-! ### String literals -/

/-- does the text (preceded by a backslash or not) end in a backslash? -/
def endsBs : Bool → Str → Bool
  | bs, [] => bs
  | _, c :: r => endsBs (c = '\\') r

theorem endsBs_getLast (s : Str) (bs : Bool) (h : (s.getLast? != some '\\') = true) (hb : s = [] → bs = false) :
    endsBs bs s = false := by
  induction s generalizing bs with
  | nil => simpa [endsBs] using hb rfl
  | cons c r ih =>
    simp only [endsBs]
    apply ih
    · cases r with
      | nil => simp
      | cons d r' => simpa [List.getLast?_cons_cons] using h
    · intro hr
      subst hr
      simpa using h

theorem litQ_append (q : Char) (s rest : Str) (bs : Bool) (hq : s.contains q = false) (he : endsBs bs s = false) :
    litQ q bs (s ++ q :: rest) = some (s, rest) := by
  induction s generalizing bs with
  | nil =>
    simp only [endsBs] at he
    simp [litQ, he]
  | cons c r ih =>
    simp only [List.contains_cons, Bool.or_eq_false_iff] at hq
    have hc : c ≠ q := by
      intro h; subst h; simp at hq
    simp only [List.cons_append, litQ, hc, if_false]
    rw [ih _ (by simpa using hq.2) (by simpa [endsBs] using he)]
    rfl

theorem quoteWith_cases (b : Bool) (s : Str) : quoteWith b s = '"' ∨ quoteWith b s = '\'' := by
  unfold quoteWith
  split
  · exact .inr rfl
  · split
    · exact .inl rfl
    · cases b <;> simp

theorem strOk_facts {s : Str} (b : Bool) (h : strOk s = true) :
    s.contains (quoteWith b s) = false ∧ s.contains '\n' = false ∧ endsBs false s = false := by
  simp only [strOk, Bool.and_eq_true, Bool.not_eq_true', Bool.and_eq_false_iff] at h
  refine ⟨?_, h.1.2, endsBs_getLast s false h.2 (fun _ => rfl)⟩
  unfold quoteWith
  cases h1 : s.contains '"' with
  | true =>
    simp only [if_true]
    rcases h.1.1 with h' | h'
    · rw [h1] at h'; cases h'
    · exact h'
  | false =>
    simp only [Bool.false_eq_true, if_false]
    cases h2 : s.contains '\'' with
    | true => simpa using h1
    | false =>
      cases b
      · simpa using h1
      · simpa using h2

theorem strTok_lit (q : Char) (s rest : Str) (hq : s.contains q = false) (he : endsBs false s = false) :
    strTok q (q :: (s ++ q :: rest)) = some (s, skipSp rest) := by
  simp [strTok, litQ_append q s rest false hq he]

theorem strTok_head {q c : Char} {r : Str} (h : c ≠ q) : strTok q (c :: r) = none := by
  simp [strTok, h]

theorem restTok_str (nm : Num N) (b : Bool) (s rest : Str) (h : strOk s = true) :
    restTok nm (quoteWith b s :: (s ++ quoteWith b s :: rest)) = some (.val (.str s), skipSp rest) := by
  obtain ⟨h1, _, h3⟩ := strOk_facts b h
  rcases quoteWith_cases b s with hq | hq
  · rw [hq] at h1 ⊢
    simp [restTok, staticTok, strTok_lit '"' s rest h1 h3]
  · rw [hq] at h1 ⊢
    simp [restTok, staticTok, strTok_lit '\'' s rest h1 h3, strTok_head (q := '"') (c := '\'') (by decide)]

theorem plainHead_quoteWith (b : Bool) (s : Str) : plainHead (quoteWith b s) = true := by
  rcases quoteWith_cases b s with h | h <;> rw [h] <;> decide +kernel

/-! ### Number literals -/

/-- what may follow a numeral: neither a digit nor a dot, which the number expression would take in -/
def numStop (rest : Str) : Prop := ∀ c r, rest = c :: r → isDigit c = false ∧ c ≠ '.'

theorem numStop_of_follow {rest : Str} (h : okFollow rest = true) : numStop rest := by
  intro c r hr
  have h1 := okFollow_head h isDigit (by decide) c r hr
  have h2 := okFollow_head h (· = '.') (by decide) c r hr
  exact ⟨h1, by simpa using h2⟩

theorem takeWhile_digits (ds : List (Fin 10)) {rest : Str} (h : ∀ c r, rest = c :: r → isDigit c = false) :
    (ds.map digitChar ++ rest).takeWhile isDigit = ds.map digitChar :=
  takeWhile_append_stop (all_isDigit_map ds) h

theorem dropWhile_digits (ds : List (Fin 10)) {rest : Str} (h : ∀ c r, rest = c :: r → isDigit c = false) :
    (ds.map digitChar ++ rest).dropWhile isDigit = rest :=
  dropWhile_append_stop (all_isDigit_map ds) h

theorem numTok_int (ds : List (Fin 10)) (rest : Str) (hne : ds ≠ []) (hs : numStop rest) :
    numTok (ds.map digitChar ++ rest) = some (ds.map digitChar, skipSp rest) := by
  have hd : ∀ c r, rest = c :: r → isDigit c = false := fun c r h => (hs c r h).1
  cases ds with
  | nil => exact absurd rfl hne
  | cons d ds' =>
    have htw := takeWhile_digits (d :: ds') hd
    have hdw := dropWhile_digits (d :: ds') hd
    simp only [List.map_cons, List.cons_append] at htw hdw ⊢
    unfold numTok
    simp only [htw, hdw, splitSign, digitChar_ne_minus d, if_false]
    cases rest with
    | nil => simp
    | cons c r =>
      have := (hs c r rfl).2
      split
      · next f heq => exact absurd (List.cons.inj heq).1 this
      · simp

theorem numTok_frac (neg : Bool) (ip fp : List (Fin 10)) (rest : Str) (hne : fp ≠ []) (hs : numStop rest) :
    numTok ((if neg then ['-'] else []) ++ ip.map digitChar ++ ('.' :: fp.map digitChar) ++ rest)
      = some ((if neg then ['-'] else []) ++ ip.map digitChar ++ ('.' :: fp.map digitChar), skipSp rest) := by
  have hd : ∀ c r, rest = c :: r → isDigit c = false := fun c r h => (hs c r h).1
  have hdot : ∀ c r, ('.' :: (fp.map digitChar ++ rest)) = c :: r → isDigit c = false := by
    intro c r h
    rw [← (List.cons.inj h).1]; decide
  have h1 : (ip.map digitChar ++ '.' :: (fp.map digitChar ++ rest)).dropWhile isDigit = '.' :: (fp.map digitChar ++ rest) :=
    dropWhile_digits ip hdot
  have h2 : (ip.map digitChar ++ '.' :: (fp.map digitChar ++ rest)).takeWhile isDigit = ip.map digitChar :=
    takeWhile_digits ip hdot
  have h3 := takeWhile_digits fp hd
  have h4 := dropWhile_digits fp hd
  have hfe : (fp.map digitChar).isEmpty = false := by
    cases fp with
    | nil => exact absurd rfl hne
    | cons d ds => rfl
  have hss : splitSign (ip.map digitChar ++ '.' :: (fp.map digitChar ++ rest))
      = ([], ip.map digitChar ++ '.' :: (fp.map digitChar ++ rest)) := by
    cases ip with
    | nil => simp [splitSign]
    | cons d ds => simp [splitSign, digitChar_ne_minus d]
  cases neg with
  | true =>
    simp only [if_true, List.cons_append, List.nil_append, List.append_assoc]
    unfold numTok
    simp only [splitSign, if_true, h1, h2, h3, h4, hfe]
    simp
  | false =>
    simp only [Bool.false_eq_true, if_false, List.nil_append, List.append_assoc, List.cons_append]
    unfold numTok
    simp only [hss, h1, h2, h3, h4, hfe]
    simp

theorem numTok_lit (l : NumLit) (rest : Str) (hw : l.wf = true) (hs : numStop rest) :
    numTok (l.text ++ rest) = some (l.text, skipSp rest) := by
  obtain ⟨neg, ip, fp⟩ := l
  cases fp with
  | none =>
    simp only [NumLit.wf, Bool.and_eq_true, Bool.not_eq_true', List.isEmpty_eq_false_iff] at hw
    simp only [NumLit.text, hw.2, Bool.false_eq_true, if_false, List.nil_append, List.append_nil]
    exact numTok_int ip rest hw.1 hs
  | some f =>
    simp only [NumLit.wf, Bool.not_eq_true', List.isEmpty_eq_false_iff] at hw
    simp only [NumLit.text]
    exact numTok_frac neg ip f rest hw hs

def numChars : List Char := ['-', '.', '0', '1', '2', '3', '4', '5', '6', '7', '8', '9']

theorem numLit_mem (l : NumLit) : ∀ c ∈ l.text, c ∈ numChars := by
  have hd : ∀ d : Fin 10, digitChar d ∈ numChars := by decide +kernel
  intro c hc
  simp only [NumLit.text, List.mem_append, List.mem_map] at hc
  rcases hc with (hc | ⟨d, _, rfl⟩) | hc
  · split at hc
    · rw [List.mem_singleton.1 hc]; decide
    · cases hc
  · exact hd d
  · split at hc
    · rcases List.mem_cons.1 hc with rfl | hc
      · decide
      · obtain ⟨d, _, rfl⟩ := List.mem_map.1 hc
        exact hd d
    · cases hc

theorem numLit_ne_nil (l : NumLit) (hw : l.wf = true) : l.text ≠ [] := by
  obtain ⟨neg, ip, fp⟩ := l
  cases fp with
  | some f => simp [NumLit.text]
  | none =>
    simp only [NumLit.wf, Bool.and_eq_true, Bool.not_eq_true', List.isEmpty_eq_false_iff] at hw
    simp [NumLit.text, hw.1]

theorem numLit_head (l : NumLit) (hw : l.wf = true) : ∃ c r, l.text = c :: r ∧ c ∈ numChars := by
  cases h : l.text with
  | nil => exact absurd h (numLit_ne_nil l hw)
  | cons c r => exact ⟨c, r, rfl, numLit_mem l c (by rw [h]; simp)⟩

theorem numChars_head : ∀ c ∈ numChars, plainHead c = true ∧ c ≠ '"' ∧ c ≠ '\'' ∧ c ≠ '=' := by decide +kernel

theorem restTok_num (nm : Num N) (l : NumLit) (x : N) (rest : Str) (hw : l.wf = true) (hp : nm.parse l.text = some x)
    (hs : numStop rest) : restTok nm (l.text ++ rest) = some (.val (.num x), skipSp rest) := by
  obtain ⟨c, r, ht, hc⟩ := numLit_head l hw
  obtain ⟨_, h1, h2, _⟩ := numChars_head c hc
  have hn := numTok_lit l rest hw hs
  rw [ht] at hn ⊢
  simp only [List.cons_append] at hn ⊢
  simp [restTok, staticTok, strTok_head h1, strTok_head h2, hn, ← ht, hp]

/-! ### Attributes, `text()`, `last()`, `position()` -/

theorem isSpTab_false_of_nameStart {c : Char} (h : isNameStart c = true) : isSpTab c = false := by
  cases hs : isSpTab c with
  | false => rfl
  | true =>
    have : c = ' ' ∨ c = '\t' := by simpa [isSpTab] using hs
    rcases this with rfl | rfl <;> simp [isNameStart, isAlpha] at h <;> revert h <;> decide +kernel

theorem genTok_attr (n rest : Str) (hn : attrNameOk n = true) (hf : okFollow rest = true) :
    genTok (N := N) ('@' :: (n ++ rest)) = some (.attr n, skipSp rest) := by
  cases n with
  | nil => simp [attrNameOk] at hn
  | cons c r =>
    simp only [attrNameOk, Bool.or_eq_true, Bool.and_eq_true, decide_eq_true_eq, List.isEmpty_iff] at hn
    rcases hn with ⟨rfl, rfl⟩ | ⟨h1, h2⟩
    · simp [genTok, attrTok]
    · have hc : c ≠ '*' := by
        intro h; subst h; revert h1; decide
      have hstop : ∀ c' r', rest = c' :: r' → isAttrChar c' = false :=
        okFollow_head hf isAttrChar (by decide)
      simp [genTok, attrTok, hc, h1, takeWhile_append_stop h2 hstop, dropWhile_append_stop h2 hstop]

theorem attrTok_head {c : Char} {r : Str} (h : c ≠ '@') : attrTok (c :: r) = none := by
  unfold attrTok
  split
  · next r' heq => exact absurd (List.cons.inj heq).1 h
  · rfl

/-- `word [ \t]* ( [ \t]* )` in any spelling -/
theorem fn0Tok_spelled (w v w1 w2 rest : Str) (hv : v.map lowerChar = w) (h1 : w1.all isSpTab = true)
    (h2 : w2.all isSpTab = true) : fn0Tok w (v ++ (w1 ++ ('(' :: (w2 ++ (')' :: rest))))) = some (skipSp rest) := by
  simp [fn0Tok, wordCI_spelled w v _ hv, skipSp_ws_cons h1 (show isSpTab '(' = false by decide),
    skipSp_ws_cons h2 (show isSpTab ')' = false by decide)]

theorem dotPlusEnd_plain {r : Str} (hne : r ≠ []) (hn : '\n' ∉ r) : dotPlusEnd r = some r := by
  have hl : r.getLast? ≠ some '\n' := fun h => hn (List.mem_of_getLast? h)
  have hc : r.contains '\n' = false := by simpa using hn
  have he : r.isEmpty = false := by simpa using hne
  simp [dotPlusEnd, hl, hn, he]

theorem fnOpenTok_spelled (w v w1 body : Str) (hv : v.map lowerChar = w) (h1 : w1.all isSpTab = true)
    (hne : body ≠ []) (hn : '\n' ∉ body) : fnOpenTok w (v ++ (w1 ++ ('(' :: body))) = some body := by
  simp [fnOpenTok, wordCI_spelled w v _ hv, skipSp_ws_cons h1 (show isSpTab '(' = false by decide), dotPlusEnd_plain hne hn]

theorem fn0Tok_head {w c : Char} {ws r : Str} (h : lowerChar c ≠ w) : fn0Tok (w :: ws) (c :: r) = none := by
  simp [fn0Tok, wordCI_head h]

/-- `text ( )`, `last ( )`, `position ( )` in any spelling: the expressions before the word's own fail on its first letter -/
theorem genTok_fn0 {w : Str} {e : BE N} (hw : (w, e) ∈ [(wText, BE.text), (wLast, BE.last), (wPosition, BE.position)])
    (v w1 w2 rest : Str) (hv : v.map lowerChar = w) (h1 : w1.all isSpTab = true) (h2 : w2.all isSpTab = true) :
    genTok (v ++ (w1 ++ ('(' :: (w2 ++ (')' :: rest))))) = some (e, skipSp rest) := by
  have hf := fn0Tok_spelled w v w1 w2 rest hv h1 h2
  simp only [List.mem_cons, Prod.mk.injEq, List.not_mem_nil, or_false] at hw
  rcases hw with ⟨rfl, rfl⟩ | ⟨rfl, rfl⟩ | ⟨rfl, rfl⟩
  · obtain ⟨c, r, rfl, hc, _⟩ := spelled_head (x := 't') rfl hv
    simp only [List.cons_append, wText] at hf ⊢
    simp [genTok, attrTok_head (ne_of_lowerChar hc (by decide)), hf]
  · obtain ⟨c, r, rfl, hc, _⟩ := spelled_head (x := 'l') rfl hv
    simp only [List.cons_append, wLast] at hf ⊢
    simp [genTok, attrTok_head (ne_of_lowerChar hc (by decide)), fn0Tok_head (show lowerChar c ≠ 't' by rw [hc]; decide), hf]
  · obtain ⟨c, r, rfl, hc, _⟩ := spelled_head (x := 'p') rfl hv
    simp only [List.cons_append, wPosition] at hf ⊢
    simp [genTok, attrTok_head (ne_of_lowerChar hc (by decide)), fn0Tok_head (show lowerChar c ≠ 't' by rw [hc]; decide),
      fn0Tok_head (show lowerChar c ≠ 'l' by rw [hc]; decide), hf]

theorem item_gen (nm : Num N) (f : Nat) {c : Char} {r : Str} {x : BE N × Str} (h1 : isSpTab c = false) (h2 : c ≠ '(')
    (hg : genTok (c :: r) = some x) : item nm (f + 1) (c :: r) = some x := by
  rw [item_succ, groupOpen_head h1 h2, skipSp_cons_of_not h1, hg]

/-! ### Operators -/

/-- What the text after an operator must look like: no `=` (it would turn `<` / `>` into `<=` / `>=`; asked of every
    operator), and white space after the operators with `needR`: `and` / `or`, and `-` (a digit or a dot would make it
    the sign of a literal).  Only an operator without `needR` may stand at the end of the text. -/
def opStop (o : Op) (rest : Str) : Prop :=
  match rest with
  | [] => needR o = false
  | c :: _ => c ≠ '=' ∧ (needR o = true → isSpTab c = true)

/-- `v` is a way of writing the operator: any letter case of a word operator, the symbol itself otherwise -/
def OpSpelled (o : Op) (v : Str) : Prop := if isWordOp o = true then v.map lowerChar = opText o else v = opText o

theorem plainHead_letter {c : Char} (h : isAlpha c = true) (hl : lowerChar c ∉ ['t', 'l', 'p', 'c', 'n']) : plainHead c = true := by
  have ne : ∀ k, isAlpha k = false → c ≠ k := fun k hk => ne_of_class hk h
  simp only [List.mem_cons, List.not_mem_nil, or_false, not_or] at hl
  simp [plainHead, isSpTab, ne ' ' (by decide), ne '\t' (by decide), ne '(' (by decide), ne ')' (by decide), ne ',' (by decide),
    ne '@' (by decide), hl]

theorem plainHead_spelled_op (o : Op) (v : Str) (hv : OpSpelled o v) : ∃ c r, v = c :: r ∧ plainHead c = true := by
  rcases o with (_ | _ | _ | _ | _ | _) | (_ | _ | _ | _ | _ | _) | (_ | _) <;>
    simp only [OpSpelled, isWordOp, opText, if_true, Bool.false_eq_true, if_false] at hv
  case arith.div | arith.mod | bool.and | bool.or =>
    obtain ⟨c, r, rfl, hc, ha⟩ := spelled_letter hv (by decide)
    exact ⟨c, r, rfl, plainHead_letter ha (by rw [hc]; decide)⟩
  all_goals exact ⟨_, _, hv, by decide⟩

/-! ### The literal and operator tokens fail on a foreign head -/

theorem numTok_head {c : Char} {r : Str} (h1 : isDigit c = false) (h2 : c ≠ '-') (h3 : c ≠ '.') : numTok (c :: r) = none := by
  simp only [numTok, splitSign, h2, if_false, List.takeWhile, List.dropWhile, h1]
  split
  · next f heq => exact absurd (List.cons.inj heq).1 h3
  · simp

theorem cmpTok_head {c : Char} {r : Str} (h1 : c ≠ '=') (h2 : c ≠ '!') (h3 : c ≠ '<') (h4 : c ≠ '>') : cmpTok (c :: r) = none := by
  unfold cmpTok
  split <;> first | rfl | (next heq => first | exact absurd (List.cons.inj heq).1 h1 | exact absurd (List.cons.inj heq).1 h2 | exact absurd (List.cons.inj heq).1 h3 | exact absurd (List.cons.inj heq).1 h4)

/-- on a head that is none of the symbols, `OPERATION_RES` is down to its two words -/
theorem arithTok_head {c : Char} {r : Str} (h1 : c ≠ '|') (h2 : c ≠ '+') (h3 : c ≠ '-') (h4 : c ≠ '*') :
    arithTok (c :: r) = arithWords (c :: r) := by
  unfold arithTok
  split <;> first | rfl | (next heq => first | exact absurd (List.cons.inj heq).1 h1 | exact absurd (List.cons.inj heq).1 h2 | exact absurd (List.cons.inj heq).1 h3 | exact absurd (List.cons.inj heq).1 h4)

theorem staticTok_head (nm : Num N) {c : Char} {r : Str} (h1 : c ≠ '"') (h2 : c ≠ '\'') (h3 : isDigit c = false)
    (h4 : c ≠ '-') (h5 : c ≠ '.') : staticTok nm (c :: r) = none := by
  simp only [staticTok, strTok_head h1, strTok_head h2, numTok_head h3 h4 h5]

/-! ### A spelled operator in front of `opStop` -/

/-- a word operator: the static values and the symbols do not match its first letter, `OPERATION_RES` and
    `BOOLEAN_OPS_RES` are down to their words -/
theorem restTok_word {x : Char} {t v : Str} (nm : Num N) (rest : Str) (hv : v.map lowerChar = x :: t) (hx : isAlpha x = true) :
    restTok nm (v ++ rest) =
      match arithWords (v ++ rest) with
      | some (o, r) => some (.op (.arith o), r)
      | none =>
        match boolTok (v ++ rest) with
        | some (o, r) => some (.op (.bool o), r)
        | none => none := by
  obtain ⟨c, r, rfl, _, hc⟩ := spelled_letter hv hx
  have ne : ∀ k, isAlpha k = false → c ≠ k := fun k hk => ne_of_class hk hc
  simp only [List.cons_append, restTok,
    staticTok_head nm (ne '"' (by decide)) (ne '\'' (by decide)) (not_isDigit_of_isAlpha hc) (ne '-' (by decide)) (ne '.' (by decide)),
    cmpTok_head (ne '=' (by decide)) (ne '!' (by decide)) (ne '<' (by decide)) (ne '>' (by decide)),
    arithTok_head (ne '|' (by decide)) (ne '+' (by decide)) (ne '-' (by decide)) (ne '*' (by decide))]
  rfl

theorem cmpTok_lt {rest : Str} (h : ∀ c t, rest = c :: t → c ≠ '=') : cmpTok ('<' :: rest) = some (.lt, skipSp rest) := by
  cases rest with
  | nil => rfl
  | cons d t => simp [cmpTok, h d t rfl]

theorem cmpTok_gt {rest : Str} (h : ∀ c t, rest = c :: t → c ≠ '=') : cmpTok ('>' :: rest) = some (.gt, skipSp rest) := by
  cases rest with
  | nil => rfl
  | cons d t => simp [cmpTok, h d t rfl]

theorem opStop_ne_eq {o : Op} {rest : Str} (h : opStop o rest) : ∀ c t, rest = c :: t → c ≠ '=' := by
  intro c t hr; subst hr; exact h.1

theorem opStop_sp {o : Op} {rest : Str} (h : opStop o rest) (hn : needR o = true) :
    ∃ c t, rest = c :: t ∧ isSpTab c = true := by
  cases rest with
  | nil => rw [show needR o = false from h] at hn; cases hn
  | cons c t => exact ⟨c, t, rfl, h.2 hn⟩

theorem sp1_of_stop {rest : Str} {c : Char} {t : Str} (hr : rest = c :: t) (hc : isSpTab c = true) : sp1 rest = some (skipSp rest) := by
  subst hr; simp [sp1, hc]

/-- An operator in any of its spellings, followed by a text it does not run into.  The symbols are decided by
    evaluating the alternation on the symbol itself; the words by their first letter. -/
theorem restTok_op (nm : Num N) (o : Op) (v rest : Str) (hv : OpSpelled o v) (hs : opStop o rest) :
    restTok nm (v ++ rest) = some (.op o, skipSp rest) := by
  rcases o with (_ | _ | _ | _ | _ | _) | (_ | _ | _ | _ | _ | _) | (_ | _) <;>
    simp only [OpSpelled, isWordOp, opText, if_true, Bool.false_eq_true, if_false] at hv
  case arith.concat | arith.add | arith.mul | cmp.eq | cmp.ne | cmp.le | cmp.ge => subst hv; rfl
  case arith.sub =>
    -- `-` followed by white space is not the sign of a numeral
    obtain ⟨c, t, rfl, hc⟩ := opStop_sp hs rfl
    have : c = ' ' ∨ c = '\t' := by simpa [isSpTab] using hc
    subst hv
    rcases this with rfl | rfl <;> rfl
  case cmp.lt =>
    subst hv
    rw [List.cons_append, List.nil_append, restTok, show staticTok nm ('<' :: rest) = none from rfl, cmpTok_lt (opStop_ne_eq hs)]
  case cmp.gt =>
    subst hv
    rw [List.cons_append, List.nil_append, restTok, show staticTok nm ('>' :: rest) = none from rfl, cmpTok_gt (opStop_ne_eq hs)]
  case arith.div =>
    rw [restTok_word nm rest hv (by decide)]
    simp only [arithWords, wordCI_spelled _ v rest hv]
  case arith.mod =>
    rw [restTok_word nm rest hv (by decide)]
    have hw := wordCI_spelled _ v rest hv
    obtain ⟨c, r, rfl, hc, _⟩ := spelled_head rfl hv
    simp only [arithWords, List.cons_append, wordCI_head (show lowerChar c ≠ 'd' by rw [hc]; decide)]
    simp only [List.cons_append] at hw
    simp only [hw]
  case bool.and =>
    rw [restTok_word nm rest hv (by decide)]
    obtain ⟨d, t, hr, hd⟩ := opStop_sp hs rfl
    have hw := wordCI_spelled _ v rest hv
    obtain ⟨c, r, rfl, hc, _⟩ := spelled_head rfl hv
    simp only [List.cons_append] at hw
    simp only [arithWords, boolTok, List.cons_append, wordCI_head (show lowerChar c ≠ 'd' by rw [hc]; decide),
      wordCI_head (show lowerChar c ≠ 'm' by rw [hc]; decide), hw, Option.bind_some, sp1_of_stop hr hd]
  case bool.or =>
    rw [restTok_word nm rest hv (by decide)]
    obtain ⟨d, t, hr, hd⟩ := opStop_sp hs rfl
    have hw := wordCI_spelled _ v rest hv
    obtain ⟨c, r, rfl, hc, _⟩ := spelled_head rfl hv
    simp only [List.cons_append] at hw
    simp only [arithWords, boolTok, List.cons_append, wordCI_head (show lowerChar c ≠ 'd' by rw [hc]; decide),
      wordCI_head (show lowerChar c ≠ 'm' by rw [hc]; decide), wordCI_head (show lowerChar c ≠ 'a' by rw [hc]; decide),
      Option.bind_none, hw, Option.bind_some, sp1_of_stop hr hd]

end AHP.XPath
