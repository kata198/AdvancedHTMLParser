/-
  AHP.Lemmas.FormatLexPretty — C12d and C12b at string level: **what re-tokenising and re-formatting does to the blocks
  of formatter output, and why it stops changing** — after the second pass for the pretty classes (pretty³ = pretty²),
  after the first for the mini classes on documents without adjacent data blocks (mini² = mini).  First the tree side
  (`gK`, `stabN`/`stabL`), then one pass through the real pipeline text → `lexStrict` → formatter → text
  (`pass_step_open`, `pass_step_multi`), then the multi-pass statements (`pretty_text_stable_core…`,
  `mini_text_fixed_point…`).

  One pass of a formatter followed by re-tokenisation maps the children `kk` of an element `m` that sits in context
  `c` to `gK cfg c m sc kk = mergeL (expandL … kk ++ dataTok (endInd …))` (`outRoot` of `FormatLexDoc` is `gK` at the
  root).  `mergeL ∘ expandL` is computed from the left by `mx_data` / `mx_tok` / `mx_elem` (`pushData` = put a data
  text in front of a merged block list).  Then, for the pretty classes (`cfg.mini = false`, indent unit of
  spaces/tabs) and every strict tree: `gK (gK (gK kk)) = gK (gK kk)` (`stabN`), by cases on where the element sits:

  * below pre/code, or pre/code itself: nothing is rewritten, `gK kk = mergeL kk`, already `gK (gK kk) = gK kk`;
  * script/style outside pre/code: the content becomes one data block that ends with the element's `_indent` after
    the first pass; `getEndTag` then omits the indent — `gK (gK kk) = gK kk` (the fix `2e405e2`);
  * every other element: the position-wise induction `stabL`.  After the first pass every element child is preceded
    by a data block that ends with the child's `_indent` `I`, and the last block ends with the element's own
    `_indent`; the data block `d ++ I` becomes `sq (d ++ I) ++ I` in the next pass and
    `sq (sq (d ++ I) ++ I) ++ I = sq (d ++ I) ++ I` in the one after (`squeeze_indent_stable`); data blocks that meet
    no indent are fixed by idempotence of the data rule.

  Multi-root documents (the invisible wrapper; `getHTML` prints its children only, after the doctype line and its line
  break): one pass + re-tokenisation maps the wrapper's blocks `ks` to `outBlocksM cfg dt ks`
  `= pushData (dtText dt) (MX cfg ⟨0,0⟩ wrapper [] ks)` (`outBlocksM_eq`): the merged expansion at level 0 with no end
  text, and the doctype's line break glued in front — which the NEXT pass strips again (`squeeze_dtText`,
  `MX_pushData_dt`: the data rule removes leading line breaks).  Hence three passes are
  `pushData (dtText dt) (MX (MX (MX ks)))` and
  `stabL` (with the empty end text) gives pass 3 = pass 2 (`outBlocksM_stable`).  `pass_step_open` / `pass_step_multi`
  package one pass through the real pipeline.

  Names: `gK` = what a pass makes of an element's children ("kids"); `MX` = `mergeL ∘ expandL` followed by an end text,
  `mx_*` / `MX_*` its equations from the left; `StabAt`, `stabN` / `stabL` = "stable from the second pass on" for a node / a
  block list; `…_open` = elements may still be open at the end of the input (the parser's final state `ps` is arbitrary);
  `…_core` = the form without the `∃ out3, … ∧ out3 = out2` of the Props statement.
-/
import AHP.Lemmas.FormatLexMini
namespace AHP.Fmt
open AHP

/-- put the data text `a` in front of `r`: nothing for the empty text, glued to a leading data block -/
def pushData (a : Str) (r : List FNode) : List FNode := if a.isEmpty then r else pushTok (.data a) r

theorem pushData_nil (r : List FNode) : pushData [] r = r := by simp [pushData]

theorem pushData_ne (a : Str) (h : a ≠ []) (r : List FNode) : pushData a r = pushTok (.data a) r := by
  simp [pushData, List.isEmpty_eq_false_iff.mpr h]

theorem pushData_empty (a : Str) : pushData a [] = dataTok a := by
  unfold pushData dataTok
  split
  · rfl
  · exact pushTok_data_nil a

theorem pushData_data (a b : Str) (r : List FNode) :
    pushData a (.tok (.data b) :: r) = .tok (.data (a ++ b)) :: r := by
  unfold pushData
  split
  · rename_i h
    have : a = [] := by simpa using h
    subst this; rfl
  · exact pushTok_data_data a b r

theorem pushData_tok (a : Str) (t : Token) (h : isData t = false) (r : List FNode) :
    pushData a (.tok t :: r) = dataTok a ++ .tok t :: r := by
  unfold pushData dataTok
  split
  · rfl
  · exact pushTok_data_tok a t h r

theorem pushData_elem (a : Str) (n : Str) (st : AStore) (sc : Bool) (kids r : List FNode) :
    pushData a (.elem n st sc kids :: r) = dataTok a ++ .elem n st sc kids :: r := by
  unfold pushData dataTok
  split
  · rfl
  · exact pushTok_elem _ n st sc kids r

theorem pushData_dataTok (a b : Str) : pushData a (dataTok b) = dataTok (a ++ b) := by
  by_cases hb : b = []
  · subst hb
    simp [dataTok, pushData_empty]
  · rw [dataTok_ne b hb, pushData_data, dataTok_ne]
    simp [hb]

theorem pushData_pushData (a b : Str) (r : List FNode) : pushData a (pushData b r) = pushData (a ++ b) r := by
  by_cases hb : b = []
  · subst hb; simp [pushData_nil]
  · cases r with
    | nil => rw [pushData_empty, pushData_empty, pushData_dataTok]
    | cons k r' =>
      cases k with
      | elem n st sc kids =>
        rw [pushData_elem, pushData_elem, dataTok_ne b hb]
        simp only [List.cons_append, List.nil_append]
        rw [pushData_data, dataTok_ne _ (by simp [hb])]
        rfl
      | tok t =>
        rcases data_cases t with ⟨c, rfl⟩ | hd
        · rw [pushData_data, pushData_data, pushData_data, List.append_assoc]
        · rw [pushData_tok b t hd, pushData_tok (a ++ b) t hd, dataTok_ne b hb]
          simp only [List.cons_append, List.nil_append]
          rw [pushData_data, dataTok_ne _ (by simp [hb])]
          rfl

theorem mergeL_dataTok_append (a : Str) (l : List FNode) : mergeL (dataTok a ++ l) = pushData a (mergeL l) := by
  unfold dataTok pushData
  split
  · rfl
  · simp [mergeL]

theorem mergeL_dataTok (a : Str) : mergeL (dataTok a) = dataTok a := by
  have := mergeL_dataTok_append a []
  simp only [List.append_nil] at this
  rw [this]
  simp [mergeL, pushData_empty]

/-- what one formatter pass followed by re-tokenisation makes of the children `kk` of the element `m` (self-closing
    flag `sc`) that sits in context `c` -/
def gK (cfg : Cfg) (c : Ctx) (m : Str) (sc : Bool) (kk : List FNode) : List FNode :=
  mergeL (if sc then [] else
    expandL cfg (c.push m) m kk
      ++ dataTok (endInd m (indentAt cfg c) (decorateL cfg (c.push m) m (toNodeL kk))))

theorem outRoot_eq_gK (cfg : Cfg) (n : Str) (st : AStore) (sc : Bool) (kids : List FNode) :
    outRoot cfg n st sc kids = .elem n st sc (gK cfg ⟨0, 0⟩ n sc kids) := rfl

theorem mx_data (cfg : Cfg) (c : Ctx) (p s : Str) (ks z : List FNode) :
    mergeL (expandL cfg c p (.tok (.data s) :: ks) ++ z)
      = pushData (dataRule c p s) (mergeL (expandL cfg c p ks ++ z)) := by
  simp only [expandL, expand, expandTok, List.append_assoc]
  exact mergeL_dataTok_append _ _

theorem mx_tok (cfg : Cfg) (c : Ctx) (p : Str) (t : Token) (h : isData t = false) (ks z : List FNode) :
    mergeL (expandL cfg c p (.tok t :: ks) ++ z) = .tok t :: mergeL (expandL cfg c p ks ++ z) := by
  simp only [expandL, expand, expandTok_nondata c p h, List.cons_append, List.nil_append, mergeL]
  exact pushTok_notData t h _

theorem mx_elem (cfg : Cfg) (c : Ctx) (p m : Str) (st : AStore) (sc : Bool) (kk ks z : List FNode) :
    mergeL (expandL cfg c p (.elem m st sc kk :: ks) ++ z)
      = pushData (indentAt cfg c) (.elem m st sc (gK cfg c m sc kk) :: mergeL (expandL cfg c p ks ++ z)) := by
  simp only [expandL, expand, List.append_assoc, List.cons_append, List.nil_append]
  rw [mergeL_dataTok_append]
  simp only [mergeL, gK]

theorem mx_dataTok (cfg : Cfg) (c : Ctx) (p a : Str) (hr : dataRule c p [] = []) (l z : List FNode) :
    mergeL (expandL cfg c p (dataTok a ++ l) ++ z)
      = pushData (dataRule c p a) (mergeL (expandL cfg c p l ++ z)) := by
  by_cases ha : a = []
  · subst ha
    simp [dataTok, hr, pushData_nil]
  · rw [dataTok_ne a ha]
    exact mx_data cfg c p a l z

/-- pre/code elements and everything below pre/code: one pass glues adjacent data blocks, a second one changes
    nothing -/
theorem gK_pre (cfg : Cfg) (c : Ctx) (m : Str) (kk : List FNode) (h : c.inPre ≠ 0 ∨ isPre m = true)
    (hb : BuildableL kk) : gK cfg c m false kk = mergeL kk := by
  have hc' : (c.push m).inPre ≠ 0 := by
    rcases h with h | h
    · exact push_inPre_ne_zero c m h
    · exact push_inPre_of_pre c m h
  unfold gK
  simp only [Bool.false_eq_true, if_false]
  rw [endInd_pre cfg c m _ h, expandL_inPre cfg _ m hc' kk hb]
  simp [dataTok]

theorem mergeL_rawText (l : List FNode) (raw : Str) (h : rawText l = some raw) : mergeL l = dataTok raw := by
  have h1 := rawText_mergeL l raw h
  rcases rawText_noAdj (mergeL l) raw h1 (glued_mergeL l).2 with ⟨e1, e2⟩ | ⟨e1, e2⟩
  · rw [e1, e2]; rfl
  · rw [e1, dataTok_ne raw e2]

theorem lastText_data (ind s : Str) (c : Ctx) (cfg : Cfg) (m : Str) (hp : isPreserve m = true) :
    lastTextEndsWith ind (decorateL cfg c m (toNodeL [.tok (.data s)])) = endsWith ind s := by
  simp [toNodeL, FNode.toNode, isVerb, renderTok, decorateL, decorate, hp, lastTextEndsWith]

theorem lastText_raw (cfg : Cfg) (c : Ctx) (m : Str) (hp : isPreserve m = true) (ind : Str) (hne : ind ≠ []) :
    ∀ (kk : List FNode) (raw : Str), rawText kk = some raw →
      lastTextEndsWith ind (decorateL cfg c m (toNodeL kk)) = true → ind <:+ raw
  | [], raw, _, h => by
    simp only [toNodeL, decorateL, lastTextEndsWith, List.getLast?_nil] at h
    rw [endsWith_iff] at h
    exact absurd (List.suffix_nil.mp h) hne
  | [k], raw, hr, h => by
    obtain ⟨s, r', rfl, _, hr', rfl⟩ := rawText_cons k [] raw hr
    simp only [rawText, Option.some.injEq] at hr'
    subst hr'
    rw [lastText_data ind s c cfg m hp, endsWith_iff] at h
    simpa using h
  | k :: k2 :: ks, raw, hr, h => by
    obtain ⟨s, r', rfl, _, hr', rfl⟩ := rawText_cons k (k2 :: ks) raw hr
    have h' : lastTextEndsWith ind (decorateL cfg c m (toNodeL (k2 :: ks))) = true := by
      simp only [toNodeL, decorateL, lastTextEndsWith, List.getLast?_cons_cons] at h ⊢
      exact h
    have := lastText_raw cfg c m hp ind hne (k2 :: ks) r' hr' h'
    simpa using List.suffix_append_of_suffix this

/-- first pass over script/style outside pre/code: the content becomes one data block that ends with the `_indent` -/
theorem gK_raw1 (cfg : Cfg) (c : Ctx) (m : Str) (hr : isRawText m = true) (hne : indentAt cfg c ≠ [])
    (kk : List FNode) (raw : Str) (hraw : rawText kk = some raw) :
    ∃ raw1, gK cfg c m false kk = [.tok (.data raw1)] ∧ indentAt cfg c <:+ raw1 := by
  have hp := rawName_preserve m hr
  have hpre := raw_not_pre m hr
  refine ⟨raw ++ endInd m (indentAt cfg c) (decorateL cfg (c.push m) m (toNodeL kk)), ?_, ?_⟩
  · unfold gK
    simp only [Bool.false_eq_true, if_false]
    rw [expandL_raw cfg (c.push m) m hp kk raw hraw, mergeL_rawText _ _ (rawText_append_dataTok kk raw _ hraw)]
    apply dataTok_ne
    intro h0
    have h1 := List.append_eq_nil_iff.mp h0
    have hlt : lastTextEndsWith (indentAt cfg c) (decorateL cfg (c.push m) m (toNodeL kk)) = true := by
      cases hl : lastTextEndsWith (indentAt cfg c) (decorateL cfg (c.push m) m (toNodeL kk)) with
      | true => rfl
      | false =>
        have := h1.2
        simp only [endInd, hpre, hp, hl, Bool.and_false, Bool.false_eq_true, if_false] at this
        exact absurd this hne
    have := lastText_raw cfg (c.push m) m hp _ hne kk raw hraw hlt
    rw [h1.1] at this
    exact hne (List.suffix_nil.mp this)
  · cases hl : lastTextEndsWith (indentAt cfg c) (decorateL cfg (c.push m) m (toNodeL kk)) with
    | true =>
      have he : endInd m (indentAt cfg c) (decorateL cfg (c.push m) m (toNodeL kk)) = [] := by
        have hne' : (indentAt cfg c).isEmpty = false := by
          cases h : indentAt cfg c with
          | nil => exact absurd h hne
          | cons x xs => rfl
        simp [endInd, hpre, hp, hl, hne']
      rw [he, List.append_nil]
      exact lastText_raw cfg (c.push m) m hp _ hne kk raw hraw hl
    | false =>
      have he : endInd m (indentAt cfg c) (decorateL cfg (c.push m) m (toNodeL kk)) = indentAt cfg c := by
        simp [endInd, hpre, hl]
      rw [he]
      exact List.suffix_append _ _

/-- a later pass over script/style whose content ends with the `_indent`: `getEndTag` finds the indent already
    there, nothing changes -/
theorem gK_raw2 (cfg : Cfg) (c : Ctx) (m : Str) (hr : isRawText m = true) (hne : indentAt cfg c ≠ [])
    (raw1 : Str) (hsuf : indentAt cfg c <:+ raw1) :
    gK cfg c m false [.tok (.data raw1)] = [.tok (.data raw1)] := by
  have hp := rawName_preserve m hr
  have hpre := raw_not_pre m hr
  have hr1 : raw1 ≠ [] := by
    intro h0; rw [h0] at hsuf
    exact hne (List.suffix_nil.mp hsuf)
  have hraw : rawText [FNode.tok (.data raw1)] = some raw1 := by
    simp [rawText, List.isEmpty_eq_false_iff.mpr hr1]
  have hne' : (indentAt cfg c).isEmpty = false := by
    cases h : indentAt cfg c with
    | nil => exact absurd h hne
    | cons x xs => rfl
  unfold gK
  simp only [Bool.false_eq_true, if_false]
  rw [expandL_raw cfg (c.push m) m hp _ raw1 hraw]
  have he : endInd m (indentAt cfg c) (decorateL cfg (c.push m) m (toNodeL [FNode.tok (.data raw1)])) = [] := by
    rw [endInd, lastText_data _ raw1 (c.push m) cfg m hp, (endsWith_iff _ _).mpr hsuf]
    simp [hpre, hp, hne']
  rw [he]
  simp [dataTok, mergeL, pushTok_data_nil]

/-- one pass + re-tokenisation on a block list in context `(c, p)` that is followed by the data text `e` (the
    parent's `_indent` before its end tag) -/
def MX (cfg : Cfg) (c : Ctx) (p e : Str) (v : List FNode) : List FNode := mergeL (expandL cfg c p v ++ dataTok e)

theorem MX_nil (cfg : Cfg) (c : Ctx) (p e : Str) : MX cfg c p e [] = dataTok e := by
  simp [MX, expandL, mergeL_dataTok]

theorem MX_data (cfg : Cfg) (c : Ctx) (p e : Str) (hc : c.inPre = 0) (hp : isPreserve p = false) (s : Str)
    (v : List FNode) : MX cfg c p e (.tok (.data s) :: v) = pushData (squeeze s) (MX cfg c p e v) := by
  unfold MX
  rw [mx_data, dataRule_sq c p s hc hp]

theorem MX_tok (cfg : Cfg) (c : Ctx) (p e : Str) (t : Token) (h : isData t = false) (v : List FNode) :
    MX cfg c p e (.tok t :: v) = .tok t :: MX cfg c p e v := mx_tok cfg c p t h v _

theorem MX_elem (cfg : Cfg) (c : Ctx) (p e m : Str) (st : AStore) (sc : Bool) (kk v : List FNode) :
    MX cfg c p e (.elem m st sc kk :: v)
      = pushData (indentAt cfg c) (.elem m st sc (gK cfg c m sc kk) :: MX cfg c p e v) := mx_elem cfg c p m st sc kk v _

theorem MX_dataTok (cfg : Cfg) (c : Ctx) (p e : Str) (hc : c.inPre = 0) (hp : isPreserve p = false) (a : Str)
    (l : List FNode) : MX cfg c p e (dataTok a ++ l) = pushData (squeeze a) (MX cfg c p e l) := by
  unfold MX
  rw [mx_dataTok cfg c p a (dataRule_nil c p), dataRule_sq c p a hc hp]

/-- what "stable from the second pass on" means for one element in context `c` -/
def StabAt (cfg : Cfg) (c : Ctx) : FNode → Prop
  | .tok _ => True
  | .elem m _ sc kk => gK cfg c m sc (gK cfg c m sc (gK cfg c m sc kk)) = gK cfg c m sc (gK cfg c m sc kk)

theorem strict_gK (cfg : Cfg) (hi : IndentWS cfg) (c : Ctx) (m : Str) (st : AStore) (sc : Bool) (kk : List FNode)
    (hs : (FNode.elem m st sc kk).Strict) : (FNode.elem m st sc (gK cfg c m sc kk)).Strict :=
  strict_merge _ (strict_expElem cfg hi c m st sc kk hs)

theorem strict_kids_buildable (m : Str) (st : AStore) (sc : Bool) (kk : List FNode)
    (hs : (FNode.elem m st sc kk).Strict) : BuildableL kk :=
  (strict_buildable _ hs).kids

theorem gK_eq_MX (cfg : Cfg) (c : Ctx) (m : Str) (hp : isPreserve m = false) (v : List FNode) :
    gK cfg c m false v = MX cfg (c.push m) m (indentAt cfg c) v := by
  simp only [gK, MX, Bool.false_eq_true, if_false, endInd_normal m _ _ hp]

theorem gK_pre_idem (cfg : Cfg) (c : Ctx) (m : Str) (kk : List FNode) (h : c.inPre ≠ 0 ∨ isPre m = true)
    (hb : BuildableL kk) (hb2 : BuildableL (mergeL kk)) :
    gK cfg c m false (gK cfg c m false kk) = gK cfg c m false kk := by
  rw [gK_pre cfg c m kk h hb, gK_pre cfg c m _ h hb2, mergeL_idem]

mutual
theorem stabN (cfg : Cfg) (hm : cfg.mini = false) (hi : IndentWS cfg) :
    ∀ u : FNode, u.Strict → ∀ c : Ctx, StabAt cfg c u
  | .tok _, _, _ => trivial
  | .elem m st sc kk, hs, c => by
    have hidem : sc = false → c.inPre ≠ 0 ∨ isPre m = true → StabAt cfg c (.elem m st sc kk) := by
      rintro rfl hpre
      have hs2 := strict_gK cfg hi c m st false kk hs
      rw [gK_pre cfg c m kk hpre (strict_kids_buildable m st false kk hs)] at hs2
      have h2 := gK_pre_idem cfg c m kk hpre (strict_kids_buildable m st false kk hs)
        (strict_kids_buildable m st false _ hs2)
      simp only [StabAt]; rw [h2]; exact h2
    by_cases hc : c.inPre = 0
    · have hI := indentAt_isIndent cfg hm hi c hc
      rcases hs.elem_cases with ⟨rfl, rfl⟩ | ⟨rfl, hr, _, raw, hraw, _⟩ | ⟨rfl, _, hpre, _⟩ | ⟨rfl, _, hpre, hp, hkk⟩
      · simp [StabAt, gK]
      · -- script/style: the content ends with the `_indent` after the first pass, then `getEndTag` adds nothing
        obtain ⟨raw1, e1, hsuf⟩ := gK_raw1 cfg c m hr (isIndent_ne _ hI) kk raw hraw
        have e2 := gK_raw2 cfg c m hr (isIndent_ne _ hI) raw1 hsuf
        simp only [StabAt]; rw [e1, e2, e2]
      · exact hidem rfl (Or.inr hpre)
      · have := stabL cfg hm hi kk hkk (c.push m) m (indentAt cfg c) (push_inPre_zero c m hc hpre) hp (Or.inr hI) []
        simpa only [StabAt, gK_eq_MX cfg c m hp, pushData_nil] using this
    · cases sc with
      | true => simp [StabAt, gK]
      | false => exact hidem rfl (Or.inl hc)
theorem stabL (cfg : Cfg) (hm : cfg.mini = false) (hi : IndentWS cfg) :
    ∀ ks : List FNode, StrictL ks → ∀ (c : Ctx) (p e : Str), c.inPre = 0 → isPreserve p = false →
      (e = [] ∨ IsIndent e) →
      ∀ a : Str, MX cfg c p e (MX cfg c p e (pushData a (MX cfg c p e ks))) = MX cfg c p e (pushData a (MX cfg c p e ks))
  | [], _, c, p, e, hc, hp, he, a => by
    have hd : ∀ x, MX cfg c p e (dataTok x) = dataTok (squeeze x ++ e) := by
      intro x
      have := MX_dataTok cfg c p e hc hp x []
      rw [List.append_nil] at this
      rw [this, MX_nil, pushData_dataTok]
    rw [MX_nil, pushData_dataTok, hd, hd]
    rcases he with rfl | he
    · simp only [List.append_nil, squeeze_idem]
    · rw [squeeze_indent_stable a e he]
  | k :: ks, hs, c, p, e, hc, hp, he, a => by
    have ih := stabL cfg hm hi ks hs.2 c p e hc hp he []
    simp only [pushData_nil] at ih
    have ihN := stabN cfg hm hi k hs.1 c
    cases k with
    | tok t =>
      rcases data_cases t with ⟨s, rfl⟩ | hd
      · rw [MX_data cfg c p e hc hp, pushData_pushData]
        exact stabL cfg hm hi ks hs.2 c p e hc hp he _
      · rw [MX_tok cfg c p e t hd, pushData_tok a t hd, MX_dataTok cfg c p e hc hp, MX_tok cfg c p e t hd,
          pushData_tok _ t hd, MX_dataTok cfg c p e hc hp, MX_tok cfg c p e t hd, ih, squeeze_idem,
          pushData_tok _ t hd]
    | elem m st sc kk =>
      simp only [StabAt] at ihN
      have hI := indentAt_isIndent cfg hm hi c hc
      have hne := isIndent_ne _ hI
      have step : ∀ (x : Str) (K R : List FNode),
          MX cfg c p e (.tok (.data (x ++ indentAt cfg c)) :: .elem m st sc K :: R)
            = .tok (.data (squeeze (x ++ indentAt cfg c) ++ indentAt cfg c))
                :: .elem m st sc (gK cfg c m sc K) :: MX cfg c p e R := by
        intro x K R
        rw [MX_data cfg c p e hc hp, MX_elem, pushData_pushData, pushData_elem, dataTok_ne _ (by simp [hne])]
        rfl
      have h0 : pushData a (MX cfg c p e (.elem m st sc kk :: ks))
          = .tok (.data (a ++ indentAt cfg c)) :: .elem m st sc (gK cfg c m sc kk) :: MX cfg c p e ks := by
        rw [MX_elem, pushData_pushData, pushData_elem, dataTok_ne _ (by simp [hne])]
        rfl
      rw [h0, step, step, ih, ihN, squeeze_indent_stable a _ hI]
end

/-- **pass 3 = pass 2 on the blocks of the root element** (pretty classes, every strict tree) -/
theorem outRoot_stable (cfg : Cfg) (hm : cfg.mini = false) (hi : IndentWS cfg) (n : Str) (st : AStore) (sc : Bool)
    (kids : List FNode) (hs : (FNode.elem n st sc kids).Strict) :
    gK cfg ⟨0, 0⟩ n sc (gK cfg ⟨0, 0⟩ n sc (gK cfg ⟨0, 0⟩ n sc kids)) = gK cfg ⟨0, 0⟩ n sc (gK cfg ⟨0, 0⟩ n sc kids) := by
  have := stabN cfg hm hi _ hs ⟨0, 0⟩
  simpa only [StabAt] using this

theorem nw_gK (cfg : Cfg) (c : Ctx) (m : Str) (st : AStore) (sc : Bool) (kk : List FNode)
    (h : (FNode.elem m st sc kk).NoWrapper) : (FNode.elem m st sc (gK cfg c m sc kk)).NoWrapper :=
  nw_merge _ (nw_expElem cfg c m st sc kk h)

theorem name_ne_wrapper (n : Str) (st : AStore) (sc : Bool) (kids : List FNode) (hs : (FNode.elem n st sc kids).Strict)
    (hnw : (FNode.elem n st sc kids).NoWrapper) : n ≠ wrapper := by
  rw [← hs.lower_name]; exact hnw.1

theorem noWrapperStart_strictToks (dt : Option Str) (u : FNode) (hs : u.Strict) (hnw : u.NoWrapper) :
    NoWrapperStart (strictToks dt u) := by
  intro t ht
  simp only [strictToks, List.map_append, List.mem_append, List.mem_map] at ht
  rcases ht with ⟨t0, ht0, rfl⟩ | ⟨t0, ht0, rfl⟩
  · exact nw_dtToks dt t0 ht0
  · exact noWrapper_toks _ (strict_textLike _ hs) hnw t0 ht0

/-- **One pass, text to text.**  Any class with a spaces/tabs indent unit; a token sequence that the plain parser
    builds into the strict single-root document `u` (doctype `dt`) — `ps` is the parser's final state, **elements still
    open at the end of the input included** (`ps.root` is the tree with them closed, what `getHTML` serialises).  The formatter's output is the rendering of
    `outToks cfg dt u`; the strict lexer reads it back as exactly those tokens; they do not start the wrapper; and the
    plain parser builds from them the document whose root is `u` with its children replaced by `gK` of them — again
    strict and free of the reserved name.  (So the next pass is this lemma again, with `gK … kids` for `kids`.) -/
theorem pass_step_open (cfg : Cfg) (hi : IndentWS cfg) (dt : Option Str) (hdt : DtOK dt) (n : Str) (st : AStore) (sc : Bool)
    (kids : List FNode) (hs : (FNode.elem n st sc kids).Strict) (hnw : (FNode.elem n st sc kids).NoWrapper)
    (toks : List Tok) (hnws : NoWrapperStart toks) (ps : St)
    (hp : Plain.feed toks = .ok ps) (hroot : ps.root = some (FNode.elem n st sc kids).toNode) (hd : ps.doctype = dt) :
    format cfg toks = .ok (renderToksY (styleOf cfg.kind) (outToks cfg dt (.elem n st sc kids)))
    ∧ lexStrict (renderToksY (styleOf cfg.kind) (outToks cfg dt (.elem n st sc kids)))
        = some (outToks cfg dt (.elem n st sc kids))
    ∧ NoWrapperStart ((outToks cfg dt (.elem n st sc kids)).map Tok.ofToken)
    ∧ Plain.feed ((outToks cfg dt (.elem n st sc kids)).map Tok.ofToken)
        = .ok ⟨[], some (FNode.elem n st sc (gK cfg ⟨0, 0⟩ n sc kids)).toNode, dt, 0, 0⟩
    ∧ (FNode.elem n st sc (gK cfg ⟨0, 0⟩ n sc kids)).Strict
    ∧ (FNode.elem n st sc (gK cfg ⟨0, 0⟩ n sc kids)).NoWrapper := by
  have hn := name_ne_wrapper n st sc kids hs hnw
  have htext := format_text cfg toks hnws ps hp n st sc kids hroot (fun e => absurd e hn) hs
  have hdoc : docToks cfg dt n st sc kids = outToks cfg dt (.elem n st sc kids) := by
    unfold docToks; simp [hn]
  rw [hd, hdoc] at htext
  have hstrict2 := strict_gK cfg hi ⟨0, 0⟩ n st sc kids hs
  have hnw2 := nw_gK cfg ⟨0, 0⟩ n st sc kids hnw
  refine ⟨htext, doc_lex cfg hi dt _ hs hdt,
    nw_out dt _ (strict_expand cfg hi ⟨0, 0⟩ [] _ hs) (nw_expand cfg _ _ _ hnw), ?_, hstrict2, hnw2⟩
  · have := doc_reparse cfg hi dt n st sc kids hs hdt
    rw [outRoot_eq_gK] at this
    exact this

theorem pass_step (cfg : Cfg) (hi : IndentWS cfg) (dt : Option Str) (hdt : DtOK dt) (n : Str) (st : AStore) (sc : Bool)
    (kids : List FNode) (hs : (FNode.elem n st sc kids).Strict) (hnw : (FNode.elem n st sc kids).NoWrapper)
    (toks : List Tok) (hnws : NoWrapperStart toks)
    (hp : Plain.feed toks = .ok ⟨[], some (FNode.elem n st sc kids).toNode, dt, 0, 0⟩) :
    format cfg toks = .ok (renderToksY (styleOf cfg.kind) (outToks cfg dt (.elem n st sc kids)))
    ∧ lexStrict (renderToksY (styleOf cfg.kind) (outToks cfg dt (.elem n st sc kids)))
        = some (outToks cfg dt (.elem n st sc kids))
    ∧ NoWrapperStart ((outToks cfg dt (.elem n st sc kids)).map Tok.ofToken)
    ∧ Plain.feed ((outToks cfg dt (.elem n st sc kids)).map Tok.ofToken)
        = .ok ⟨[], some (FNode.elem n st sc (gK cfg ⟨0, 0⟩ n sc kids)).toNode, dt, 0, 0⟩
    ∧ (FNode.elem n st sc (gK cfg ⟨0, 0⟩ n sc kids)).Strict
    ∧ (FNode.elem n st sc (gK cfg ⟨0, 0⟩ n sc kids)).NoWrapper :=
  pass_step_open cfg hi dt hdt n st sc kids hs hnw toks hnws _ hp rfl rfl

/-- the output text depends on the root's children only through `gK` of them -/
theorem outToks_congr (cfg : Cfg) (dt : Option Str) (n : Str) (st : AStore) (sc : Bool) (k1 k2 : List FNode)
    (h : gK cfg ⟨0, 0⟩ n sc k1 = gK cfg ⟨0, 0⟩ n sc k2) :
    outToks cfg dt (.elem n st sc k1) = outToks cfg dt (.elem n st sc k2) := by
  simp only [outToks, outBlocks_eq, outRoot_eq_gK, h]

/-- **C12d at string level (pretty³ = pretty²).**  Pretty class (normal or slim elements, indent unit of spaces/tabs),
    ANY token sequence whose plain-parser tree is a strict single-root document `u` — any size and depth, implicit
    closes, elements left open at the end of the input — without the reserved name.  Feed the formatter the tokens; lex
    the output text; feed the formatter those tokens; lex again; feed again: the third output text is the second. -/
theorem pretty_text_stable_core_open (cfg : Cfg) (hm : cfg.mini = false) (hi : IndentWS cfg)
    (n : Str) (st : AStore) (sc : Bool) (kids : List FNode)
    (hs : (FNode.elem n st sc kids).Strict) (hnw : (FNode.elem n st sc kids).NoWrapper)
    (toks : List Tok) (hnws : NoWrapperStart toks) (ps : St) (hp : Plain.feed toks = .ok ps)
    (hroot : ps.root = some (FNode.elem n st sc kids).toNode) (hdt : DtOK ps.doctype) :
    ∃ out1 toks2 out2 toks3, format cfg toks = .ok out1 ∧ lexStrict out1 = some toks2 ∧
      format cfg (toks2.map Tok.ofToken) = .ok out2 ∧ lexStrict out2 = some toks3 ∧
      format cfg (toks3.map Tok.ofToken) = .ok out2 := by
  obtain ⟨f1, l1, w1, p1, s1, n1⟩ := pass_step_open cfg hi ps.doctype hdt n st sc kids hs hnw toks hnws ps hp hroot rfl
  obtain ⟨f2, l2, w2, p2, s2, n2⟩ := pass_step cfg hi ps.doctype hdt n st sc _ s1 n1 _ w1 p1
  obtain ⟨f3, _, _, _, _, _⟩ := pass_step cfg hi ps.doctype hdt n st sc _ s2 n2 _ w2 p2
  refine ⟨_, _, _, _, f1, l1, f2, l2, ?_⟩
  rw [f3]
  congr 2
  exact outToks_congr cfg ps.doctype n st sc _ _ (outRoot_stable cfg hm hi n st sc kids hs)

theorem pretty_text_stable_core (cfg : Cfg) (hm : cfg.mini = false) (hi : IndentWS cfg) (dt : Option Str)
    (hdt : DtOK dt) (n : Str) (st : AStore) (sc : Bool) (kids : List FNode)
    (hs : (FNode.elem n st sc kids).Strict) (hnw : (FNode.elem n st sc kids).NoWrapper) :
    ∃ out1 toks2 out2 toks3, format cfg (strictToks dt (.elem n st sc kids)) = .ok out1 ∧ lexStrict out1 = some toks2 ∧
      format cfg (toks2.map Tok.ofToken) = .ok out2 ∧ lexStrict out2 = some toks3 ∧
      format cfg (toks3.map Tok.ofToken) = .ok out2 :=
  pretty_text_stable_core_open cfg hm hi n st sc kids hs hnw _ (noWrapperStart_strictToks dt _ hs hnw) _
    (plain_feed_strictToks dt hdt n st sc kids hs) rfl hdt

/-- with `mini` a pass writes no `_indent`: on blocks without adjacent data blocks it is `expandL`, nothing is glued -/
theorem gK_mini (cfg : Cfg) (hm : cfg.mini = true) (c : Ctx) (m : Str) (sc : Bool) (kk : List FNode)
    (hg : GluedL kk) (ha : FNoAdjL kk) :
    gK cfg c m sc kk = if sc then [] else expandL cfg (c.push m) m kk := by
  unfold gK
  rw [indentAt_mini cfg hm, endInd_nil]
  cases sc with
  | true => simp [mergeL]
  | false =>
    have h := glued_expandL cfg hm (c.push m) m kk hg ha
    simp only [Bool.false_eq_true, if_false, dataTok, List.isEmpty_nil, if_true, List.append_nil]
    exact mergeL_glued _ h.1 h.2

theorem gK_mini_idem (cfg : Cfg) (hm : cfg.mini = true) (c : Ctx) (m : Str) (sc : Bool) (kk : List FNode)
    (hg : GluedL kk) (ha : FNoAdjL kk) : gK cfg c m sc (gK cfg c m sc kk) = gK cfg c m sc kk := by
  cases sc with
  | true => simp [gK]
  | false =>
    have h := glued_expandL cfg hm (c.push m) m kk hg ha
    rw [gK_mini cfg hm c m false kk hg ha]
    simp only [Bool.false_eq_true, if_false]
    rw [gK_mini cfg hm c m false _ h.1 h.2]
    simp only [Bool.false_eq_true, if_false]
    exact expandL_idem cfg hm _ m kk

/-- **C12b at string level (mini² = mini).**  Mini class (normal or slim elements), a strict single-root document
    without adjacent data blocks and without the reserved name: the formatter's output text lexes, and feeding the
    formatter the tokens of its own output gives the identical text. -/
theorem mini_text_fixed_point (cfg : Cfg) (hm : cfg.mini = true) (hi : IndentWS cfg) (dt : Option Str)
    (hdt : DtOK dt) (n : Str) (st : AStore) (sc : Bool) (kids : List FNode)
    (hs : (FNode.elem n st sc kids).Strict) (hg : (FNode.elem n st sc kids).Glued)
    (hnw : (FNode.elem n st sc kids).NoWrapper) :
    ∃ out toks2, format cfg (strictToks dt (.elem n st sc kids)) = .ok out ∧ lexStrict out = some toks2 ∧
      format cfg (toks2.map Tok.ofToken) = .ok out := by
  obtain ⟨f1, l1, w1, p1, s1, n1⟩ := pass_step cfg hi dt hdt n st sc kids hs hnw _
    (noWrapperStart_strictToks dt _ hs hnw) (plain_feed_strictToks dt hdt n st sc kids hs)
  obtain ⟨f2, _⟩ := pass_step cfg hi dt hdt n st sc _ s1 n1 _ w1 p1
  refine ⟨_, _, f1, l1, ?_⟩
  rw [f2]
  congr 2
  exact outToks_congr cfg dt n st sc _ _ (gK_mini_idem cfg hm ⟨0, 0⟩ n sc kids hg.1 hg.2)

theorem outBlocksM_eq (cfg : Cfg) (dt : Option Str) (ks : List FNode) :
    outBlocksM cfg dt ks = pushData (dtText dt) (MX cfg ⟨0, 0⟩ wrapper [] ks) := by
  unfold outBlocksM MX
  rw [Ctx.push_wrapper, dtBlock_eq, mergeL_dataTok_append]
  simp [dataTok]

theorem squeeze_dtText (dt : Option Str) (x : Str) : squeeze (dtText dt ++ x) = squeeze x := by
  cases dt with
  | none => rfl
  | some d =>
    by_cases hd : d.isEmpty = true
    · simp [dtText, hd]
    · simp only [dtText, hd, Bool.false_eq_true, if_false, List.cons_append, List.nil_append]
      exact squeeze_lf_cons x

theorem squeeze_dtText_nil (dt : Option Str) : squeeze (dtText dt) = [] := by
  have := squeeze_dtText dt []
  rw [List.append_nil] at this
  rw [this]
  exact squeeze_nil

/-- the doctype's line break glued in front of a block list is invisible to the next pass -/
theorem MX_pushData_dt (cfg : Cfg) (c : Ctx) (p e : Str) (hc : c.inPre = 0) (hp : isPreserve p = false)
    (dt : Option Str) (z : List FNode) :
    MX cfg c p e (pushData (dtText dt) z) = MX cfg c p e z := by
  cases z with
  | nil =>
    rw [pushData_empty]
    have := MX_dataTok cfg c p e hc hp (dtText dt) []
    rw [List.append_nil] at this
    rw [this, squeeze_dtText_nil, pushData_nil]
  | cons k r =>
    cases k with
    | elem n st sc kids =>
      rw [pushData_elem, MX_dataTok cfg c p e hc hp, squeeze_dtText_nil, pushData_nil]
    | tok t =>
      rcases data_cases t with ⟨b, rfl⟩ | hd
      · rw [pushData_data, MX_data cfg c p e hc hp, MX_data cfg c p e hc hp, squeeze_dtText]
      · rw [pushData_tok _ t hd, MX_dataTok cfg c p e hc hp, squeeze_dtText_nil, pushData_nil]

/-- **pass 3 = pass 2 on the blocks of a multi-root document** (pretty classes) -/
theorem outBlocksM_stable (cfg : Cfg) (hm : cfg.mini = false) (hi : IndentWS cfg) (dt : Option Str) (ks : List FNode)
    (hs : StrictL ks) :
    outBlocksM cfg dt (outBlocksM cfg dt (outBlocksM cfg dt ks)) = outBlocksM cfg dt (outBlocksM cfg dt ks) := by
  have hst := stabL cfg hm hi ks hs ⟨0, 0⟩ wrapper [] rfl preserve_wrapper (Or.inl rfl) []
  simp only [pushData_nil] at hst
  simp only [outBlocksM_eq, MX_pushData_dt cfg ⟨0, 0⟩ wrapper [] rfl preserve_wrapper, hst]

theorem nw_outBlocksM (cfg : Cfg) (dt : Option Str) (kids : List FNode) (h : NoWrapperL kids) :
    NoWrapperL (outBlocksM cfg dt kids) :=
  nw_front dt _ (nw_expandL cfg _ wrapper kids h)

/-- **One pass, text to text, multi-root.**  Any class with a spaces/tabs indent unit; a token sequence that the plain
    parser builds into the strict multi-root document with top-level blocks `kids` (the wrapper element; doctype `dt`).
    The formatter's output is the rendering of `outToksM cfg dt kids`; the strict lexer reads it back as exactly those
    tokens; they do not start the wrapper; the plain parser builds from them the multi-root document with blocks
    `outBlocksM cfg dt kids` — again strict, free of the reserved name and rejected by a first pass. -/
theorem pass_step_multi (cfg : Cfg) (hi : IndentWS cfg) (dt : Option Str) (hdt : DtOK dt) (kids : List FNode)
    (hs : StrictL kids) (hnw : NoWrapperL kids) (hmulti : topScan false kids = none)
    (toks : List Tok) (hnws : NoWrapperStart toks) (ps : St) (hp : Plain.feed toks = .ok ps)
    (hroot : ps.root = some (FNode.elem wrapper {} false kids).toNode) (hd : ps.doctype = dt) :
    format cfg toks = .ok (renderToksY (styleOf cfg.kind) (outToksM cfg dt kids))
    ∧ lexStrict (renderToksY (styleOf cfg.kind) (outToksM cfg dt kids)) = some (outToksM cfg dt kids)
    ∧ NoWrapperStart ((outToksM cfg dt kids).map Tok.ofToken)
    ∧ Plain.feed ((outToksM cfg dt kids).map Tok.ofToken)
        = .ok ⟨[], some (FNode.elem wrapper {} false (outBlocksM cfg dt kids)).toNode, dt, 0, 0⟩
    ∧ StrictL (outBlocksM cfg dt kids) ∧ NoWrapperL (outBlocksM cfg dt kids)
    ∧ topScan false (outBlocksM cfg dt kids) = none := by
  have hsw := strict_wrapperElem kids hs
  have htext := format_text cfg toks hnws ps hp wrapper {} false kids hroot (fun _ => ⟨rfl, rfl, hmulti⟩) hsw
  have hdoc : docToks cfg dt wrapper {} false kids = outToksM cfg dt kids := by
    unfold docToks; simp
  rw [hd, hdoc] at htext
  have hs2 := strict_outBlocksM cfg hi dt kids hs
  have hnw2 := nw_outBlocksM cfg dt kids hnw
  exact ⟨htext, doc_lex_multi cfg hi dt kids hs hdt, noWrapperStart_toksM dt _ hs2 hnw2,
    doc_reparse_multi cfg hi dt kids hs hdt hmulti, hs2, hnw2, topScan_outBlocksM cfg hi dt kids hmulti⟩

theorem outToksM_congr (cfg : Cfg) (dt : Option Str) (k1 k2 : List FNode)
    (h : outBlocksM cfg dt k1 = outBlocksM cfg dt k2) : outToksM cfg dt k1 = outToksM cfg dt k2 := by
  simp only [outToksM, h]

/-- **C12d at string level, multi-root (pretty³ = pretty²)**, from ANY token sequence whose plain-parser tree is the strict
    multi-root document -/
theorem pretty_text_stable_multi_core_open (cfg : Cfg) (hm : cfg.mini = false) (hi : IndentWS cfg)
    (kids : List FNode) (hs : StrictL kids) (hnw : NoWrapperL kids) (hmulti : topScan false kids = none)
    (toks : List Tok) (hnws : NoWrapperStart toks) (ps : St) (hp : Plain.feed toks = .ok ps)
    (hroot : ps.root = some (FNode.elem wrapper {} false kids).toNode) (hdt : DtOK ps.doctype) :
    ∃ out1 toks2 out2 toks3, format cfg toks = .ok out1 ∧ lexStrict out1 = some toks2 ∧
      format cfg (toks2.map Tok.ofToken) = .ok out2 ∧ lexStrict out2 = some toks3 ∧
      format cfg (toks3.map Tok.ofToken) = .ok out2 := by
  obtain ⟨f1, l1, w1, p1, s1, n1, m1⟩ :=
    pass_step_multi cfg hi ps.doctype hdt kids hs hnw hmulti toks hnws ps hp hroot rfl
  obtain ⟨f2, l2, w2, p2, s2, n2, m2⟩ := pass_step_multi cfg hi ps.doctype hdt _ s1 n1 m1 _ w1 _ p1 rfl rfl
  obtain ⟨f3, _, _, _, _, _, _⟩ := pass_step_multi cfg hi ps.doctype hdt _ s2 n2 m2 _ w2 _ p2 rfl rfl
  refine ⟨_, _, _, _, f1, l1, f2, l2, ?_⟩
  rw [f3]
  congr 2
  exact outToksM_congr cfg ps.doctype _ _ (outBlocksM_stable cfg hm hi ps.doctype kids hs)

theorem pretty_text_stable_multi_core (cfg : Cfg) (hm : cfg.mini = false) (hi : IndentWS cfg) (dt : Option Str)
    (hdt : DtOK dt) (kids : List FNode) (hs : StrictL kids) (hnw : NoWrapperL kids)
    (hmulti : topScan false kids = none) :
    ∃ out1 toks2 out2 toks3, format cfg (strictToksM dt kids) = .ok out1 ∧ lexStrict out1 = some toks2 ∧
      format cfg (toks2.map Tok.ofToken) = .ok out2 ∧ lexStrict out2 = some toks3 ∧
      format cfg (toks3.map Tok.ofToken) = .ok out2 :=
  pretty_text_stable_multi_core_open cfg hm hi kids hs hnw hmulti _ (noWrapperStart_toksM dt kids hs hnw) _
    (plain_feed_strictToksM dt hdt kids hs hmulti) rfl hdt

theorem outBlocksM_mini_idem (cfg : Cfg) (hm : cfg.mini = true) (dt : Option Str) (ks : List FNode)
    (hg : GluedL ks) (ha : FNoAdjL ks) :
    outBlocksM cfg dt (outBlocksM cfg dt ks) = outBlocksM cfg dt ks := by
  have h1 := glued_expandL cfg hm ⟨0, 0⟩ wrapper ks hg ha
  have hMX : MX cfg ⟨0, 0⟩ wrapper [] ks = expandL cfg ⟨0, 0⟩ wrapper ks := by
    unfold MX
    simp only [dataTok, List.isEmpty_nil, if_true, List.append_nil]
    exact mergeL_glued _ h1.1 h1.2
  have hMX2 : MX cfg ⟨0, 0⟩ wrapper [] (expandL cfg ⟨0, 0⟩ wrapper ks) = expandL cfg ⟨0, 0⟩ wrapper ks := by
    unfold MX
    simp only [dataTok, List.isEmpty_nil, if_true, List.append_nil]
    rw [expandL_idem cfg hm]
    exact mergeL_glued _ h1.1 h1.2
  rw [outBlocksM_eq, outBlocksM_eq, MX_pushData_dt cfg ⟨0, 0⟩ wrapper [] rfl preserve_wrapper, hMX, hMX2]

/-- **C12b at string level, multi-root (mini² = mini).**  Mini class, a strict multi-root document without adjacent
    data blocks and without the reserved name. -/
theorem mini_text_fixed_point_multi (cfg : Cfg) (hm : cfg.mini = true) (hi : IndentWS cfg) (dt : Option Str)
    (hdt : DtOK dt) (kids : List FNode) (hs : StrictL kids) (hg : GluedL kids) (ha : FNoAdjL kids)
    (hnw : NoWrapperL kids) (hmulti : topScan false kids = none) :
    ∃ out toks2, format cfg (strictToksM dt kids) = .ok out ∧ lexStrict out = some toks2 ∧
      format cfg (toks2.map Tok.ofToken) = .ok out := by
  obtain ⟨f1, l1, w1, p1, s1, n1, m1⟩ := pass_step_multi cfg hi dt hdt kids hs hnw hmulti _
    (noWrapperStart_toksM dt kids hs hnw) _ (plain_feed_strictToksM dt hdt kids hs hmulti) rfl rfl
  obtain ⟨f2, _, _, _, _, _, _⟩ := pass_step_multi cfg hi dt hdt _ s1 n1 m1 _ w1 _ p1 rfl rfl
  refine ⟨_, _, f1, l1, ?_⟩
  rw [f2]
  congr 2
  exact outToksM_congr cfg dt _ _ (outBlocksM_mini_idem cfg hm dt kids hg ha)

end AHP.Fmt
