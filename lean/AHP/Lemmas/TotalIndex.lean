/-
  C03 — the indexed parser: indexing at creation never fails (no KeyError out of `_indexTag` in any reachable
  index configuration), so its handlers succeed or raise MultipleRootNodeException exactly when the plain
  parser's do, with the same tree; the object stays well formed (`Good`) whatever a pass leaves behind.
  (`AHP.G3` is the namespace of the search / index model, `Model/Search.lean` and `Model/Index.lean`; `Idx` is its index.)
-/
import AHP.Lemmas.IndexInv
import AHP.Lemmas.TotalBuilder
import AHP.Lemmas.TotalIndexModel
namespace AHP.G3
open AHP Idx

namespace Idx

theorem indexOtherE_eq (o : List (Str × List (Str × List Nat))) (a : Str) (e : Elem)
    (h : (o.lookup a).isSome = true) : indexOtherE o a e = some (indexOther o a e) := by
  unfold indexOtherE indexOther
  cases e.attr a with
  | none => rfl
  | some v =>
    cases hm : o.lookup a with
    | none => rw [hm] at h; cases h
    | some m => rfl

theorem indexOther_keys (o : List (Str × List (Str × List Nat))) (a b : Str) (e : Elem) :
    ((indexOther o a e).lookup b).isSome = (o.lookup b).isSome :=
  indexOther_fold_keys e b [a] o

theorem indexOthersLE_eq (e : Elem) : ∀ (fns : List Str) (o : List (Str × List (Str × List Nat))),
    (∀ a ∈ fns, (o.lookup a).isSome = true) →
    indexOthersLE e fns o = some (fns.foldl (fun o a => indexOther o a e) o)
  | [], _, _ => rfl
  | a :: fns, o, h => by
    simp only [indexOthersLE, List.foldl_cons]
    rw [indexOtherE_eq o a e (h a List.mem_cons_self)]
    simp only
    apply indexOthersLE_eq e fns
    intro b hb
    rw [indexOther_keys]; exact h b (List.mem_cons_of_mem _ hb)

/-- **indexing at creation never fails**: in a well-formed index state (`Good`: the two dicts of the attribute
    indexes have the same keys — every reachable configuration, `C07.reachable_good`) `_indexTag` meets no
    KeyError and does what the total `indexTag` says -/
theorem indexTagE_eq {i : Idx} (h : Good i) (e : Elem) : indexTagE i e = some (indexTag i e) := by
  have key : ∀ j : Idx, j.otherFns = i.otherFns ∧ j.other = i.other →
      (indexOthersLE e j.otherFns j.other).map (fun o => { j with other := o }) = some (indexOthers j e) := by
    intro j hj
    rw [indexOthersLE_eq e _ _ (by rw [hj.1, hj.2]; exact fun a ha => (h.keys a).mp ha)]
    rfl
  -- the four built-in index functions, installed or not, leave the attribute indexes alone
  have step : ∀ (c : Bool) (f : Idx → Elem → Idx),
      (∀ j : Idx, (f j e).otherFns = j.otherFns ∧ (f j e).other = j.other) →
      ∀ j : Idx, (j.otherFns = i.otherFns ∧ j.other = i.other) →
        (if c = true then f j e else j).otherFns = i.otherFns ∧ (if c = true then f j e else j).other = i.other := by
    intro c f hf j hj
    cases c
    · exact hj
    · exact ⟨(hf j).1.trans hj.1, (hf j).2.trans hj.2⟩
  exact key _ (step _ indexTagName (fun _ => ⟨rfl, rfl⟩) _ (step _ indexClassName (fun _ => ⟨rfl, rfl⟩) _
    (step _ indexName (fun _ => ⟨rfl, rfl⟩) _ (step _ indexID (fun _ => ⟨rfl, rfl⟩) _ ⟨rfl, rfl⟩))))

end Idx

/-- the index is well formed and is what `_indexTag` made of the elements created since the last reset `i0` -/
def IdxOK (i0 : Idx) (st : IState) : Prop := Good st.idx ∧ st.idx = st.made.foldl indexTag i0

theorem idxStart_total (view : Nat → Str → List Attr → Elem) {i0 : Idx} {st : IState} (h : IdxOK i0 st)
    (n : Str) (a : List Attr) (sc : Bool) :
    (∃ st', idxStart view st n a sc = .ok st' ∧ handleStart st.tree n a sc = .ok st'.tree ∧ IdxOK i0 st') ∨
    (idxStart view st n a sc = .error (.raised .multipleRoot) ∧ handleStart st.tree n a sc = .multipleRoot) := by
  have hcases : (∃ s', handleStart st.tree n a sc = .ok s') ∨ handleStart st.tree n a sc = .multipleRoot := by
    have := stepT_ok_or_multipleRoot st.tree (if sc then .startend n a else .start n a)
    cases sc <;> simpa [stepT] using this
  rcases hcases with ⟨s', hs⟩ | hs
  · left
    unfold idxStart
    rw [hs]
    simp only [indexTagE_eq h.1]
    refine ⟨_, rfl, rfl, indexTag_good h.1 _, ?_⟩
    simp only [List.foldl_append, List.foldl_cons, List.foldl_nil]
    rw [← h.2]
  · right
    unfold idxStart
    rw [hs]
    exact ⟨rfl, rfl⟩

theorem idxStep_total (view : Nat → Str → List Attr → Elem) {i0 : Idx} {st : IState} (h : IdxOK i0 st) (t : Token) :
    (∃ st', idxStep view st t = .ok st' ∧ stepT st.tree t = .ok st'.tree ∧ IdxOK i0 st') ∨
    (idxStep view st t = .error (.raised .multipleRoot) ∧ stepT st.tree t = .multipleRoot) := by
  -- only `handle_starttag` is overridden: every other callback is the inherited one, the index untouched
  have other : (∀ n a, t ≠ .start n a) → (∀ n a, t ≠ .startend n a) →
      idxStep view st t = (match stepT st.tree t with
        | .ok s' => .ok { st with tree := s' }
        | o => .error (.raised o.exc)) := by
    intro h1 h2
    cases t with
    | start n a => exact absurd rfl (h1 n a)
    | startend n a => exact absurd rfl (h2 n a)
    | _ => rfl
  by_cases h1 : ∃ n a, t = .start n a
  · obtain ⟨n, a, rfl⟩ := h1; exact idxStart_total view h n a false
  by_cases h2 : ∃ n a, t = .startend n a
  · obtain ⟨n, a, rfl⟩ := h2; exact idxStart_total view h n a true
  rw [other (fun n a e => h1 ⟨n, a, e⟩) (fun n a e => h2 ⟨n, a, e⟩)]
  rcases stepT_ok_or_multipleRoot st.tree t with ⟨s', hs⟩ | hs <;> rw [hs]
  · exact Or.inl ⟨_, rfl, rfl, h⟩
  · exact Or.inr ⟨rfl, rfl⟩

theorem idxRun_total (view : Nat → Str → List Attr → Elem) {i0 : Idx} (ts : List Token) : ∀ {st : IState}, IdxOK i0 st →
    ((∃ st', idxRun view st ts = .ok st' ∧ idxRunS view st ts = (st', none) ∧
        runT st.tree ts = .ok st'.tree ∧ IdxOK i0 st') ∨
     (idxRun view st ts = .error (.raised .multipleRoot) ∧ (idxRunS view st ts).2 = some (.raised .multipleRoot) ∧
        runT st.tree ts = .multipleRoot ∧ IdxOK i0 (idxRunS view st ts).1)) := by
  induction ts with
  | nil => intro st h; exact Or.inl ⟨st, rfl, rfl, rfl, h⟩
  | cons t ts ih =>
    intro st h
    rcases idxStep_total view h t with ⟨st1, h1, h2, h3⟩ | ⟨h1, h2⟩
    · rcases ih h3 with ⟨st2, g1, g2, g3, g4⟩ | ⟨g1, g2, g3, g4⟩
      · exact Or.inl ⟨st2, by simp only [idxRun, h1]; exact g1, by simp only [idxRunS, h1]; exact g2,
          by simp only [runT, h2]; exact g3, g4⟩
      · exact Or.inr ⟨by simp only [idxRun, h1]; exact g1, by simp only [idxRunS, h1]; exact g2,
          by simp only [runT, h2]; exact g3, by simp only [idxRunS, h1]; exact g4⟩
    · exact Or.inr ⟨by simp only [idxRun, h1], by simp only [idxRunS, h1], by simp only [runT, h2],
        by simp only [idxRunS, h1]; exact h⟩

/-! ### `_reset` of the indexed parser -/

theorem idxOK_reset {st : IState} (h : Good st.idx) : IdxOK st.idx.resetInternal st.reset :=
  ⟨reset_good h.toKeys, rfl⟩

theorem idxFeedS_total (view : Nat → Str → List Attr → Elem) {i0 : Idx} {st : IState} (h : IdxOK i0 st)
    (toks : List Token) :
    ((idxFeedS view st toks).2 = none ∨ (idxFeedS view st toks).2 = some (.raised .multipleRoot)) ∧
    Good (idxFeedS view st toks).1.idx := by
  unfold idxFeedS
  rcases idxRun_total view toks h with ⟨st', _, g2, _, g4⟩ | ⟨_, g2, _, g4⟩
  · rw [g2]; exact ⟨Or.inl rfl, g4.1⟩
  · rw [pair_eta _ _ g2]
    simp only
    rcases idxRun_total view (wrapToks toks) (idxOK_reset g4.1) with ⟨st2, _, k2, _, k4⟩ | ⟨_, k2, _, k4⟩
    · rw [k2]; exact ⟨Or.inl rfl, k4.1⟩
    · exact ⟨Or.inr k2, k4.1⟩

theorem idxFeedS_never_raises (view : Nat → Str → List Attr → Elem) {i0 : Idx} {st : IState} (h : IdxOK i0 st)
    (toks : List Token) (hw : ∀ t ∈ toks, t ≠ Token.end_ wrapperName) :
    (idxFeedS view st toks).2 = none ∧
    (runT st.tree toks = .ok (idxFeedS view st toks).1.tree ∨
      (runT st.tree toks = .multipleRoot ∧ runT TState.init (wrapToks toks) = .ok (idxFeedS view st toks).1.tree)) := by
  unfold idxFeedS
  rcases idxRun_total view toks h with ⟨st', _, g2, g3, _⟩ | ⟨_, g2, g3, g4⟩
  · rw [g2]; exact ⟨rfl, Or.inl g3⟩
  · rw [pair_eta _ _ g2]
    simp only
    rcases idxRun_total view (wrapToks toks) (idxOK_reset g4.1) with ⟨st2, _, k2, k3, _⟩ | ⟨_, _, k3, _⟩
    · rw [k2]; exact ⟨rfl, Or.inr ⟨g3, k3⟩⟩
    · exfalso
      obtain ⟨s', hs'⟩ := runT_wrapToks_ok toks hw
      have : (IState.reset (idxRunS view st toks).1).tree = TState.init := rfl
      rw [this, hs'] at k3; cases k3

end AHP.G3
