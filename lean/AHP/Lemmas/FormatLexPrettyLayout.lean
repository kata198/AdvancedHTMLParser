/-
  AHP.Lemmas.FormatLexPrettyLayout — C12a read off the OUTPUT TEXT of the pretty classes.

  Token side (independent of the formatter model): `Scan y unit st before toks` walks a token list with the stack `st`
  of open element names (start tag pushes, end tag pops — depth and "below pre/code" are recomputed from the tokens
  alone) and the text `before` rendered so far, and demands at every tag (`LayoutAt`):
    * start tag / self-closing tag, nothing of pre/code open: `before` ends with a line break followed by exactly
      `depth` copies of the indent unit (`indText unit depth <:+ before`);
    * end tag `</n>`: `n` is the innermost open element (the output is balanced), and if `n` is not pre/code and no
      pre/code encloses it, `before` ends with a line break and `depth-of-the-element` copies of the unit;
  and that nothing is left open at the end.  `scan_split` reads `Scan` position-wise: for every split
  `toks = pre ++ t :: post` the demand holds at `t` with the stack `tagStack st pre` and the text rendered from `pre`.

  Tree side: `LaidL` says the same of a block list (`prev` = the data block directly before); `laid_MX` / `laid_gK`:
  what `mergeL ∘ expandL` produces is laid out (every element child is preceded by a data block ending with its
  `_indent`; the last block of every element other than pre/code ends with the element's own `_indent` — for
  script/style because `getEndTag` writes the indent unless the content already ends with it).  `scanL_laid`
  transfers it to the token list; `pretty_layout_doc` is the document-level statement through `lexStrict` for both root
  shapes (a single-root document is the block list `[u]`), `pretty_layout_core_open` / `pretty_layout_core_multi` its
  two readings (`_open`: elements may still be open at the end of the input, the parser's final state `ps` is arbitrary;
  `pretty_layout_core` is the instance with nothing left open).
-/
import AHP.Lemmas.FormatLexPretty
namespace AHP.Fmt
open AHP

def indText (unit : Str) (d : Nat) : Str := '\n' :: rep d unit

/-- what the layout law demands of the text `before` a tag, given the elements open at that point -/
def LayoutAt (unit : Str) (st : List Str) (before : Str) : Token → Prop
  | .start _ _ => noPre st = true → indText unit st.length <:+ before
  | .startend _ _ => noPre st = true → indText unit st.length <:+ before
  | .end_ n => st.head? = some n ∧ (isPre n = false → noPre st.tail = true → indText unit (st.length - 1) <:+ before)
  | _ => True

/-- the law at every tag of a token list, and nothing left open at the end -/
def Scan (y : TagStyle) (unit : Str) : List Str → Str → List Token → Prop
  | st, _, [] => st = []
  | st, acc, t :: ts => LayoutAt unit st acc t ∧ Scan y unit (stAfter st t) (acc ++ renderTokY y t) ts

theorem scan_split (y : TagStyle) (unit : Str) : ∀ (pre : List Token) (st : List Str) (acc : Str) (t : Token)
    (post : List Token), Scan y unit st acc (pre ++ t :: post) →
      LayoutAt unit (tagStack st pre) (acc ++ renderToksY y pre) t
  | [], st, acc, t, post, h => by
    simp only [List.nil_append, Scan] at h
    simpa [tagStack, renderToksY] using h.1
  | p :: pre, st, acc, t, post, h => by
    simp only [List.cons_append, Scan] at h
    have := scan_split y unit pre _ _ t post h.2
    simpa [tagStack, renderToksY, List.append_assoc] using this

theorem scan_balanced (y : TagStyle) (unit : Str) : ∀ (ts : List Token) (st : List Str) (acc : Str),
    Scan y unit st acc ts → tagStack st ts = []
  | [], st, acc, h => by simpa [Scan, tagStack] using h
  | t :: ts, st, acc, h => by
    simpa [tagStack] using scan_balanced y unit ts _ _ h.2

/-- the text after the last line break -/
def lastLine (s : Str) : Str := (s.reverse.takeWhile (· ≠ '\n')).reverse

theorem takeWhile_stop (p : Char → Bool) (l : Str) (c : Char) (r : Str) (hl : ∀ x ∈ l, p x = true) (hc : p c = false) :
    (l ++ c :: r).takeWhile p = l :=
  (takeWhile_append_cons_of_neg p c r hc l).trans (takeWhile_eq_self hl)

/-- when the indent unit contains no line break, "ends with a line break and `d` units" says that the last line of
    the text is exactly `d` units -/
theorem lastLine_indText (unit : Str) (hu : ∀ c ∈ unit, c ≠ '\n') (d : Nat) (before : Str)
    (h : indText unit d <:+ before) : lastLine before = rep d unit ∧ '\n' ∈ before := by
  obtain ⟨x, rfl⟩ := h
  have hrep : ∀ c ∈ rep d unit, c ≠ '\n' := fun c hc => hu c (mem_rep hc)
  refine ⟨?_, by simp [indText]⟩
  unfold lastLine indText
  rw [List.reverse_append, List.reverse_cons, List.append_assoc]
  simp only [List.singleton_append]
  rw [takeWhile_stop _ _ '\n' _ (by
    intro c hc
    have := hrep c (by simpa using hc)
    simpa using this) (by simp)]
  simp

/-- the `prev` of `LaidL` behind a text block -/
def dataOf : Token → Str
  | .data s => s
  | _ => []

def EndsData (e : Str) (l : List FNode) : Prop := ∃ front x, l = front ++ [.tok (.data (x ++ e))]

mutual
/-- an element is laid out inside: self-closing, or pre/code (nothing is claimed), or its blocks are laid out one
    level deeper and the last one is a data block ending with the element's own indentation -/
def LaidN (unit : Str) (d : Nat) : FNode → Prop
  | .tok _ => True
  | .elem m _ sc kk => sc = true ∨ isPre m = true ∨ (LaidL unit (d + 1) [] kk ∧ EndsData (indText unit d) kk)
/-- a block list at depth `d` outside pre/code is laid out: every element is directly preceded by a data block
    (`prev` for the first block) that ends with a line break and `d` units, and is laid out inside -/
def LaidL (unit : Str) (d : Nat) : Str → List FNode → Prop
  | _, [] => True
  | _, .tok t :: ks => LaidL unit d (dataOf t) ks
  | prev, .elem m st sc kk :: ks => indText unit d <:+ prev ∧ LaidN unit d (.elem m st sc kk) ∧ LaidL unit d [] ks
end

theorem laidL_dataTok (unit : Str) (d : Nat) (prev x : Str) : LaidL unit d prev (dataTok x) := by
  unfold dataTok
  split <;> simp [LaidL]

theorem laidL_dataTok_tok (unit : Str) (d : Nat) (prev a : Str) (t : Token) (r : List FNode)
    (h : LaidL unit d (dataOf t) r) : LaidL unit d prev (dataTok a ++ .tok t :: r) := by
  unfold dataTok
  split <;> simpa [LaidL] using h

theorem endsData_cons (e : Str) (k : FNode) (l : List FNode) (h : EndsData e l) : EndsData e (k :: l) := by
  obtain ⟨front, x, rfl⟩ := h
  exact ⟨k :: front, x, rfl⟩

theorem endsData_dataTok (e x : Str) (he : e ≠ []) : EndsData e (dataTok (x ++ e)) := by
  rw [dataTok_ne _ (by simp [he])]
  exact ⟨[], x, rfl⟩

theorem endsData_pushData (e a : Str) (l : List FNode) (h : EndsData e l) : EndsData e (pushData a l) := by
  obtain ⟨front, x, rfl⟩ := h
  cases front with
  | nil =>
    simp only [List.nil_append]
    rw [pushData_data]
    exact ⟨[], a ++ x, by simp⟩
  | cons k f =>
    cases k with
    | elem n st sc kids =>
      rw [List.cons_append, pushData_elem]
      exact ⟨dataTok a ++ .elem n st sc kids :: f, x, by simp⟩
    | tok t =>
      rcases data_cases t with ⟨b, rfl⟩ | hd
      · rw [List.cons_append, pushData_data]
        exact ⟨.tok (.data (a ++ b)) :: f, x, rfl⟩
      · rw [List.cons_append, pushData_tok a t hd]
        exact ⟨dataTok a ++ .tok t :: f, x, by simp⟩

/-- whatever the blocks are, the merged expansion followed by the (non-empty) text `e` ends with a data block that
    ends with `e` -/
theorem endsData_MX (cfg : Cfg) (c : Ctx) (p e : Str) (he : e ≠ []) :
    ∀ (ks : List FNode) (a : Str), EndsData e (pushData a (MX cfg c p e ks))
  | [], a => by
    rw [MX_nil, pushData_dataTok]
    exact endsData_dataTok e a he
  | .tok t :: ks, a => by
    rcases data_cases t with ⟨s, rfl⟩ | hd
    · unfold MX
      rw [mx_data, pushData_pushData]
      exact endsData_MX cfg c p e he ks _
    · apply endsData_pushData
      rw [MX_tok cfg c p e t hd]
      apply endsData_cons
      have := endsData_MX cfg c p e he ks []
      rwa [pushData_nil] at this
  | .elem m st sc kk :: ks, a => by
    apply endsData_pushData
    rw [MX_elem]
    apply endsData_pushData
    apply endsData_cons
    have := endsData_MX cfg c p e he ks []
    rwa [pushData_nil] at this

theorem indText_ne (unit : Str) (d : Nat) : indText unit d ≠ [] := by simp [indText]

mutual
-- stated for every `FNode` (with `True` at a text block) because the mutual induction with `laid_MX` runs over all of them
theorem laid_gK (cfg : Cfg) (hm : cfg.mini = false) :
    ∀ u : FNode, u.Strict → u.NoWrapper → ∀ c : Ctx, c.inPre = 0 →
      (match u with
       | .tok _ => True
       | .elem m st sc kk => LaidN cfg.indent c.level (.elem m st sc (gK cfg c m sc kk)))
  | .tok _, _, _, _, _ => trivial
  | .elem m st sc kk, hs, hnw, c, hc => by
    show LaidN cfg.indent c.level (.elem m st sc (gK cfg c m sc kk))
    have hI := indentAt_pretty cfg hm c hc
    have hne : indentAt cfg c ≠ [] := by rw [hI]; simp
    rcases hs.elem_cases with ⟨rfl, _⟩ | ⟨rfl, hr, _, raw, hraw, _⟩ | ⟨rfl, _, hpre, _⟩ | ⟨rfl, _, hpre, hp, hkk⟩
    · exact Or.inl rfl
    · obtain ⟨raw1, e1, x, hx⟩ := gK_raw1 cfg c m hr hne kk raw hraw
      rw [e1]
      exact Or.inr (Or.inr ⟨by simp [LaidL], [], x, by rw [← hx, hI]; rfl⟩)
    · exact Or.inr (Or.inl hpre)
    · refine Or.inr (Or.inr ?_)
      rw [gK_eq_MX cfg c m hp]
      constructor
      · have := laid_MX cfg hm kk hkk hnw.2 (c.push m) m (indentAt cfg c) (push_inPre_zero c m hc hpre) [] []
        rwa [pushData_nil, push_level c m (name_ne_wrapper m st false kk hs hnw)] at this
      · have := endsData_MX cfg (c.push m) m (indentAt cfg c) hne kk []
        rw [pushData_nil] at this
        rwa [show indText cfg.indent c.level = indentAt cfg c from hI.symm]
theorem laid_MX (cfg : Cfg) (hm : cfg.mini = false) :
    ∀ ks : List FNode, StrictL ks → NoWrapperL ks → ∀ (c : Ctx) (p e : Str), c.inPre = 0 →
      ∀ a prev : Str, LaidL cfg.indent c.level prev (pushData a (MX cfg c p e ks))
  | [], _, _, c, p, e, _, a, prev => by
    rw [MX_nil, pushData_dataTok]
    exact laidL_dataTok _ _ _ _
  | k :: ks, hs, hnw, c, p, e, hc, a, prev => by
    have hk := laid_gK cfg hm k hs.1 hnw.1 c hc
    cases k with
    | tok t =>
      rcases data_cases t with ⟨s, rfl⟩ | hd
      · unfold MX
        rw [mx_data, pushData_pushData]
        exact laid_MX cfg hm ks hs.2 hnw.2 c p e hc _ prev
      · rw [MX_tok cfg c p e t hd, pushData_tok a t hd]
        apply laidL_dataTok_tok
        have := laid_MX cfg hm ks hs.2 hnw.2 c p e hc [] (dataOf t)
        rwa [pushData_nil] at this
    | elem m st sc kk =>
      have hI := indentAt_pretty cfg hm c hc
      have hne : indentAt cfg c ≠ [] := by rw [hI]; simp
      rw [MX_elem, pushData_pushData, pushData_elem, dataTok_ne _ (by simp [hne])]
      simp only [List.cons_append, List.nil_append, LaidL, dataOf]
      refine ⟨by rw [hI]; exact List.suffix_append _ _, hk, ?_⟩
      have := laid_MX cfg hm ks hs.2 hnw.2 c p e hc [] []
      rwa [pushData_nil] at this
end

theorem layoutAt_textLike (unit : Str) (st : List Str) (acc : Str) (t : Token) (h : isTextLike t = true) :
    LayoutAt unit st acc t ∧ stAfter st t = st :=
  ⟨by cases t <;> first | trivial | simp [isTextLike] at h, stAfter_textLike st t h⟩

theorem render_elem_open (y : TagStyle) (m : Str) (st : AStore) (kk : List FNode) :
    renderToksY y (FNode.elem m st false kk).toks
      = renderTokY y (.start m st.items) ++ renderToksY y (ftoksL kk) ++ renderTokY y (.end_ m) := by
  simp [FNode.toks, renderToksY, renderToksY_append]

mutual
/-- below pre/code the law demands nothing but balance -/
theorem scanN_pre (y : TagStyle) (unit : Str) : ∀ u : FNode, u.TextLike → ∀ (st : List Str) (acc : Str)
    (rest : List Token), noPre st = false → Scan y unit st (acc ++ renderToksY y u.toks) rest →
      Scan y unit st acc (u.toks ++ rest)
  | .tok t, h, st, acc, rest, _, hr => by
    obtain ⟨h1, h2⟩ := layoutAt_textLike unit st acc t h
    simp only [FNode.toks, List.cons_append, List.nil_append, Scan, h2]
    refine ⟨h1, ?_⟩
    simpa [FNode.toks, renderToksY] using hr
  | .elem m sto sc kk, h, st, acc, rest, hp, hr => by
    cases sc with
    | true =>
      simp only [FNode.toks, if_true, List.cons_append, List.nil_append, Scan, LayoutAt, stAfter]
      refine ⟨fun hh => (by rw [hp] at hh; cases hh), ?_⟩
      simpa [FNode.toks, renderToksY] using hr
    | false =>
      rw [render_elem_open] at hr
      simp only [FNode.toks, Bool.false_eq_true, if_false, List.cons_append, List.append_assoc, Scan, LayoutAt,
        stAfter]
      refine ⟨fun hh => (by rw [hp] at hh; cases hh), ?_⟩
      have hp' : noPre (m :: st) = false := by rw [noPre_cons, hp]; simp
      apply scanL_pre y unit kk h (m :: st) _ _ hp'
      simp only [List.nil_append, Scan, LayoutAt, stAfter, List.head?_cons, List.tail_cons,
        true_and]
      refine ⟨fun _ hh => (by rw [hp] at hh; cases hh), ?_⟩
      simpa [List.append_assoc] using hr
theorem scanL_pre (y : TagStyle) (unit : Str) : ∀ ks : List FNode, TextLikeL ks → ∀ (st : List Str) (acc : Str)
    (rest : List Token), noPre st = false → Scan y unit st (acc ++ renderToksY y (ftoksL ks)) rest →
      Scan y unit st acc (ftoksL ks ++ rest)
  | [], _, st, acc, rest, _, hr => by simpa [ftoksL, renderToksY] using hr
  | k :: ks, h, st, acc, rest, hp, hr => by
    simp only [ftoksL, List.append_assoc]
    apply scanN_pre y unit k h.1 st acc _ hp
    apply scanL_pre y unit ks h.2 st _ rest hp
    simpa [ftoksL, renderToksY_append, List.append_assoc] using hr
end

theorem render_endsData (y : TagStyle) (e : Str) (kk : List FNode) (h : EndsData e kk) :
    e <:+ renderToksY y (ftoksL kk) := by
  obtain ⟨front, x, rfl⟩ := h
  rw [ftoksL_append, renderToksY_append]
  simp only [ftoksL, FNode.toks, renderToksY, renderTokY, renderTok, List.append_nil]
  exact ⟨renderToksY y (ftoksL front) ++ x, by simp⟩

mutual
theorem scanN_laid (y : TagStyle) (unit : Str) : ∀ u : FNode, u.TextLike → ∀ (d : Nat) (st : List Str) (acc : Str)
    (rest : List Token), LaidN unit d u → st.length = d → noPre st = true →
      (∀ m sto sc kk, u = .elem m sto sc kk → indText unit d <:+ acc) →
      Scan y unit st (acc ++ renderToksY y u.toks) rest → Scan y unit st acc (u.toks ++ rest)
  | .tok t, h, d, st, acc, rest, _, _, _, _, hr => by
    obtain ⟨h1, h2⟩ := layoutAt_textLike unit st acc t h
    simp only [FNode.toks, List.cons_append, List.nil_append, Scan, h2]
    refine ⟨h1, ?_⟩
    simpa [FNode.toks, renderToksY] using hr
  | .elem m sto sc kk, h, d, st, acc, rest, hl, hd, hp, hacc, hr => by
    have hind := hacc m sto sc kk rfl
    cases sc with
    | true =>
      simp only [FNode.toks, if_true, List.cons_append, List.nil_append, Scan, LayoutAt, stAfter]
      refine ⟨fun _ => (by rw [hd]; exact hind), ?_⟩
      simpa [FNode.toks, renderToksY] using hr
    | false =>
      rw [render_elem_open] at hr
      simp only [FNode.toks, Bool.false_eq_true, if_false, List.cons_append, List.append_assoc, Scan, LayoutAt,
        stAfter]
      refine ⟨fun _ => (by rw [hd]; exact hind), ?_⟩
      simp only [LaidN, Bool.false_eq_true, false_or] at hl
      by_cases hpre : isPre m = true
      · -- pre/code: nothing demanded inside, nothing of its end tag
        have hp' : noPre (m :: st) = false := by rw [noPre_cons, hpre]; simp
        apply scanL_pre y unit kk h (m :: st) _ _ hp'
        simp only [List.nil_append, Scan, LayoutAt, stAfter, List.head?_cons, List.tail_cons,
          true_and]
        refine ⟨fun hh => (by rw [hpre] at hh; cases hh), ?_⟩
        simpa [List.append_assoc] using hr
      · obtain ⟨hkk, hend⟩ := hl.resolve_left hpre
        have hnpre : isPre m = false := by simpa using hpre
        have hp' : noPre (m :: st) = true := by rw [noPre_cons, hnpre, hp]; rfl
        apply scanL_laid y unit kk h (d + 1) [] (m :: st) _ _ hkk (by simp [hd]) hp' List.nil_suffix
        simp only [List.nil_append, Scan, LayoutAt, stAfter, List.head?_cons, List.tail_cons,
          true_and, List.length_cons, Nat.add_sub_cancel]
        refine ⟨fun _ _ => ?_, ?_⟩
        · rw [hd]
          exact List.suffix_append_of_suffix (render_endsData y _ kk hend)
        · simpa [List.append_assoc] using hr
theorem scanL_laid (y : TagStyle) (unit : Str) : ∀ ks : List FNode, TextLikeL ks → ∀ (d : Nat) (prev : Str)
    (st : List Str) (acc : Str) (rest : List Token), LaidL unit d prev ks → st.length = d → noPre st = true →
      prev <:+ acc → Scan y unit st (acc ++ renderToksY y (ftoksL ks)) rest → Scan y unit st acc (ftoksL ks ++ rest)
  | [], _, d, prev, st, acc, rest, _, _, _, _, hr => by simpa [ftoksL, renderToksY] using hr
  | k :: ks, h, d, prev, st, acc, rest, hl, hd, hp, hprev, hr => by
    have hN := scanN_laid y unit k h.1 d st acc (ftoksL ks ++ rest)
    simp only [ftoksL, List.append_assoc]
    cases k with
    | tok t =>
      apply hN trivial hd hp (by intro m sto sc kk e; cases e)
      have hsuf : dataOf t <:+ acc ++ renderToksY y (FNode.tok t).toks := by
        cases t <;> simp [dataOf, FNode.toks, renderToksY, renderTokY, renderTok]
      apply scanL_laid y unit ks h.2 d (dataOf t) st _ rest hl hd hp hsuf
      simpa [ftoksL, renderToksY_append, List.append_assoc] using hr
    | elem m sto sc kk =>
      apply hN hl.2.1 hd hp (fun _ _ _ _ _ => hl.1.trans hprev)
      apply scanL_laid y unit ks h.2 d [] st _ rest hl.2.2 hd hp List.nil_suffix
      simpa [ftoksL, renderToksY_append, List.append_assoc] using hr
end

theorem scan_dtToks (y : TagStyle) (unit : Str) (dt : Option Str) (l : List Token)
    (h : Scan y unit [] (renderToksY y (dtToks dt)) l) : Scan y unit [] [] (dtToks dt ++ l) := by
  cases dt with
  | none => simpa [dtToks, renderToksY] using h
  | some d =>
    by_cases hd : d.isEmpty = true
    · simpa [dtToks, hd, renderToksY] using h
    · simp only [dtToks, hd, Bool.false_eq_true, if_false, List.cons_append, List.nil_append, Scan, LayoutAt,
        stAfter, true_and]
      simpa [dtToks, hd, renderToksY] using h

/-- **C12a on the output text, token form**, single- or multi-root: `plainBlocks n st sc kids` are the top-level blocks,
    and what `getHTML` prints for them is one `MX` at level 0 with the doctype's line break glued in front.  Pretty class,
    a token sequence the plain parser builds into the strict document: the output text is the rendering of the tokens
    the strict lexer reads back from it, and those tokens obey the layout law (`Scan`), with depth and pre/code-ness
    recomputed from the tokens alone.  `ps` is the plain parser's final state: elements still open at the end of the
    input are allowed (the serialiser closes them). -/
theorem pretty_layout_doc (cfg : Cfg) (hm : cfg.mini = false) (hi : IndentWS cfg) (toks : List Tok)
    (h : NoWrapperStart toks) (ps : St) (hp : Plain.feed toks = .ok ps)
    (n : Str) (st : AStore) (sc : Bool) (kids : List FNode)
    (hroot : ps.root = some (FNode.elem n st sc kids).toNode) (hw : WrapperOK n st sc kids)
    (hs : (FNode.elem n st sc kids).Strict) (hnw : NoWrapperL (plainBlocks n st sc kids)) (hdt : DtOK ps.doctype) :
    ∃ out toks2, format cfg toks = .ok out ∧ lexStrict out = some toks2 ∧
      out = renderToksY (styleOf cfg.kind) toks2 ∧ Scan (styleOf cfg.kind) cfg.indent [] [] toks2 := by
  have hB := strictL_plainBlocks n st sc kids hs
  refine ⟨_, _, format_text cfg toks h ps hp n st sc kids hroot hw hs, doc_lex_blocks cfg hi _ hdt n st sc kids hs,
    rfl, ?_⟩
  rw [docToks_eq, outToksM]
  apply scan_dtToks
  have := scanL_laid (styleOf cfg.kind) cfg.indent _ (strictL_textLike _ (strict_outBlocksM cfg hi ps.doctype _ hB)) 0 []
    [] (renderToksY (styleOf cfg.kind) (dtToks ps.doctype)) []
    (by rw [outBlocksM_eq]; exact laid_MX cfg hm _ hB hnw ⟨0, 0⟩ wrapper [] rfl (dtText ps.doctype) [])
    rfl rfl List.nil_suffix (by simp [Scan])
  rwa [List.append_nil] at this

theorem pretty_layout_core_open (cfg : Cfg) (hm : cfg.mini = false) (hi : IndentWS cfg) (dt : Option Str) (hdt : DtOK dt)
    (n : Str) (st : AStore) (sc : Bool) (kids : List FNode) (hs : (FNode.elem n st sc kids).Strict)
    (hnw : (FNode.elem n st sc kids).NoWrapper) (toks : List Tok) (hnws : NoWrapperStart toks) (ps : St)
    (hp : Plain.feed toks = .ok ps) (hroot : ps.root = some (FNode.elem n st sc kids).toNode) (hd : ps.doctype = dt) :
    ∃ out toks2, format cfg toks = .ok out ∧ lexStrict out = some toks2 ∧
      out = renderToksY (styleOf cfg.kind) toks2 ∧ Scan (styleOf cfg.kind) cfg.indent [] [] toks2 := by
  have hn := name_ne_wrapper n st sc kids hs hnw
  exact pretty_layout_doc cfg hm hi toks hnws ps hp n st sc kids hroot (fun e => absurd e hn) hs
    (by simpa [plainBlocks, hn, NoWrapperL] using hnw) (hd ▸ hdt)

theorem pretty_layout_core (cfg : Cfg) (hm : cfg.mini = false) (hi : IndentWS cfg) (dt : Option Str) (hdt : DtOK dt)
    (n : Str) (st : AStore) (sc : Bool) (kids : List FNode) (hs : (FNode.elem n st sc kids).Strict)
    (hnw : (FNode.elem n st sc kids).NoWrapper) (toks : List Tok) (hnws : NoWrapperStart toks)
    (hp : Plain.feed toks = .ok ⟨[], some (FNode.elem n st sc kids).toNode, dt, 0, 0⟩) :
    ∃ out toks2, format cfg toks = .ok out ∧ lexStrict out = some toks2 ∧
      out = renderToksY (styleOf cfg.kind) toks2 ∧ Scan (styleOf cfg.kind) cfg.indent [] [] toks2 :=
  pretty_layout_core_open cfg hm hi dt hdt n st sc kids hs hnw toks hnws _ hp rfl rfl

theorem pretty_layout_core_multi (cfg : Cfg) (hm : cfg.mini = false) (hi : IndentWS cfg) (dt : Option Str) (hdt : DtOK dt)
    (kids : List FNode) (hs : StrictL kids) (hnw : NoWrapperL kids) (hmulti : topScan false kids = none)
    (toks : List Tok) (hnws : NoWrapperStart toks) (ps : St) (hp : Plain.feed toks = .ok ps)
    (hroot : ps.root = some (FNode.elem wrapper {} false kids).toNode) (hd : ps.doctype = dt) :
    ∃ out toks2, format cfg toks = .ok out ∧ lexStrict out = some toks2 ∧
      out = renderToksY (styleOf cfg.kind) toks2 ∧ Scan (styleOf cfg.kind) cfg.indent [] [] toks2 :=
  pretty_layout_doc cfg hm hi toks hnws ps hp wrapper {} false kids hroot (fun _ => ⟨rfl, rfl, hmulti⟩)
    (strict_wrapperElem kids hs) (by simpa [plainBlocks] using hnw) (hd ▸ hdt)

end AHP.Fmt
