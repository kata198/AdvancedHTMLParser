/-
  C14a: the pass-by-class reduction of a flat list equals the recursive evaluation of the syntax tree it was
  flattened from.  `VT` is the value-level skeleton of a predicate (atoms evaluated, operators kept); `VT.fold k` is
  what pass `k` does to it (`pass_tree`, `reduce_flat`).  `toVT` is the skeleton of a predicate for one tag, and
  resolving the flat form of a well-formed predicate of any size and nesting gives its in-order list (`flatOK`).
  The file opens with the plain facts about `P.wf`, `P.noNull`, `evalP`, `applyOp` and `pass` that C14a and C14b
  (XPathOpt, XPathCompile) share.
-/
import AHP.Model.XPathSpec
namespace AHP.XPath

variable {N : Type}

theorem P.wf_bin {k : Nat} {o : Op} {l r : P N} :
    P.wf k (.bin o l r) = true ↔ (o.cls < k ∧ P.wf (o.cls + 1) l = true) ∧ P.wf o.cls r = true := by simp [P.wf]

theorem P.wf_contains {k : Nat} {a b : P N} : P.wf k (.contains a b) = true ↔ P.wf 3 a = true ∧ P.wf 3 b = true := by
  simp [P.wf]

theorem P.wfList_cons {p : P N} {ps : List (P N)} : P.wfList (p :: ps) = true ↔ P.wf 3 p = true ∧ P.wfList ps = true := by
  simp [P.wfList]

theorem P.noNull_bin {o : Op} {l r : P N} : P.noNull (.bin o l r) = true ↔ P.noNull l = true ∧ P.noNull r = true := by
  simp [P.noNull]

theorem P.noNull_contains {a b : P N} : P.noNull (.contains a b) = true ↔ P.noNull a = true ∧ P.noNull b = true := by
  simp [P.noNull]

theorem P.noNullList_cons {p : P N} {ps : List (P N)} :
    P.noNullList (p :: ps) = true ↔ P.noNull p = true ∧ P.noNullList ps = true := by simp [P.noNullList]

theorem flatten_ne_nil : ∀ (p : P N), flatten p ≠ []
  | .lit _ | .attr _ | .text | .last | .position | .concat _ | .contains _ _ | .nspace0 | .nspace1 _ | .group _ => by
    simp [flatten]
  | .bin o l r => by simp [flatten]

theorem evalP_bin (nm : Num N) {c : Ctx} {o : Op} {l r : P N} {x y : Val N} (h1 : evalP nm c l = some x)
    (h2 : evalP nm c r = some y) : evalP nm c (.bin o l r) = applyOp nm o x y := by simp [evalP, h1, h2]

theorem applyOp_not_null (nm : Num N) (o : Op) (a b v : Val N) (h : applyOp nm o a b = some v) : v.isNull = false := by
  cases o with
  | arith ao =>
    simp only [applyOp, applyArith] at h
    cases ao <;> simp only at h
    · -- concat
      cases a <;> cases b <;> simp at h
      subst h; rfl
    all_goals
      cases hx : toFloat nm a with
      | none => simp [hx] at h
      | some x =>
        cases hy : toFloat nm b with
        | none => simp [hx, hy] at h
        | some y =>
          simp only [hx, hy] at h
          first
            | (simp only [Option.some.injEq] at h; subst h; rfl)
            | (cases hd : nm.div x y with
               | none => simp [hd] at h
               | some z => simp only [hd, Option.map_some, Option.some.injEq] at h; subst h; rfl)
            | (cases hd : nm.mod x y with
               | none => simp [hd] at h
               | some z => simp only [hd, Option.map_some, Option.some.injEq] at h; subst h; rfl)
  | cmp co =>
    simp only [applyOp, applyCmp] at h
    split at h
    · simp only [Option.some.injEq] at h; subst h; rfl
    · cases co <;> simp only at h
      · simp only [Option.some.injEq] at h; subst h; rfl
      · simp only [Option.some.injEq] at h; subst h; rfl
      all_goals
        split at h
        · simp only [Option.some.injEq] at h; subst h; rfl
        · cases h
  | bool bo =>
    simp only [applyOp, applyBool] at h
    split at h
    · simp only [Option.some.injEq] at h; subst h; rfl
    · cases h

theorem pass_nil (nm : Num N) (k : Nat) (acc : List (BE N)) : pass nm k [] acc = some acc.reverse := by
  simp [pass]

theorem pass_val (nm : Num N) (k : Nat) (v : Val N) (rest acc : List (BE N)) :
    pass nm k (.val v :: rest) acc = pass nm k rest (.val v :: acc) := by
  conv => lhs; unfold pass

theorem pass_op_ne (nm : Num N) {k : Nat} {o : Op} (h : o.cls ≠ k) (rest acc : List (BE N)) :
    pass nm k (.op o :: rest) acc = pass nm k rest (.op o :: acc) := by
  conv => lhs; unfold pass
  simp [h]

theorem pass_op_eq (nm : Num N) {k : Nat} {o : Op} (h : o.cls = k) (a b : Val N) (rest acc : List (BE N)) :
    pass nm k (.op o :: .val b :: rest) (.val a :: acc) =
      match applyOp nm o a b with
      | some v => pass nm k rest (.val v :: acc)
      | none => none := by
  conv => lhs; unfold pass
  simp only [h, ite_true]
  cases applyOp nm o a b <;> rfl

inductive VT (N : Type) where
  | leaf (v : Val N)
  | node (o : Op) (l r : VT N)

namespace VT

def flat : VT N → List (BE N)
  | leaf v => [.val v]
  | node o l r => l.flat ++ .op o :: r.flat

def eval (nm : Num N) : VT N → Option (Val N)
  | leaf v => some v
  | node o l r =>
    match l.eval nm, r.eval nm with
    | some a, some b => applyOp nm o a b
    | _, _ => none

/-- same grammar as `P.wf`: top operator of class `< k`, left operand of class `≤`, right of class `<`. -/
def wf : Nat → VT N → Bool
  | _, leaf _ => true
  | k, node o l r => decide (o.cls < k) && wf (o.cls + 1) l && wf o.cls r

/-- every operator has class `≥ k` (the passes below `k` are done). -/
def minCls (k : Nat) : VT N → Bool
  | leaf _ => true
  | node o l r => decide (k ≤ o.cls) && minCls k l && minCls k r

def node? (o : Op) : Option (VT N) → Option (VT N) → Option (VT N)
  | some a, some b => some (.node o a b)
  | _, _ => none

theorem node?_wf {o : Op} {k : Nat} {a b : Option (VT N)} (ho : o.cls < k)
    (ha : ∀ t, a = some t → wf (o.cls + 1) t = true) (hb : ∀ t, b = some t → wf o.cls t = true) :
    ∀ t, node? o a b = some t → wf k t = true := by
  intro t ht
  cases a with
  | none => cases ht
  | some x =>
    cases b with
    | none => cases ht
    | some y =>
      cases ht
      simp only [wf, Bool.and_eq_true, decide_eq_true_eq]
      exact ⟨⟨ho, ha x rfl⟩, hb y rfl⟩

theorem node?_eval (nm : Num N) (o : Op) (a b : Option (VT N)) :
    (node? o a b).bind (eval nm) =
      match a.bind (eval nm), b.bind (eval nm) with
      | some x, some y => applyOp nm o x y
      | _, _ => none := by
  cases a with
  | none => rfl
  | some x =>
    cases b with
    | none => simp only [node?, Option.bind_some, Option.bind_none]; cases eval nm x <;> rfl
    | some y => simp only [node?, Option.bind_some, eval]

/-- What pass `k` does.  When the passes below `k` are done, a node of class `k` is a chain of class `k` over values
    (`fold_chain`), and the pass leaves its value in its place; so folding such a node is evaluating it, and
    `fold_eval` needs no hypothesis. -/
def fold (nm : Num N) (k : Nat) : VT N → Option (VT N)
  | leaf v => some (leaf v)
  | node o l r => if o.cls = k then ((node o l r).eval nm).map leaf else node? o (l.fold nm k) (r.fold nm k)

theorem leaf_of_wf_min {k : Nat} {t : VT N} (hw : wf k t = true) (hm : minCls k t = true) : ∃ v, t = leaf v := by
  cases t with
  | leaf v => exact ⟨v, rfl⟩
  | node o l r =>
    simp only [wf, Bool.and_eq_true, decide_eq_true_eq] at hw
    simp only [minCls, Bool.and_eq_true, decide_eq_true_eq] at hm
    -- `o.cls < k` from `wf`, `k ≤ o.cls` from `minCls`
    omega

theorem wf_mono {a b : Nat} (h : a ≤ b) {t : VT N} (hw : wf a t = true) : wf b t = true := by
  cases t with
  | leaf v => rfl
  | node o l r =>
    simp only [wf, Bool.and_eq_true, decide_eq_true_eq] at hw ⊢
    exact ⟨⟨by omega, hw.1.2⟩, hw.2⟩

theorem minCls_zero : ∀ t : VT N, minCls 0 t = true
  | leaf _ => rfl
  | node o l r => by simp [minCls, minCls_zero l, minCls_zero r]

theorem fold_eval (nm : Num N) (k : Nat) : ∀ t : VT N, (t.fold nm k).bind (eval nm) = t.eval nm
  | leaf _ => rfl
  | node o l r => by
    unfold fold
    split
    · cases eval nm (node o l r) <;> rfl
    · rw [node?_eval, fold_eval nm k l, fold_eval nm k r]; rfl

theorem fold_chain (nm : Num N) {k : Nat} {t : VT N} (hw : wf (k + 1) t = true) (hm : minCls k t = true) :
    t.fold nm k = (t.eval nm).map leaf := by
  cases t with
  | leaf v => rfl
  | node o l r =>
    simp only [wf, Bool.and_eq_true, decide_eq_true_eq] at hw
    simp only [minCls, Bool.and_eq_true, decide_eq_true_eq] at hm
    exact if_pos (by omega)

theorem fold_wf_min (nm : Num N) {k : Nat} : ∀ {t t' : VT N} {b : Nat}, wf b t = true → minCls k t = true →
    t.fold nm k = some t' → wf b t' = true ∧ minCls (k + 1) t' = true
  | leaf v, t', b, _, _, hf => by cases hf; exact ⟨rfl, rfl⟩
  | node o l r, t', b, hw, hm, hf => by
    simp only [wf, Bool.and_eq_true, decide_eq_true_eq] at hw
    simp only [minCls, Bool.and_eq_true, decide_eq_true_eq] at hm
    unfold fold at hf
    split at hf
    · cases h : eval nm (node o l r) with
      | none => rw [h] at hf; cases hf
      | some v => rw [h] at hf; cases hf; exact ⟨rfl, rfl⟩
    · cases hl : l.fold nm k with
      | none => rw [hl] at hf; cases hf
      | some l' =>
        cases hr : r.fold nm k with
        | none => rw [hl, hr] at hf; cases hf
        | some r' =>
          rw [hl, hr] at hf; cases hf
          have ⟨wl, ml⟩ := fold_wf_min nm hw.1.2 hm.1.2 hl
          have ⟨wr, mr⟩ := fold_wf_min nm hw.2 hm.2 hr
          simp only [wf, minCls, Bool.and_eq_true, decide_eq_true_eq]
          exact ⟨⟨⟨hw.1.1, wl⟩, wr⟩, ⟨by omega, ml⟩, mr⟩

end VT

theorem pass_tree (nm : Num N) (k : Nat) : ∀ (t : VT N) (b : Nat), VT.wf b t = true → VT.minCls k t = true →
    ∀ (rest acc : List (BE N)),
      pass nm k (t.flat ++ rest) acc = (t.fold nm k).bind (fun t' => pass nm k rest (t'.flat.reverse ++ acc))
  | .leaf v, b, _, _, rest, acc => pass_val nm k v rest acc
  | .node o l r, b, hw, hm, rest, acc => by
    simp only [VT.wf, Bool.and_eq_true, decide_eq_true_eq] at hw
    simp only [VT.minCls, Bool.and_eq_true, decide_eq_true_eq] at hm
    simp only [VT.flat, List.append_assoc, List.cons_append]
    rw [pass_tree nm k l _ hw.1.2 hm.1.2]
    by_cases hk : o.cls = k
    · -- the operator is applied in this pass: its left operand is a chain of this class, its right operand a value
      obtain ⟨vb, rfl⟩ : ∃ vb, r = VT.leaf vb := VT.leaf_of_wf_min (k := k) (by rw [← hk]; exact hw.2) hm.2
      rw [VT.fold_chain nm (by rw [← hk]; exact hw.1.2) hm.1.2, VT.fold, if_pos hk]
      simp only [VT.eval, VT.flat, List.cons_append, List.nil_append]
      cases VT.eval nm l with
      | none => rfl
      | some a =>
        simp only [Option.map_some, Option.bind_some, VT.flat, List.reverse_cons, List.reverse_nil, List.nil_append,
          List.cons_append]
        rw [pass_op_eq nm hk]
        cases applyOp nm o a vb <;> rfl
    · rw [VT.fold, if_neg hk]
      cases hl : l.fold nm k with
      | none => rfl
      | some l' =>
        simp only [Option.bind_some]
        rw [pass_op_ne nm hk, pass_tree nm k r _ hw.2 hm.2]
        cases r.fold nm k with
        | none => rfl
        | some r' =>
          simp only [VT.node?, Option.bind_some, VT.flat, List.reverse_append, List.reverse_cons, List.append_assoc,
            List.cons_append, List.nil_append]

theorem pass_flat (nm : Num N) {k : Nat} {t : VT N} (hw : VT.wf 3 t = true) (hm : VT.minCls k t = true) :
    pass nm k t.flat [] = (t.fold nm k).map VT.flat := by
  have := pass_tree nm k t 3 hw hm [] []
  simp only [List.append_nil, pass_nil, List.reverse_reverse] at this
  rw [this]
  cases t.fold nm k <;> rfl

theorem reduce_flat (nm : Num N) (t : VT N) (hw : VT.wf 3 t = true) : reduce nm t.flat = t.eval nm := by
  unfold reduce
  rw [pass_flat nm hw (VT.minCls_zero t), ← VT.fold_eval nm 0 t]
  cases h0 : t.fold nm 0 with
  | none => rfl
  | some t0 =>
    have ⟨w0, m0⟩ := VT.fold_wf_min nm hw (VT.minCls_zero t) h0
    simp only [Option.map_some, Option.bind_some]
    rw [pass_flat nm w0 m0, ← VT.fold_eval nm 1 t0]
    cases h1 : t0.fold nm 1 with
    | none => rfl
    | some t1 =>
      have ⟨w1, m1⟩ := VT.fold_wf_min nm w0 m0 h1
      simp only [Option.map_some, Option.bind_some]
      rw [pass_flat nm w1 m1, ← VT.fold_eval nm 2 t1]
      cases h2 : t1.fold nm 2 with
      | none => rfl
      | some t2 =>
        have ⟨w2, m2⟩ := VT.fold_wf_min nm w1 m1 h2
        obtain ⟨v, rfl⟩ := VT.leaf_of_wf_min w2 m2
        rfl

theorem resolveList_append (nm : Num N) (c : Ctx) (xs ys : List (BE N)) :
    resolveList nm c (xs ++ ys) =
      match resolveList nm c xs, resolveList nm c ys with
      | some a, some b => some (a ++ b)
      | _, _ => none := by
  induction xs with
  | nil =>
    simp only [List.nil_append, resolveList]
    cases resolveList nm c ys <;> rfl
  | cons x xs ih =>
    simp only [List.cons_append, resolveList, ih]
    cases resolve nm c x <;> cases resolveList nm c xs <;> cases resolveList nm c ys <;> rfl

theorem resolveList_single (nm : Num N) (c : Ctx) (e : BE N) :
    resolveList nm c [e] = (resolve nm c e).map (fun x => [x]) := by
  simp only [resolveList]
  cases resolve nm c e <;> rfl

theorem resolve_group_eq (nm : Num N) (c : Ctx) (l : List (BE N)) :
    resolve nm c (.group l) = (evalLevel nm c l).map .val := by
  conv => lhs; unfold resolve
  unfold evalLevel
  cases resolveList nm c l <;> rfl

theorem resolve_nspace1_eq (nm : Num N) (c : Ctx) (a : BE N) :
    resolve nm c (.nspace1 a) = (nspaceVal (valOf (resolve nm c a))).map .val := rfl

theorem resolve_contains_eq (nm : Num N) (c : Ctx) (a b : BE N) :
    resolve nm c (.containsFn a b) = (containsVal nm (valOf (resolve nm c a)) (valOf (resolve nm c b))).map .val := rfl

theorem resolve_concat_eq (nm : Num N) (c : Ctx) (args : List (BE N)) :
    resolve nm c (.concatFn args) = (concatVal ((resolveList nm c args).bind vals)).map .val := rfl

theorem valOf_map_val (o : Option (Val N)) : valOf (o.map BE.val) = o := by
  cases o <;> rfl

theorem resolve_attr (nm : Num N) (c : Ctx) (name : Str) :
    resolve nm c (.attr name) = (evalP nm c (.attr name)).map .val := by
  simp only [resolve, evalP]
  split
  · rfl
  · cases lookupAttr c.attrs (lower name) <;> rfl

theorem vals_map_val (vs : List (Val N)) : vals (vs.map BE.val) = some vs := by
  induction vs with
  | nil => rfl
  | cons v vs ih => simp [vals, ih]

/-- The value-level skeleton of a predicate for one tag: atoms evaluated (by the *reference*
    evaluator), binary operators kept. -/
def toVT (nm : Num N) (c : Ctx) : P N → Option (VT N)
  | .bin o l r =>
    match toVT nm c l, toVT nm c r with
    | some a, some b => some (.node o a b)
    | _, _ => none
  | p => (evalP nm c p).map .leaf

theorem toVT_bin (nm : Num N) (c : Ctx) (o : Op) (l r : P N) :
    toVT nm c (.bin o l r) = VT.node? o (toVT nm c l) (toVT nm c r) := rfl

theorem resolveList_node (nm : Num N) (c : Ctx) (o : Op) {xs ys : List (BE N)} {a b : Option (VT N)}
    (hx : resolveList nm c xs = a.map VT.flat) (hy : resolveList nm c ys = b.map VT.flat) :
    resolveList nm c (xs ++ .op o :: ys) = (VT.node? o a b).map VT.flat := by
  rw [show xs ++ BE.op o :: ys = xs ++ ([BE.op o] ++ ys) from rfl, resolveList_append, resolveList_append, hx, hy]
  simp only [resolveList, resolve]
  cases a <;> cases b <;> simp [VT.flat, VT.node?]

theorem evalLevel_of_flat (nm : Num N) (c : Ctx) {l : List (BE N)} {o : Option (VT N)}
    (hr : resolveList nm c l = o.map VT.flat) (hw : ∀ t, o = some t → VT.wf 3 t = true) :
    evalLevel nm c l = o.bind (VT.eval nm) := by
  unfold evalLevel
  rw [hr]
  cases o with
  | none => rfl
  | some t => exact reduce_flat nm t (hw t rfl)

/-- What the mutual induction establishes for a predicate `p` at level bound `k`. -/
structure FlatOK (nm : Num N) (c : Ctx) (k : Nat) (p : P N) : Prop where
  res : resolveList nm c (flatten p) = (toVT nm c p).map VT.flat
  wf : ∀ t, toVT nm c p = some t → VT.wf k t = true
  ev : evalP nm c p = (toVT nm c p).bind (VT.eval nm)

theorem FlatOK.evalLevel {nm : Num N} {c : Ctx} {p : P N} (h : FlatOK nm c 3 p) :
    evalLevel nm c (flatten p) = evalP nm c p :=
  (evalLevel_of_flat nm c h.res h.wf).trans h.ev.symm

theorem resolve_group_flat {nm : Num N} {c : Ctx} {p : P N} (h : FlatOK nm c 3 p) :
    resolve nm c (.group (flatten p)) = (evalP nm c p).map .val := by
  rw [resolve_group_eq, h.evalLevel]

theorem flatOK_atom {nm : Num N} {c : Ctx} {k : Nat} {p : P N} {e : BE N}
    (hf : flatten p = [e]) (hv : toVT nm c p = (evalP nm c p).map .leaf)
    (hr : resolve nm c e = (evalP nm c p).map .val) : FlatOK nm c k p := by
  refine ⟨?_, ?_, ?_⟩
  · rw [hf, resolveList_single, hr, hv]
    cases evalP nm c p <;> rfl
  · intro t ht
    rw [hv] at ht
    cases h : evalP nm c p with
    | none => rw [h] at ht; cases ht
    | some v => rw [h] at ht; simp only [Option.map_some, Option.some.injEq] at ht; subst ht; rfl
  · rw [hv]
    cases evalP nm c p <;> rfl

mutual
theorem flatOK (nm : Num N) (c : Ctx) : ∀ (p : P N) (k : Nat), P.wf k p = true → FlatOK nm c k p
  | .lit v, k, _ => flatOK_atom rfl rfl rfl
  | .attr name, k, _ => flatOK_atom rfl rfl (resolve_attr nm c name)
  | .text, k, _ | .last, k, _ | .position, k, _ | .nspace0, k, _ => flatOK_atom rfl rfl rfl
  | .group q, k, h => flatOK_atom rfl rfl (resolve_group_flat (flatOK nm c q 3 h))
  | .nspace1 a, k, h =>
    flatOK_atom rfl rfl (by rw [resolve_nspace1_eq, resolve_group_flat (flatOK nm c a 3 h), valOf_map_val]; rfl)
  | .contains a b, k, h => by
    have hab := P.wf_contains.1 h
    refine flatOK_atom rfl rfl ?_
    rw [resolve_contains_eq, resolve_group_flat (flatOK nm c a 3 hab.1), resolve_group_flat (flatOK nm c b 3 hab.2),
      valOf_map_val, valOf_map_val]
    rfl
  | .concat args, k, h => by
    refine flatOK_atom rfl rfl ?_
    rw [resolve_concat_eq, flatOK_args nm c args h]
    show _ = (concatVal (evalArgs nm c args)).map BE.val
    cases evalArgs nm c args with
    | none => rfl
    | some vs => simp only [Option.map_some, Option.bind_some, vals_map_val]
  | .bin o l r, k, h => by
    have hh := P.wf_bin.1 h
    have hl := flatOK nm c l (o.cls + 1) hh.1.2
    have hr := flatOK nm c r o.cls hh.2
    refine ⟨resolveList_node nm c o hl.res hr.res, VT.node?_wf hh.1.1 hl.wf hr.wf, ?_⟩
    rw [toVT_bin, VT.node?_eval, ← hl.ev, ← hr.ev]
    rfl
theorem flatOK_args (nm : Num N) (c : Ctx) : ∀ (args : List (P N)), P.wfList args = true →
    resolveList nm c (flattenArgs args) = (evalArgs nm c args).map (List.map BE.val)
  | [], _ => rfl
  | p :: ps, h => by
    have hh := P.wfList_cons.1 h
    simp only [flattenArgs, resolveList, evalArgs]
    rw [resolve_group_flat (flatOK nm c p 3 hh.1), flatOK_args nm c ps hh.2]
    cases evalP nm c p <;> cases evalArgs nm c ps <;> rfl
end

end AHP.XPath
