/-
  AHP.Lemmas.AttrsLex — C08d at STRING level: the rendered start tag of an element of the attribute-store model
  (`AHP.Attrs.startTag`, a string), followed by its end tag, is read by the strict lexer of C01
  (`lexStrict`, Model/Lexer.lean — the model of the stdlib tokenizer that the correspondence check ties to the real
  one) as ONE start tag (ONE self-closing tag) whose attribute list is `AHP.Attrs.readBack (startTagItems e)`.

  So `readBack` — which C08d / C09d / C10c use as "the attributes obtained by re-parsing the start tag" — is PROVED to
  be what the tokenizer model reads from the string, not defined to be.

  Side condition: C01's `ValueOK` on every listed value (every `&` is followed by a character that cannot start a
  reference, or ends the value).  It is weaker than the `'&' ∉ s` under which C08d–C10c identify the read-back value
  with the written one: `valueOK_of_no_amp`, and `unescQ_escQ_ok` extends `unescQ (escQ s) = s` to `ValueOK s`.
  Outside `ValueOK` (`a&amp;b`, `x&#65;`) the tokenizer resolves the reference — C01's domain, not a defect here.
-/
import AHP.Lemmas.AttrStoresRender
import AHP.Lemmas.LexRoundTrip
import AHP.Lemmas.AttrsViews
namespace AHP.AttrStores
open AHP

theorem valueOK_of_no_amp : ∀ {s : Str}, '&' ∉ s → ValueOK s
  | [], _ => trivial
  | [_], _ => trivial
  | c :: d :: r, h => by
    refine ⟨fun hc => absurd (by simp [hc]) h, valueOK_of_no_amp (fun m => h (List.mem_cons_of_mem _ m))⟩

theorem valueOK_tail {c : Char} {r : Str} (h : ValueOK (c :: r)) : ValueOK r := by
  cases r with
  | nil => trivial
  | cons d r' => exact h.2

theorem unescQ_amp_of_ne {e : Char} (h : e ≠ 'q') (r : Str) :
    Attrs.unescQ ('&' :: e :: r) = '&' :: Attrs.unescQ (e :: r) := by
  rw [Attrs.unescQ]
  intro r' _ h2
  exact h (List.cons.inj h2).1

theorem unescQ_amp_nil : Attrs.unescQ ['&'] = ['&'] := by decide

theorem replaceQuote_head_ne_q (d : Char) (r : Str) (hd : isAlpha d = false) :
    ∃ e r', Attrs.replaceQuote (d :: r) = e :: r' ∧ e ≠ 'q' := by
  unfold Attrs.replaceQuote
  split
  · exact ⟨'&', _, rfl, by decide⟩
  · refine ⟨d, _, rfl, ?_⟩
    intro e
    rw [e] at hd
    revert hd
    decide

theorem unescQ_escQ_ok : ∀ {v : Str}, ValueOK v → Attrs.unescQ (Attrs.escQ v) = v
  | [], _ => by decide
  | c :: r, h => by
    have ih := unescQ_escQ_ok (valueOK_tail h)
    unfold Attrs.escQ at ih ⊢
    by_cases hq : c = '"'
    · subst hq
      have : Attrs.replaceQuote ('"' :: r) = '&' :: 'q' :: 'u' :: 'o' :: 't' :: ';' :: Attrs.replaceQuote r := by
        simp [Attrs.replaceQuote]
      rw [this, Attrs.unescQ, ih]
    · have he : Attrs.replaceQuote (c :: r) = c :: Attrs.replaceQuote r := by simp [Attrs.replaceQuote, hq]
      rw [he]
      by_cases ha : c = '&'
      · subst ha
        cases r with
        | nil => decide
        | cons d r' =>
          have hd := (h.1 rfl).1
          obtain ⟨e, r'', her, hne⟩ := replaceQuote_head_ne_q d r' hd
          rw [her, unescQ_amp_of_ne hne, ← her, ih]
      · rw [Attrs.unescQ_cons_of_ne ha, ih]

theorem nameChar_attrCh (c : Char) (h : Attrs.nameChar c = true) : isAttrCh c = true := by
  -- name characters are ASCII (`hlt`), so the check of the 128 code points covers them
  have key : ∀ n : Nat, n < 128 → Attrs.nameChar (Char.ofNat n) = true → isAttrCh (Char.ofNat n) = true := by decide +kernel
  have hlt : c.toNat < 128 := by
    simp only [Attrs.nameChar, Attrs.isAlpha, Attrs.isDigit, Bool.or_eq_true, Bool.and_eq_true, decide_eq_true_eq] at h
    rcases h with ((h | h) | h) | h
    · rcases h with h | h
      · have : c.toNat ≤ 'z'.toNat := h.2
        have e : 'z'.toNat = 122 := by decide
        omega
      · have : c.toNat ≤ 'Z'.toNat := h.2
        have e : 'Z'.toNat = 90 := by decide
        omega
    · have : c.toNat ≤ '9'.toNat := h.2
      have e : '9'.toNat = 57 := by decide
      omega
    · subst h; decide
    · subst h; decide
  have := key c.toNat hlt
  rw [Char.ofNat_toNat] at this
  exact this h

theorem nameOK_of_valid {k : Str} (hv : Attrs.validName k = true) (hl : lower k = k) : NameOK k := by
  cases k with
  | nil => simp [Attrs.validName] at hv
  | cons c r =>
    refine ⟨by simp, ?_, hl⟩
    have hall : (c :: r).all Attrs.nameChar = true := by
      simp only [Attrs.validName, Bool.and_eq_true] at hv
      exact hv.2
    intro x hx
    exact nameChar_attrCh x (List.all_eq_true.mp hall x hx)

/-- what the tokenizer reads back for a listed entry: nothing for a value-less attribute and for a boolean attribute
    with an empty value (both render as the bare name), else the value -/
def lexedVal (k : Str) (v : Option Str) : Option Str :=
  match v with
  | none => none
  | some x => if x.isEmpty && binaryAttrs.contains k then none else some x

theorem renderAttr_lexedVal (k : Str) (v : Option Str) : renderAttr (k, lexedVal k v) = renderAttr (k, v) := by
  cases v with
  | none => rfl
  | some x =>
    unfold lexedVal
    simp only
    cases hb : (x.isEmpty && binaryAttrs.contains k) with
    | true =>
      simp only [if_true, renderAttr, hb]
    | false => simp

theorem attrOK_lexedVal {k : Str} {v : Option Str} (hk : NameOK k) (hv : ∀ s, v = some s → ValueOK s) :
    AttrOK (k, lexedVal k v) := by
  cases v with
  | none => exact hk
  | some x =>
    unfold lexedVal
    simp only
    cases hb : (x.isEmpty && binaryAttrs.contains k) with
    | true => exact hk
    | false =>
      refine ⟨hk, hv x rfl, ?_⟩
      intro h
      rw [h.1, h.2] at hb
      cases hb

theorem readBackVal_slot {T : Attrs.Tables} (hT : BinaryOK T) (e : Attrs.El) (k : Str) (s : Attrs.Slot)
    (hv : ∀ x, slotStr e.sty s = some x → ValueOK x) :
    Attrs.readBackVal T k (Attrs.slotVal e s) = lexedVal k (slotStr e.sty s) := by
  have key : ∀ (x : Str) (pv : Attrs.PyVal), pv ≠ .none → pv.tostrOpt = some x →
      (if pv.falsy then ([] : Str) else x) = x → ValueOK x →
      Attrs.readBackVal T k pv = lexedVal k (some x) := by
    intro x pv hn hs hf hok
    unfold Attrs.readBackVal lexedVal
    rw [Attrs.renderItem_of_ne_none T k hn, hs, hT]
    simp only [Option.getD_some, hf]
    cases hx : x.isEmpty <;> cases hb : binaryAttrs.contains k <;> simp [unescQ_escQ_ok hok]
  cases s with
  | val v =>
    cases v with
    | none => rfl
    | some x => exact key x (.str x) (by simp) rfl (falsy_str x) (hv x rfl)
  | cls x => exact key x (.str x) (by simp) rfl (falsy_str x) (hv x rfl)
  | sty => exact key (Attrs.asStr e.sty) (.style (Attrs.asStr e.sty)) (by simp) rfl rfl (hv _ rfl)

theorem readBack_eq_lexed {T : Attrs.Tables} (hT : BinaryOK T) (e : Attrs.El)
    (hv : ∀ p ∈ Attrs.viewList e, ∀ s, p.2 = some s → ValueOK s) :
    Attrs.readBack (Attrs.startTagItems T e).1 = (Attrs.viewList e).map (fun p => (p.1, lexedVal p.1 p.2)) := by
  rw [Attrs.startTagItems_fst, Attrs.readBack_map, Attrs.viewList, attrsList_eq_map, Attrs.items_fst,
      List.map_map, List.map_map]
  apply List.map_congr_left
  intro p hp
  simp only [Function.comp]
  congr 1
  apply readBackVal_slot hT
  intro x hx
  apply hv (p.1, slotStr (Attrs.handleClassAttr e).sty p.2) ?_ x hx
  rw [Attrs.viewList, attrsList_eq_map]
  exact List.mem_map.mpr ⟨p, hp, rfl⟩

theorem startTag_eq_renderTok {T : Attrs.Tables} (hT : BinaryOK T) (e : Attrs.El)
    (hv : ∀ p ∈ Attrs.viewList e, ∀ s, p.2 = some s → ValueOK s) :
    (Attrs.startTag T e).1 =
      renderTok (if e.sc then Token.startend e.tag (Attrs.readBack (Attrs.startTagItems T e).1)
                 else Token.start e.tag (Attrs.readBack (Attrs.startTagItems T e).1)) := by
  have e1 : (Attrs.startTag T e).1 = Attrs.renderStart e.tag e.sc (Attrs.startTagItems T e).1 := rfl
  have hmap : (Attrs.readBack (Attrs.startTagItems T e).1).map renderAttr = (Attrs.attrsList e).1.map renderAttr := by
    rw [readBack_eq_lexed hT e hv, Attrs.viewList, List.map_map]
    apply List.map_congr_left
    intro p _
    exact renderAttr_lexedVal p.1 p.2
  rw [e1, renderStart_eq, startTagItems_render hT, ← hmap, ← renderAttrs_eq]
  cases e.sc <;> simp [renderTok]

theorem readBack_attrOK {T : Attrs.Tables} (hT : BinaryOK T) {e : Attrs.El} (h : Attrs.DictInv e)
    (hv : ∀ p ∈ Attrs.viewList e, ∀ s, p.2 = some s → ValueOK s) :
    ∀ a ∈ Attrs.readBack (Attrs.startTagItems T e).1, AttrOK a := by
  rw [readBack_eq_lexed hT e hv]
  intro a ha
  obtain ⟨p, hp, rfl⟩ := List.mem_map.mp ha
  have hk : p.1 ∈ Attrs.akeys (Attrs.handleClassAttr e).dict := by
    rw [← Attrs.akeys_viewList]
    exact List.mem_map.mpr ⟨p, hp, rfl⟩
  obtain ⟨q, hq, hqe⟩ := List.mem_map.mp hk
  have hs := (Attrs.dictInv_handleClassAttr h).slots q hq
  have hs1 : Attrs.validName p.1 = true := hqe ▸ hs.1
  have hs2 : lower p.1 = p.1 := hqe ▸ hs.2.1
  exact attrOK_lexedVal (nameOK_of_valid hs1 hs2) (hv p hp)

theorem lexStrict_startTag {T : Attrs.Tables} (hT : BinaryOK T) {e : Attrs.El} (h : Attrs.DictInv e)
    (htag : TagNameOK e.tag) (hv : ∀ p ∈ Attrs.viewList e, ∀ s, p.2 = some s → ValueOK s) :
    lexStrict ((Attrs.startTag T e).1 ++ endTag e.tag e.sc) =
      some (if e.sc then [Token.startend e.tag (Attrs.readBack (Attrs.startTagItems T e).1)]
            else [Token.start e.tag (Attrs.readBack (Attrs.startTagItems T e).1), Token.end_ e.tag]) := by
  have hA := readBack_attrOK hT h hv
  rw [startTag_eq_renderTok hT e hv]
  cases hsc : e.sc with
  | true =>
    simp only [if_true, endTag, List.append_nil]
    have hl : ListOK [Token.startend e.tag (Attrs.readBack (Attrs.startTagItems T e).1)] :=
      .cons ⟨htag, hA⟩ trivial .nil
    have := lexStrict_renderToks _ hl
    simpa [renderToks] using this
  | false =>
    simp only [Bool.false_eq_true, if_false, endTag]
    have hr : '<' :: '/' :: e.tag ++ ['>'] = renderTok (Token.end_ e.tag) := rfl
    rw [hr]
    by_cases hraw : isRawText e.tag = true
    · have hl : ListOK [Token.start e.tag (Attrs.readBack (Attrs.startTagItems T e).1), Token.end_ e.tag] :=
        .rawEmpty hraw hA .nil
      have := lexStrict_renderToks _ hl
      simpa [renderToks] using this
    · have hraw' : isRawText e.tag = false := by simpa using hraw
      have hl : ListOK [Token.start e.tag (Attrs.readBack (Attrs.startTagItems T e).1), Token.end_ e.tag] :=
        .cons ⟨htag, hraw', hA⟩ trivial (.cons htag trivial .nil)
      have := lexStrict_renderToks _ hl
      simpa [renderToks] using this

end AHP.AttrStores
