/-
  Token-level round trip (C01a, first half): trees in lexical normal form (`LNode`: every text block one text-like token),
  what the public API shows of a tree (`Node.obs`), and the tokens a tree serialises to rebuild that tree with its attribute
  stores re-read — in any state in which a block may be added (`lelem_run`, `lnode_run`, `lforest_run`), hence for a whole
  document on the first pass and, the wrapped tokens being the tokens of the wrapper element, on the second (`feedTokens_root`,
  `feedTokens_forest`).  Then: `Stable` trees serialise as before when re-read; `getHTML`, re-reading and `obs` factor through
  `norm`; what the builder produces meets `Node.Lex`, and presented as `l.toNode` has `l.WF` (`feedTokens_lex`, `wf_of_lex`).

  The tree predicates of C01 (the list form of `X` ends in `L`):
    `LNode.WF`, `WFLL`        in the serialiser's image: text-like tokens, lower-case names, void ⇒ self-closing ⇒ no blocks
    `Node.Lex`, `LexL`        the same read off a `Node`; `Frame.Lex` makes it a builder invariant
    `Node.Stable`, `StableL`  every store `ViewStable`
    `Node.Built`, `BuiltL`    every store an `intake` image, hence `Stable` (`Lemmas/IntakeStableTree.lean`)
    `LNode.LexOK`, `LexOKL`   the tokens are `ListOK`; `NoAdjL`, `isDataTok` are the tree forms of `NoAdjData`, `isData`
                              (`Lemmas/LexRawTree.lean`)
-/
import AHP.Lemmas.Builder
import AHP.Lemmas.ParserObjDoctype
import AHP.Lemmas.Str
namespace AHP

/-- what the public API shows of a tree: names, attribute pairs as the views list them, self-closing flag,
    blocks.  (`Spec.OTree` with `Node.toO`, `Lemmas/IntakeStableObs.lean`, is the same type and function on the specification's
    side; C02 is stated with those.) -/
inductive ONode where
  | text (s : Str)
  | elem (name : Str) (attrs : List Attr) (sc : Bool) (kids : List ONode)
  deriving Repr, Inhabited

mutual
def Node.obs : Node → ONode
  | .text s => .text s
  | .elem n a sc kids => .elem n a.view sc (obsL kids)
def obsL : List Node → List ONode
  | [] => []
  | k :: ks => k.obs :: obsL ks
end

/-- the attribute store a parse of the rendered attributes builds -/
def reintakeA (a : AttrState) : AttrState := intake a.view AttrState.empty

mutual
/-- the tree a parse of the serialisation builds: attribute stores re-read from their rendering,
    empty text blocks gone -/
def Node.reintake : Node → Node
  | .text s => .text s
  | .elem n a sc kids => .elem n (reintakeA a) sc (reintakeL kids)
def reintakeL : List Node → List Node
  | [] => []
  | .text s :: ks => if s.isEmpty then reintakeL ks else .text s :: reintakeL ks
  | .elem n a sc kids :: ks => .elem n (reintakeA a) sc (reintakeL kids) :: reintakeL ks
end

/-- Lexical normal form of a tree: every text block is exactly one text-like token of the tokenizer
    (a data run, an entity / character reference, a comment).  Every tree a parse produces has this form. -/
inductive LNode where
  | tok (t : Token)
  | elem (name : Str) (attrs : AttrState) (sc : Bool) (kids : List LNode)
  deriving Repr, Inhabited

def textOfD (t : Token) : Str := (Spec.textOf t).getD []

mutual
def LNode.toNode : LNode → Node
  | .tok t => .text (textOfD t)
  | .elem n a sc kids => .elem n a sc (toNodeL kids)
def toNodeL : List LNode → List Node
  | [] => []
  | k :: ks => k.toNode :: toNodeL ks
end

mutual
def LNode.toks : LNode → List Token
  | .tok t => [t]
  | .elem n a sc kids =>
      if sc then [.startend n a.view] else .start n a.view :: (toksL kids ++ [.end_ n])
def toksL : List LNode → List Token
  | [] => []
  | k :: ks => k.toks ++ toksL ks
end

mutual
/-- trees in the serialiser's image: text blocks are text-like tokens, names lower-case, void names
    self-closing, self-closing elements empty -/
def LNode.WF : LNode → Prop
  | .tok t => (Spec.textOf t).isSome
  | .elem n _ sc kids => lower n = n ∧ (AHP.isVoid n = true → sc = true) ∧ (sc = true → kids = []) ∧ WFLL kids
def WFLL : List LNode → Prop
  | [] => True
  | k :: ks => k.WF ∧ WFLL ks
end

theorem LNode.WF.kids {n : Str} {a : AttrState} {sc : Bool} {kids : List LNode} (h : (LNode.elem n a sc kids).WF) :
    WFLL kids := h.2.2.2

theorem reintakeL_text (s : Str) (ks : List Node) :
    reintakeL (.text s :: ks) = if s.isEmpty then reintakeL ks else .text s :: reintakeL ks := by
  simp only [reintakeL]

theorem reintakeL_elem (n : Str) (a : AttrState) (sc : Bool) (kids ks : List Node) :
    reintakeL (.elem n a sc kids :: ks) = (Node.elem n a sc kids).reintake :: reintakeL ks := by
  simp only [reintakeL, Node.reintake]

theorem htmlL_append (xs ys : List Node) : htmlL (xs ++ ys) = htmlL xs ++ htmlL ys := by
  induction xs with
  | nil => simp [htmlL]
  | cons x xs ih => simp [htmlL, ih]

/-- the text-like tokens -/
theorem textlike_cases {t : Token} (h : (Spec.textOf t).isSome) :
    (∃ d, t = .data d ∧ d.isEmpty = false) ∨ (∃ e, t = .entity e) ∨ (∃ c, t = .charref c) ∨ ∃ c, t = .comment c := by
  cases t <;> simp [Spec.textOf] at h ⊢
  exact h

theorem stepT_textlike (s : TState) (hne : s.stack ≠ []) (t : Token) (h : (Spec.textOf t).isSome) :
    stepT s t = .ok (addNode s (.text (textOfD t))) := by
  obtain ⟨x, hx⟩ := Option.isSome_iff_exists.mp h
  rw [stepT_text_inside hne (by rintro _ rfl; cases hx) (by rintro _ _ rfl; cases hx) (by rintro _ _ rfl; cases hx),
    textOfD, hx]
  rfl

theorem textOfD_isEmpty (t : Token) (h : (Spec.textOf t).isSome) : (textOfD t).isEmpty = false := by
  rcases textlike_cases h with ⟨d, rfl, hd⟩ | ⟨e, rfl⟩ | ⟨c, rfl⟩ | ⟨c, rfl⟩
  · simp [Spec.textOf, textOfD, hd]
  all_goals simp [Spec.textOf, textOfD]

theorem reintakeL_toNodeL_cons (k : LNode) (ks : List LNode) (h : k.WF) :
    reintakeL (toNodeL (k :: ks)) = k.toNode.reintake :: reintakeL (toNodeL ks) := by
  cases k with
  | tok tk =>
    rw [toNodeL, LNode.toNode, reintakeL_text, textOfD_isEmpty tk h, if_neg Bool.false_ne_true]
    simp only [Node.reintake]
  | elem n a sc kids => rw [toNodeL, LNode.toNode, reintakeL_elem]

/-- read where an element may start — under an open element, or before there is a root; that its blocks' tokens add the
    blocks is a hypothesis (`ih`; `lforest_run` below) -/
theorem lelem_run (n : Str) (a : AttrState) (sc : Bool) (kids : List LNode) (h : (LNode.elem n a sc kids).WF)
    (s : TState) (hs : s.stack = [] → s.root = none)
    (ih : ∀ s' : TState, s'.stack ≠ [] → runT s' (toksL kids) = .ok (addNodes s' (reintakeL (toNodeL kids)))) :
    runT s (LNode.elem n a sc kids).toks = .ok (addNode s (LNode.elem n a sc kids).toNode.reintake) := by
  obtain ⟨hl, hv, hsc, _⟩ := h
  have hroot : (s.hasRoot && s.stack.isEmpty) = false := by
    cases hst : s.stack with
    | nil => simp [TState.hasRoot, hst, hs hst]
    | cons => simp
  have hvoid : (sc || Spec.isVoid (lower n)) = sc := by
    rw [hl, ← isVoid_eq]
    cases hvv : AHP.isVoid n with
    | false => exact Bool.or_false sc
    | true => rw [hv hvv]; rfl
  have hstart := handleStart_eq s n a.view sc
  rw [hroot, if_neg Bool.false_ne_true, hvoid, hl] at hstart
  rw [show (LNode.elem n a sc kids).toNode.reintake = .elem n (reintakeA a) sc (reintakeL (toNodeL kids)) by
    simp only [LNode.toNode, Node.reintake]]
  unfold LNode.toks
  cases sc with
  | true =>
    rw [hsc rfl, if_pos rfl, runT_cons (t := .startend n a.view) [] (hstart.trans (if_pos rfl)), toNodeL, reintakeL]
    rfl
  | false =>
    -- the start tag opens a frame, the blocks' tokens fill it, the end tag closes it: `stepT_close_own`
    rw [if_neg Bool.false_ne_true, runT_cons (t := .start n a.view) _ (hstart.trans (if_neg Bool.false_ne_true)),
      runT_append_ok _ _ _ _ (ih _ (List.cons_ne_nil _ _)), runT_cons [] (stepT_close_own s n _ _)]
    rfl

mutual
theorem lnode_run (t : LNode) (h : t.WF) (s : TState) (hs : s.stack ≠ []) :
    runT s t.toks = .ok (addNode s t.toNode.reintake) := by
  match t, h with
  | .tok tk, h => simp only [LNode.toks, runT, stepT_textlike s hs tk h]; rfl
  | .elem n a sc kids, h => exact lelem_run n a sc kids h s (fun e => absurd e hs) (lforest_run kids h.kids)
theorem lforest_run (ks : List LNode) (h : WFLL ks) (s : TState) (hs : s.stack ≠ []) :
    runT s (toksL ks) = .ok (addNodes s (reintakeL (toNodeL ks))) := by
  match ks, h with
  | [], _ => simp [toksL, toNodeL, reintakeL, addNodes, runT]
  | k :: ks, h =>
    rw [toksL, runT_append_ok _ _ _ _ (lnode_run k h.1 s hs), lforest_run ks h.2 _ (addNode_stack_ne_nil hs _),
      reintakeL_toNodeL_cons k ks h.1, addNodes_cons]
end

theorem lnode_rt (t : LNode) (h : t.WF) (f : Frame) (fs : List Frame) (r : Option Node) :
    runT ⟨f :: fs, r⟩ t.toks = .ok ⟨{ f with rev := t.toNode.reintake :: f.rev } :: fs, r⟩ :=
  lnode_run t h _ (List.cons_ne_nil _ _)

theorem lforest_rt (ks : List LNode) (h : WFLL ks) (f : Frame) (fs : List Frame) (r : Option Node) :
    runT ⟨f :: fs, r⟩ (toksL ks) = .ok ⟨{ f with rev := (reintakeL (toNodeL ks)).reverse ++ f.rev } :: fs, r⟩ := by
  rw [lforest_run ks h _ (List.cons_ne_nil _ _), addNodes_push]

theorem stepD_of_textlike {u : Token} (h : (Spec.textOf u).isSome) (d : Option Str) : stepD d u = d := by
  rcases textlike_cases h with ⟨_, rfl, _⟩ | ⟨_, rfl⟩ | ⟨_, rfl⟩ | ⟨_, rfl⟩ <;> rfl

mutual
theorem toks_stepD (t : LNode) (h : t.WF) : ∀ u ∈ t.toks, ∀ d, stepD d u = d := by
  match t, h with
  | .tok tk, h =>
    intro u hu
    rw [List.mem_singleton.mp hu]
    exact stepD_of_textlike h
  | .elem n a sc kids, h =>
    have ih := toksL_stepD kids h.kids
    unfold LNode.toks
    split
    · intro u hu d; rw [List.mem_singleton.mp hu]; rfl
    · intro u hu d
      simp only [List.mem_cons, List.mem_append, List.not_mem_nil, or_false] at hu
      rcases hu with rfl | hu | rfl
      · rfl
      · exact ih u hu d
      · rfl
theorem toksL_stepD (ks : List LNode) (h : WFLL ks) : ∀ u ∈ toksL ks, ∀ d, stepD d u = d := by
  match ks, h with
  | [], _ => simp [toksL]
  | k :: ks, h =>
    intro u hu
    rw [toksL, List.mem_append] at hu
    exact hu.elim (toks_stepD k h.1 u) (toksL_stepD ks h.2 u)
end

/-- first pass; `pre` is the doctype line in the uses -/
theorem feedTokens_root (pre : List Token) (hpre : runT TState.init pre = .ok TState.init) (n : Str) (a : AttrState)
    (sc : Bool) (kids : List LNode) (h : (LNode.elem n a sc kids).WF) :
    feedTokens (pre ++ (LNode.elem n a sc kids).toks)
      = .doc ⟨pre.foldl stepD none, some (LNode.elem n a sc kids).toNode.reintake⟩ false := by
  have hrun : runT TState.init (pre ++ (LNode.elem n a sc kids).toks)
      = .ok ⟨[], some (LNode.elem n a sc kids).toNode.reintake⟩ := by
    rw [runT_append_ok _ _ _ _ hpre]
    exact lelem_run n a sc kids h _ (fun _ => rfl) (lforest_run kids h.kids)
  rw [feedTokens_eq, twoPass, hrun, List.foldl_append, foldl_stepD_fix _ _ fun u hu => toks_stepD _ h u hu _]
  rfl

theorem wrapper_wf {ks : List LNode} (h : WFLL ks) : (LNode.elem wrapperName AttrState.empty false ks).WF :=
  ⟨wrapper_lower, fun hv => absurd (wrapper_not_void ▸ hv) Bool.false_ne_true, nofun, h⟩

/-- the tokens of the second pass are the tokens of the wrapper ELEMENT around the blocks -/
theorem wrapToks_toksL (ks : List LNode) (h : WFLL ks) :
    wrapToks (toksL ks) = (LNode.elem wrapperName AttrState.empty false ks).toks := by
  have hlead : leadDoctype (toksL ks) = none := by
    cases hl : leadDoctype (toksL ks) with
    | none => rfl
    | some p =>
      obtain ⟨e, ⟨d, hp⟩ | ⟨ws, d, _, hp⟩⟩ := leadDoctype_cases (pre := p.1) (r := p.2) hl <;>
        exact nomatch toksL_stepD ks h (.decl d) (by rw [e, hp]; simp) none
  simp only [wrapToks, hlead, LNode.toks]
  rfl

theorem feedTokens_forest (ks : List LNode) (h : WFLL ks) (hmulti : run BState.init (toksL ks) = .multipleRoot) :
    feedTokens (toksL ks)
      = .doc ⟨none, some (.elem wrapperName AttrState.empty false (reintakeL (toNodeL ks)))⟩ true := by
  have hrun := lelem_run _ _ _ ks (wrapper_wf h) TState.init (fun _ => rfl) (lforest_run ks h)
  rw [← wrapToks_toksL ks h] at hrun
  unfold feedTokens
  rw [hmulti]
  simp only
  rw [run_init_ok hrun, foldl_stepD_fix _ _ fun u hu => (wrapToks_toksL ks h ▸ toks_stepD _ (wrapper_wf h)) u hu _]
  simp only [LNode.toNode, Node.reintake]
  rfl

/-- the attribute store re-read from its own rendering shows the same pairs -/
def ViewStable (a : AttrState) : Prop := (reintakeA a).view = a.view

mutual
def Node.Stable : Node → Prop
  | .text _ => True
  | .elem _ a _ kids => ViewStable a ∧ StableL kids
def StableL : List Node → Prop
  | [] => True
  | k :: ks => k.Stable ∧ StableL ks
end

mutual
theorem html_reintake (t : Node) (h : t.Stable) : t.reintake.html = t.html := by
  match t, h with
  | .text s, _ => simp [Node.reintake]
  | .elem n a sc kids, h =>
    simp only [Node.reintake, Node.html, startTag, startTagI]
    rw [htmlL_reintake kids h.2, show (reintakeA a).view = a.view from h.1]
theorem htmlL_reintake (ks : List Node) (h : StableL ks) : htmlL (reintakeL ks) = htmlL ks := by
  match ks, h with
  | [], _ => simp [reintakeL]
  | k :: ks, h =>
    have ih := htmlL_reintake ks h.2
    have ihk := html_reintake k h.1
    cases k with
    | text s =>
      rw [reintakeL_text]
      split
      · next hs => rw [htmlL, ih, List.isEmpty_iff.mp hs]; rfl
      · rw [htmlL, htmlL, ih]
    | elem n a sc kids => rw [reintakeL_elem, htmlL, htmlL, ihk, ih]
end

/-! ### arbitrary text segmentation

  Trees built through the DOM API may have several adjacent text blocks and empty ones: `getHTML`, re-reading the stores and
  what the API shows all factor through `norm` (adjacent text merged, empty text dropped). -/

/-- what `normL` does with a text block in front of a normal form: merged into a text block behind it, dropped when
    empty -/
def consText (s : Str) : List Node → List Node
  | .text s' :: r => .text (s ++ s') :: r
  | r => if s.isEmpty then r else .text s :: r

theorem normL_text (s : Str) (ks : List Node) : normL (.text s :: ks) = consText s (normL ks) := by
  rw [normL]
  cases normL ks with
  | nil => rfl
  | cons k r => cases k <;> rfl

theorem normL_empty_text (ks : List Node) : normL (.text [] :: ks) = normL ks := by
  rw [normL_text]
  rcases normL ks with _ | ⟨_ | _, _⟩ <;> rfl

theorem normL_elem (n : Str) (a : AttrState) (sc : Bool) (kids ks : List Node) :
    normL (.elem n a sc kids :: ks) = (Node.elem n a sc kids).norm :: normL ks := by
  simp only [normL, Node.norm]

theorem htmlL_consText (s : Str) (l : List Node) : htmlL (consText s l) = s ++ htmlL l := by
  unfold consText
  split
  · simp [htmlL, Node.html]
  · split
    · next h => rw [List.isEmpty_iff.mp h]; rfl
    · simp [htmlL, Node.html]

mutual
theorem html_norm (t : Node) : t.norm.html = t.html := by
  match t with
  | .text s => simp [Node.norm]
  | .elem n a sc kids =>
    simp only [Node.norm, Node.html]
    rw [htmlL_norm kids]
theorem htmlL_norm (ks : List Node) : htmlL (normL ks) = htmlL ks := by
  match ks with
  | [] => simp [normL]
  | k :: ks =>
    have ih := htmlL_norm ks
    have ihk := html_norm k
    cases k with
    | text s => rw [normL_text, htmlL_consText, ih]; rfl
    | elem n a sc kids => rw [normL_elem, htmlL, htmlL, ihk, ih]
end

theorem docHTML_norm (dt : Option Str) (t : Node) : docHTML dt t.norm = docHTML dt t := by
  cases t with
  | text s => simp [Node.norm]
  | elem n a sc kids =>
    simp only [Node.norm, docHTML, Node.innerHTML]
    rw [htmlL_norm kids]
    have := html_norm (.elem n a sc kids)
    simp only [Node.norm] at this
    rw [this]

/-- no empty text block in front (a normal form has none anywhere) -/
def HeadOK (l : List Node) : Prop := ∀ s r, l = .text s :: r → s ≠ []

theorem headOK_consText (s : Str) {l : List Node} (hl : HeadOK l) : HeadOK (consText s l) := by
  have hplain : HeadOK (if s.isEmpty then l else .text s :: l) := by
    split
    · exact hl
    · next hs => exact fun s' r h e => hs (by injection h with h; injection h with h; rw [h, e]; rfl)
  match l, hl, hplain with
  | .text s2 :: r, hl, _ =>
    exact fun s' r' h e => by
      injection h with h; injection h with h
      exact hl s2 r rfl (List.append_eq_nil_iff.mp (h ▸ e)).2
  | [], _, hplain => exact hplain
  | .elem .. :: _, _, hplain => exact hplain

theorem headOK_normL : ∀ ks : List Node, HeadOK (normL ks)
  | [] => fun _ _ h => by simp [normL] at h
  | .text s :: ks => by rw [normL_text]; exact headOK_consText s (headOK_normL ks)
  | .elem .. :: ks => fun _ _ h => by simp [normL] at h

theorem consText_nil (l : List Node) : consText [] l = l := by
  match l with
  | [] => rfl
  | .text _ :: _ => rfl
  | .elem .. :: _ => rfl

theorem reintakeL_consText (s : Str) {l : List Node} (hl : HeadOK l) :
    reintakeL (consText s l) = consText s (reintakeL l) := by
  match l, hl with
  | [], _ => by_cases hs : s.isEmpty = true <;> simp [consText, reintakeL, hs]
  | .text s2 :: r, hl =>
    have h2 : s2.isEmpty = false := by simpa using hl s2 r rfl
    have h3 : (s ++ s2).isEmpty = false := by simpa using fun _ => hl s2 r rfl
    simp [consText, reintakeL, h2, h3]
  | .elem n a sc kk :: r, _ => by_cases hs : s.isEmpty = true <;> simp [consText, reintakeL, hs]

/-- `consText` looks at the head only as far as `obsL` shows it -/
theorem obsL_consText_congr (s : Str) {l l' : List Node} (h : obsL l' = obsL l) :
    obsL (consText s l') = obsL (consText s l) := by
  match l', l, h with
  | [], [], _ => rfl
  | .text a :: r', .text b :: r, h =>
    simp only [obsL, Node.obs, List.cons.injEq, ONode.text.injEq] at h
    simp [consText, obsL, Node.obs, h.1, h.2]
  | .elem .. :: r', .elem .. :: r, h =>
    by_cases hs : s.isEmpty = true <;> simp [consText, obsL, Node.obs, hs] <;> simpa [obsL, Node.obs] using h
  | [], _ :: _, h => simp [obsL] at h
  | _ :: _, [], h => simp [obsL] at h
  | .text _ :: _, .elem .. :: _, h => simp [obsL, Node.obs] at h
  | .elem .. :: _, .text _ :: _, h => simp [obsL, Node.obs] at h

mutual
theorem norm_reintake (t : Node) : t.reintake.norm = t.norm.reintake := by
  match t with
  | .text s => simp [Node.reintake, Node.norm]
  | .elem n a sc kids =>
    simp only [Node.reintake, Node.norm]
    rw [normL_reintakeL kids]
theorem normL_reintakeL (ks : List Node) : normL (reintakeL ks) = reintakeL (normL ks) := by
  match ks with
  | [] => simp [reintakeL, normL]
  | k :: ks =>
    have ih := normL_reintakeL ks
    have ihk := norm_reintake k
    cases k with
    | text s =>
      rw [normL_text, reintakeL_consText s (headOK_normL ks), ← ih, reintakeL_text]
      split
      · next hs => rw [List.isEmpty_iff.mp hs, consText_nil]
      · rw [normL_text]
    | elem n a sc kids =>
      simp only [reintakeL, normL, Node.reintake, Node.norm, Node.elem.injEq, true_and] at ihk ⊢
      rw [ihk, ih]
end

mutual
theorem obs_reintake_norm (t : Node) (h : t.Stable) : t.norm.reintake.obs = t.norm.obs := by
  match t, h with
  | .text s, _ => simp [Node.norm, Node.reintake]
  | .elem n a sc kids, h =>
    simp only [Node.norm, Node.reintake, Node.obs]
    rw [show (reintakeA a).view = a.view from h.1, obsL_reintake_normL kids h.2]
theorem obsL_reintake_normL (ks : List Node) (h : StableL ks) : obsL (reintakeL (normL ks)) = obsL (normL ks) := by
  match ks, h with
  | [], _ => simp [normL, reintakeL]
  | k :: ks, h =>
    have ih := obsL_reintake_normL ks h.2
    have ihk := obs_reintake_norm k h.1
    cases k with
    | text s =>
      rw [normL_text, reintakeL_consText s (headOK_normL ks)]
      exact obsL_consText_congr s ih
    | elem n a sc kids =>
      simp only [reintakeL, normL, Node.reintake, Node.norm, obsL] at ihk ⊢
      rw [ihk, ih]
end

/-! ### every tree the builder produces is in lexical normal form

  `Node.Lex`: no empty text block; element names lower-case; void names self-closing; self-closing elements
  empty.  For a tree given as `l.toNode` this is `l.WF` (`wf_of_lex`). -/

mutual
def Node.Lex : Node → Prop
  | .text s => s ≠ []
  | .elem n _ sc kids => lower n = n ∧ (isVoid n = true → sc = true) ∧ (sc = true → kids = []) ∧ LexL kids
def LexL : List Node → Prop
  | [] => True
  | k :: ks => k.Lex ∧ LexL ks
end

theorem lexL_iff : ∀ ks : List Node, LexL ks ↔ ∀ k ∈ ks, k.Lex
  | [] => by simp [LexL]
  | k :: ks => by simp [LexL, lexL_iff ks]

theorem lexL_reverse {ks : List Node} (h : LexL ks) : LexL ks.reverse := by
  rw [lexL_iff] at h ⊢
  intro k hk
  exact h k (List.mem_reverse.mp hk)

mutual
theorem wf_of_lex (l : LNode) (h : l.toNode.Lex) : l.WF := by
  match l, h with
  | .tok t, h =>
    simp only [LNode.toNode, Node.Lex, textOfD] at h
    simp only [LNode.WF]
    cases ht : Spec.textOf t with
    | none => rw [ht] at h; simp at h
    | some s => rfl
  | .elem n a sc kids, h =>
    simp only [LNode.toNode, Node.Lex] at h
    simp only [LNode.WF]
    refine ⟨h.1, h.2.1, ?_, wfL_of_lex kids h.2.2.2⟩
    intro hsc
    have := h.2.2.1 hsc
    cases kids with
    | nil => rfl
    | cons k ks => simp [toNodeL] at this
theorem wfL_of_lex (ks : List LNode) (h : LexL (toNodeL ks)) : WFLL ks := by
  match ks, h with
  | [], _ => simp [WFLL]
  | k :: ks, h =>
    simp only [toNodeL, LexL] at h
    simp only [WFLL]
    exact ⟨wf_of_lex k h.1, wfL_of_lex ks h.2⟩
end

def Frame.Lex (f : Frame) : Prop := lower f.name = f.name ∧ isVoid f.name = false ∧ LexL f.rev

theorem lex_inv : BuilderInv Node.Lex Frame.Lex where
  text _ ht := ht
  leaf n _ := ⟨lower_idem n, fun _ => rfl, fun _ => rfl, trivial⟩
  opened n _ hv := ⟨lower_idem n, hv, trivial⟩
  push _ _ hf hc := ⟨hf.1, hf.2.1, hc, hf.2.2⟩
  close _ hf := ⟨hf.1, fun hv => absurd (hf.2.1 ▸ hv) Bool.false_ne_true, fun h => (nomatch h), lexL_reverse hf.2.2⟩

theorem feedTokens_lex (toks : List Token) (d : Doc) (b : Bool) (h : feedTokens toks = .doc d b) :
    ∀ r, d.root = some r → r.Lex :=
  feedTokens_inv lex_inv toks d b h

end AHP
