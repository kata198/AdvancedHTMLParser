/-
  AHP.Lemmas.AttrsFrame — the dict after `_handleClassAttr` and after `_ensureHtmlAttribute`, key by key; then FRAME at the
  level of the state: an operation leaves, under every key `k` it does not address (`addresses T op`), what the views read
  there — the class list for `class`, the style map for `style`, the raw slot for every other key (`Keeps k`, `keeps_step`);
  `KeepsClass` / `KeepsStyle` say "does not address `class` / `style`" constructor by constructor.
-/
import AHP.Lemmas.AttrsPrim
namespace AHP.Attrs
open AHP

theorem handleClassAttr_dict (e : El) :
    (handleClassAttr e).dict = delOrSet styleK e.sty.isEmpty Slot.sty (delOrSet classK e.cls.isEmpty (Slot.cls e.className) e.dict) := rfl

theorem ensureStyle_dict (e : El) : (ensureStyle e).dict = delOrSet styleK e.sty.isEmpty Slot.sty e.dict := by
  unfold ensureStyle delOrSet
  split <;> rfl

theorem aget_class_sync (e : El) :
    aget classK (handleClassAttr e).dict = if e.cls.isEmpty then none else some (Slot.cls e.className) := by
  rw [handleClassAttr_dict, aget_delOrSet_ne classK_ne_styleK, aget_delOrSet_same]

theorem aget_style_sync (e : El) :
    aget styleK (handleClassAttr e).dict = if e.sty.isEmpty then none else some Slot.sty := by
  rw [handleClassAttr_dict, aget_delOrSet_same]

theorem aget_other_sync (e : El) {k : Str} (hc : k ≠ classK) (hs : k ≠ styleK) :
    aget k (handleClassAttr e).dict = aget k e.dict := by
  rw [handleClassAttr_dict, aget_delOrSet_ne hs, aget_delOrSet_ne hc]

theorem class_mem_sync (e : El) : classK ∈ akeys (handleClassAttr e).dict ↔ e.cls ≠ [] := by
  rw [← ahas_iff_mem, ahas, aget_class_sync]
  cases e.cls <;> simp

theorem style_mem_sync (e : El) : styleK ∈ akeys (handleClassAttr e).dict ↔ e.sty ≠ [] := by
  rw [← ahas_iff_mem, ahas, aget_style_sync]
  cases e.sty <;> simp

/-- the keys (as stored: lower-case) an operation may write -/
def addresses (T : Tables) : Op → List Str
  | .setAttr n _ => [lower n]
  | .setAttrs l => l.map (fun p => lower p.1)
  | .rmAttr n => [lower n]
  | .mapSet n _ => [lower n]
  | .mapDel n => [lower n]
  | .dot n _ =>
    if n = classNameK then [classK]
    else match aget n T.links with
      | none => []
      | some L => [lower L.attr]
  | .addClass _ => [classK]
  | .rmClass _ => [classK]
  | .className _ => [classK]
  | .styDot _ _ => [styleK]
  | .styProp _ _ => [styleK]
  | .setStyle _ _ => [styleK]
  | .setStyles _ => [styleK]
  | .styAssign _ => [styleK]
  | .styCopy _ => [styleK]
  | .stySelf => []
  | .sync => []

/-- what the views read under key `k` is in `e'` what it is in `e`: the class list for `class`, the style map for
    `style`, the raw slot for every other key -/
def Keeps (k : Str) (e e' : El) : Prop :=
  (k = classK → e'.cls = e.cls) ∧ (k = styleK → e'.sty = e.sty) ∧
  (k ≠ classK → k ≠ styleK → aget k e'.dict = aget k e.dict)

theorem Keeps.refl (k : Str) (e : El) : Keeps k e e := ⟨fun _ => rfl, fun _ => rfl, fun _ _ => rfl⟩

theorem Keeps.trans {k : Str} {e e' e'' : El} (h : Keeps k e e') (h' : Keeps k e' e'') : Keeps k e e'' :=
  ⟨fun hk => (h'.1 hk).trans (h.1 hk), fun hk => (h'.2.1 hk).trans (h.2.1 hk),
   fun hc hs => (h'.2.2 hc hs).trans (h.2.2 hc hs)⟩

theorem keeps_cls {k : Str} (hk : k ≠ classK) (e : El) (c : List Str) : Keeps k e { e with cls := c } :=
  ⟨fun h => absurd h hk, fun _ => rfl, fun _ _ => rfl⟩

theorem keeps_ensureStyle {k : Str} (hk : k ≠ styleK) (e : El) (m : AL Str) : Keeps k e (ensureStyle { e with sty := m }) := by
  refine ⟨fun _ => ensureStyle_cls _, fun h => absurd h hk, fun _ _ => ?_⟩
  rw [ensureStyle_dict]
  exact aget_delOrSet_ne hk _ _ _

theorem keeps_sync (k : Str) (e : El) : Keeps k e (handleClassAttr e) :=
  ⟨fun _ => rfl, fun _ => rfl, fun hc hs => aget_other_sync e hc hs⟩

theorem keeps_mapSet (T : Tables) {k k' : Str} (hne : lower k' ≠ k) (v : Option Str) (e : El) :
    Keeps k e (mapSet T k' v e).2 :=
  mapSet_ind T k' v (Keeps.refl k e) (fun hk => keeps_ensureStyle (hk ▸ hne.symm) e _) (fun hk => keeps_cls (hk ▸ hne.symm) e _)
    (fun _ _ _ => ⟨fun _ => rfl, fun _ => rfl, fun _ _ => aget_aset_ne hne.symm _ _⟩)

theorem keeps_mapDel {k k' : Str} (hne : lower k' ≠ k) (e : El) : Keeps k e (mapDel k' e) :=
  mapDel_ind k' (fun hk => keeps_ensureStyle (hk ▸ hne.symm) e _) (fun hk => keeps_cls (hk ▸ hne.symm) e _)
    (fun _ _ => ⟨fun _ => rfl, fun _ => rfl, fun _ _ => aget_adel_ne hne.symm _⟩)

theorem keeps_step (T : Tables) (op : Op) (e : El) {k : Str} (hk : k ∉ addresses T op) : Keeps k e (step T e op).2 := by
  have one : ∀ {n : Str}, k ∉ [lower n] → lower n ≠ k := fun h e' => h (by simp [e'])
  cases op <;> dsimp only [step]
  case setAttr n v => exact setAttribute_ind T n v (Keeps.refl k e) (keeps_mapSet T (one hk) v e)
  case setAttrs l =>
    refine setAttributes_ind T l (Keeps.refl k e) (fun p hp e' h' => h'.trans (keeps_mapSet T (fun e'' => hk ?_) _ _))
    simp only [addresses, List.mem_map]
    exact ⟨p, hp, e''⟩
  case rmAttr n => exact keeps_mapDel (by rw [lower_idem]; exact one hk) e
  case mapSet n v => exact keeps_mapSet T (one hk) v e
  case mapDel n => exact keeps_mapDel (one hk) e
  case dot n v =>
    refine dotSet_ind T n v (Keeps.refl k e) (fun hn _ _ => keeps_cls (fun e' => hk ?_) e _)
      (fun L w hn hL _ => keeps_mapSet T (fun e' => hk ?_) _ e) (fun L hn hL => keeps_mapDel (fun e' => hk ?_) e)
      (fun e' h' => h'.trans (keeps_sync k e'))
    · simp [addresses, hn, e']
    · simp [addresses, hn, hL, e']
    · simp [addresses, hn, hL, ← e', lower_idem]
  case addClass | rmClass | className => exact keeps_cls (fun e' => hk (by simp [addresses, e'])) e _
  case styDot | styProp | setStyle | styAssign =>
    exact keeps_ensureStyle (fun e' => hk (by simp [addresses, e'])) e _
  case styCopy => unfold assignStyleFrom; exact keeps_ensureStyle (fun e' => hk (by simp [addresses, e'])) e _
  case setStyles l =>
    exact setStyles_ind l (Keeps.refl k e)
      (fun _ _ e' h' => h'.trans (keeps_ensureStyle (fun e'' => hk (by simp [addresses, e''])) e' _))
  case stySelf =>
    exact ⟨fun _ => ensureStyle_cls e, fun _ => ensureStyle_sty e, fun hc hs => (keeps_ensureStyle hs e e.sty).2.2 hc hs⟩
  case sync => exact keeps_sync k e

theorem step_cls_of_addresses (T : Tables) (op : Op) (e : El) (h : classK ∉ addresses T op) :
    (step T e op).2.cls = e.cls := (keeps_step T op e h).1 rfl

theorem step_sty_of_addresses (T : Tables) (op : Op) (e : El) (h : styleK ∉ addresses T op) :
    (step T e op).2.sty = e.sty := (keeps_step T op e h).2.1 rfl

/-- the operation does not address the `class` attribute: `classK ∉ addresses T op`, written out per constructor -/
def KeepsClass (T : Tables) : Op → Prop
  | .setAttr n _ => lower n ≠ classK
  | .setAttrs l => ∀ p ∈ l, lower p.1 ≠ classK
  | .rmAttr n => lower n ≠ classK
  | .mapSet n _ => lower n ≠ classK
  | .mapDel n => lower n ≠ classK
  | .dot n _ => n ≠ classNameK ∧ ∀ L, aget n T.links = some L → lower L.attr ≠ classK
  | .addClass _ => False
  | .rmClass _ => False
  | .className _ => False
  | _ => True

theorem step_cls_frame (T : Tables) (op : Op) (h : KeepsClass T op) (e : El) : (step T e op).2.cls = e.cls := by
  apply step_cls_of_addresses
  cases op <;> simp only [KeepsClass] at h <;> simp only [addresses, List.mem_singleton, List.mem_map, List.not_mem_nil,
    not_false_eq_true, classK_ne_styleK]
  case setAttr | rmAttr | mapSet | mapDel => exact fun e' => h e'.symm
  case setAttrs => exact fun ⟨p, hp, e'⟩ => h p hp e'
  case dot n v =>
    rw [if_neg h.1]
    split
    · simp
    · next L hL => simpa using fun e' => h.2 L hL e'.symm

/-- the operation does not address the `style` attribute: `styleK ∉ addresses T op`, written out per constructor -/
def KeepsStyle (T : Tables) : Op → Prop
  | .setAttr n _ => lower n ≠ styleK
  | .setAttrs l => ∀ p ∈ l, lower p.1 ≠ styleK
  | .rmAttr n => lower n ≠ styleK
  | .mapSet n _ => lower n ≠ styleK
  | .mapDel n => lower n ≠ styleK
  | .dot n _ => ∀ L, aget n T.links = some L → lower L.attr ≠ styleK
  | .addClass _ => True
  | .rmClass _ => True
  | .className _ => True
  | .stySelf => True
  | .sync => True
  | _ => False

theorem step_sty_frame (T : Tables) (op : Op) (h : KeepsStyle T op) (e : El) : (step T e op).2.sty = e.sty := by
  apply step_sty_of_addresses
  cases op <;> simp only [KeepsStyle] at h <;> simp only [addresses, List.mem_singleton, List.mem_map, List.not_mem_nil,
    not_false_eq_true, styleK_ne_classK]
  case setAttr | rmAttr | mapSet | mapDel => exact fun e' => h e'.symm
  case setAttrs => exact fun ⟨p, hp, e'⟩ => h p hp e'
  case dot n v =>
    split
    · simpa using styleK_ne_classK
    · split
      · simp
      · next L hL => simpa using fun e' => h L hL e'.symm

end AHP.Attrs
