/-
  AHP.Lemmas.IndexInv — the index invariant of `IndexedAdvancedHTMLParser` (C07) and its preservation.

    `matchU p xs`   uids of the elements of `xs` (creation order) that satisfy `p`
    `classU c xs`   what `_classNameMap[c]` holds: the uid of every element of `xs`, once per occurrence of `c` in
                    its class list (`class="a a"` is listed twice under `a` — `_indexClassName` loops over
                    `tag.classNames` without de-duplication; the lookups wrap the list in a `TagCollection`)
    `Idx.Good i`    structural well-formedness of an index state: `indexFunctions` mirrors the flags, the two
                    dicts of the attribute indexes have the same keys, no key twice
    `Idx.Holds i xs` every installed map lists, per key, exactly the matching elements of `xs`, in order
  Last section: the class entry resolved in the document (`classRep`), repeated names included.
-/
import AHP.Lemmas.Index
namespace AHP.G3
open Idx

def matchU (p : Elem → Bool) (xs : List Elem) : List Nat := (xs.filter p).map (·.uid)

theorem matchU_nil (p : Elem → Bool) : matchU p [] = [] := rfl

theorem matchU_snoc (p : Elem → Bool) (xs : List Elem) (e : Elem) :
    matchU p (xs ++ [e]) = matchU p xs ++ (if p e then [e.uid] else []) := by
  by_cases h : p e <;> simp [matchU, List.filter_append, h]

/-- the entry of `_classNameMap` under `c` for the elements `xs` indexed in this order: every element once per
    occurrence of `c` in its class list -/
def classU (c : Str) (xs : List Elem) : List Nat := xs.flatMap (fun e => List.replicate (e.classes.count c) e.uid)

theorem classU_snoc (c : Str) (xs : List Elem) (e : Elem) :
    classU c (xs ++ [e]) = classU c xs ++ List.replicate (e.classes.count c) e.uid := by
  simp [classU, List.flatMap_append]

theorem classU_eq_matchU (c : Str) (xs : List Elem) (h : ∀ e ∈ xs, e.classes.Nodup) :
    classU c xs = matchU (pClass c) xs := by
  induction xs using snoc_induction with
  | h0 => rfl
  | hs xs e ih =>
    rw [classU_snoc, matchU_snoc, ih (fun x hx => h x (List.mem_append_left _ hx)), (h e (by simp)).count]
    simp only [pClass, Elem.hasClass, List.contains_iff_mem]
    split <;> rfl

namespace Idx

structure Good (i : Idx) : Prop where
  sync : i.fnIDs = i.indexIDs ∧ i.fnNames = i.indexNames ∧ i.fnClassNames = i.indexClassNames ∧
         i.fnTagNames = i.indexTagNames
  nodup : i.otherFns.Nodup
  keys : ∀ a, a ∈ i.otherFns ↔ (i.other.lookup a).isSome = true

structure Holds (i : Idx) (xs : List Elem) : Prop where
  tags : i.fnTagNames = true → ∀ q, assocGet i.tagNameMap q = matchU (pTag q) xs
  names : i.fnNames = true → ∀ q, q ≠ [] → assocGet i.nameMap q = matchU (pAttr (str "name") q) xs
  classes : i.fnClassNames = true → ∀ c, assocGet i.classNameMap c = classU c xs
  ids : i.fnIDs = true → ∀ q, q ≠ [] → i.idMap.lookup q = (matchU (pAttr (str "id") q) xs).getLast?
  others : ∀ a m, a ∈ i.otherFns → i.other.lookup a = some m → ∀ v, assocGet m v = matchU (pAttr a v) xs

theorem indexTag_eq (i : Idx) (e : Elem) :
    indexTag i e = { i with
      idMap := if i.fnIDs then (indexID i e).idMap else i.idMap,
      nameMap := if i.fnNames then (indexName i e).nameMap else i.nameMap,
      classNameMap := if i.fnClassNames then (indexClassName i e).classNameMap else i.classNameMap,
      tagNameMap := if i.fnTagNames then (indexTagName i e).tagNameMap else i.tagNameMap,
      other := (indexOthers i e).other } := by
  obtain ⟨a1, a2, a3, a4, b1, b2, b3, b4, m1, m2, m3, m4, o, ofn⟩ := i
  -- the `if`s of `indexTag` (each on a flag of the state the previous one returned) reduce only at a constructor
  cases b1 <;> cases b2 <;> cases b3 <;> cases b4 <;> rfl

/-- Every list-valued index function is this loop, `for k in ks: d[k].append(u)`: over the class list, or over the one
    key the element has, if any. -/
theorem assocGet_pushes (u : Nat) (q : Str) : ∀ (ks : List Str) (m : List (Str × List Nat)),
    assocGet (ks.foldl (fun m k => assocPush m k u) m) q = assocGet m q ++ List.replicate (ks.count q) u
  | [], m => by simp
  | k :: ks, m => by
    rw [List.foldl_cons, assocGet_pushes u q ks, assocGet_push, List.count_cons, List.append_assoc]
    by_cases h : q = k
    · subst h; simp [List.replicate_succ]
    · simp [h, Ne.symm h]

/-- The loop with at most one key (tag names, names, attribute values): `key` is the dict key the element is appended
    under, if any, and the map's entry under `q` lists the elements whose key is `q`. -/
theorem push_step (m : List (Str × List Nat)) (key : Option Str) (e : Elem) (p : Elem → Bool) (q : Str)
    (xs : List Elem) : p e = (key == some q) → assocGet m q = matchU p xs →
    assocGet (match key with | none => m | some k => assocPush m k e.uid) q = matchU p (xs ++ [e]) := by
  intro hp h
  rw [matchU_snoc, ← h, hp]
  cases key with
  | none => simp
  | some k => exact (assocGet_pushes e.uid q [k] m).trans (by by_cases hk : k = q <;> simp [hk])

theorem tag_step (m : List (Str × List Nat)) (e : Elem) (q : Str) (xs : List Elem)
    (h : assocGet m q = matchU (pTag q) xs) :
    assocGet (assocPush m e.tag e.uid) q = matchU (pTag q) (xs ++ [e]) :=
  push_step m (some e.tag) e _ q xs (by simp [pTag]) h

/-- `_indexName`: elements without a name, or with an empty one, are not listed. -/
theorem name_step (m : List (Str × List Nat)) (e : Elem) (q : Str) (hq : q ≠ []) (xs : List Elem)
    (h : assocGet m q = matchU (pAttr (str "name") q) xs) :
    assocGet (match e.attr (str "name") with
      | some v => if v.isEmpty then m else assocPush m v e.uid
      | none => m) q = matchU (pAttr (str "name") q) (xs ++ [e]) := by
  cases ha : e.attr (str "name") with
  | none => exact push_step m none e _ q xs (by simp [pAttr, ha]) h
  | some v =>
    cases v with
    | nil => exact push_step m none e _ q xs (by simpa [pAttr, ha] using hq) h
    | cons c cs => exact push_step m (some (c :: cs)) e _ q xs (by simp [pAttr, ha]) h

/-- `_indexClassName` on one element — for every class list, repeated names included -/
theorem class_step (m : List (Str × List Nat)) (e : Elem) (c : Str) (xs : List Elem)
    (h : assocGet m c = classU c xs) :
    assocGet (e.classes.foldl (fun m c => assocPush m c e.uid) m) c = classU c (xs ++ [e]) := by
  rw [assocGet_pushes, classU_snoc, h]

/-- `_indexID`: the last element carrying the id wins; empty ids are not indexed. -/
theorem id_step (m : List (Str × Nat)) (e : Elem) (q : Str) (hq : q ≠ []) (xs : List Elem)
    (h : m.lookup q = (matchU (pAttr (str "id") q) xs).getLast?) :
    (match e.attr (str "id") with
      | some v => if v.isEmpty then m else assocSet m v e.uid
      | none => m).lookup q = (matchU (pAttr (str "id") q) (xs ++ [e])).getLast? := by
  rw [matchU_snoc, getLast?_append_ite, ← h]
  cases ha : e.attr (str "id") with
  | none => simp [pAttr, ha]
  | some v =>
    by_cases hqv : q = v
    · subst hqv
      have : q.isEmpty = false := by simpa using hq
      simp [pAttr, ha, this, lookup_assocSet_same]
    · have : pAttr (str "id") q e = false := by simp [pAttr, ha, Ne.symm hqv]
      by_cases hv : v.isEmpty <;> simp [this, hv, lookup_assocSet_other _ _ _ _ hqv]

def updOther (m : List (Str × List Nat)) (a : Str) (e : Elem) : List (Str × List Nat) :=
  match e.attr a with
  | none => m
  | some v => assocPush m v e.uid

theorem lookup_indexOther (o : List (Str × List (Str × List Nat))) (a b : Str) (e : Elem) :
    (indexOther o a e).lookup b = if b = a then (o.lookup a).map (updOther · a e) else o.lookup b := by
  simp only [indexOther, updOther]
  by_cases hb : b = a
  · subst hb
    rw [if_pos rfl]
    cases e.attr b with
    | none => exact Option.map_id'.symm
    | some v => cases hm : o.lookup b <;> simp [hm, lookup_assocSet_same]
  · rw [if_neg hb]
    cases e.attr a with
    | none => rfl
    | some v => cases o.lookup a <;> simp [lookup_assocSet_other _ _ _ _ hb]

theorem lookup_indexOthers (e : Elem) (b : Str) : ∀ (fns : List Str) (o : List (Str × List (Str × List Nat))),
    fns.Nodup → (fns.foldl (fun o a => indexOther o a e) o).lookup b
      = if b ∈ fns then (o.lookup b).map (updOther · b e) else o.lookup b
  | [], _, _ => by simp
  | a :: fns, o, hn => by
    have hn' := List.nodup_cons.mp hn
    rw [List.foldl_cons, lookup_indexOthers e b fns _ hn'.2, lookup_indexOther]
    by_cases hab : b = a
    · subst hab; simp [hn'.1]
    · simp [hab]

theorem indexOther_fold_keys (e : Elem) (b : Str) : ∀ (fns : List Str) (o : List (Str × List (Str × List Nat))),
    ((fns.foldl (fun o a => indexOther o a e) o).lookup b).isSome = (o.lookup b).isSome
  | [], _ => rfl
  | a :: fns, o => by
    rw [List.foldl_cons, indexOther_fold_keys e b fns, lookup_indexOther]
    split <;> simp [*]

theorem updOther_step (m : List (Str × List Nat)) (a : Str) (e : Elem) (v : Str) (xs : List Elem)
    (h : assocGet m v = matchU (pAttr a v) xs) :
    assocGet (updOther m a e) v = matchU (pAttr a v) (xs ++ [e]) :=
  push_step m (e.attr a) e _ v xs rfl h

theorem indexTag_good {i : Idx} (h : Good i) (e : Elem) : Good (indexTag i e) := by
  rw [indexTag_eq]
  refine ⟨h.sync, h.nodup, ?_⟩
  intro a
  show a ∈ i.otherFns ↔ ((indexOthers i e).other.lookup a).isSome = true
  rw [h.keys a]
  simp only [indexOthers]
  rw [indexOther_fold_keys]

theorem indexTag_holds {i : Idx} (hg : Good i) {xs : List Elem} (h : Holds i xs) (e : Elem) :
    Holds (indexTag i e) (xs ++ [e]) := by
  rw [indexTag_eq]
  refine ⟨?_, ?_, ?_, ?_, ?_⟩
  · intro hf q
    have hf' : i.fnTagNames = true := hf
    show assocGet (if i.fnTagNames = true then (indexTagName i e).tagNameMap else i.tagNameMap) q = _
    simp only [hf', if_true, indexTagName]
    exact tag_step _ e q xs (h.tags hf' q)
  · intro hf q hq
    have hf' : i.fnNames = true := hf
    show assocGet (if i.fnNames = true then (indexName i e).nameMap else i.nameMap) q = _
    simp only [hf', if_true]
    exact name_step i.nameMap e q hq xs (h.names hf' q hq)
  · intro hf c
    have hf' : i.fnClassNames = true := hf
    show assocGet (if i.fnClassNames = true then (indexClassName i e).classNameMap else i.classNameMap) c = _
    simp only [hf', if_true, indexClassName]
    exact class_step _ e c xs (h.classes hf' c)
  · intro hf q hq
    have hf' : i.fnIDs = true := hf
    show (if i.fnIDs = true then (indexID i e).idMap else i.idMap).lookup q = _
    simp only [hf', if_true]
    exact id_step i.idMap e q hq xs (h.ids hf' q hq)
  · intro a m ha hm v
    have ha' : a ∈ i.otherFns := ha
    have hm' : (indexOthers i e).other.lookup a = some m := hm
    obtain ⟨m0, hm0⟩ := Option.isSome_iff_exists.mp ((hg.keys a).mp ha')
    simp only [indexOthers] at hm'
    rw [lookup_indexOthers e a _ _ hg.nodup, if_pos ha', hm0] at hm'
    have : m = updOther m0 a e := by simpa using hm'.symm
    subst this
    exact updOther_step m0 a e v xs (h.others a m0 ha' hm0 v)

theorem fold_good {i : Idx} (h : Good i) (es : List Elem) : Good (es.foldl indexTag i) := by
  induction es generalizing i with
  | nil => exact h
  | cons e es ih => exact ih (indexTag_good h e)

theorem fold_holds {i : Idx} (hg : Good i) {xs : List Elem} (h : Holds i xs) (es : List Elem) :
    Holds (es.foldl indexTag i) (xs ++ es) := by
  induction es generalizing i xs with
  | nil => simpa using h
  | cons e es ih =>
    have h1 := indexTag_holds hg h e
    have := ih (indexTag_good hg e) h1
    simpa [List.append_assoc] using this

/-- What `_resetIndexInternal` needs of the state it is called on: the dict keys. -/
structure Keys (i : Idx) : Prop where
  nodup : i.otherFns.Nodup
  keys : ∀ a, a ∈ i.otherFns ↔ (i.other.lookup a).isSome = true

theorem Good.toKeys {i : Idx} (h : Good i) : Keys i := ⟨h.nodup, h.keys⟩

theorem reset_good {i : Idx} (h : Keys i) : Good (resetInternal i) := by
  refine ⟨⟨rfl, rfl, rfl, rfl⟩, h.nodup, ?_⟩
  intro a
  show a ∈ i.otherFns ↔ ((i.other.map (fun p => (p.1, []))).lookup a).isSome = true
  rw [Dict.lookup_map (fun _ _ => []) a i.other, h.keys a]
  cases i.other.lookup a <;> simp

theorem reset_holds (i : Idx) : Holds (resetInternal i) [] := by
  refine ⟨fun _ _ => rfl, fun _ _ _ => rfl, fun _ _ => rfl, fun _ _ _ => rfl, fun a m _ hm v => ?_⟩
  have hm' : (i.other.map (fun p => (p.1, []))).lookup a = some m := hm
  rw [Dict.lookup_map (fun _ _ => []) a i.other] at hm'
  obtain ⟨_, _, rfl⟩ := Option.map_eq_some_iff.mp hm'
  rfl

theorem init_keys (a b c d : Bool) :
    Keys ⟨a, b, c, d, false, false, false, false, [], [], [], [], [], []⟩ :=
  ⟨List.nodup_nil, by intro a; simp⟩

theorem init_good (a b c d : Bool) : Good (init a b c d) := reset_good (init_keys a b c d)

theorem addIndexOn_keys {i : Idx} (h : Keys i) (a0 : Str) : Keys (addIndexOn i a0) := by
  have hfns : ∀ b, b ∈ (addIndexOn i a0).otherFns ↔ b ∈ i.otherFns ∨ b = lower a0 := by
    intro b
    show b ∈ (if i.otherFns.contains (lower a0) = true then i.otherFns else i.otherFns ++ [lower a0]) ↔ _
    split
    · rename_i hc
      exact ⟨Or.inl, fun o => o.elim id (fun e => e ▸ List.contains_iff_mem.mp hc)⟩
    · simp
  refine ⟨?_, fun b => ?_⟩
  · show (if i.otherFns.contains (lower a0) = true then i.otherFns else i.otherFns ++ [lower a0]).Nodup
    split
    · exact h.nodup
    · rename_i hc
      exact List.nodup_append.mpr ⟨h.nodup, by simp,
        fun x hx y hy e => hc (List.contains_iff_mem.mpr (List.mem_singleton.mp hy ▸ e ▸ hx))⟩
  · rw [hfns]
    show _ ↔ ((assocSet i.other (lower a0) []).lookup b).isSome = true
    by_cases hb : b = lower a0
    · simp [hb, lookup_assocSet_same]
    · simp [hb, lookup_assocSet_other _ _ _ _ hb, h.keys b]

theorem addIndexOn_good {i : Idx} (h : Good i) (a0 : Str) : Good (addIndexOn i a0) :=
  ⟨h.sync, (addIndexOn_keys h.toKeys a0).nodup, (addIndexOn_keys h.toKeys a0).keys⟩

theorem removeIndexOn_keys {i : Idx} (h : Keys i) (a0 : Str) : Keys (removeIndexOn i a0) := by
  refine ⟨h.nodup.filter _, ?_⟩
  intro b
  show b ∈ i.otherFns.filter (fun x => !(x == lower a0)) ↔ ((assocDel i.other (lower a0)).lookup b).isSome = true
  by_cases hb : b = lower a0
  · subst hb
    simp [assocDel_eq, Dict.lookup_del_self]
  · rw [assocDel_eq, Dict.lookup_del_ne hb, ← h.keys b]
    simp [hb]

theorem removeIndexOn_good {i : Idx} (h : Good i) (a0 : Str) : Good (removeIndexOn i a0) :=
  ⟨h.sync, (removeIndexOn_keys h.toKeys a0).nodup, (removeIndexOn_keys h.toKeys a0).keys⟩

theorem disable_good {i : Idx} (h : Good i) : Good (disable i) :=
  reset_good (i := { i with indexIDs := false, indexNames := false, indexClassNames := false, indexTagNames := false })
    ⟨h.nodup, h.keys⟩

mutual
theorem indexRec_eq : ∀ (n : Node) (i : Idx), indexRec i n = (creationOrder n).foldl indexTag i
  | .mk e ks, i => by
    simp only [indexRec, creationOrder, List.foldl_cons]
    exact indexRecL_eq ks _
theorem indexRecL_eq : ∀ (ks : List Node) (i : Idx), indexRecL i ks = (creationOrderL ks).foldl indexTag i
  | [], _ => rfl
  | k :: ks, i => by
    simp only [indexRecL, creationOrderL, List.foldl_append]
    rw [indexRec_eq k i, indexRecL_eq ks]
end

theorem matchU_creationOrder (p : Elem → Bool) (doc : Node) :
    matchU p (creationOrder doc) = uidsOf (fil p doc.preorder) := by
  rw [creationOrder_eq]
  simp only [matchU, fil, uidsOf, List.filter_map, List.map_map]
  rfl

/-- An attribute index that is consulted exists, and lists per value the matching elements of the document. -/
theorem other_entry {i : Idx} (hg : Good i) {doc : Node} (hi : Holds i (creationOrder doc)) {a : Str} {useIndex : Bool}
    {m : List (Str × List Nat)} (hm : (if useIndex = true then i.other.lookup a else none) = some m) (v : Str) :
    assocGet m v = uidsOf (fil (pAttr a v) doc.preorder) := by
  have hl : i.other.lookup a = some m := by
    cases useIndex
    · cases hm
    · exact hm
  rw [hi.others a m ((hg.keys a).mpr (by rw [hl]; rfl)) hl v, matchU_creationOrder]

end Idx

theorem map_reset_indexOther (o : List (Str × List (Str × List Nat))) (a : Str) (e : Elem) :
    (indexOther o a e).map (fun p => (p.1, ([] : List (Str × List Nat)))) =
      o.map (fun p => (p.1, ([] : List (Str × List Nat)))) := by
  unfold indexOther
  cases e.attr a with
  | none => rfl
  | some v =>
    cases hm : o.lookup a with
    | none => rfl
    | some m =>
      show (assocSet o a _).map _ = _
      rw [assocSet_eq]
      exact (Dict.set_map (fun _ _ => []) ..).trans
        (Dict.set_eq_self ((Dict.lookup_map (fun _ _ => []) a o).trans (by rw [hm]; rfl)))

/-- `_resetIndexInternal` forgets whatever was indexed before: it depends on the flags and the KEYS of the
    attribute indexes only, and `_indexTag` changes neither -/
theorem resetInternal_fold (i : Idx) (es : List Elem) :
    (es.foldl indexTag i).resetInternal = i.resetInternal := by
  induction es generalizing i with
  | nil => rfl
  | cons e es ih =>
    simp only [List.foldl_cons]
    rw [ih]
    rw [indexTag_eq]
    simp only [resetInternal]
    have hk : (indexOthers i e).other.map (fun p => (p.1, ([] : List (Str × List Nat)))) =
        i.other.map (fun p => (p.1, ([] : List (Str × List Nat)))) := by
      unfold indexOthers
      simp only
      generalize i.other = o
      induction i.otherFns generalizing o with
      | nil => rfl
      | cons a fns ih2 =>
        simp only [List.foldl_cons]
        rw [ih2, map_reset_indexOther]
    rw [hk]

/-- "class lists carry no repeated name" — not a hypothesis of any C07 theorem (with a repeated name the class map
    lists the element once per occurrence — `classU` — and the lookups de-duplicate); under it the map lists every
    matching element exactly once (`classU_eq_matchU`). -/
def ClassesNodup (doc : Node) : Prop := ∀ e ∈ creationOrder doc, e.classes.Nodup

/-! ### the class entry with repeated names (`class="a a"`)

  `_indexClassName` appends the element to `_classNameMap[c]` once per occurrence of `c` in `tag.classNames`, so the
  entry is `classU c`: the elements in creation order, each repeated.  The indexed `getElementsByClassName` filters
  that list (other names, `_hasTagInParentLine`) and hands it to `TagCollection(...)`, which keeps the first
  occurrence of every uid: what comes out is the list of matching elements, each once, in document order — for
  every document with distinct uids. -/

/-- the resolved entry: every node once per occurrence of `c` in its class list -/
def classRep (c : Str) (ns : List Node) : List Node := ns.flatMap (fun n => List.replicate (n.elem.classes.count c) n)

theorem classRep_nil (c : Str) : classRep c [] = [] := rfl

theorem classRep_cons (c : Str) (n : Node) (ns : List Node) :
    classRep c (n :: ns) = List.replicate (n.elem.classes.count c) n ++ classRep c ns := by
  simp [classRep, List.flatMap_cons]

theorem uidsOf_classRep (c : Str) (ns : List Node) :
    uidsOf (classRep c ns) = classU c (ns.map Node.elem) := by
  induction ns with
  | nil => rfl
  | cons n ns ih =>
    rw [classRep_cons]
    simp only [uidsOf, List.map_append, List.map_replicate, List.map_cons, classU, List.flatMap_cons] at ih ⊢
    rw [ih]
    rfl

theorem classU_creationOrder (c : Str) (doc : Node) :
    classU c (creationOrder doc) = uidsOf (classRep c doc.preorder) := by
  rw [creationOrder_eq, uidsOf_classRep]

theorem mem_classRep {c : Str} {ns : List Node} {y : Node} (h : y ∈ classRep c ns) : y ∈ ns := by
  simp only [classRep, List.mem_flatMap] at h
  obtain ⟨n, hn, hy⟩ := h
  rw [(List.mem_replicate.mp hy).2]
  exact hn

theorem resolve_classRep {doc : Node} (hd : doc.Distinct) (c : Str) :
    resolve doc (classU c (creationOrder doc)) = classRep c doc.preorder := by
  rw [classU_creationOrder]
  exact resolve_uids hd (fun y hy => mem_classRep hy)

theorem filter_classRep (c : Str) (g : Node → Bool) (ns : List Node) :
    (classRep c ns).filter g = classRep c (ns.filter g) := by
  induction ns with
  | nil => rfl
  | cons n ns ih =>
    rw [classRep_cons, List.filter_append, ih, List.filter_replicate, List.filter_cons]
    cases hg : g n
    · simp
    · simp [classRep_cons]

theorem dedupN_replicate_seen (seen : List Nat) (k : Nat) (n : Node) (rest : List Node) (h : n.uid ∈ seen) :
    dedupN seen (List.replicate k n ++ rest) = dedupN seen rest := by
  induction k with
  | zero => simp
  | succ k ih =>
    rw [List.replicate_succ, List.cons_append]
    simp only [dedupN, h, if_true]
    exact ih

/-- `TagCollection(...)` of the repeated list: every node with the class once, in order -/
theorem dedupN_classRep (c : Str) : ∀ (ns : List Node) (seen : List Nat), (uidsOf ns).Nodup →
    (∀ x ∈ ns, x.uid ∉ seen) → dedupN seen (classRep c ns) = fil (pClass c) ns
  | [], _, _, _ => rfl
  | n :: ns, seen, hn, hs => by
    simp only [uidsOf, List.map_cons] at hn
    have hn' := List.nodup_cons.mp hn
    have hnot : n.uid ∉ seen := hs n List.mem_cons_self
    rw [classRep_cons, fil_cons]
    by_cases hc : c ∈ n.elem.classes
    · have hp : pClass c n.elem = true := by simp [pClass, Elem.hasClass, hc]
      have hk : 0 < n.elem.classes.count c := List.count_pos_iff.mpr hc
      obtain ⟨k, hk'⟩ : ∃ k, n.elem.classes.count c = k + 1 := ⟨n.elem.classes.count c - 1, by omega⟩
      rw [hk', List.replicate_succ, List.cons_append]
      simp only [dedupN, hnot, if_false, hp, if_true, List.cons_append, List.nil_append]
      congr 1
      rw [dedupN_replicate_seen _ _ _ _ List.mem_cons_self]
      apply dedupN_classRep c ns _ hn'.2
      intro x hx hmem
      rcases List.mem_cons.mp hmem with e | hm
      · exact hn'.1 (e ▸ List.mem_map_of_mem hx)
      · exact hs x (List.mem_cons_of_mem _ hx) hm
    · have hp : pClass c n.elem = false := by simp [pClass, Elem.hasClass, hc]
      have hk : n.elem.classes.count c = 0 := List.count_eq_zero.mpr hc
      rw [hk]
      simp only [List.replicate_zero, List.nil_append, hp, Bool.false_eq_true, if_false]
      exact dedupN_classRep c ns seen hn'.2 (fun x hx => hs x (List.mem_cons_of_mem _ hx))

/-- The answer of the class index, filtered in any way and wrapped in a `TagCollection`, is the filtered list of
    the elements carrying the class, each once, in document order. -/
theorem ofList_classRep_filter {ns : List Node} (hn : (uidsOf ns).Nodup) (c : Str) (g : Node → Bool) :
    (TC.ofList ((classRep c ns).filter g)).items = (fil (pClass c) ns).filter g := by
  have hsub : (uidsOf (ns.filter g)).Nodup := uids_nodup_of_sublist List.filter_sublist hn
  rw [filter_classRep, (TC.ofList_spec _).2, dedupN_classRep c _ [] hsub (by simp)]
  simp only [fil, List.filter_filter]
  apply List.filter_congr
  intro x _
  exact Bool.and_comm _ _

/-- The index path of `getElementsByClassName`, with the entry as the code keeps it (repeats included), answers
    what it would answer from a duplicate-free entry. -/
theorem classPath_dedup {doc : Node} (hd : doc.Distinct) (c : Str) (rest : List Str) (isRoot : Bool) (r : Node) :
    (TC.ofList (restrict doc isRoot r
        (if rest.isEmpty then classRep c doc.preorder
         else (classRep c doc.preorder).filter (fun n => pAllClasses rest n.elem)))).items
      = (TC.ofList (restrict doc isRoot r
        (if rest.isEmpty then fil (pClass c) doc.preorder
         else (fil (pClass c) doc.preorder).filter (fun n => pAllClasses rest n.elem)))).items := by
  rw [optFilter_eq_filter, optFilter_eq_filter, restrict_eq_filter, restrict_eq_filter, List.filter_filter,
      List.filter_filter, ofList_classRep_filter hd]
  symm
  apply TC.ofList_items_of_nodup
  exact uids_nodup_of_sublist (List.filter_sublist.trans (fil_sublist _ _)) hd

end AHP.G3
