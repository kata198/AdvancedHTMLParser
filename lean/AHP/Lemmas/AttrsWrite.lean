/-
  AHP.Lemmas.AttrsWrite — the one list as a LIST after a write (C08–C10).

  `viewList e` is the dict shown as values (`shown e`) after the two steps of the lazy synchronisation, each of which deletes
  its key or writes it (`delOrSet`): `viewList e = sstep e.sty (cstep e.cls (shown e))`; under the invariant the `style` step is the
  identity.  Every primitive update is `d[k] = v` / `del d[k]` on `shown e`, and the `class` step commutes with it: the list
  follows the dict discipline (an existing key keeps its place, a new key goes last) — when the `class` key of the dict is in
  step with the class list (`ClassSynced`: the state after any synchronising reader), and always on the list without its
  `class` entry.  Then, per key: what the list holds under the written key (`mapSet_listed`, `mapDel_listed`), and
  `setAttributes` as a fold, after which a key holds what the last entry naming it assigned (`lastAssigned`).
-/
import AHP.Lemmas.AttrsViews
namespace AHP.Attrs
open AHP

/-- the dict as the views show it, before the lazy synchronisation -/
def shown (e : El) : List (Str × Option Str) := e.dict.map (fun p => (p.1, slotView e.sty p.2))

/-- the `class` step of `_handleClassAttr` on a list of shown values -/
def cstep (c : List Str) (l : List (Str × Option Str)) : List (Str × Option Str) :=
  delOrSet classK c.isEmpty (some (joinWith [' '] c)) l

/-- the `style` step (`_handleClassAttr`, and `_ensureHtmlAttribute`) -/
def sstep (m : AL Str) (l : List (Str × Option Str)) : List (Str × Option Str) := delOrSet styleK m.isEmpty (some (asStr m)) l

theorem akeys_shown (e : El) : akeys (shown e) = akeys e.dict := akeys_map _ _

theorem viewList_eq_shown (e : El) : viewList e = shown (handleClassAttr e) := attrsList_eq_slotView e

theorem viewList_eq (e : El) : viewList e = sstep e.sty (cstep e.cls (shown e)) :=
  (viewList_eq_shown e).trans ((delOrSet_map _ _ _ _ _).trans (congrArg _ (delOrSet_map _ _ _ _ _)))

/-- under the invariant the `style` step of the synchronisation is the identity: the writers keep the key eagerly -/
theorem viewList_eq_cstep {e : El} (h : DictInv e) : viewList e = cstep e.cls (shown e) := by
  rw [viewList_eq]
  apply delOrSet_self
  unfold cstep shown
  rw [aget_delOrSet_ne styleK_ne_classK, aget_map, aget_style_of_inv h]
  split <;> rfl

theorem slotView_of_ne_style {e : El} (h : DictInv e) (m : AL Str) :
    ∀ p ∈ e.dict, p.1 ≠ styleK → slotView m p.2 = slotView e.sty p.2 := by
  intro p hp hk
  have := (h.slots p hp).2.2
  cases hs : p.2 with
  | val v => rfl
  | cls s => rfl
  | sty => rw [hs] at this; exact absurd this hk

theorem shown_set_sty {e : El} (h : DictInv e) (m : AL Str) : shown (ensureStyle { e with sty := m }) = sstep m (shown e) := by
  unfold shown sstep
  rw [ensureStyle_sty, ensureStyle_dict, delOrSet_map]
  unfold delOrSet
  split
  · exact adel_map_congr styleK (slotView_of_ne_style h m)
  · exact aset_map_congr styleK _ h.nodup (slotView_of_ne_style h m)

/-- the state after any synchronising reader (`items()`, `keys()`, `getAttributesList()`, `getStartTag()` …): the
    `class` key is in the dict exactly when there is a class name -/
def ClassSynced (e : El) : Prop := classK ∈ akeys e.dict ↔ e.cls ≠ []

/-- no `class` key is pending: the element has no class name, or the key is already in the dict (so the next reader does
    not append it) -/
def NoPendingClass (e : El) : Prop := e.cls ≠ [] → classK ∈ akeys e.dict

theorem ClassSynced.noPending {e : El} (h : ClassSynced e) : NoPendingClass e := h.mpr

theorem classSynced_sync (e : El) : ClassSynced (handleClassAttr e) := class_mem_sync e

theorem noPending_shown {e : El} (hp : NoPendingClass e) (he : e.cls.isEmpty = false) : classK ∈ akeys (shown e) := by
  rw [akeys_shown]; exact hp (by simpa using he)

theorem viewList_mapSet (T : Tables) {e : El} (h : DictInv e) (hp : NoPendingClass e) {k : Str}
    (hv : validName k = true) (hc : lower k ≠ classK) (hs : lower k ≠ styleK) (v : Option Str) :
    viewList (mapSet T k v e).2 = aset (lower k) (normVal T (lower k) v) (viewList e) := by
  have h' := dictInv_mapSet T k v h
  rw [mapSet_ordinary T hv hc hs] at h' ⊢
  rw [viewList_eq_cstep h', viewList_eq_cstep h]
  exact (congrArg _ (aset_map _ _ _ _)).trans (delOrSet_aset_comm (Ne.symm hc) _ _ _ _ (fun he => Or.inl (noPending_shown hp he)))

theorem viewList_mapDel {e : El} {k : Str} (hc : lower k ≠ classK) (hs : lower k ≠ styleK) :
    viewList (mapDel k e) = adel (lower k) (viewList e) := by
  rw [viewList_eq, viewList_eq, mapDel_ordinary hc hs]
  exact (congrArg (fun l => sstep e.sty (cstep e.cls l)) (Dict.del_map (fun _ => _) _ _)).trans
    ((congrArg _ (delOrSet_adel_comm (Ne.symm hc) _ _ _)).trans (delOrSet_adel_comm (Ne.symm hs) _ _ _))

theorem viewList_set_cls {e : El} (h : DictInv e) (hs : ClassSynced e) (c : List Str) :
    viewList { e with cls := c } =
      if c.isEmpty then adel classK (viewList e) else aset classK (some (joinWith [' '] c)) (viewList e) := by
  rw [viewList_eq_cstep (dictInv_cls h c), viewList_eq_cstep h]
  refine (delOrSet_twice classK _ _ _ _ (fun he _ hm => ?_)).symm
  rw [akeys_shown] at hm
  exact hs.mp hm (by simpa using he)

theorem viewList_set_sty {e : El} (h : DictInv e) (hc : NoPendingClass e) (m : AL Str) :
    viewList (ensureStyle { e with sty := m }) =
      if m.isEmpty then adel styleK (viewList e) else aset styleK (some (asStr m)) (viewList e) := by
  rw [viewList_eq_cstep (dictInv_ensureStyle h m), viewList_eq_cstep h, ensureStyle_cls, shown_set_sty h]
  unfold sstep
  cases m.isEmpty
  · exact delOrSet_aset_comm classK_ne_styleK _ _ _ _ (fun he => Or.inl (noPending_shown hc he))
  · exact delOrSet_adel_comm classK_ne_styleK _ _ _

theorem adel_class_viewList (e : El) : adel classK (viewList e) = viewList { e with cls := [] } := by
  rw [viewList_eq, viewList_eq]
  exact (delOrSet_adel_comm styleK_ne_classK _ _ _).symm.trans (congrArg _ (adel_delOrSet classK _ _ _))

theorem viewList_sync {e : El} (h : DictInv e) : viewList (handleClassAttr e) = viewList e := by
  rw [viewList_eq_cstep (dictInv_handleClassAttr h), ← viewList_eq_shown, viewList_eq_cstep h]
  exact delOrSet_twice classK _ _ _ _ (fun he hn => absurd (he.symm.trans hn) (by decide))

/-- a pending `class` key is listed after a key added meanwhile; every other key follows the dict discipline -/
theorem viewList_mapSet_sans_class (T : Tables) {e : El} (h : DictInv e) {k : Str}
    (hv : validName k = true) (hc : lower k ≠ classK) (hs : lower k ≠ styleK) (v : Option Str) :
    adel classK (viewList (mapSet T k v e).2) = aset (lower k) (normVal T (lower k) v) (adel classK (viewList e)) := by
  rw [adel_class_viewList, adel_class_viewList]
  have := viewList_mapSet T (dictInv_cls h []) (fun hne => absurd rfl hne) hv hc hs v
  rw [mapSet_ordinary T hv hc hs] at this ⊢
  exact this

theorem viewList_setClassName {e : El} (h : DictInv e) (hs : ClassSynced e) (v : Option Str) :
    viewList (setClassName v e) =
      if (words (v.getD [])).isEmpty then adel classK (viewList e)
      else aset classK (some (joinWith [' '] (words (v.getD [])))) (viewList e) :=
  viewList_set_cls h hs _

theorem viewList_style_sans_class {e : El} (h : DictInv e) (m : AL Str) :
    adel classK (viewList (ensureStyle { e with sty := m })) =
      if m.isEmpty then adel styleK (adel classK (viewList e))
      else aset styleK (some (asStr m)) (adel classK (viewList e)) := by
  rw [adel_class_viewList, adel_class_viewList]
  have e1 : ({ ensureStyle { e with sty := m } with cls := [] } : El) = ensureStyle { ({ e with cls := [] } : El) with sty := m } := by
    unfold ensureStyle
    split <;> rfl
  rw [e1]
  exact viewList_set_sty (e := { e with cls := [] }) (dictInv_cls h []) (fun hne => absurd rfl hne) m

theorem mapSet_listed (T : Tables) {e : El} (h : DictInv e) {k : Str} (hv : validName k = true) (hc : lower k ≠ classK)
    (hs : lower k ≠ styleK) (v : Option Str) :
    aget (lower k) (viewList (mapSet T k v e).2) = some (normVal T (lower k) v) := by
  rw [viewList_ordinary (dictInv_mapSet T k v h) hc hs, mapSet_ordinary T hv hc hs]
  exact rawLookup_of_val (aget_aset_same _ _ _)

theorem mapDel_listed {e : El} (h : DictInv e) {k : Str} (hc : lower k ≠ classK) (hs : lower k ≠ styleK) :
    aget (lower k) (viewList (mapDel k e)) = none := by
  rw [viewList_ordinary (dictInv_mapDel k h) hc hs, mapDel_ordinary hc hs]
  exact rawLookup_of_absent (aget_adel_same _ _)

theorem setAttributes_fold (T : Tables) : ∀ (l : List (Str × Option Str)) (e : El), (∀ p ∈ l, validName p.1 = true) →
    setAttributes T l e = (.ok, l.foldl (fun e p => (setAttribute T p.1 p.2 e).2) e)
  | [], _, _ => rfl
  | (n, v) :: r, e, h => by
    rw [setAttributes_cons_valid T (h (n, v) (by simp))]
    exact setAttributes_fold T r _ (fun p hp => h p (List.mem_cons_of_mem _ hp))

/-- the value the LAST entry of the list named `k` (case-insensitively) assigns -/
def lastAssigned (k : Str) : List (Str × Option Str) → Option (Option Str)
  | [] => none
  | p :: r =>
    match lastAssigned k r with
    | some v => some v
    | none => if lower p.1 = k then some p.2 else none

theorem foldl_setAttribute_listed (T : Tables) {k : Str} (hc : k ≠ classK) (hs : k ≠ styleK) :
    ∀ (l : List (Str × Option Str)) {e : El}, DictInv e → (∀ p ∈ l, validName p.1 = true) →
      aget k (viewList (l.foldl (fun e p => (setAttribute T p.1 p.2 e).2) e)) =
        match lastAssigned k l with
        | some v => some (normVal T k v)
        | none => aget k (viewList e)
  | [], _, _, _ => rfl
  | (n, v) :: r, e, h, hl => by
    have hn := hl (n, v) (by simp)
    have h1 : DictInv (setAttribute T n v e).2 := dictInv_setAttribute T n v h
    simp only [List.foldl_cons]
    rw [foldl_setAttribute_listed T hc hs r h1 (fun p hp => hl p (List.mem_cons_of_mem _ hp))]
    simp only [lastAssigned]
    cases lastAssigned k r with
    | some w => rfl
    | none =>
      simp only
      by_cases hk : lower n = k
      · subst hk
        rw [if_pos rfl, setAttribute_eq_mapSet T hn]
        exact mapSet_listed T h hn hc hs v
      · rw [if_neg hk]
        exact frame_lookup T (.setAttr n v) h (by simp [addresses, Ne.symm hk])

end AHP.Attrs
