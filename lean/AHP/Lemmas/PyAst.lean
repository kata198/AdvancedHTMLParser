/-
  Lemmas for the code tie of conversions.py / constants.py (Props/C19Code.lean): the functions linked by name to the dump in the
  context of the functions defined before them, `_handleInvalid` for every value, the idioms of conversions.py for any context and
  environment, and one body lemma per converter, of which the theorems about positional, default and keyword calls are instances
  (the generic statement lemmas are in `Lemmas/PyAstExec.lean`).
-/
import AHP.Gen.Code
import AHP.Lemmas.Conv
import AHP.Lemmas.PyAstExec
namespace AHP.PyAst
open AHP AHP.Gen AHP.Conv AHP.Gen.Code

theorem excOf_TypeError : excOf "TypeError" = .typeError := by simp [excOf]

/-! the names of the dumped functions, for the `simp` that closes `cxAt_builtin` (no function is called `int`, `bool`, …) -/
@[simp] theorem name_1 : convertToIntOrNegativeOneIfUnset_ast.name = "convertToIntOrNegativeOneIfUnset" := rfl
@[simp] theorem name_2 : convertToBooleanString_ast.name = "convertToBooleanString" := rfl
@[simp] theorem name_3 : convertBooleanStringToBoolean_ast.name = "convertBooleanStringToBoolean" := rfl
@[simp] theorem name_4 : convertToPositiveInt_ast.name = "convertToPositiveInt" := rfl
@[simp] theorem name_5 : _handleInvalid_ast.name = "_handleInvalid" := rfl
@[simp] theorem name_6 : convertPossibleValues_ast.name = "convertPossibleValues" := rfl
@[simp] theorem name_7 : convertToIntRange_ast.name = "convertToIntRange" := rfl
@[simp] theorem name_8 : convertToIntRangeCapped_ast.name = "convertToIntRangeCapped" := rfl

/-- The context of the `k+1`-th function of conversions.py: the first `k` functions, latest first. -/
def cxAt (parseInt : Str → Except PyErr Int) (k : Nat) : Ctx :=
  { parseInt := parseInt, funs := callIn parseInt (conversions.take k).reverse }

variable (parseInt : Str → Except PyErr Int) (args : List Val)

theorem link_1 : runModule parseInt conversions "convertToIntOrNegativeOneIfUnset" args
    = run (cxAt parseInt 0) convertToIntOrNegativeOneIfUnset_ast args :=
  runModule_at parseInt args conversions 0 convertToIntOrNegativeOneIfUnset_ast rfl (by decide +kernel)
theorem link_2 : runModule parseInt conversions "convertToBooleanString" args
    = run (cxAt parseInt 1) convertToBooleanString_ast args :=
  runModule_at parseInt args conversions 1 convertToBooleanString_ast rfl (by decide +kernel)
theorem link_3 : runModule parseInt conversions "convertBooleanStringToBoolean" args
    = run (cxAt parseInt 2) convertBooleanStringToBoolean_ast args :=
  runModule_at parseInt args conversions 2 convertBooleanStringToBoolean_ast rfl (by decide +kernel)
theorem link_4 : runModule parseInt conversions "convertToPositiveInt" args
    = run (cxAt parseInt 3) convertToPositiveInt_ast args :=
  runModule_at parseInt args conversions 3 convertToPositiveInt_ast rfl (by decide +kernel)
theorem link_5 : runModule parseInt conversions "_handleInvalid" args
    = run (cxAt parseInt 4) _handleInvalid_ast args :=
  runModule_at parseInt args conversions 4 _handleInvalid_ast rfl (by decide +kernel)
theorem link_6 : runModule parseInt conversions "convertPossibleValues" args
    = run (cxAt parseInt 5) convertPossibleValues_ast args :=
  runModule_at parseInt args conversions 5 convertPossibleValues_ast rfl (by decide +kernel)
theorem link_7 : runModule parseInt conversions "convertToIntRange" args
    = run (cxAt parseInt 6) convertToIntRange_ast args :=
  runModule_at parseInt args conversions 6 convertToIntRange_ast rfl (by decide +kernel)
theorem link_8 : runModule parseInt conversions "convertToIntRangeCapped" args
    = run (cxAt parseInt 7) convertToIntRangeCapped_ast args :=
  runModule_at parseInt args conversions 7 convertToIntRangeCapped_ast rfl (by decide +kernel)

@[simp] theorem cxAt_parseInt (k : Nat) : (cxAt parseInt k).parseInt = parseInt := rfl

/-- No function of conversions.py shadows a builtin of the interpreter. -/
theorem cxAt_builtin (k : Nat) (f : String)
    (hf : f = "int" ∨ f = "bool" ∨ f = "str" ∨ f = "tostr" ∨ f = "hasattr" ∨ f = "issubclass") :
    (cxAt parseInt k).funs f = none := by
  have h : ∀ l : List Fun, (∀ g ∈ l, g.name ≠ f) → callIn parseInt l f = none := by
    intro l
    induction l with
    | nil => intro _; rfl
    | cons g r ih =>
      intro hl
      simp only [callIn]
      rw [if_neg (hl g (List.mem_cons_self ..))]
      exact ih (fun g' hg' => hl g' (List.mem_cons_of_mem _ hg'))
  apply h
  intro g hg
  have hg' : g ∈ conversions := List.mem_of_mem_take (List.mem_reverse.mp hg)
  simp only [conversions, List.mem_cons, List.not_mem_nil, or_false] at hg'
  rcases hf with rfl | rfl | rfl | rfl | rfl | rfl <;>
    rcases hg' with rfl | rfl | rfl | rfl | rfl | rfl | rfl | rfl <;> simp

theorem cxAt_handleInvalid_5 : (cxAt parseInt 5).funs "_handleInvalid" = some (runKw (cxAt parseInt 4) _handleInvalid_ast) :=
  callIn_at parseInt conversions 4 _handleInvalid_ast rfl (by decide +kernel) 5 (by decide)
theorem cxAt_handleInvalid_6 : (cxAt parseInt 6).funs "_handleInvalid" = some (runKw (cxAt parseInt 4) _handleInvalid_ast) :=
  callIn_at parseInt conversions 4 _handleInvalid_ast rfl (by decide +kernel) 6 (by decide)
theorem cxAt_handleInvalid_7 : (cxAt parseInt 7).funs "_handleInvalid" = some (runKw (cxAt parseInt 4) _handleInvalid_ast) :=
  callIn_at parseInt conversions 4 _handleInvalid_ast rfl (by decide +kernel) 7 (by decide)

/-- What `_handleInvalid(x)` does: an exception instance or class is raised, anything else is returned. -/
def handleInvalidV : Val → Except PyErr Val
  | .excInst n => .error (excOf n)
  | .excType n => .error (excOf n)
  | .caught e => .error e
  | v => .ok v

theorem handleInvalid_plain (x : Val) (k : String) (hcls : getAttr x "__class__" = .ok (.cls k))
    (hsub : pyIsSubclass x (.excType "Exception") = .error .typeError) :
    runKw (cxAt parseInt 4) _handleInvalid_ast [x] [] = .ok x := by
  have hk : pyIsSubclass (.cls k) (.excType "Exception") = .ok (.py (.bool false)) := rfl
  simp [_handleInvalid_ast, runKw, bindArgs, execL, execS, execH, eval, evalList, cxAt_builtin, builtin_bool, builtin_issubclass, hcls,
    hsub, hk, Val.truthy, truthy, catches, errIsA, excOf_TypeError, Lit.toPy, List.lookup, assocSet, aliasOK, Val.mutable, resultOf]

theorem handleInvalid_run (x : Val) : runKw (cxAt parseInt 4) _handleInvalid_ast [x] [] = handleInvalidV x := by
  cases x with
  | excInst n | excType n | cls n | caught e | ref o f =>
    simp [_handleInvalid_ast, runKw, bindArgs, execL, execS, execH, eval, evalList, cxAt_builtin, builtin_bool, builtin_issubclass,
      getAttr_class_excInst, getAttr_class_excType, getAttr_class_cls, getAttr_class_caught, getAttr_class_ref, pyIsSubclass,
      Val.truthy, truthy, catches, errIsA, excOf_TypeError, callValue, raiseOf, handleInvalidV, Lit.toPy, List.lookup, assocSet,
      aliasOK, Val.mutable, resultOf]
  | _ => exact handleInvalid_plain parseInt _ _ rfl rfl

theorem handleInvalidV_ofInv (inv : Inv) : handleInvalidV (ofInv inv) = liftPy (handleInvalid inv) := by
  cases inv <;> rfl

/-- `emptyValue is EMPTY_IS_INVALID` and what follows, as the hand model's `handleEmpty`. -/
theorem handleEmpty_eq (inv : Inv) (emp : Emp) :
    (if ofEmp emp = .singleton "EMPTY_IS_INVALID" then handleInvalidV (ofInv inv) else .ok (ofEmp emp))
      = liftPy (handleEmpty inv emp) := by
  cases emp with
  | val l => simp [ofEmp, handleEmpty, liftPy]
  | invalid => simp [ofEmp, handleEmpty, handleInvalidV_ofInv]

/-! `==` between values of different kinds (the catch-all equation of `pyEqV`, spelled out for text and `None`) -/
theorem pyEqV_none_str (b : Str) : pyEqV .none (.str b) = false := rfl
theorem pyEqV_int_str (a : Int) (b : Str) : pyEqV (.int a) (.str b) = false := rfl
theorem pyEqV_bool_str (a : Bool) (b : Str) : pyEqV (.bool a) (.str b) = false := rfl
theorem pyEqV_tokens_str (a : List Str) (b : Str) : pyEqV (.tokens a) (.str b) = false := rfl
theorem pyEqV_ancestor_str (a : Nat) (b : Str) : pyEqV (.ancestor a) (.str b) = false := rfl
theorem pyEqV_opaque_str (a : String) (b : Str) : pyEqV (.opaque a) (.str b) = false := rfl
theorem pyEqV_str_none (a : Str) : pyEqV (.str a) .none = false := rfl
theorem pyEqV_int_none (a : Int) : pyEqV (.int a) .none = false := rfl
theorem pyEqV_bool_none (a : Bool) : pyEqV (.bool a) .none = false := rfl
theorem pyEqV_tokens_none (a : List Str) : pyEqV (.tokens a) .none = false := rfl
theorem pyEqV_ancestor_none (a : Nat) : pyEqV (.ancestor a) .none = false := rfl
theorem pyEqV_opaque_none (a : String) : pyEqV (.opaque a) .none = false := rfl

/-- `int(v)` fails with `ValueError` (text) or `TypeError` (an object) only. -/
theorem pyInt_error (parseInt : Str → Except PyErr Int) (hpi : ValueErrorOnly parseInt) (v : PyV) (e : PyErr)
    (h : pyInt parseInt v = .error e) : e = .valueError ∨ e = .typeError := by
  cases v <;> simp [pyInt] at h
  case str s => exact Or.inl (hpi s e h)
  all_goals exact Or.inr h.symm

theorem possible_ne_none (v : PyV) (hv : v ≠ .none) (ms : List String) (inv : Inv) (emp : Emp) :
    Conv.convertPossibleValues v ms inv emp
      = if lower (tostr v) = [] then handleEmpty inv emp
        else if ms.contains (String.ofList (lower (tostr v))) then .ok (.str (lower (tostr v))) else handleInvalid inv := by
  cases v <;> first | exact absurd rfl hv | rfl

/-- What a converter needs of its context: `_handleInvalid` as linked, `int` not shadowed. -/
structure ConvCx (cx : Ctx) : Prop where
  invalid : cx.funs "_handleInvalid" = some (runKw (cxAt cx.parseInt 4) _handleInvalid_ast)
  int : cx.funs "int" = none

theorem eval_handleInvalid {cx : Ctx} (C : ConvCx cx) {env : Env} {x : Val} (hd : env.lookup "invalidDefault" = some x) :
    eval cx env (.call "_handleInvalid" [.var "invalidDefault"]) = handleInvalidV x := by
  simp only [eval, evalList, hd, C.invalid, handleInvalid_run]

/-- `if emptyValue is EMPTY_IS_INVALID: return _handleInvalid(invalidDefault)`, then `return emptyValue` -/
theorem execL_emptyValue {cx : Ctx} (C : ConvCx cx) {env : Env} {inv : Inv} {emp : Emp}
    (hd : env.lookup "invalidDefault" = some (ofInv inv)) (he : env.lookup "emptyValue" = some (ofEmp emp)) :
    execL cx env [.ifS (.cmp .is (.var "emptyValue") (.singleton "EMPTY_IS_INVALID"))
        [.ret (.call "_handleInvalid" [.var "invalidDefault"])] [], .ret (.var "emptyValue")]
      = (env, retOf (liftPy (handleEmpty inv emp))) := by
  have hc : eval cx env (.cmp .is (.var "emptyValue") (.singleton "EMPTY_IS_INVALID"))
      = .ok (.py (.bool (decide (ofEmp emp = .singleton "EMPTY_IS_INVALID")))) := by
    simp only [eval, he, pyCompare, compareB, pyIs, Val.unique, Bool.or_true, if_true]
  rw [execL_guard hc (execL_ret ..), truthy_bool, execL_ret, eval_handleInvalid C hd, eval_var he,
    ← handleEmpty_eq]
  cases emp <;> rfl

/-- `val is None or val == ''` -/
theorem eval_isNoneOrEmpty {cx : Ctx} {env : Env} {v : PyV} (hv : env.lookup "val" = some (.py v)) :
    eval cx env (.or (.cmp .is (.var "val") (.const .none)) (.cmp .eq (.var "val") (.const (.str ""))))
      = .ok (.py (.bool (isNoneOrEmpty v))) := by
  simp only [eval, hv, Lit.toPy, pyCompare, compareB, pyIs, Val.unique, Bool.or_true, if_true, pyEq_py]
  rcases v with _ | s | n | b | ws | i | w <;> try rfl
  cases s <;> rfl

/-- `try: val = int(val)` with one handler -/
theorem execS_tryInt {cx : Ctx} (hint : cx.funs "int" = none) {env : Env} {v : PyV} (hv : env.lookup "val" = some (.py v))
    {T : Option String} {hb : List Stmt} :
    execS cx env (.tryS [.assign "val" (.call "int" [.var "val"])] [.mk T hb])
      = match pyInt cx.parseInt v with
        | .ok n => (assocSet env "val" (.py (.int n)), .next)
        | .error e => if catches T e then execL cx env hb else (env, .exc e) := by
  simp only [execS, execL, execH, eval, evalList, hv, hint, builtin_int]
  cases pyInt cx.parseInt v <;> rfl

theorem pyCompare_isNot_none (p : PyV) :
    pyCompare .isNot (.py p) (.py .none) = .ok (.py (.bool (decide (p ≠ .none)))) := by
  cases p <;> rfl

/-- `bound is not None and val < bound` (or `>`), `bound` holding `None` or an integer -/
theorem eval_beyond {cx : Ctx} {env : Env} {op : CmpOp} {rel : Int → Int → Bool}
    (hop : ∀ a b : Int, pyCompare op (.py (.int a)) (.py (.int b)) = .ok (.py (.bool (rel a b))))
    (bound : String) (n : Int) (lim : Option Int)
    (hv : env.lookup "val" = some (.py (.int n))) (hb : env.lookup bound = some (ofOptInt lim)) :
    eval cx env (.and (.cmp .isNot (.var bound) (.const .none)) (.cmp op (.var "val") (.var bound)))
      = .ok (.py (.bool (match (generalizing := false) lim with | some l => rel n l | none => false))) := by
  cases lim <;> simp only [eval, hv, hb, ofOptInt, Lit.toPy, pyCompare_isNot_none, hop] <;> rfl

/-- `hasattr(val, 'lower')` -/
theorem eval_hasLower {cx : Ctx} (hha : cx.funs "hasattr" = none) {env : Env} {v : PyV} (hv : env.lookup "val" = some (.py v)) :
    eval cx env (.call "hasattr" [.var "val", .const (.str "lower")]) = .ok (.py (.bool (hasLower v))) := by
  simp only [eval, evalList, hv, hha, Lit.toPy, builtin_hasattr_lower]

/-- `val.lower()` on a text -/
theorem eval_lower {cx : Ctx} {env : Env} {s : Str} (hv : env.lookup "val" = some (.py (.str s))) :
    eval cx env (.meth (.var "val") "lower" []) = .ok (.py (.str (lower s))) := by
  simp only [eval, evalList, hv, callMethod_lower]

/-- `if bound is not None and val < bound: val = bound` (or `>`) -/
theorem execS_clamp {cx : Ctx} {env : Env} {op : CmpOp} {rel : Int → Int → Bool}
    (hop : ∀ a b : Int, pyCompare op (.py (.int a)) (.py (.int b)) = .ok (.py (.bool (rel a b))))
    (bound : String) (n : Int) (lim : Option Int)
    (hv : env.lookup "val" = some (.py (.int n))) (hb : env.lookup bound = some (ofOptInt lim)) :
    execS cx env (.ifS (.and (.cmp .isNot (.var bound) (.const .none)) (.cmp op (.var "val") (.var bound)))
        [.assign "val" (.var bound)] [])
      = (assocSet env "val" (.py (.int (match (generalizing := false) lim with
          | some l => if rel n l then l else n | none => n))), .next) := by
  rw [execS, eval_beyond hop bound n lim hv hb]
  simp only [truthy_bool]
  cases lim with
  | none => simp only [Bool.false_eq_true, if_false, execL_nil, assocSet_self _ _ _ hv]
  | some l =>
    cases h : rel n l
    · simp only [h, Bool.false_eq_true, if_false, execL_nil, assocSet_self _ _ _ hv]
    · simp only [h, if_true]
      rw [execL_assign (eval_var hb), execL_nil]

/-- `convertToIntRange` and `convertToIntRangeCapped` begin alike — the empty value, then `int(val)` with `ValueError` going to
`_handleInvalid` — and so do their hand models; `K n` is what the rest returns once `val` holds the integer `n` -/
theorem intHead_result {cx : Ctx} (C : ConvCx cx) (hpi : ValueErrorOnly cx.parseInt) {env : Env} {v : PyV} {inv : Inv} {emp : Emp}
    (hv : env.lookup "val" = some (.py v)) (hd : env.lookup "invalidDefault" = some (ofInv inv))
    (he : env.lookup "emptyValue" = some (ofEmp emp)) {rest : List Stmt} (K : Int → Except PyErr PyV)
    (hK : ∀ n, resultOf (execL cx (assocSet env "val" (.py (.int n))) rest).2 = liftPy (K n)) :
    resultOf (execL cx env (
      .ifS (.or (.cmp .is (.var "val") (.const .none)) (.cmp .eq (.var "val") (.const (.str ""))))
        [.ifS (.cmp .is (.var "emptyValue") (.singleton "EMPTY_IS_INVALID"))
          [.ret (.call "_handleInvalid" [.var "invalidDefault"])] [], .ret (.var "emptyValue")] [] ::
      .tryS [.assign "val" (.call "int" [.var "val"])]
        [.mk (some "ValueError") [.ret (.call "_handleInvalid" [.var "invalidDefault"])]] :: rest)).2
      = liftPy (if isNoneOrEmpty v then handleEmpty inv emp
        else match pyInt cx.parseInt v with
          | .error .valueError => handleInvalid inv
          | .error e => .error e
          | .ok n => K n) := by
  rw [execL_guard (eval_isNoneOrEmpty hv) (execL_emptyValue C hd he), truthy_bool, execL,
    execS_tryInt C.int hv, execL_ret, eval_handleInvalid C hd, handleInvalidV_ofInv]
  split
  · exact resultOf_retOf _
  · cases hr : pyInt cx.parseInt v with
    | ok n => exact hK n
    | error e =>
      rcases pyInt_error cx.parseInt hpi v e hr with rfl | rfl
      · cases handleInvalid inv <;> rfl
      · rfl

theorem intOrNeg_body {cx : Ctx} (hint : cx.funs "int" = none) {env : Env} {v : PyV} (hv : env.lookup "val" = some (.py v)) :
    resultOf (execL cx env convertToIntOrNegativeOneIfUnset_ast.body).2
      = .ok (.py (Conv.convertToIntOrNegativeOneIfUnset cx.parseInt v)) := by
  have hc : eval cx env (.cmp .isIn (.var "val") (.tuple [(.const .none), (.const (.str ""))]))
      = .ok (.py (.bool (isNoneOrEmpty v))) := by
    simp only [eval, evalList, hv, toTuple, Lit.toPy, List.all, Bool.and_true, if_true, List.filterMap, pyCompare, compareB,
      pyIn_py_tuple]
    rcases v with _ | s | n | b | ws | i | w <;> try rfl
    cases s <;> rfl
  simp only [convertToIntOrNegativeOneIfUnset_ast, Conv.convertToIntOrNegativeOneIfUnset]
  rw [execL_guard hc (execL_ret ..), truthy_bool]
  split
  · rfl
  · simp only [execL, execS, execH, eval, evalList, hv, hint, builtin_int, catches, Lit.toPy]
    cases pyInt cx.parseInt v <;> rfl

theorem boolString_body {cx : Ctx} (hha : cx.funs "hasattr" = none) (hbo : cx.funs "bool" = none) {env : Env} {v : PyV}
    (hv : env.lookup "val" = some (.py v)) :
    resultOf (execL cx env convertToBooleanString_ast.body).2 = .ok (.py (.str (Conv.convertToBooleanString v))) := by
  simp only [convertToBooleanString_ast]
  rw [execL, execS, eval_hasLower hha hv]
  by_cases hs : hasLower v = true
  · obtain ⟨s, rfl⟩ : ∃ s, v = .str s := by cases v <;> first | exact ⟨_, rfl⟩ | cases hs
    have hv' := lookup_assocSet_eq env "val" (.py (.str (lower s)))
    have hc : eval cx (assocSet env "val" (.py (.str (lower s))))
        (.cmp .isIn (.var "val") (.tuple [.const (.str "false"), .const (.str "0")]))
        = .ok (.py (.bool (decide (lower s = str "false") || decide (lower s = str "0")))) := by
      simp only [eval, evalList, hv', toTuple, Lit.toPy, List.all, Bool.and_true, if_true, List.filterMap, pyCompare, compareB,
        pyIn_py_tuple, List.any, pyEqV, Bool.or_false]; rfl
    simp only [hasLower, Val.truthy, truthy, if_true]
    rw [execL_assign (eval_lower hv), execL, execS, hc, execL_ret, execL_ret]
    simp only [Conv.convertToBooleanString, Val.truthy, truthy]
    generalize (decide (lower s = str "false") || decide (lower s = str "0")) = b
    cases b <;> rfl
  · have hb : eval cx env (.call "bool" [.var "val"]) = .ok (.py (.bool (truthy v))) := by
      simp only [eval, evalList, hv, hbo, builtin_bool]; rfl
    have hm : Conv.convertToBooleanString v = if truthy v then str "true" else str "false" := by
      cases v <;> first | rfl | exact absurd rfl hs
    rw [Bool.not_eq_true] at hs
    simp only [hs, truthy_bool, Bool.false_eq_true, if_false, execL, execS, hb, hm]
    cases truthy v <;> rfl

theorem boolOfString_body {cx : Ctx} (hha : cx.funs "hasattr" = none) {env : Env} {v : PyV}
    (hv : env.lookup "val" = some (.py v)) :
    resultOf (execL cx env convertBooleanStringToBoolean_ast.body).2
      = .ok (.py (.bool (Conv.convertBooleanStringToBoolean v))) := by
  have hc : eval cx env (.not (.var "val")) = .ok (.py (.bool (!truthy v))) := by simp only [eval, hv]; rfl
  have heq : ∀ (env' : Env) (p : PyV), env'.lookup "val" = some (.py p) →
      eval cx env' (.cmp .eq (.var "val") (.const (.str "false"))) = .ok (.py (.bool (pyEqV p (.str (str "false"))))) :=
    fun env' p h => by simp only [eval, h, Lit.toPy, pyCompare, compareB, pyEq_py]; rfl
  simp only [convertBooleanStringToBoolean_ast, Conv.convertBooleanStringToBoolean]
  rw [execL_guard hc (execL_ret ..), truthy_bool, execL, execS, eval_hasLower hha hv]
  cases ht : truthy v
  · rfl
  · simp only [Bool.not_true, Bool.false_eq_true, if_false, truthy_bool]
    by_cases hs : hasLower v = true
    · obtain ⟨s, rfl⟩ : ∃ s, v = .str s := by cases v <;> first | exact ⟨_, rfl⟩ | cases hs
      simp only [hasLower, if_true]
      rw [execL_assign (eval_lower hv)]
      simp only [execL_nil]
      rw [execL_guard (heq _ _ (lookup_assocSet_eq ..)) (execL_ret ..), truthy_bool, execL_ret]
      by_cases h : lower s = str "false" <;>
        simp only [pyEqV, h, decide_true, decide_false, if_true, Bool.false_eq_true, if_false] <;> rfl
    · have hne : pyEqV v (.str (str "false")) = false := by cases v <;> first | rfl | exact absurd rfl hs
      rw [Bool.not_eq_true] at hs
      simp only [hs, Bool.false_eq_true, if_false, execL_nil]
      rw [execL_guard (heq _ _ hv) (execL_ret ..), truthy_bool, execL_ret, hne]
      cases v <;> first | rfl | cases hs

theorem positiveInt_body {cx : Ctx} (hint : cx.funs "int" = none) {env : Env} {v : PyV} {d : Lit}
    (hv : env.lookup "val" = some (.py v)) (hd : env.lookup "invalidDefault" = some (.py d.toPy)) :
    resultOf (execL cx env convertToPositiveInt_ast.body).2 = .ok (.py (Conv.convertToPositiveInt cx.parseInt v d)) := by
  have hc : eval cx env (.cmp .is (.var "val") (.const .none)) = .ok (.py (.bool (decide (v = .none)))) := by
    simp only [eval, hv, Lit.toPy, pyCompare, compareB, pyIs, Val.unique, Bool.or_true, if_true, Val.py.injEq]
  have hret : ∀ env' : Env, env'.lookup "invalidDefault" = some (.py d.toPy) →
      execL cx env' [.ret (.var "invalidDefault")] = (env', retOf (.ok (.py d.toPy))) :=
    fun env' h => by rw [execL_ret, eval_var h]
  simp only [convertToPositiveInt_ast]
  rw [execL_guard hc (hret env hd), truthy_bool, execL, execS_tryInt hint hv, hret env hd]
  by_cases hn : v = .none
  · subst hn; rfl
  · have hm : Conv.convertToPositiveInt cx.parseInt v d
        = match pyInt cx.parseInt v with | .error _ => d.toPy | .ok n => if n < 0 then d.toPy else .int n := by
      cases v <;> first | rfl | exact absurd rfl hn
    rw [hm, if_neg (by simpa using hn)]
    cases pyInt cx.parseInt v with
    | error e => rfl
    | ok n =>
      have hv' := lookup_assocSet_eq env "val" (.py (.int n))
      have hd' : (assocSet env "val" (.py (.int n))).lookup "invalidDefault" = some (.py d.toPy) := by
        simp [lookup_assocSet, hd]
      have hlt : eval cx (assocSet env "val" (.py (.int n))) (.cmp .lt (.var "val") (.const (.int 0)))
          = .ok (.py (.bool (decide (n < 0)))) := by simp only [eval, hv', Lit.toPy, pyCompare_lt]
      simp only
      rw [execL_guard hlt (hret _ hd'), truthy_bool, execL_ret, eval_var hv']
      by_cases h0 : n < 0 <;> simp only [h0, decide_true, decide_false, if_true, if_false, Bool.false_eq_true] <;> rfl

theorem possible_body {cx : Ctx} (C : ConvCx cx) (hts : cx.funs "tostr" = none) {env : Env} {v : PyV} {ms : List String}
    {inv : Inv} {emp : Emp}
    (hv : env.lookup "val" = some (.py v)) (hm : env.lookup "possibleValues" = some (ofMembers ms))
    (hd : env.lookup "invalidDefault" = some (ofInv inv)) (he : env.lookup "emptyValue" = some (ofEmp emp)) :
    resultOf (execL cx env convertPossibleValues_ast.body).2 = liftPy (Conv.convertPossibleValues v ms inv emp) := by
  have hc : eval cx env (.cmp .is (.var "val") (.const .none)) = .ok (.py (.bool (decide (v = .none)))) := by
    simp only [eval, hv, Lit.toPy, pyCompare, compareB, pyIs, Val.unique, Bool.or_true, if_true, Val.py.injEq]
  have hlow : eval cx env (.meth (.call "tostr" [.var "val"]) "lower" []) = .ok (.py (.str (lower (tostr v)))) := by
    simp only [eval, evalList, hv, hts, builtin_tostr, callMethod_lower]
  simp only [convertPossibleValues_ast]
  rw [execL_guard hc (execL_emptyValue C hd he), truthy_bool]
  by_cases hn : v = .none
  · subst hn; exact resultOf_retOf _
  · generalize ht : lower (tostr v) = t at hlow
    have hv' := lookup_assocSet_eq env "val" (.py (.str t))
    have hne : ∀ z, z ≠ "val" → (assocSet env "val" (.py (.str t))).lookup z = env.lookup z :=
      fun z hz => lookup_assocSet_ne _ _ _ _ hz
    have hd' := (hne "invalidDefault" (by simp)).trans hd
    have he' := (hne "emptyValue" (by simp)).trans he
    have hm' := (hne "possibleValues" (by simp)).trans hm
    have hc3 : eval cx (assocSet env "val" (.py (.str t))) (.cmp .eq (.var "val") (.const (.str "")))
        = .ok (.py (.bool (decide (t = [])))) := by
      simp only [eval, hv', Lit.toPy, pyCompare, compareB, pyEq_py, pyEqV]; rfl
    have hc4 : eval cx (assocSet env "val" (.py (.str t))) (.cmp .notIn (.var "val") (.var "possibleValues"))
        = .ok (.py (.bool (!ms.contains (String.ofList t)))) := by
      simp only [eval, hv', hm', pyCompare, compareB, pyIn_ofMembers, bnot]
    rw [if_neg (by simpa using hn), execL_assign hlow,
      execL_guard hc3 (execL_emptyValue C hd' he'), truthy_bool,
      execL_guard hc4 (execL_ret ..), truthy_bool, execL_ret, eval_handleInvalid C hd', handleInvalidV_ofInv,
      eval_var hv', possible_ne_none v hn, ht]
    by_cases h1 : t = []
    · rw [if_pos (by simpa using h1), if_pos h1]; rw [resultOf_snd_retOf]
    · rw [if_neg (by simpa using h1), if_neg h1]
      cases ms.contains (String.ofList t) <;> first | rfl | exact resultOf_retOf _

theorem intRange_body {cx : Ctx} (C : ConvCx cx) (hpi : ValueErrorOnly cx.parseInt) {env : Env} {v : PyV} {lo hi : Option Int}
    {inv : Inv} {emp : Emp}
    (hv : env.lookup "val" = some (.py v)) (hlo : env.lookup "minValue" = some (ofOptInt lo))
    (hhi : env.lookup "maxValue" = some (ofOptInt hi)) (hd : env.lookup "invalidDefault" = some (ofInv inv))
    (he : env.lookup "emptyValue" = some (ofEmp emp)) :
    resultOf (execL cx env convertToIntRange_ast.body).2 = liftPy (Conv.convertToIntRange cx.parseInt v lo hi inv emp) := by
  simp only [convertToIntRange_ast]
  refine intHead_result C hpi hv hd he _ fun n => ?_
  have hv' := lookup_assocSet_eq env "val" (.py (.int n))
  have hd' : (assocSet env "val" (.py (.int n))).lookup "invalidDefault" = some (ofInv inv) := by
    simp [lookup_assocSet, hd]
  have hI := execL_ret cx (assocSet env "val" (.py (.int n))) (.call "_handleInvalid" [.var "invalidDefault"]) []
  rw [execL_guard (eval_beyond pyCompare_lt "minValue" n lo hv'
        (by simp [lookup_assocSet, hlo])) hI, truthy_bool,
    execL_guard (eval_beyond pyCompare_gt "maxValue" n hi hv'
        (by simp [lookup_assocSet, hhi])) hI, truthy_bool,
    execL_ret, eval_handleInvalid C hd', handleInvalidV_ofInv, eval_var hv']
  cases lo <;> cases hi <;> simp only [apply_ite Prod.snd, apply_ite resultOf, apply_ite liftPy, resultOf_retOf] <;> rfl

theorem intRangeCapped_body {cx : Ctx} (C : ConvCx cx) (hpi : ValueErrorOnly cx.parseInt) {env : Env} {v : PyV}
    {lo hi : Option Int} {inv : Inv} {emp : Emp}
    (hv : env.lookup "val" = some (.py v)) (hlo : env.lookup "minValue" = some (ofOptInt lo))
    (hhi : env.lookup "maxValue" = some (ofOptInt hi)) (hd : env.lookup "invalidDefault" = some (ofInv inv))
    (he : env.lookup "emptyValue" = some (ofEmp emp)) :
    resultOf (execL cx env convertToIntRangeCapped_ast.body).2
      = liftPy (Conv.convertToIntRangeCapped cx.parseInt v lo hi inv emp) := by
  simp only [convertToIntRangeCapped_ast]
  refine intHead_result C hpi hv hd he _ fun n => ?_
  have hne : ∀ (e : Env) (w : Val) (z : String), z ≠ "val" → (assocSet e "val" w).lookup z = e.lookup z :=
    fun e w z hz => lookup_assocSet_ne _ _ _ _ hz
  have hlo' := (hne env (.py (.int n)) "minValue" (by simp)).trans hlo
  have hhi' := (hne (assocSet env "val" (.py (.int n))) (.py (.int (clampLo lo n))) "maxValue" (by simp)).trans
    ((hne env (.py (.int n)) "maxValue" (by simp)).trans hhi)
  have h1 : (match (generalizing := false) lo with | some l => if decide (n < l) then l else n | none => n)
      = clampLo lo n := by cases lo <;> simp [clampLo]
  have h2 : (match (generalizing := false) hi with
      | some l => if decide (clampLo lo n > l) then l else clampLo lo n | none => clampLo lo n)
      = clampHi hi (clampLo lo n) := by cases hi <;> simp [clampHi]
  rw [execL, execS_clamp pyCompare_lt "minValue" n lo (lookup_assocSet_eq ..) hlo', h1]
  simp only
  rw [execL, execS_clamp pyCompare_gt "maxValue" _ hi (lookup_assocSet_eq ..) hhi', h2]
  simp only
  rw [execL_ret, eval_var (lookup_assocSet_eq ..)]
  rfl

/-- The context of the `k+1`-th dumped function of constants.py: conversions.py and the `k` functions before it. -/
def cxC (parseInt : Str → Except PyErr Int) (k : Nat) : Ctx :=
  { parseInt := parseInt, funs := callIn parseInt (constants_scope.take (8 + k)).reverse }

theorem linkC_1 : runModule parseInt constants_scope "_special_value_rows" args
    = run (cxC parseInt 0) _special_value_rows_ast args :=
  runModule_at parseInt args constants_scope 8 _special_value_rows_ast rfl (by decide +kernel)
theorem linkC_2 : runModule parseInt constants_scope "_special_value_cols" args
    = run (cxC parseInt 1) _special_value_cols_ast args :=
  runModule_at parseInt args constants_scope 9 _special_value_cols_ast rfl (by decide +kernel)
theorem linkC_3 : runModule parseInt constants_scope "_special_value_autocomplete" args
    = run (cxC parseInt 2) _special_value_autocomplete_ast args :=
  runModule_at parseInt args constants_scope 10 _special_value_autocomplete_ast rfl (by decide +kernel)
theorem linkC_4 : runModule parseInt constants_scope "_special_value_size" args
    = run (cxC parseInt 3) _special_value_size_ast args :=
  runModule_at parseInt args constants_scope 11 _special_value_size_ast rfl (by decide +kernel)
theorem linkC_5 : runModule parseInt constants_scope "_special_value_maxLength" args
    = run (cxC parseInt 4) _special_value_maxLength_ast args :=
  runModule_at parseInt args constants_scope 12 _special_value_maxLength_ast rfl (by decide +kernel)

@[simp] theorem cxC_parseInt (k : Nat) : (cxC parseInt k).parseInt = parseInt := rfl

/-- The imported converters, as constants.py sees them: the functions of conversions.py in their own contexts. -/
theorem cxC_intRange (k : Nat) :
    (cxC parseInt k).funs "convertToIntRange" = some (runKw (cxAt parseInt 6) convertToIntRange_ast) :=
  callIn_at parseInt constants_scope 6 convertToIntRange_ast rfl (by decide +kernel) (8 + k) (by omega)
theorem cxC_possible (k : Nat) :
    (cxC parseInt k).funs "convertPossibleValues" = some (runKw (cxAt parseInt 5) convertPossibleValues_ast) :=
  callIn_at parseInt constants_scope 5 convertPossibleValues_ast rfl (by decide +kernel) (8 + k) (by omega)
theorem cxC_positiveInt (k : Nat) :
    (cxC parseInt k).funs "convertToPositiveInt" = some (runKw (cxAt parseInt 3) convertToPositiveInt_ast) :=
  callIn_at parseInt constants_scope 3 convertToPositiveInt_ast rfl (by decide +kernel) (8 + k) (by omega)

/-- `em.getAttribute('a', d)` -/
theorem eval_getAttribute {cx : Ctx} {env : Env} {e : Elem} {a : String} {d : Lit} (hem : env.lookup "em" = some (.elem e)) :
    eval cx env (.meth (.var "em") "getAttribute" [.const (.str a), .const d])
      = .ok (.py (e.getAttribute genTables a d.toPy)) := by
  simp only [eval, evalList, hem, Lit.toPy, callMethod_getAttribute, String.ofList_toList]

/-- `em.tagName == 't'` -/
theorem eval_tagIs {cx : Ctx} {env : Env} {e : Elem} {t : String} (hem : env.lookup "em" = some (.elem e)) :
    eval cx env (.cmp .eq (.attr (.var "em") "tagName") (.const (.str t))) = .ok (.py (.bool (decide (e.tag = t)))) := by
  simp only [eval, hem, getAttr_tagName, Lit.toPy, pyCompare, compareB, pyEq_py, pyEqV, String.toList_inj]

/-- the last statement of `_special_value_maxLength`: `convertToIntRange` of `curValue` with minimum 0, the empty value 0 and the
`invalidDefault` chosen before -/
theorem maxLength_tail {cx : Ctx} (hf : cx.funs "convertToIntRange" = some (runKw (cxAt cx.parseInt 6) convertToIntRange_ast))
    (hpi : ValueErrorOnly cx.parseInt) {env : Env} {cur : PyV} (inv : Inv)
    (hc : env.lookup "curValue" = some (.py cur)) (hi : env.lookup "invalidDefault" = some (ofInv inv)) :
    execL cx env [.ret (.callk "convertToIntRange" [.var "curValue"] ["minValue", "maxValue", "emptyValue", "invalidDefault"]
        [.const (.int 0), .const .none, .const (.int 0), .var "invalidDefault"])]
      = (env, retOf (liftPy (Conv.convertToIntRange cx.parseInt cur (some 0) none inv (.val (.int 0))))) := by
  have hk : evalList cx env [.const (.int 0), .const .none, .const (.int 0), .var "invalidDefault"]
      = .ok [.py (.int 0), .py .none, .py (.int 0), ofInv inv] := by simp only [evalList, eval, hi, Lit.toPy]
  rw [execL_ret, eval_callk (evalList_cons (eval_var hc) rfl) hk rfl hf, runKw]
  -- the keyword call bound: `bindArgs` evaluated on the callee's parameter list gives the environment of its body
  simp only [convertToIntRange_ast, List.zip, List.zipWith, bindArgs, List.lookup, List.filter, Option.isSome, String.reduceBEq,
    String.reduceBNe, Bool.false_eq_true, if_false, List.isEmpty, if_true]
  exact congrArg (fun r => (env, retOf r)) (intRange_body ⟨cxAt_handleInvalid_6 _, cxAt_builtin _ 6 "int" (Or.inl rfl)⟩ hpi
    (lo := some 0) (hi := none) (emp := .val (.int 0)) rfl rfl rfl rfl rfl)

/-- the shape of `_special_value_rows` / `_special_value_cols`: on a textarea the attribute through `convertToIntRange` with
minimum 1 and the default `d`, elsewhere the attribute as it is -/
theorem textareaInt_body {cx : Ctx} (hf : cx.funs "convertToIntRange" = some (runKw (cxAt cx.parseInt 6) convertToIntRange_ast))
    (hpi : ValueErrorOnly cx.parseInt) {env : Env} {e : Elem} (hem : env.lookup "em" = some (.elem e)) {a : String} {d : Int} :
    resultOf (execL cx env
      [.ifS (.cmp .eq (.attr (.var "em") "tagName") (.const (.str "textarea")))
        [.ret (.callk "convertToIntRange" [.meth (.var "em") "getAttribute" [.const (.str a), .const (.int d)]]
          ["minValue", "maxValue", "invalidDefault", "emptyValue"]
          [.const (.int 1), .const .none, .const (.int d), .singleton "EMPTY_IS_INVALID"])]
        [.ret (.meth (.var "em") "getAttribute" [.const (.str a), .const (.str "")])]]).2
      = liftPy (evalRule genTables cx.parseInt e
          (.byTag "textarea" (.conv (.intRange (some 1) none (.val (.int d)) .invalid) a (.int d)) (.conv .raw a (.str "")))) := by
  rw [execL_single, execS_ifS (eval_tagIs hem), execL_ret, execL_ret, eval_getAttribute hem]
  simp only [evalRule, evalConv]
  by_cases ht : e.tag = "textarea"
  · rw [if_pos (by simpa using ht), if_pos ht, eval_callk (evalList_cons (eval_getAttribute hem) rfl) rfl rfl hf]
    rw [runKw]
    simp only [convertToIntRange_ast, List.zip, List.zipWith, bindArgs, List.lookup, List.filter, Option.isSome, String.reduceBEq,
      String.reduceBNe, Bool.false_eq_true, if_false, List.isEmpty, if_true]
    exact (resultOf_retOf _).trans (intRange_body ⟨cxAt_handleInvalid_6 _, cxAt_builtin _ 6 "int" (Or.inl rfl)⟩ hpi
      (lo := some 1) (hi := none) (inv := .val (.int d)) (emp := .invalid) rfl rfl rfl rfl rfl)
  · rw [if_neg (by simpa using ht), if_neg ht]; rfl

end AHP.PyAst
