/-
  AHP.Lemmas.CacheLockSys — the lock level of C15c, systems of threads:
  * `LockBits` — mutual exclusion and the meaning of the lock bit, preserved by every step (`lockBits_update`) and
    leaving some unfinished thread able to move (`exists_unfinished_agreeing`): both for program points of any type,
    so that whole threads and the one-step machine of `C15.Atomic` use them too;
  * `LockInv` — with the data invariant *at the release points* and, for the thread inside a section,
    "its own remaining statements restore the invariant and free the lock".
-/
import AHP.Lemmas.CacheLock
namespace AHP.Cache

/-- Mutual exclusion and the meaning of the lock bit, for program points of any type with a `holds` test: one
    thread moves from `p` to `p'` and the bit follows it.  `k1`: entering needs the lock free; `k2`: the bit follows a
    thread that is or gets inside; `k3`: a move outside the sections leaves the bit. -/
theorem lockBits_update {α : Type} (holds : α → Bool) {held held' : Bool} {l : List α} {i : Nat} {p p' : α}
    (hex : ∀ (i j : Nat) (x y : α), l[i]? = some x → l[j]? = some y → holds x = true → holds y = true → i = j)
    (hheld0 : held = true ↔ ∃ (i : Nat) (x : α), l[i]? = some x ∧ holds x = true)
    (hp : l[i]? = some p)
    (k1 : holds p' = true → (holds p = true ∨ held = false))
    (k2 : (holds p = true ∨ holds p' = true) → held' = holds p')
    (k3 : holds p = false → holds p' = false → held' = held) :
    (∀ (i' j : Nat) (x y : α), (l.set i p')[i']? = some x → (l.set i p')[j]? = some y →
      holds x = true → holds y = true → i' = j) ∧
    (held' = true ↔ ∃ (j : Nat) (x : α), (l.set i p')[j]? = some x ∧ holds x = true) := by
  have hself : (l.set i p')[i]? = some p' := getElem?_set_self' hp
  -- while another thread is inside, thread `i` is outside before and after its move
  have hoth : ∀ j y, j ≠ i → l[j]? = some y → holds y = true → holds p = false ∧ holds p' = false := by
    intro j y hji hj hy
    have hpf : holds p = false := by
      cases hx : holds p with
      | false => rfl
      | true => exact absurd (hex _ _ _ _ hj hp hy hx) hji
    refine ⟨hpf, ?_⟩
    cases hx : holds p' with
    | false => rfl
    | true =>
      rcases k1 hx with a | a
      · rw [hpf] at a; cases a
      · rw [hheld0.mpr ⟨j, y, hj, hy⟩] at a; cases a
  refine ⟨?_, ?_, ?_⟩
  · intro a b x y ha hb hx hy
    by_cases hai : a = i <;> by_cases hbi : b = i
    · rw [hai, hbi]
    · subst hai; rw [hself] at ha; cases ha
      rw [List.getElem?_set_ne (Ne.symm hbi)] at hb
      rw [(hoth b y hbi hb hy).2] at hx; cases hx
    · subst hbi; rw [hself] at hb; cases hb
      rw [List.getElem?_set_ne (Ne.symm hai)] at ha
      rw [(hoth a x hai ha hx).2] at hy; cases hy
    · rw [List.getElem?_set_ne (Ne.symm hai)] at ha
      rw [List.getElem?_set_ne (Ne.symm hbi)] at hb
      exact hex _ _ _ _ ha hb hx hy
  · intro hh
    cases hx : holds p' with
    | true => exact ⟨i, p', hself, hx⟩
    | false =>
      cases hy : holds p with
      | true => rw [k2 (Or.inl hy), hx] at hh; cases hh
      | false =>
        obtain ⟨j, y, hj, hyj⟩ := hheld0.mp (k3 hy hx ▸ hh)
        have hji : j ≠ i := fun e => by subst e; rw [hp] at hj; cases hj; rw [hy] at hyj; cases hyj
        exact ⟨j, y, by rw [List.getElem?_set_ne (Ne.symm hji)]; exact hj, hyj⟩
  · rintro ⟨j, y, hj, hy⟩
    by_cases hji : j = i
    · subst hji; rw [hself] at hj; cases hj
      rw [k2 (Or.inr hy)]; exact hy
    · rw [List.getElem?_set_ne (Ne.symm hji)] at hj
      obtain ⟨h1, h2⟩ := hoth j y hji hj hy
      rw [k3 h1 h2]; exact hheld0.mpr ⟨j, y, hj, hy⟩

/-- Whatever the lock bit says, some unfinished thread agrees with it: the one inside if the lock is held (it has not
    returned), any unfinished one if it is free (nobody is inside).  Such a thread can move: no deadlock, on any
    machine. -/
theorem exists_unfinished_agreeing {α : Type} (holds : α → Bool) (unfinished : α → Prop) {held : Bool} {l : List α}
    (hheld : held = true ↔ ∃ (i : Nat) (x : α), l[i]? = some x ∧ holds x = true)
    (hhu : ∀ x, holds x = true → unfinished x)
    (hun : ∃ (i : Nat) (x : α), l[i]? = some x ∧ unfinished x) :
    ∃ (i : Nat) (x : α), l[i]? = some x ∧ unfinished x ∧ holds x = held := by
  cases held with
  | true =>
    obtain ⟨j, x, hj, hx⟩ := hheld.mp rfl
    exact ⟨j, x, hj, hhu x hx, hx⟩
  | false =>
    obtain ⟨i, x, hi, hu⟩ := hun
    refine ⟨i, x, hi, hu, ?_⟩
    cases hx : holds x with
    | false => rfl
    | true => exact (hheld.mpr ⟨i, x, hi, hx⟩).symm

variable {K V : Type}

/-- At most one thread is inside a section, and the lock bit says whether one is. -/
structure LockBits (held : Bool) (pcs : List (Pc K V)) : Prop where
  excl : ∀ (i j : Nat) (pi pj : Pc K V), pcs[i]? = some pi → pcs[j]? = some pj →
    pi.holds = true → pj.holds = true → i = j
  held : held = true ↔ ∃ (i : Nat) (pc : Pc K V), pcs[i]? = some pc ∧ pc.holds = true

theorem LockBits.of_outside {held : Bool} {pcs : List (Pc K V)} (hfree : held = false)
    (hout : ∀ pc ∈ pcs, pc.holds = false) : LockBits held pcs := by
  have hno : ∀ (i : Nat) (pc : Pc K V), pcs[i]? = some pc → pc.holds = true → False := fun i pc hpc hh =>
    absurd ((hout pc (List.mem_of_getElem? hpc)).symm.trans hh) (by decide)
  refine ⟨fun i j pi pj hi _ hpi _ => (hno i pi hi hpi).elim, fun hh => ?_, fun ⟨i, pc, hpc, hh⟩ => (hno i pc hpc hh).elim⟩
  rw [hfree] at hh; cases hh

theorem LockBits.update {held held' : Bool} {pcs : List (Pc K V)} {i : Nat} {pc pc' : Pc K V}
    (h : LockBits held pcs) (hpc : pcs[i]? = some pc)
    (k1 : pc'.holds = true → (pc.holds = true ∨ held = false))
    (k2 : (pc.holds = true ∨ pc'.holds = true) → held' = pc'.holds)
    (k3 : pc.holds = false → pc'.holds = false → held' = held) :
    LockBits held' (pcs.set i pc') :=
  have ⟨a, b⟩ := lockBits_update Pc.holds h.excl h.held hpc k1 k2 k3
  ⟨a, b⟩

theorem LockBits.update_outside {held : Bool} {pcs : List (Pc K V)} {i : Nat} {pc pc' : Pc K V}
    (h : LockBits held pcs) (hpc : pcs[i]? = some pc) (h1 : pc.holds = false) (h2 : pc'.holds = false) :
    LockBits held (pcs.set i pc') :=
  h.update hpc (fun hx => by rw [h2] at hx; cases hx)
    (fun hx => by rcases hx with hx | hx <;> simp_all) (fun _ _ => rfl)

variable [DecidableEq K]

theorem LockBits.step {MAX CLEAR : Nat} {sh sh' : Shared K V} {pcs : List (Pc K V)} {i : Nat} {pc pc' : Pc K V}
    (h : LockBits sh.held pcs) (hpc : pcs[i]? = some pc) (hk : StepKind MAX CLEAR sh pc sh' pc') :
    LockBits sh'.held (pcs.set i pc') := by
  cases hk with
  | idle hd hs hp =>
    subst hs; subst hp
    rw [set_getElem?_self hpc]; exact h
  | acquire hh hd hfree hs hp hh' =>
    subst hs
    exact h.update hpc (fun _ => Or.inr hfree) (fun _ => hh'.symm) (fun _ hx => by rw [hh'] at hx; cases hx)
  | body hh hr hheld hs hp hh' =>
    subst hs
    exact h.update hpc (fun _ => Or.inl hh) (fun _ => by rw [hh']; exact hheld)
      (fun hx => by rw [hh] at hx; cases hx)
  | release hr hheld hs hp hd' =>
    subst hs
    have hh := Pc.holds_of_isRelease hr
    exact h.update hpc (fun _ => Or.inl hh) (fun _ => (Pc.not_holds_of_isDone hd').symm)
      (fun hx => by rw [hh] at hx; cases hx)

theorem LockBits.other_outside {MAX CLEAR : Nat} {sh sh' : Shared K V} {pcs : List (Pc K V)} {i j : Nat}
    {pc pc' pj : Pc K V} (h : LockBits sh.held pcs) (hpc : pcs[i]? = some pc) (hpj : pcs[j]? = some pj)
    (hji : j ≠ i) (hk : StepKind MAX CLEAR sh pc sh' pc') (hnd : pc.isDone = false) : pj.holds = false := by
  cases hx : pj.holds with
  | false => rfl
  | true =>
    exfalso
    cases hk with
    | idle hd => rw [hd] at hnd; cases hnd
    | acquire hh hd hfree =>
      have := h.held.mpr ⟨j, pj, hpj, hx⟩
      rw [this] at hfree; cases hfree
    | body hh => exact hji (h.excl _ _ _ _ hpj hpc hx hh)
    | release hr => exact hji (h.excl _ _ _ _ hpj hpc hx (Pc.holds_of_isRelease hr))

/-- Mutual exclusion + the lock bit says whether somebody is inside + the data invariant holds whenever
    the lock is free + the thread inside a section will, by its own remaining statements alone, restore
    the data invariant and free the lock.  (Inside a section the data invariant is in general broken:
    see `C15.mid_section_breaks_inv`.) -/
structure LockInv (MAX CLEAR : Nat) (s : LSys K V) : Prop where
  excl : ∀ (i j : Nat) (pi pj : Pc K V), s.pcs[i]? = some pi → s.pcs[j]? = some pj →
    pi.holds = true → pj.holds = true → i = j
  held : s.sh.held = true ↔ ∃ (i : Nat) (pc : Pc K V), s.pcs[i]? = some pc ∧ pc.holds = true
  free : s.sh.held = false → Inv MAX s.sh.cache
  mid : ∀ (i : Nat) (pc : Pc K V), s.pcs[i]? = some pc → pc.holds = true →
    ∃ c' r x, Inv MAX c' ∧ Runs MAX CLEAR s.sh pc ⟨false, c'⟩ (.done r x)

theorem LockInv.bits {MAX CLEAR : Nat} {s : LSys K V} (h : LockInv MAX CLEAR s) : LockBits s.sh.held s.pcs :=
  ⟨h.excl, h.held⟩

omit [DecidableEq K] in
theorem shared_eta_free {sh : Shared K V} (h : sh.held = false) : sh = ⟨false, sh.cache⟩ := by
  cases sh; simp_all

theorem lsysStep_eq {MAX CLEAR : Nat} {s s' : LSys K V} {i : Nat} (hs : lsysStep MAX CLEAR s i = some s') :
    ∃ pc sh' pc', s.pcs[i]? = some pc ∧ lstep MAX CLEAR s.sh pc = some (sh', pc') ∧ s' = ⟨sh', s.pcs.set i pc'⟩ := by
  unfold lsysStep lsysStepG at hs
  cases hpc : s.pcs[i]? with
  | none => simp [hpc] at hs
  | some pc =>
    simp only [hpc] at hs
    cases hl : lstepG true MAX CLEAR s.sh pc with
    | none => simp [hl] at hs
    | some q =>
      obtain ⟨sh', pc'⟩ := q
      simp only [hl, Option.some.injEq] at hs
      exact ⟨pc, sh', pc', rfl, hl, hs.symm⟩

theorem lsysStep_isSome {MAX CLEAR : Nat} {s : LSys K V} {i : Nat} {pc : Pc K V} (hpc : s.pcs[i]? = some pc) :
    (lsysStep MAX CLEAR s i).isSome = (lstep MAX CLEAR s.sh pc).isSome := by
  unfold lsysStep lsysStepG lstep
  simp only [hpc]
  cases lstepG true MAX CLEAR s.sh pc <;> rfl

theorem lockInv_step {MAX CLEAR : Nat} (hb : CLEAR < MAX) {s s' : LSys K V} {i : Nat}
    (h : LockInv MAX CLEAR s) (hs : lsysStep MAX CLEAR s i = some s') : LockInv MAX CLEAR s' := by
  obtain ⟨pc, sh', pc', hpc, hl, rfl⟩ := lsysStep_eq hs
  have hk := lstep_kind hl
  have hbits := h.bits.step hpc hk
  cases hnd : pc.isDone with
  | true =>
    obtain ⟨rfl, rfl⟩ := (Runs.single hl).of_done hnd
    rw [set_getElem?_self hpc]; exact h
  | false =>
    -- thread `i` has its return in order ahead of it: promised while inside, its section run alone at `acquire`
    have hfut : ∃ c' r x, Inv MAX c' ∧ Runs MAX CLEAR s.sh pc ⟨false, c'⟩ (.done r x) := by
      cases hh : pc.holds with
      | true => exact h.mid i pc hpc hh
      | false =>
        have hfree : s.sh.held = false := by
          cases hx : s.sh.held with
          | false => rfl
          | true => rw [lstep_blocked MAX CLEAR hh hnd hx] at hl; cases hl
        have := section_inv MAX CLEAR hb hh hnd (h.free hfree)
        rwa [← shared_eta_free hfree] at this
    obtain ⟨c', r, x, hi, hruns⟩ := hfut
    have hruns' := hruns.after_step rfl hnd hl
    refine ⟨hbits.excl, hbits.held, fun hfree' => ?_, forall_getElem?_set hpc
      (P := fun _ pj => pj.holds = true → ∃ c' r x, Inv MAX c' ∧ Runs MAX CLEAR sh' pj ⟨false, c'⟩ (.done r x))
      (fun _ => ⟨c', r, x, hi, hruns'⟩)
      (fun j pj hji hj hpj => absurd (hpj.symm.trans (h.bits.other_outside hpc hj hji hk hnd)) (by decide))⟩
    rcases hk.released_or_inside hnd with ⟨_, hd', _⟩ | ⟨_, _, hheld'⟩
    · show Inv MAX sh'.cache
      rw [← (hruns'.of_done hd').1]; exact hi
    · exact absurd (hheld'.symm.trans hfree') (by decide)

theorem lockInv_init {MAX CLEAR : Nat} {s : LSys K V} (hfree : s.sh.held = false) (hi : Inv MAX s.sh.cache)
    (hout : ∀ pc ∈ s.pcs, pc.holds = false) : LockInv MAX CLEAR s :=
  have hb := LockBits.of_outside hfree hout
  ⟨hb.excl, hb.held, fun _ => hi, fun _ pc hpc hh =>
    absurd ((hout pc (List.mem_of_getElem? hpc)).symm.trans hh) (by decide)⟩

theorem lockInv_run {MAX CLEAR : Nat} (hb : CLEAR < MAX) (sched : List Nat) :
    ∀ s : LSys K V, LockInv MAX CLEAR s → LockInv MAX CLEAR (lsysRun MAX CLEAR s sched) :=
  foldl_keeps (fun s i h => by
    cases hs : lsysStepG true MAX CLEAR s i with
    | none => exact h
    | some s' => exact lockInv_step hb h hs) sched

end AHP.Cache
