/-
  A tree-level sufficient condition for `ListOK (toks …)` (the side condition of the character-level round
  trip of C01), including raw-text elements: `LNode.LexOK`.

  * a text block is one well-formed text-like token other than the data singletons `<` / `&`;
  * no two data runs are adjacent among the blocks of one element;
  * an element has a well-formed name and attribute view; the blocks of a (not self-closing) `script` / `style`
    element are nothing, or ONE data token whose text nowhere matches the element's closing expression
    (`RawOK`) — that text may contain `<`, `&`, tags, comments, references.
-/
import AHP.Lemmas.RoundTrip
import AHP.Lemmas.LexRoundTrip
namespace AHP

def isDataTok : LNode → Bool
  | .tok (.data _) => true
  | _ => false

/-- the blocks of a raw-text element: none, or one data token that does not contain the closing expression -/
def RawKidsOK (n : Str) : List LNode → Prop
  | [] => True
  | [.tok (.data raw)] => raw ≠ [] ∧ RawOK n raw
  | _ => False

def NoAdjL : List LNode → Prop
  | k₁ :: k₂ :: ks => ¬ (isDataTok k₁ = true ∧ isDataTok k₂ = true) ∧ NoAdjL (k₂ :: ks)
  | _ => True

mutual
def LNode.LexOK : LNode → Prop
  | .tok t => TokOK t ∧ NotSingleton t
  | .elem n a sc kids =>
      (∀ x ∈ a.view, AttrOK x) ∧
      (if sc = true then TagNameOK n
       else if isRawText n = true then RawKidsOK n kids
       else TagNameOK n ∧ LexOKL kids ∧ NoAdjL kids)
def LexOKL : List LNode → Prop
  | [] => True
  | k :: ks => k.LexOK ∧ LexOKL ks
end

theorem toks_head_markup (k : LNode) (h : k.LexOK) (hd : isDataTok k = false) (rest : List Token) :
    StartsMarkup (renderToks (k.toks ++ rest)) := by
  cases k with
  | tok t =>
    simp only [LNode.LexOK] at h
    have hnd : isData t = false := by
      cases t <;> simp_all [isDataTok, isData]
    exact startsMarkup_of_head t rest h.1 hnd
  | elem n a sc kids =>
    right
    unfold LNode.toks
    cases sc with
    | true => exact ⟨_, Or.inl (by simp [renderToks, renderTok]; rfl)⟩
    | false => exact ⟨_, Or.inl (by simp [renderToks, renderTok]; rfl)⟩

mutual
theorem lnode_listOK (t : LNode) (hwf : t.WF) (h : t.LexOK) (tail : List Token) (htail : ListOK tail)
    (hb : isDataTok t = true → StartsMarkup (renderToks tail)) : ListOK (t.toks ++ tail) := by
  match t, hwf, h with
  | .tok tk, _, h =>
    simp only [LNode.LexOK] at h
    simp only [LNode.toks, List.cons_append, List.nil_append]
    refine .cons h.1 ?_ htail
    cases tk with
    | data s => exact follows_of_startsMarkup _ h.2 _ (hb rfl)
    | _ => trivial
  | .elem n a sc kids, hwf, h =>
    simp only [LNode.WF] at hwf
    obtain ⟨_, _, hsc, hk⟩ := hwf
    simp only [LNode.LexOK] at h
    obtain ⟨hattrs, h⟩ := h
    unfold LNode.toks
    cases hs : sc with
    | true =>
      simp only [hs, if_true] at h
      simp only [if_true, List.cons_append, List.nil_append]
      exact .cons ⟨h, hattrs⟩ trivial htail
    | false =>
      simp only [hs, Bool.false_eq_true, if_false] at h
      simp only [Bool.false_eq_true, if_false, List.cons_append, List.append_assoc]
      by_cases hr : isRawText n = true
      · simp only [hr, if_true] at h
        match kids, h with
        | [], _ => exact .rawEmpty hr hattrs htail
        | [.tok (.data raw)], h =>
          simp only [RawKidsOK] at h
          exact .raw hr hattrs h.1 h.2 htail
      · simp only [hr] at h
        obtain ⟨hn, hkids, hadj⟩ := h
        have hr' : isRawText n = false := by simpa using hr
        refine .cons ⟨hn, hr', hattrs⟩ trivial ?_
        exact lforest_listOK kids hk hkids hadj (.end_ n :: tail) (.cons hn trivial htail)
          (startsMarkup_endTag n tail)
theorem lforest_listOK (ks : List LNode) (hwf : WFLL ks) (h : LexOKL ks) (hadj : NoAdjL ks) (tail : List Token)
    (htail : ListOK tail) (hb : StartsMarkup (renderToks tail)) : ListOK (toksL ks ++ tail) := by
  match ks, hwf, h with
  | [], _, _ => simpa [toksL] using htail
  | k :: ks, hwf, h =>
    simp only [WFLL] at hwf
    simp only [LexOKL] at h
    have hadj' : NoAdjL ks := by
      cases ks with
      | nil => trivial
      | cons k2 ks2 => exact hadj.2
    have ih := lforest_listOK ks hwf.2 h.2 hadj' tail htail hb
    unfold toksL
    rw [List.append_assoc]
    refine lnode_listOK k hwf.1 h.1 _ ih ?_
    intro hkd
    match ks, h.2, hadj with
    | [], _, _ => simpa [toksL] using hb
    | k2 :: ks2, h2, hadj =>
      have hd2 : isDataTok k2 = false := by
        cases hd : isDataTok k2 with
        | false => rfl
        | true => exact absurd ⟨hkd, hd⟩ hadj.1
      simp only [LexOKL] at h2
      unfold toksL
      rw [List.append_assoc]
      exact toks_head_markup k2 h2.1 hd2 _
end

end AHP
