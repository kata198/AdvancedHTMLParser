/-
  AHP.Lemmas.FormatLexViaHTML — C11c: the step through the parser's own `getHTML()`.

  `AdvancedHTMLParser.getFormattedHTML` / `getMiniHTML` are compositions through TEXT:
  `html = self.getHTML()`, a fresh formatter tokenises `html` again, `formatter.getHTML()`.
  For a plain-parser tree in the strict sub-language (single- or multi-root):
    * `plain_html_text`   — `getHTML()` is the rendering (normal start-tag style) of `htmlToks`;
    * `plain_html_lex`    — the strict lexer reads that text back as exactly `htmlToks` (adjacent data blocks glued, the
                            line break after the doctype line a data block of its own or glued to the first top-level text);
    * `plain_html_reparse`— the plain parser builds from `htmlToks` the document `reparsed`: the same tree with adjacent
                            data blocks joined (multi-root: the doctype's line break becomes text of the wrapper), strict
                            and of the same kind (`reparsed_strict`, `reparsed_wrapperOK`), with the same `pskel`.
  The finer skeleton does not see the step (`pskel_reparsed`, on `pskL_front` / `pskelAt_merge` of FormatLexExact).
-/
import AHP.Lemmas.FormatLexExact
namespace AHP.Fmt
open AHP

mutual
theorem outer_toNode_eq : ∀ u : FNode, outer u.toNode = renderToksY TagStyle.normal u.toks
  | .tok t => by
    simp only [FNode.toNode, outer, FNode.toks, renderToksY, List.append_nil, renderTokY_normal]
  | .elem n st sc kids => by
    simp only [FNode.toNode, outer]
    rw [startTag_eq]
    cases sc with
    | true => simp [FNode.toks, renderToksY, endTag, styleOf]
    | false =>
      have hend : renderTokY TagStyle.normal (.end_ n) = renderTok (.end_ n) := rfl
      simp only [Bool.false_eq_true, if_false, FNode.toks, renderToksY, renderToksY_append, endTag_eq, endInd_nil,
        List.nil_append, List.append_nil, innerL_toNodeL_eq kids, styleOf, hend, List.append_assoc]
theorem innerL_toNodeL_eq : ∀ ks : List FNode, innerL (toNodeL ks) = renderToksY TagStyle.normal (ftoksL ks)
  | [] => rfl
  | k :: ks => by
    simp only [toNodeL, innerL, ftoksL, renderToksY_append]
    rw [outer_toNode_eq k, innerL_toNodeL_eq ks]
end

/-- **the tokens of the text `getHTML()` returns** -/
def htmlToks (dt : Option Str) (n : Str) (st : AStore) (sc : Bool) (kids : List FNode) : List Token :=
  dtToks dt ++ ftoksL (mergeL (dtBlock dt ++ plainBlocks n st sc kids))

theorem plain_html_text (dt : Option Str) (n : Str) (st : AStore) (sc : Bool) (kids : List FNode)
    (hw : WrapperOK n st sc kids) :
    docHTML dt (some (FNode.elem n st sc kids).toNode)
      = .ok (renderToksY TagStyle.normal (htmlToks dt n st sc kids)) := by
  unfold htmlToks
  rw [renderToksY_append, render_mergeL, ftoksL_append, renderToksY_append, ← List.append_assoc, ← doctypeLine_eq]
  unfold plainBlocks
  by_cases hn : n = wrapper
  · obtain ⟨_, hsc, _⟩ := hw hn
    subst hsc
    simp only [hn, if_true, FNode.toNode, docHTML, Bool.false_eq_true, if_false, innerL_toNodeL_eq]
  · have := outer_toNode_eq (.elem n st sc kids)
    simp only [FNode.toNode] at this
    simp only [hn, if_false, FNode.toNode, docHTML, this, ftoksL, List.append_nil]

theorem plain_html_lex (dt : Option Str) (hdt : DtOK dt) (n : Str) (st : AStore) (sc : Bool) (kids : List FNode)
    (hs : (FNode.elem n st sc kids).Strict) :
    lexStrict (renderToksY TagStyle.normal (htmlToks dt n st sc kids)) = some (htmlToks dt n st sc kids) :=
  lexStrict_renderToksY _ TagStyle.normal_ok _ (listOK_out dt hdt _ (strictL_plainBlocks n st sc kids hs))

/-- the document a parser builds from the text of `getHTML()`: adjacent data blocks joined; for a multi-root document
    the line break after the doctype line has become text of the wrapper -/
def reparsed (dt : Option Str) (n : Str) (st : AStore) (sc : Bool) (kids : List FNode) : FNode :=
  if n = wrapper then .elem wrapper {} false (mergeL (dtBlock dt ++ kids)) else .elem n st sc (mergeL kids)

theorem plain_html_reparse (dt : Option Str) (hdt : DtOK dt) (n : Str) (st : AStore) (sc : Bool) (kids : List FNode)
    (hw : WrapperOK n st sc kids) (hs : (FNode.elem n st sc kids).Strict) :
    Plain.feed ((htmlToks dt n st sc kids).map Tok.ofToken)
      = .ok ⟨[], some (reparsed dt n st sc kids).toNode, dt, 0, 0⟩ := by
  unfold htmlToks reparsed plainBlocks
  by_cases hn : n = wrapper
  · obtain ⟨_, _, hmulti⟩ := hw hn
    subst hn
    simp only [if_true]
    exact reparse_blocks_multi dt hdt _ (strict_front dt kids (strictL_of_wrapper st sc kids hs))
      ((topScan_front dt kids).trans hmulti)
  · simp only [hn, if_false]
    rw [mergeL_ws_elem n st sc kids _ _ (rawText_dtBlock dt)]
    exact plain_feed_single dt hdt _ (dtText_ws dt) n st sc _ (strict_buildable _ (strict_merge _ hs))

theorem reparsed_strict (dt : Option Str) (n : Str) (st : AStore) (sc : Bool) (kids : List FNode)
    (hw : WrapperOK n st sc kids) (hs : (FNode.elem n st sc kids).Strict) : (reparsed dt n st sc kids).Strict := by
  unfold reparsed
  by_cases hn : n = wrapper
  · obtain ⟨hst, hsc, _⟩ := hw hn
    subst hn; subst hst; subst hsc
    simp only [if_true]
    exact strict_wrapperElem _ (strict_front dt kids (strictL_of_wrapper {} false kids hs))
  · simp only [hn, if_false]
    have := strict_merge _ hs
    simpa [merge] using this

theorem reparsed_wrapperOK (dt : Option Str) (n : Str) (st : AStore) (sc : Bool) (kids : List FNode)
    (hw : WrapperOK n st sc kids) :
    ∃ n' st' sc' kids', reparsed dt n st sc kids = .elem n' st' sc' kids' ∧ WrapperOK n' st' sc' kids' := by
  unfold reparsed
  by_cases hn : n = wrapper
  · exact ⟨_, _, _, _, if_pos hn, fun _ => ⟨rfl, rfl, (topScan_front dt kids).trans (hw hn).2.2⟩⟩
  · exact ⟨_, _, _, _, if_neg hn, fun e => absurd e hn⟩

/-- joining adjacent data blocks (and the doctype's line break in front of a multi-root document) is invisible to
    `pskel` -/
theorem pskel_reparsed (dt : Option Str) (n : Str) (st : AStore) (sc : Bool) (kids : List FNode)
    (hw : WrapperOK n st sc kids) :
    pskel (reparsed dt n st sc kids).toNode = pskel (FNode.elem n st sc kids).toNode := by
  unfold reparsed
  by_cases hn : n = wrapper
  · obtain ⟨hst, hsc, _⟩ := hw hn
    subst hn; subst hst; subst hsc
    simp only [if_true]
    exact pskel_wrapper {} _ _ (pskL_front dt kids)
  · simp only [hn, if_false]
    exact pskelAt_merge false (.elem n st sc kids)

theorem nw_htmlToks (dt : Option Str) (n : Str) (st : AStore) (sc : Bool) (kids : List FNode)
    (hs : (FNode.elem n st sc kids).Strict) (hnw : NoWrapperL (plainBlocks n st sc kids)) :
    NoWrapperStart ((htmlToks dt n st sc kids).map Tok.ofToken) :=
  nw_out dt _ (strictL_plainBlocks n st sc kids hs) hnw

end AHP.Fmt
