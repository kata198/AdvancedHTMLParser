/-
  AHP.Lemmas.Format — the formatter's bookkeeping is a function of the tree.

  Specification: `decorate cfg c parent t` walks a tree top-down with a context `c` (number of proper non-wrapper
  ancestors, number of pre/code ancestors) and says what the formatter makes of each node: which `_indent`
  an element gets, which text blocks are squeezed.  Central result (`feed_dec`): for every token
  sequence the formatter's state — built with counters that are incremented and decremented along pushes, explicit
  and implicit pops — is the decorated image of the plain parser's state on the same tokens, provided no start tag is
  named like the invisible wrapper (`NoWrapperStart`).  The simulation carries the invariant `WF` (the wrapper
  is only ever the outermost open element: an implicit pop decrements the level for the wrapper too); the one wrapper start
  tag of the second pass is `feed`'s own, put in while nothing is open yet (`run_dec_wrapped`).
  Then what `decorate` preserves (`skel`, `rekind`, idempotence), the indentation law `LayoutOK` (C12a), and slim output as
  the normal output piece by piece (`setKind`, `slimSurgery`, `Piece`, C12c).
-/
import AHP.Model.Format
import AHP.Lemmas.Squeeze
namespace AHP.Fmt
open AHP

/-- Where a node sits: `level` = proper ancestors other than the invisible wrapper, `inPre` = pre/code ancestors. -/
structure Ctx where
  level : Nat
  inPre : Nat
  deriving DecidableEq, Repr

def Ctx.push (c : Ctx) (name : Str) : Ctx :=
  ⟨if name ≠ wrapper then c.level + 1 else c.level, if isPre name then c.inPre + 1 else c.inPre⟩

def indentAt (cfg : Cfg) (c : Ctx) : Str := if c.inPre = 0 then getIndent cfg (c.level : Int) else []

theorem push_inPre_iff (c : Ctx) (n : Str) : (decide ((c.push n).inPre ≠ 0)) = (decide (c.inPre ≠ 0) || isPre n) := by
  unfold Ctx.push
  by_cases hp : isPre n = true <;> by_cases h0 : c.inPre = 0 <;> simp [hp, h0]

theorem push_inPre_ne_zero (c : Ctx) (n : Str) (h : c.inPre ≠ 0) : (c.push n).inPre ≠ 0 := by
  simpa [h] using push_inPre_iff c n

theorem push_inPre_zero (c : Ctx) (n : Str) (hc : c.inPre = 0) (hn : isPre n = false) : (c.push n).inPre = 0 := by
  simp [Ctx.push, hc, hn]

theorem push_inPre_of_pre (c : Ctx) (n : Str) (hn : isPre n = true) : (c.push n).inPre ≠ 0 := by
  simp [Ctx.push, hn]

theorem push_level (c : Ctx) (m : Str) (h : m ≠ wrapper) : (c.push m).level = c.level + 1 := by
  simp [Ctx.push, h]

theorem isPre_wrapper : isPre wrapper = false := by decide +kernel
theorem wrapper_lower : lower wrapper = wrapper := by decide +kernel
theorem wrapper_not_void : isVoid wrapper = false := by decide +kernel

theorem Ctx.push_wrapper (c : Ctx) : c.push wrapper = c := by
  simp [Ctx.push, isPre_wrapper]

theorem indentAt_eq (cfg : Cfg) (c : Ctx) :
    indentAt cfg c = if decide (c.inPre ≠ 0) || cfg.mini then [] else '\n' :: rep c.level cfg.indent := by
  unfold indentAt getIndent
  by_cases h0 : c.inPre = 0 <;> by_cases hm : cfg.mini = true <;> simp [h0, hm]

theorem indentAt_mini (cfg : Cfg) (hm : cfg.mini = true) (c : Ctx) : indentAt cfg c = [] := by
  simp [indentAt_eq, hm]

theorem indentAt_pre (cfg : Cfg) (c : Ctx) (hc : c.inPre ≠ 0) : indentAt cfg c = [] := by
  simp [indentAt_eq, hc]

theorem indentAt_pretty (cfg : Cfg) (hm : cfg.mini = false) (c : Ctx) (hc : c.inPre = 0) :
    indentAt cfg c = '\n' :: rep c.level cfg.indent := by
  simp [indentAt_eq, hc, hm]

theorem mem_rep {c : Char} {s : Str} : ∀ {n : Nat}, c ∈ rep n s → c ∈ s
  | 0, h => by simp [rep] at h
  | n+1, h => (List.mem_append.mp h).elim id mem_rep

mutual
def decorate (cfg : Cfg) (c : Ctx) (parent : Str) : Node → Node
  | .text true s => .text true s
  | .text false s => .text false (if c.inPre = 0 && !isPreserve parent then squeeze s else s)
  | .elem _ n st sc _ kids => .elem cfg.kind n st sc (indentAt cfg c) (decorateL cfg (c.push n) n kids)
def decorateL (cfg : Cfg) (c : Ctx) (parent : Str) : List Node → List Node
  | [] => []
  | x :: xs => decorate cfg c parent x :: decorateL cfg c parent xs
end

theorem decorateL_eq_map (cfg : Cfg) (c : Ctx) (p : Str) (l : List Node) :
    decorateL cfg c p l = l.map (decorate cfg c p) := by
  induction l with
  | nil => simp [decorateL]
  | cons x xs ih => simp [decorateL, ih]

theorem decorateL_reverse (cfg : Cfg) (c : Ctx) (p : Str) (l : List Node) :
    decorateL cfg c p l.reverse = (decorateL cfg c p l).reverse := by
  simp [decorateL_eq_map]

def ctxOf : List Frame → Ctx
  | [] => ⟨0, 0⟩
  | f :: fs => (ctxOf fs).push f.name

def topName : List Frame → Str
  | [] => []
  | f :: _ => f.name

def decFrames (cfg : Cfg) : List Frame → List Frame
  | [] => []
  | f :: fs => ⟨cfg.kind, f.name, f.st, indentAt cfg (ctxOf fs), decorateL cfg (ctxOf (f :: fs)) f.name f.rev⟩
               :: decFrames cfg fs

def dec0 (cfg : Cfg) : Node → Node := decorate cfg ⟨0, 0⟩ []

/-- the formatter's whole state as a function of the plain parser's -/
def decSt (cfg : Cfg) (s : St) : St :=
  { stack := decFrames cfg s.stack, closed := s.closed.map (dec0 cfg), doctype := s.doctype,
    level := ((ctxOf s.stack).level : Int), inPre := ((ctxOf s.stack).inPre : Int) }

theorem decSt_stack (cfg : Cfg) (s : St) : (decSt cfg s).stack = decFrames cfg s.stack := rfl
theorem decSt_closed (cfg : Cfg) (s : St) : (decSt cfg s).closed = s.closed.map (dec0 cfg) := rfl

/-- only the outermost open element may be the invisible wrapper -/
def WF : List Frame → Prop
  | [] => True
  | [_] => True
  | f :: g :: r => f.name ≠ wrapper ∧ WF (g :: r)

/-- `Except.map`, written out -/
def mapOk (f : St → St) : Except Err St → Except Err St
  | .ok s => .ok (f s)
  | .error e => .error e

@[simp] theorem decFrames_isEmpty (cfg : Cfg) (fs : List Frame) : (decFrames cfg fs).isEmpty = fs.isEmpty := by
  cases fs <;> simp [decFrames]

@[simp] theorem decFrames_length (cfg : Cfg) (fs : List Frame) : (decFrames cfg fs).length = fs.length := by
  induction fs with
  | nil => simp [decFrames]
  | cons f fs ih => simp [decFrames, ih]

theorem decFrames_any (cfg : Cfg) (name : Str) (fs : List Frame) :
    (decFrames cfg fs).any (fun f => f.name = name) = fs.any (fun f => f.name = name) := by
  induction fs with
  | nil => simp [decFrames]
  | cons f fs ih => simp [decFrames, ih]

@[simp] theorem decSt_noRoot (cfg : Cfg) (s : St) : (decSt cfg s).noRoot = s.noRoot := by
  simp [St.noRoot, decSt]

theorem ctxOf_attach (n : Node) (fs : List Frame) (c : Option Node) : ctxOf (attach n fs c).1 = ctxOf fs := by
  cases fs <;> simp [attach, ctxOf]

theorem topName_attach (n : Node) (fs : List Frame) (c : Option Node) : topName (attach n fs c).1 = topName fs := by
  cases fs <;> simp [attach, topName]

theorem attach_dec (cfg : Cfg) (n : Node) (fs : List Frame) (c : Option Node) :
    attach (decorate cfg (ctxOf fs) (topName fs) n) (decFrames cfg fs) (c.map (dec0 cfg))
      = (decFrames cfg (attach n fs c).1, (attach n fs c).2.map (dec0 cfg)) := by
  cases fs with
  | nil => simp [attach, decFrames, ctxOf, topName, dec0]
  | cons f r => simp [attach, decFrames, ctxOf, topName, decorateL]

/-- for any parent name `p`: `decorate` reads it only at text blocks -/
theorem close_dec (cfg : Cfg) (f : Frame) (fs : List Frame) (p : Str) :
    (Frame.close ⟨cfg.kind, f.name, f.st, indentAt cfg (ctxOf fs), decorateL cfg (ctxOf (f :: fs)) f.name f.rev⟩)
      = decorate cfg (ctxOf fs) p f.close := by
  simp [Frame.close, decorate, ctxOf, decorateL_reverse]

/-- the common body of `handle_starttag` and `handle_starttag_slim`: the model writes the handler twice, as the code does
    (`handleStart`, `handleStartSlim`), and they differ in the element class only (`startHandler_eq`) -/
def handleStartK (cfg : Cfg) (k : Kind) (s : St) (name0 : Str) (attrs : List (Str × Option Str)) (sc0 : Bool) : Except Err St :=
  let name := lower name0
  let sc := sc0 || isVoid name
  let st := mkStore attrs {}
  if !s.noRoot && s.stack.isEmpty then .error .multipleRoot
  else
      let indent := if s.inPre = 0 then getIndent cfg s.level else []
      if sc then
        let p := attach (.elem k name st true indent []) s.stack s.closed
        .ok { s with stack := p.1, closed := p.2 }
      else
        .ok { s with stack := ⟨k, name, st, indent, []⟩ :: s.stack,
                     level := if name ≠ wrapper then s.level + 1 else s.level,
                     inPre := if isPre name then s.inPre + 1 else s.inPre }

theorem startHandler_eq (cfg : Cfg) : startHandler cfg = handleStartK cfg cfg.kind := by
  unfold startHandler
  cases cfg.kind <;> rfl

theorem indent_dec (cfg : Cfg) (s : St) :
    (if (decSt cfg s).inPre = 0 then getIndent cfg (decSt cfg s).level else []) = indentAt cfg (ctxOf s.stack) := by
  simp [decSt, indentAt]

theorem start_dec (cfg : Cfg) (s : St) (n : Str) (a : List (Str × Option Str)) (sc : Bool) :
    startHandler cfg (decSt cfg s) n a sc = mapOk (decSt cfg) (Plain.handleStart s n a sc) := by
  rw [startHandler_eq]
  unfold handleStartK Plain.handleStart
  simp only [decSt_noRoot, indent_dec]
  rw [decSt_stack, decSt_closed, decFrames_isEmpty]
  by_cases h1 : (!s.noRoot && s.stack.isEmpty) = true
  · simp [h1, mapOk]
  · simp only [h1, Bool.false_eq_true, if_false]
    by_cases h2 : (sc || isVoid (lower n)) = true
    · simp only [h2, if_true, mapOk]
      have hd : Node.elem cfg.kind (lower n) (mkStore a {}) true (indentAt cfg (ctxOf s.stack)) []
          = decorate cfg (ctxOf s.stack) (topName s.stack) (.elem .normal (lower n) (mkStore a {}) true [] []) := by
        simp [decorate, decorateL]
      rw [hd, attach_dec]
      simp [decSt, ctxOf_attach]
    · simp only [h2, Bool.false_eq_true, if_false, mapOk]
      simp only [decSt, decFrames, ctxOf, Ctx.push, decorateL]
      congr 1
      simp only [St.mk.injEq, true_and]
      refine ⟨?_, ?_⟩
      · split <;> simp
      · split <;> simp

theorem WF_tail {f : Frame} {fs : List Frame} (h : WF (f :: fs)) : WF fs := by
  cases fs with
  | nil => trivial
  | cons g r => exact h.2

theorem WF_attach (n : Node) (fs : List Frame) (c : Option Node) (h : WF fs) : WF (attach n fs c).1 := by
  cases fs with
  | nil => simp [attach, WF]
  | cons f r =>
    cases r with
    | nil => simp [attach, WF]
    | cons g r' => simpa [attach, WF] using h

theorem push_pop_cast (p : Prop) [Decidable p] (l : Nat) :
    (if p then ((if p then l + 1 else l : Nat) : Int) - 1 else ((if p then l + 1 else l : Nat) : Int)) = (l : Int) := by
  by_cases hp : p <;> simp [hp]

theorem popExplicit_dec (cfg : Cfg) (s : St) (f : Frame) (fs : List Frame) (hs : s.stack = f :: fs) :
    popExplicit f.name (decSt cfg s) = decSt cfg (Plain.pop s) := by
  unfold popExplicit Plain.pop
  rw [decSt_stack, decSt_closed, hs]
  simp only [decFrames]
  rw [close_dec cfg f fs (topName fs), attach_dec]
  simp only [decSt, hs, ctxOf, Ctx.push, ctxOf_attach]
  rw [push_pop_cast, push_pop_cast]

theorem popImplicit_eq (s : St) (f : Frame) (fs : List Frame) (hs : s.stack = f :: fs) (hw : f.name ≠ wrapper) :
    popImplicit s = popExplicit f.name s := by
  simp [popImplicit, popExplicit, hs, hw]

/-- the popped element must not be the wrapper (it is not: the wrapper is the outermost one) -/
theorem popImplicit_dec (cfg : Cfg) (s : St) (f : Frame) (fs : List Frame) (hs : s.stack = f :: fs)
    (hw : f.name ≠ wrapper) : popImplicit (decSt cfg s) = decSt cfg (Plain.pop s) := by
  rw [← popExplicit_dec cfg s f fs hs]
  exact popImplicit_eq _ ⟨cfg.kind, f.name, f.st, indentAt cfg (ctxOf fs), decorateL cfg (ctxOf (f :: fs)) f.name f.rev⟩
    (decFrames cfg fs) (by simp [decSt, hs, decFrames]) hw

theorem pop_stack (s : St) (f : Frame) (fs : List Frame) (hs : s.stack = f :: fs) :
    (Plain.pop s).stack = (attach f.close fs s.closed).1 := by
  simp [Plain.pop, hs]

theorem any_attach (name : Str) (n : Node) (fs : List Frame) (c : Option Node) :
    (attach n fs c).1.any (fun f => f.name = name) = fs.any (fun f => f.name = name) := by
  cases fs <;> simp [attach]

theorem length_attach (n : Node) (fs : List Frame) (c : Option Node) : (attach n fs c).1.length = fs.length := by
  cases fs <;> simp [attach]

/-- The four conjuncts travel through one induction because each is the next turn's hypothesis: an element popped
    implicitly is not the wrapper since `name` is open below it (`any`) and the wrapper is outermost (`WF`); the last one
    (the loop stops AT `name`, given fuel) is what the explicit pop after the loop needs. -/
theorem endLoop_dec (cfg : Cfg) (name : Str) : ∀ (k : Nat) (s : St), WF s.stack →
    s.stack.any (fun f => f.name = name) = true →
    endLoop name k (decSt cfg s) = decSt cfg (Plain.endLoop name k s)
    ∧ WF (Plain.endLoop name k s).stack
    ∧ (Plain.endLoop name k s).stack.any (fun f => f.name = name) = true
    ∧ (s.stack.length ≤ k → topName (Plain.endLoop name k s).stack = name) := by
  intro k
  induction k with
  | zero =>
    intro s hwf hany
    refine ⟨by simp [endLoop, Plain.endLoop], by simpa [Plain.endLoop] using hwf, by simpa [Plain.endLoop] using hany, ?_⟩
    intro hl
    have : s.stack = [] := by cases h : s.stack with
      | nil => rfl
      | cons a b => simp [h] at hl
    simp [this] at hany
  | succ k ih =>
    intro s hwf hany
    cases hs : s.stack with
    | nil => simp [hs] at hany
    | cons f fs =>
      by_cases hn : f.name = name
      · have e1 : Plain.endLoop name (k+1) s = s := by simp [Plain.endLoop, hs, hn]
        have e2 : endLoop name (k+1) (decSt cfg s) = decSt cfg s := by
          simp [endLoop, decSt_stack, hs, decFrames, hn]
        rw [e1, e2]
        refine ⟨rfl, hwf, hany, ?_⟩
        intro _
        simp [hs, topName, hn]
      · have hany' : fs.any (fun f => f.name = name) = true := by
          simpa [hs, hn] using hany
        have hw : f.name ≠ wrapper := by
          cases fs with
          | nil => simp at hany'
          | cons g r => rw [hs] at hwf; exact hwf.1
        have e1 : Plain.endLoop name (k+1) s = Plain.endLoop name k (Plain.pop s) := by
          simp [Plain.endLoop, hs, hn]
        have e2 : endLoop name (k+1) (decSt cfg s) = endLoop name k (popImplicit (decSt cfg s)) := by
          simp [endLoop, decSt_stack, hs, decFrames, hn]
        have hps := pop_stack s f fs hs
        have hwf' : WF (Plain.pop s).stack := by
          rw [hps]; exact WF_attach _ _ _ (by rw [hs] at hwf; exact WF_tail hwf)
        have hany'' : (Plain.pop s).stack.any (fun f => f.name = name) = true := by
          rw [hps, any_attach]; exact hany'
        obtain ⟨i1, i2, i3, i4⟩ := ih (Plain.pop s) hwf' hany''
        rw [e1, e2, popImplicit_dec cfg s f fs hs hw]
        refine ⟨i1, i2, i3, ?_⟩
        intro hl
        apply i4
        rw [hps, length_attach]
        simp at hl
        omega

theorem handleEnd_dec (cfg : Cfg) (s : St) (name : Str) (hwf : WF s.stack) :
    handleEnd (decSt cfg s) name = decSt cfg (Plain.handleEnd s name) ∧ WF (Plain.handleEnd s name).stack := by
  unfold handleEnd Plain.handleEnd
  rw [decSt_stack, decFrames_any, decFrames_length]
  by_cases hany : s.stack.any (fun f => f.name = name) = true
  · simp only [hany, Bool.not_true, Bool.false_eq_true, if_false]
    obtain ⟨i1, i2, i3, i4⟩ := endLoop_dec cfg name s.stack.length s hwf hany
    rw [i1]
    have htop := i4 (Nat.le_refl _)
    cases hs1 : (Plain.endLoop name s.stack.length s).stack with
    | nil => simp [hs1] at i3
    | cons f fs =>
      have hn : f.name = name := by simpa [hs1, topName] using htop
      refine ⟨?_, ?_⟩
      · have := popExplicit_dec cfg _ f fs hs1
        rw [hn] at this; exact this
      · rw [pop_stack _ f fs hs1]
        exact WF_attach _ _ _ (by rw [hs1] at i2; exact WF_tail i2)
  · have hany' : s.stack.any (fun f => f.name = name) = false := by simpa using hany
    simp only [hany', Bool.not_false, if_true]
    exact ⟨trivial, hwf⟩

theorem appendText_dec (cfg : Cfg) (s : St) (f : Frame) (fs : List Frame) (hs : s.stack = f :: fs) (verb : Bool)
    (t t' : Str) (ht : decorate cfg (ctxOf (f :: fs)) f.name (.text verb t) = .text verb t') :
    appendText (decSt cfg s) verb t' = decSt cfg (appendText s verb t) := by
  unfold appendText
  rw [decSt_stack, hs]
  simp only [decFrames]
  simp only [decSt, hs, decFrames, ctxOf, decorateL]
  rw [← ht]
  simp [ctxOf]

theorem handleData_dec (cfg : Cfg) (s : St) (d : Str) :
    handleData (decSt cfg s) d = mapOk (decSt cfg) (Plain.handleData s d) := by
  unfold handleData Plain.handleData
  by_cases hd : d.isEmpty = true
  · simp [hd, mapOk]
  · simp only [hd, Bool.false_eq_true, if_false]
    rw [decSt_stack]
    cases hs : s.stack with
    | nil =>
      simp only [decFrames]
      by_cases hb : (pyStrip d).isEmpty = true <;> simp [hb, mapOk]
    | cons f fs =>
      simp only [decFrames, mapOk]
      congr 1
      apply appendText_dec cfg s f fs hs
      simp [decorate, decSt, hs]

theorem handleVerbatim_dec (cfg : Cfg) (s : St) (t : Str) :
    handleVerbatim (decSt cfg s) t = mapOk (decSt cfg) (handleVerbatim s t) := by
  unfold handleVerbatim
  rw [decSt_stack, decFrames_isEmpty]
  cases hs : s.stack with
  | nil => simp [mapOk]
  | cons f fs =>
    simp only [List.isEmpty_cons, Bool.false_eq_true, if_false, mapOk]
    congr 1
    apply appendText_dec cfg s f fs hs
    simp [decorate]

def Tok.startName? : Tok → Option Str
  | .start n _ => some (lower n)
  | .startend n _ => some (lower n)
  | _ => none

/-- no start tag of the input is named like the invisible wrapper (the domain of C11 and C12 excludes the reserved name) -/
def NoWrapperStart (toks : List Tok) : Prop := ∀ t ∈ toks, t.startName? ≠ some wrapper

instance (toks : List Tok) : Decidable (NoWrapperStart toks) := by unfold NoWrapperStart; infer_instance

theorem WF_push (f : Frame) (fs : List Frame) (h : WF fs) (hn : f.name ≠ wrapper ∨ fs = []) : WF (f :: fs) := by
  cases fs with
  | nil => trivial
  | cons g r =>
    rcases hn with hn | hn
    · exact ⟨hn, h⟩
    · simp at hn

theorem plainStart_WF (s s' : St) (n : Str) (a : List (Str × Option Str)) (sc : Bool) (hwf : WF s.stack)
    (hn : lower n ≠ wrapper ∨ s.stack = []) (h : Plain.handleStart s n a sc = .ok s') : WF s'.stack := by
  unfold Plain.handleStart at h
  by_cases h1 : (!s.noRoot && s.stack.isEmpty) = true
  · simp [h1] at h
  · simp only [h1, Bool.false_eq_true, if_false] at h
    by_cases h2 : (sc || isVoid (lower n)) = true
    · simp only [h2, if_true, Except.ok.injEq] at h
      rw [← h]; exact WF_attach _ _ _ hwf
    · simp only [h2, Bool.false_eq_true, if_false, Except.ok.injEq] at h
      rw [← h]; exact WF_push _ _ hwf hn

theorem appendText_stack_WF (s : St) (v : Bool) (t : Str) (h : WF s.stack) : WF (appendText s v t).stack := by
  unfold appendText
  cases hs : s.stack with
  | nil => simpa [hs] using h
  | cons f r =>
    rw [hs] at h
    cases r with
    | nil => simp [WF]
    | cons g r' => simpa [WF] using h

theorem handleVerbatim_WF (s s' : St) (t : Str) (hwf : WF s.stack) (h : handleVerbatim s t = .ok s') : WF s'.stack := by
  unfold handleVerbatim at h
  by_cases he : s.stack.isEmpty = true
  · simp [he] at h
  · simp only [he, Bool.false_eq_true, if_false, Except.ok.injEq] at h
    rw [← h]; exact appendText_stack_WF s true _ hwf

theorem step_dec (cfg : Cfg) (s : St) (t : Tok) (hwf : WF s.stack)
    (ht : t.startName? ≠ some wrapper ∨ s.stack = []) :
    step cfg (decSt cfg s) t = mapOk (decSt cfg) (Plain.step s t)
    ∧ (∀ s', Plain.step s t = .ok s' → WF s'.stack) := by
  cases t with
  | start n a | startend n a =>
    refine ⟨by simpa [step, Plain.step] using start_dec cfg s n a _, ?_⟩
    intro s' h
    exact plainStart_WF s s' n a _ hwf (by simpa [Tok.startName?] using ht) (by simpa [Plain.step] using h)
  | end_ n =>
    obtain ⟨h1, h2⟩ := handleEnd_dec cfg s n hwf
    refine ⟨by simp [step, Plain.step, mapOk, h1], ?_⟩
    intro s' h
    simp only [Plain.step, Except.ok.injEq] at h
    rw [← h]; exact h2
  | data d =>
    refine ⟨by simpa [step, Plain.step] using handleData_dec cfg s d, ?_⟩
    intro s' h
    simp only [Plain.step, Plain.handleData] at h
    by_cases hd : d.isEmpty = true
    · simp [hd] at h; rw [← h]; exact hwf
    · simp only [hd, Bool.false_eq_true, if_false] at h
      cases hs : s.stack with
      | nil =>
        rw [hs] at h
        by_cases hb : (pyStrip d).isEmpty = true
        · simp [hb] at h; rw [← h, hs]; trivial
        · simp [hb] at h
      | cons f r =>
        rw [hs] at h
        simp only [Except.ok.injEq] at h
        rw [← h]; exact appendText_stack_WF s false d hwf
  | entity e | charref e | comment e =>
    exact ⟨by simpa [step, Plain.step] using handleVerbatim_dec cfg s _,
      fun s' h => handleVerbatim_WF s s' _ hwf (by simpa [Plain.step] using h)⟩
  | decl d | pi d =>
    refine ⟨by simp [step, Plain.step, mapOk, decSt], ?_⟩
    intro s' h
    simp only [Plain.step, Except.ok.injEq] at h
    rw [← h]; exact hwf
  | unknownDecl d =>
    refine ⟨?_, ?_⟩
    · simp only [step, Plain.step, mapOk]
      have : (decSt cfg s).doctype = s.doctype := rfl
      rw [this]
      by_cases hd : truthy s.doctype = true <;> simp [hd, decSt]
    · intro s' h
      simp only [Plain.step, Except.ok.injEq] at h
      rw [← h]
      by_cases hd : truthy s.doctype = true <;> simp [hd] <;> exact hwf

theorem run_dec (cfg : Cfg) : ∀ (toks : List Tok) (s : St), WF s.stack → NoWrapperStart toks →
    run cfg toks (decSt cfg s) = mapOk (decSt cfg) (Plain.run toks s) := by
  intro toks
  induction toks with
  | nil => intro s _ _; simp [run, Plain.run, mapOk]
  | cons t ts ih =>
    intro s hwf h
    obtain ⟨h1, h2⟩ := step_dec cfg s t hwf (Or.inl (h t (by simp)))
    simp only [run, Plain.run, h1]
    cases hp : Plain.step s t with
    | error err => simp [mapOk]
    | ok s' => exact ih s' (h2 s' hp) (fun t' ht' => h t' (by simp [ht']))

theorem run_dec_cons (cfg : Cfg) (t : Tok) (ts : List Tok) (s : St) (hs : s.stack = [])
    (ih : ∀ s', Plain.step s t = .ok s' → WF s'.stack → run cfg ts (decSt cfg s') = mapOk (decSt cfg) (Plain.run ts s')) :
    run cfg (t :: ts) (decSt cfg s) = mapOk (decSt cfg) (Plain.run (t :: ts) s) := by
  obtain ⟨h1, h2⟩ := step_dec cfg s t (by rw [hs]; trivial) (Or.inr hs)
  simp only [run, Plain.run, h1]
  cases hp : Plain.step s t with
  | error err => simp [mapOk]
  | ok s' => exact ih s' hp (h2 s' hp)

theorem noWrapperStart_append_end (toks : List Tok) (n : Str) (h : NoWrapperStart toks) : NoWrapperStart (toks ++ [Tok.end_ n]) := by
  intro t ht
  simp only [List.mem_append, List.mem_singleton] at ht
  rcases ht with ht | ht
  · exact h t ht
  · simp [ht, Tok.startName?]

/-- the second pass: `feed` puts the wrapper start tag behind a leading doctype, where nothing is open yet -/
theorem run_dec_wrapped (cfg : Cfg) (toks : List Tok) (h : NoWrapperStart toks) :
    run cfg (wrapToks toks) (decSt cfg {}) = mapOk (decSt cfg) (Plain.run (wrapToks toks) {}) := by
  have base : ∀ (l : List Tok) (s : St), NoWrapperStart l → s.stack = [] →
      run cfg (Tok.start wrapper [] :: l ++ [Tok.end_ wrapper]) (decSt cfg s)
        = mapOk (decSt cfg) (Plain.run (Tok.start wrapper [] :: l ++ [Tok.end_ wrapper]) s) :=
    fun l s hl hs => run_dec_cons cfg _ _ s hs (fun s' _ hwf => run_dec cfg _ s' hwf (noWrapperStart_append_end l wrapper hl))
  have decl : ∀ (d : Str) (l : List Tok) (s : St), NoWrapperStart l → s.stack = [] →
      run cfg (Tok.decl d :: Tok.start wrapper [] :: l ++ [Tok.end_ wrapper]) (decSt cfg s)
        = mapOk (decSt cfg) (Plain.run (Tok.decl d :: Tok.start wrapper [] :: l ++ [Tok.end_ wrapper]) s) :=
    fun d l s hl hs => run_dec_cons cfg _ _ s hs (fun s' hp _ => base l s' hl (by
      simp only [Plain.step, Except.ok.injEq] at hp; rw [← hp]; exact hs))
  unfold wrapToks
  split
  · rename_i d rest
    split
    · exact decl d rest {} (fun t ht => h t (by simp [ht])) rfl
    · exact base _ {} h rfl
  · rename_i sd d rest
    split
    · refine run_dec_cons cfg _ _ {} rfl (fun s' hp _ => decl d rest s' (fun t ht => h t (by simp [ht])) ?_)
      simp only [Plain.step, Plain.handleData] at hp
      split at hp
      · cases hp; rfl
      · split at hp
        · cases hp; rfl
        · cases hp
    · exact base _ {} h rfl
  · exact base _ {} h rfl

theorem decSt_init (cfg : Cfg) : decSt cfg {} = {} := by
  simp [decSt, decFrames, ctxOf]

/-- **The formatter's state is the decorated image of the plain parser's state, for every token sequence**
    (both passes of `feed`), provided no element is named like the invisible wrapper. -/
theorem feed_dec (cfg : Cfg) (toks : List Tok) (h : NoWrapperStart toks) :
    feed cfg toks = mapOk (decSt cfg) (Plain.feed toks) := by
  unfold feed Plain.feed
  have h1 := run_dec cfg toks {} trivial h
  have h2 := run_dec_wrapped cfg toks h
  rw [decSt_init] at h1 h2
  rw [h1]
  cases hp : Plain.run toks {} with
  | ok s => simp [mapOk]
  | error e =>
    cases e with
    | multipleRoot => simpa [mapOk] using h2
    | noRoot => simp [mapOk]

theorem zipUp_dec (cfg : Cfg) : ∀ (fs : List Frame) (n : Node),
    zipUp (decorate cfg (ctxOf fs) (topName fs) n) (decFrames cfg fs) = dec0 cfg (zipUp n fs) := by
  intro fs
  induction fs with
  | nil => intro n; simp [zipUp, decFrames, ctxOf, topName, dec0]
  | cons f r ih =>
    intro n
    simp only [decFrames, zipUp]
    rw [← ih (Frame.close { f with rev := n :: f.rev })]
    congr 1
    have := close_dec cfg { f with rev := n :: f.rev } r (topName r)
    simp only [ctxOf, decorateL] at this
    simpa [ctxOf, topName] using this

theorem rootOfStack_dec (cfg : Cfg) (fs : List Frame) (c : Option Node) :
    rootOfStack (decFrames cfg fs) (c.map (dec0 cfg)) = (rootOfStack fs c).map (dec0 cfg) := by
  cases fs with
  | nil => simp [decFrames, rootOfStack]
  | cons f r =>
    simp only [decFrames, rootOfStack, Option.map_some]
    rw [close_dec cfg f r (topName r), zipUp_dec]

theorem root_dec (cfg : Cfg) (s : St) : (decSt cfg s).root = s.root.map (dec0 cfg) := by
  unfold St.root
  exact rootOfStack_dec cfg s.stack s.closed

/-- **C11/C12 core**: for every token sequence, the document the formatter serialises is the plain parser's
    document with every element's `_indent` and every data block rewritten as `decorate` says — a function of the
    position in the tree only. -/
theorem format_tree (cfg : Cfg) (toks : List Tok) (h : NoWrapperStart toks) :
    (match Plain.feed toks with
     | .ok ps => ∃ fs, feed cfg toks = .ok fs ∧ fs.root = ps.root.map (dec0 cfg) ∧ fs.doctype = ps.doctype
     | .error e => feed cfg toks = .error e) := by
  rw [feed_dec cfg toks h]
  cases Plain.feed toks with
  | ok ps => exact ⟨decSt cfg ps, rfl, root_dec cfg ps, rfl⟩
  | error e => rfl

mutual
/-- the document modulo formatting: element class and `_indent` forgotten, data blocks with all white space
    removed, verbatim blocks (references, comments) untouched -/
def skel : Node → Node
  | .text true s => .text true s
  | .text false s => .text false (eraseWS s)
  | .elem _ n st sc _ kids => .elem .normal n st sc [] (skelL kids)
def skelL : List Node → List Node
  | [] => []
  | x :: xs => skel x :: skelL xs
end

mutual
/-- the same tree as objects of class `k` without any `_indent` -/
def rekind (k : Kind) : Node → Node
  | .text v s => .text v s
  | .elem _ n st sc _ kids => .elem k n st sc [] (rekindL k kids)
def rekindL (k : Kind) : List Node → List Node
  | [] => []
  | x :: xs => rekind k x :: rekindL k xs
end

mutual
theorem skel_decorate (cfg : Cfg) (c : Ctx) (p : Str) : ∀ t : Node, skel (decorate cfg c p t) = skel t
  | .text true s => by simp [decorate]
  | .text false s => by
    simp only [decorate, skel]
    split
    · rw [eraseWS_squeeze]
    · rfl
  | .elem k n st sc ind kids => by
    simp only [decorate, skel]
    rw [skelL_decorate cfg (c.push n) n kids]
theorem skelL_decorate (cfg : Cfg) (c : Ctx) (p : Str) : ∀ l : List Node, skelL (decorateL cfg c p l) = skelL l
  | [] => by simp [decorateL]
  | x :: xs => by
    simp only [decorateL, skelL]
    rw [skel_decorate cfg c p x, skelL_decorate cfg c p xs]
end

mutual
theorem decorate_inPre (cfg : Cfg) (c : Ctx) (p : Str) (h : c.inPre ≠ 0) :
    ∀ t : Node, decorate cfg c p t = rekind cfg.kind t
  | .text true s => by simp [decorate, rekind]
  | .text false s => by simp [decorate, rekind, h]
  | .elem k n st sc ind kids => by
    simp only [decorate, rekind, indentAt, h, if_false]
    rw [decorateL_inPre cfg (c.push n) n (push_inPre_ne_zero c n h) kids]
theorem decorateL_inPre (cfg : Cfg) (c : Ctx) (p : Str) (h : c.inPre ≠ 0) :
    ∀ l : List Node, decorateL cfg c p l = rekindL cfg.kind l
  | [] => by simp [decorateL, rekindL]
  | x :: xs => by
    simp only [decorateL, rekindL]
    rw [decorate_inPre cfg c p h x, decorateL_inPre cfg c p h xs]
end

mutual
theorem decorate_idem (cfg : Cfg) (c : Ctx) (p : Str) :
    ∀ t : Node, decorate cfg c p (decorate cfg c p t) = decorate cfg c p t
  | .text true s => by simp [decorate]
  | .text false s => by
    simp only [decorate]
    split
    · simp [squeeze_idem]
    · rfl
  | .elem k n st sc ind kids => by
    simp only [decorate]
    rw [decorateL_idem cfg (c.push n) n kids]
theorem decorateL_idem (cfg : Cfg) (c : Ctx) (p : Str) :
    ∀ l : List Node, decorateL cfg c p (decorateL cfg c p l) = decorateL cfg c p l
  | [] => by simp [decorateL]
  | x :: xs => by
    simp only [decorateL]
    rw [decorate_idem cfg c p x, decorateL_idem cfg c p xs]
end

mutual
/-- The law on a tree, with depth recomputed from the tree itself: `depth` = number of proper ancestors other than
    the invisible wrapper, `pre` = some ancestor is pre/code.  Outside pre/code an element's `_indent` is a line
    break followed by `depth` copies of the indent unit (nothing at all for the mini classes); inside, nothing. -/
def LayoutOK (cfg : Cfg) (depth : Nat) (pre : Bool) : Node → Prop
  | .text _ _ => True
  | .elem _ n _ _ ind kids =>
    ind = (if pre || cfg.mini then [] else '\n' :: rep depth cfg.indent)
    ∧ LayoutOKL cfg (if n ≠ wrapper then depth + 1 else depth) (pre || isPre n) kids
def LayoutOKL (cfg : Cfg) (depth : Nat) (pre : Bool) : List Node → Prop
  | [] => True
  | x :: xs => LayoutOK cfg depth pre x ∧ LayoutOKL cfg depth pre xs
end

mutual
theorem layout_decorate (cfg : Cfg) (c : Ctx) (p : Str) :
    ∀ t : Node, LayoutOK cfg c.level (decide (c.inPre ≠ 0)) (decorate cfg c p t)
  | .text true s => by simp [decorate, LayoutOK]
  | .text false s => by simp [decorate, LayoutOK]
  | .elem k n st sc ind kids => by
    simp only [decorate, LayoutOK]
    refine ⟨?_, ?_⟩
    · exact indentAt_eq cfg c
    · have := layoutL_decorate cfg (c.push n) n kids
      rw [push_inPre_iff] at this
      simpa [Ctx.push] using this
theorem layoutL_decorate (cfg : Cfg) (c : Ctx) (p : Str) :
    ∀ l : List Node, LayoutOKL cfg c.level (decide (c.inPre ≠ 0)) (decorateL cfg c p l)
  | [] => by simp [decorateL, LayoutOKL]
  | x :: xs => by
    simp only [decorateL, LayoutOKL]
    exact ⟨layout_decorate cfg c p x, layoutL_decorate cfg c p xs⟩
end

theorem endsWith_iff (suf s : Str) : endsWith suf s = true ↔ suf <:+ s := by
  simp [endsWith, List.isSuffixOf_iff_suffix]

theorem endsWith_append (a suf : Str) : endsWith suf (a ++ suf) = true := by
  simp [endsWith, List.isSuffixOf_iff_suffix]

theorem dropLast_append (a suf : Str) : dropLast suf.length (a ++ suf) = a := by
  simp [dropLast]

/-- `AdvancedTagSlim.getStartTag`'s surgery on the text of a start tag: the `.slim` branch of the model's `startTag`
    under a name of its own (`startTag_slim_eq`) -/
def slimSurgery (ssc : Bool) (ret : Str) : Str :=
  if endsWith (str " >") ret then dropLast 2 ret ++ str ">"
  else if ssc && endsWith (str " />") ret then dropLast 3 ret ++ str "/>"
  else ret

theorem startTag_slim_eq (ssc : Bool) (n : Str) (st : AStore) (sc : Bool) (ind : Str) :
    startTag (.slim ssc) n st sc ind = slimSurgery ssc (startTag .normal n st sc ind) := rfl

theorem slimSurgery_open (ssc : Bool) (x : Str) : slimSurgery ssc (x ++ str " >") = x ++ str ">" := by
  unfold slimSurgery
  rw [endsWith_append]
  simp only [if_true]
  have := dropLast_append x (str " >")
  simp only [str] at this ⊢
  rw [show (" >".toList).length = 2 from rfl] at this
  rw [this]

theorem not_endsWith_sc (x : Str) : endsWith (str " >") (x ++ str " />") = false := by
  simp [endsWith, List.isSuffixOf, str, List.isPrefixOf]

theorem slimSurgery_selfclosed (ssc : Bool) (x : Str) :
    slimSurgery ssc (x ++ str " />") = x ++ (if ssc then str "/>" else str " />") := by
  unfold slimSurgery
  rw [not_endsWith_sc, endsWith_append]
  have := dropLast_append x (str " />")
  rw [show (str " />").length = 3 from rfl] at this
  cases ssc
  · simp
  · simp only [Bool.true_and, if_true]
    rw [this]
    simp

theorem startTag_normal (n : Str) (st : AStore) (sc : Bool) (ind : Str) :
    startTag .normal n st sc ind = ind ++ ('<' :: n ++ attrString st) ++ (if sc then str " />" else str " >") := by
  simp [startTag, startTagNormal]

/-- C12c on one start tag -/
theorem startTag_slim (ssc : Bool) (n : Str) (st : AStore) (sc : Bool) (ind : Str) :
    startTag (.slim ssc) n st sc ind
      = ind ++ ('<' :: n ++ attrString st) ++ (if sc then (if ssc then str "/>" else str " />") else str ">") := by
  rw [startTag_slim_eq, startTag_normal]
  cases sc
  · simpa using slimSurgery_open ssc (ind ++ ('<' :: n ++ attrString st))
  · simpa using slimSurgery_selfclosed ssc (ind ++ ('<' :: n ++ attrString st))

theorem startTag_prefix (k : Kind) (n : Str) (st : AStore) (sc : Bool) (ind : Str) :
    ∃ rest, startTag k n st sc ind = ind ++ rest ∧ rest.head? = some '<' := by
  cases k with
  | normal => exact ⟨_, by rw [startTag_normal, List.append_assoc], by simp⟩
  | slim ssc => exact ⟨_, by rw [startTag_slim, List.append_assoc], by simp⟩

theorem endTag_cases (n : Str) (ind : Str) (kids : List Node) :
    endTag n false ind kids = ind ++ str "</" ++ n ++ str ">"
    ∨ (endTag n false ind kids = str "</" ++ n ++ str ">"
        ∧ (isPre n = true ∨ (isPreserve n = true ∧ lastTextEndsWith ind kids = true))) := by
  unfold endTag
  simp only [Bool.false_eq_true, if_false]
  by_cases h1 : (!ind.isEmpty && isPre n) = true
  · simp only [h1, if_true]
    right; exact ⟨trivial, Or.inl (by simp at h1; exact h1.2)⟩
  · simp only [h1, Bool.false_eq_true, if_false]
    by_cases h2 : (!ind.isEmpty && isPreserve n && lastTextEndsWith ind kids) = true
    · simp only [h2, if_true]
      right; refine ⟨trivial, Or.inr ?_⟩
      simp at h2; exact ⟨h2.1.2, h2.2⟩
    · simp only [h2, Bool.false_eq_true, if_false]
      left; trivial

mutual
/-- the same tree as objects of class `k`; unlike `rekind` it keeps every `_indent` -/
def setKind (k : Kind) : Node → Node
  | .text v s => .text v s
  | .elem _ n st sc ind kids => .elem k n st sc ind (setKindL k kids)
def setKindL (k : Kind) : List Node → List Node
  | [] => []
  | x :: xs => setKind k x :: setKindL k xs
end

theorem setKindL_eq_map (k : Kind) (l : List Node) : setKindL k l = l.map (setKind k) := by
  induction l with
  | nil => simp [setKindL]
  | cons x xs ih => simp [setKindL, ih]

mutual
theorem decorate_setKind (cfg : Cfg) (k : Kind) (c : Ctx) (p : Str) :
    ∀ t : Node, decorate { cfg with kind := k } c p t = setKind k (decorate cfg c p t)
  | .text true s => by simp [decorate, setKind]
  | .text false s => by simp [decorate, setKind]
  | .elem k' n st sc ind kids => by
    simp only [decorate, setKind, indentAt, getIndent]
    rw [decorateL_setKind cfg k (c.push n) n kids]
theorem decorateL_setKind (cfg : Cfg) (k : Kind) (c : Ctx) (p : Str) :
    ∀ l : List Node, decorateL { cfg with kind := k } c p l = setKindL k (decorateL cfg c p l)
  | [] => by simp [decorateL, setKindL]
  | x :: xs => by
    simp only [decorateL, setKindL]
    rw [decorate_setKind cfg k c p x, decorateL_setKind cfg k c p xs]
end

/-- a piece of serialised output: the text of a start tag, or anything else (text block, end tag, doctype line) -/
inductive Piece where
  | startT (s : Str)
  | other (s : Str)
  deriving Repr, DecidableEq

def Piece.str : Piece → Str
  | .startT s => s
  | .other s => s

def flat : List Piece → Str
  | [] => []
  | p :: ps => p.str ++ flat ps

theorem flat_append (a b : List Piece) : flat (a ++ b) = flat a ++ flat b := by
  induction a with
  | nil => simp [flat]
  | cons x xs ih => simp [flat, ih]

mutual
/-- `outerHTML` cut into pieces -/
def pieces : Node → List Piece
  | .text _ s => [.other s]
  | .elem k n st sc ind kids =>
    .startT (startTag k n st sc ind) :: ((if sc then [] else piecesL kids) ++ [.other (endTag n sc ind kids)])
def piecesL : List Node → List Piece
  | [] => []
  | x :: xs => pieces x ++ piecesL xs
end

mutual
theorem outer_eq_flat : ∀ t : Node, outer t = flat (pieces t)
  | .text _ s => by simp [outer, pieces, flat, Piece.str]
  | .elem k n st sc ind kids => by
    simp only [outer, pieces, flat, Piece.str, flat_append]
    cases sc
    · simp [innerL_eq_flat kids]
    · simp [flat]
theorem innerL_eq_flat : ∀ l : List Node, innerL l = flat (piecesL l)
  | [] => by simp [innerL, piecesL, flat]
  | x :: xs => by simp [innerL, piecesL, flat_append, outer_eq_flat x, innerL_eq_flat xs]
end

/-- what distinguishes slim from normal output: the surgery, on start-tag pieces only -/
def slimPiece (ssc : Bool) : Piece → Piece
  | .startT s => .startT (slimSurgery ssc s)
  | .other s => .other s

theorem lastTextEndsWith_setKind (k : Kind) (ind : Str) (kids : List Node) :
    lastTextEndsWith ind (setKindL k kids) = lastTextEndsWith ind kids := by
  unfold lastTextEndsWith
  rw [setKindL_eq_map, List.getLast?_map]
  cases kids.getLast? with
  | none => rfl
  | some x => cases x <;> simp [setKind]

theorem endTag_setKind (k : Kind) (n : Str) (sc : Bool) (ind : Str) (kids : List Node) :
    endTag n sc ind (setKindL k kids) = endTag n sc ind kids := by
  unfold endTag
  rw [lastTextEndsWith_setKind]

mutual
theorem pieces_slim (ssc : Bool) : ∀ t : Node,
    pieces (setKind (.slim ssc) t) = (pieces (setKind .normal t)).map (slimPiece ssc)
  | .text _ s => by simp [setKind, pieces, slimPiece]
  | .elem k n st sc ind kids => by
    simp only [setKind, pieces, endTag_setKind, List.map_cons, List.map_append, slimPiece, startTag_slim_eq]
    cases sc
    · simp [piecesL_slim ssc kids]
    · simp
theorem piecesL_slim (ssc : Bool) : ∀ l : List Node,
    piecesL (setKindL (.slim ssc) l) = (piecesL (setKindL .normal l)).map (slimPiece ssc)
  | [] => by simp [setKindL, piecesL]
  | x :: xs => by simp [setKindL, piecesL, pieces_slim ssc x, piecesL_slim ssc xs]
end

/-- `getHTML` cut into pieces -/
def docPieces (doctype : Option Str) (root : Node) : List Piece :=
  let dt := doctypeLine doctype
  match root with
  | .elem _ n _ sc _ kids => if n = wrapper then .other dt :: (if sc then [] else piecesL kids) else .other dt :: pieces root
  | .text _ s => [.other dt, .other s]

theorem docHTML_eq_flat (doctype : Option Str) (r : Node) : docHTML doctype (some r) = .ok (flat (docPieces doctype r)) := by
  cases r with
  | text v s => simp [docHTML, docPieces, flat, Piece.str]
  | elem k n st sc ind kids =>
    simp only [docHTML, docPieces]
    by_cases hw : n = wrapper
    · cases sc <;> simp [hw, flat, Piece.str, innerL_eq_flat]
    · simp [hw, flat, Piece.str, outer_eq_flat]

theorem docPieces_slim (ssc : Bool) (doctype : Option Str) (r : Node) :
    docPieces doctype (setKind (.slim ssc) r) = (docPieces doctype (setKind .normal r)).map (slimPiece ssc) := by
  cases r with
  | text v s => simp [setKind, docPieces, slimPiece]
  | elem k n st sc ind kids =>
    simp only [setKind, docPieces]
    by_cases hw : n = wrapper
    · cases sc <;> simp [hw, slimPiece, piecesL_slim]
    · have := pieces_slim ssc (.elem k n st sc ind kids)
      simp only [setKind] at this
      simp [hw, slimPiece, this]

/-- `r` is a successful result with this text (a decidable way to state examples) -/
def okIs (r : Except Err Str) (s : String) : Bool :=
  match r with
  | .ok h => h == s.toList
  | .error _ => false

end AHP.Fmt
