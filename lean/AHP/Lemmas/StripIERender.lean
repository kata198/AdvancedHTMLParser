/-
  AHP.Lemmas.StripIERender — `stripIEConditionals` on the serialisers' output: the rendering of a token list in the serialiser's image
  contains the opener of an IE conditional comment (`<!--` ws* `[` ws* `if`) only inside a token that contains
  it — no opener reaches across a token boundary — and token by token the condition is: a comment's body does
  not start with ws* `[` ws* `if`, attribute values / declaration bodies / processing instructions contain no
  opener.  Hence `parseText` (= `feed`: strip, lex, build, retry inside the wrapper) is `feedText` there.
  The size bound `stripIE_length` is here because it needs the two cases of `addStartTagStr` (Lemmas/WrapStr).
-/
import AHP.Lemmas.StripIE
import AHP.Lemmas.WrapLexFeed
namespace AHP

/-- `AdvancedHTMLParser.feed(contents)` — what `parseStr` / `parseFile` run after `reset()` — on the strict
    sub-language: `contents = stripIEConditionals(contents)`, then the two-pass `HTMLParser.feed` (`feedText`) -/
def parseText (s : Str) : Option FeedResult := feedText (stripIE s)

/-- in any context: a `"` stops every opener and so does the `&` of `&quot;`, and `quot;` starts none -/
theorem hasIEMarker_append_escQ (v : Str) : ∀ x : Str, hasIEMarker (x ++ escQ v) = hasIEMarker (x ++ v) := by
  induction v with
  | nil => exact fun _ => rfl
  | cons c cs ih =>
    intro x
    by_cases hc : c = '"'
    · subst hc
      have e1 : escQ ('"' :: cs) = '&' :: ("quot;".toList ++ escQ cs) := by simp [escQ]
      rw [e1, hasIEMarker_split '&' ieStop_amp (by decide), hasIEMarker_split '"' ieStop_quote (by decide),
        hasIEMarker_append_no_lt _ _ (by decide)]
      exact congrArg _ (ih [])
    · have e1 : escQ (c :: cs) = c :: escQ cs := by simp [escQ, hc]
      have := ih (x ++ [c])
      rwa [List.append_assoc, List.append_assoc, List.singleton_append, List.singleton_append, ← e1] at this

theorem hasIEMarker_escQ (v : Str) : hasIEMarker (escQ v) = hasIEMarker v := hasIEMarker_append_escQ v []

/-- the body of a comment starts with ws* `[` ws* `if` -/
def condStart (c : Str) : Bool := (matchItems ieCondPat c).isSome

/-- token by token: what keeps the opener of an IE conditional comment out of the rendering.

    The `.data` clause speaks about the content of raw-text elements (`script` / `style`; `ListOK.raw`): that
    text is rendered as it is and may contain anything, also `<!--[if`.  For a data token of the grammar outside
    raw text (`TokOK`: no `<` except the singleton) the clause holds by itself (`hasIEMarker_data_of_tokOK`). -/
def TokNoIE : Token → Prop
  | .comment c => condStart c = false
  | .start _ a => ∀ x ∈ a, ∀ v, x.2 = some v → hasIEMarker v = false
  | .startend _ a => ∀ x ∈ a, ∀ v, x.2 = some v → hasIEMarker v = false
  | .decl d => hasIEMarker d = false
  | .pi p => hasIEMarker p = false
  | .data s => hasIEMarker s = false
  | _ => True

theorem matchItems_opener_shape (s : Str) (h : (matchItems ieOpenerPat s).isSome = true) :
    ∃ r, s = '<' :: '!' :: '-' :: '-' :: r ∧ (matchItems ieCondPat r).isSome = true := by
  unfold ieOpenerPat at h
  rcases s with _ | ⟨a, _ | ⟨b, _ | ⟨c, _ | ⟨d, r⟩⟩⟩⟩
  · simp [matchItems_one_nil] at h
  · rw [matchItems_one_isSome, matchItems_one_nil] at h; simp at h
  · rw [matchItems_one_isSome, matchItems_one_isSome, matchItems_one_nil] at h; simp at h
  · rw [matchItems_one_isSome, matchItems_one_isSome, matchItems_one_isSome, matchItems_one_nil] at h; simp at h
  · rw [matchItems_one_isSome, matchItems_one_isSome, matchItems_one_isSome, matchItems_one_isSome] at h
    simp only [Bool.and_eq_true, List.contains_cons, List.contains_nil, Bool.or_false, beq_iff_eq] at h
    obtain ⟨rfl, rfl, rfl, rfl, h5⟩ := h
    exact ⟨r, rfl, h5⟩

/-- inside a comment (no `--`, no dash at the end) and across its closing `-->` no opener starts -/
theorem comment_inner (c : Str) (h : CommentOK c) : hasIEMarker (c ++ arrow) = false := by
  induction c with
  | nil => decide
  | cons c0 c' ih =>
    have hc' : CommentOK c' := by
      cases c' with
      | nil => trivial
      | cons d r => exact h.2
    rw [List.cons_append, hasIEMarker_cons, ih hc', Bool.or_false]
    cases hm : (matchItems ieOpenerPat (c0 :: (c' ++ arrow))).isSome with
    | false => rfl
    | true =>
      exfalso
      obtain ⟨r, hr, hr2⟩ := matchItems_opener_shape _ hm
      rcases c' with _ | ⟨a, _ | ⟨b, _ | ⟨d, rest⟩⟩⟩
      · simp [arrow] at hr
      · simp [arrow] at hr
        obtain ⟨_, _, hr3⟩ := hr
        rw [← hr3] at hr2
        revert hr2; decide
      · simp [arrow] at hr
        exact h.2.2 hr.2.2.1
      · simp at hr
        exact h.2.2.1 ⟨hr.2.2.1, hr.2.2.2.1⟩

theorem hasIEMarker_comment (c : Str) (h : CommentOK c) :
    hasIEMarker (renderTok (.comment c)) = condStart c := by
  have e : renderTok (.comment c) = '<' :: '!' :: '-' :: '-' :: (c ++ '-' :: '-' :: '>' :: []) := by
    simp [renderTok]
  rw [e, hasIEMarker_cons, hasIEMarker_cons_ne '!' _ (by decide), hasIEMarker_cons_ne '-' _ (by decide),
    hasIEMarker_cons_ne '-' _ (by decide)]
  have := comment_inner c h
  unfold arrow at this
  rw [this, Bool.or_false]
  unfold ieOpenerPat
  rw [matchItems_one_isSome, matchItems_one_isSome, matchItems_one_isSome, matchItems_one_isSome,
    matchItems_stop_isSome '-' _ ieCondPat (by decide) c]
  simp [condStart]

def attrIE (x : Attr) : Bool :=
  match x.2 with
  | some v => hasIEMarker v
  | none => false

/-- token by token, decidable: the rendering of the token contains the marker (`tokIE_render`) -/
def tokIE : Token → Bool
  | .comment c => condStart c
  | .start _ a => a.any attrIE
  | .startend _ a => a.any attrIE
  | .decl d => hasIEMarker d
  | .pi p => hasIEMarker p
  | .data s => hasIEMarker s
  | _ => false

theorem hasIEMarker_renderAttrs_eq (a : List Attr) (h : ∀ x ∈ a, AttrOK x) (rest : Str) :
    hasIEMarker (renderAttrs' a ++ rest) = (a.any attrIE || hasIEMarker rest) := by
  induction a with
  | nil => simp [renderAttrs']
  | cons x a ih =>
    have iha := ih (fun y hy => h y (List.mem_cons_of_mem _ hy))
    obtain ⟨n, v⟩ := x
    have hx := h (n, v) List.mem_cons_self
    have hn : NameOK n := by cases v <;> simp [AttrOK] at hx <;> first | exact hx | exact hx.1
    have hnlt : ∀ c ∈ n, c ≠ '<' := fun c hc => ne_of_class (x := '<') (by decide) (hn.2.1 c hc)
    have bare : hasIEMarker (' ' :: n ++ renderAttrs' a ++ rest) = (a.any attrIE || hasIEMarker rest) := by
      rw [List.cons_append, List.cons_append, hasIEMarker_cons_ne ' ' _ (by decide), List.append_assoc,
        hasIEMarker_append_no_lt _ n hnlt, iha]
    cases v with
    | none =>
      have e0 : attrIE (n, none) = false := rfl
      rw [List.any_cons, e0, Bool.false_or]
      simpa [renderAttrs', renderAttr] using bare
    | some v =>
      by_cases hb : v = [] ∧ n ∈ binaryAttrs
      · have e0 : attrIE (n, some v) = false := by rw [hb.1]; rfl
        rw [List.any_cons, e0, Bool.false_or]
        simpa [renderAttrs', renderAttr, hb] using bare
      · have e : renderAttrs' ((n, some v) :: a) ++ rest
            = ' ' :: (n ++ ('=' :: '"' :: (escQ v ++ '"' :: (renderAttrs' a ++ rest)))) := by
          simp [renderAttrs', renderAttr, hb]
        have e0 : attrIE (n, some v) = hasIEMarker v := rfl
        rw [e, hasIEMarker_cons_ne ' ' _ (by decide), hasIEMarker_append_no_lt _ n hnlt,
          hasIEMarker_cons_ne '=' _ (by decide), hasIEMarker_cons_ne '"' _ (by decide),
          hasIEMarker_split '"' ieStop_quote (by decide), hasIEMarker_escQ, iha, List.any_cons, e0, Bool.or_assoc]

theorem hasIEMarker_tag_eq (n : Str) (a : List Attr) (sc : Bool) (hn : TagNameOK n) (h : ∀ x ∈ a, AttrOK x) :
    hasIEMarker (('<' :: n) ++ renderAttrs a ++ closer sc) = a.any attrIE := by
  obtain ⟨⟨c, cs, rfl, hca⟩, hall, _⟩ := hn
  have hnlt : ∀ d ∈ c :: cs, d ≠ '<' := fun d hd => ne_of_class (x := '<') (by decide) (hall d hd)
  rw [renderAttrs_eq]
  have e : ('<' :: (c :: cs)) ++ renderAttrs' a ++ closer sc = '<' :: c :: (cs ++ (renderAttrs' a ++ closer sc)) := by simp
  rw [e, hasIEMarker_lt_cons c _ (alpha_ne_bang c hca)]
  have e2 : c :: (cs ++ (renderAttrs' a ++ closer sc)) = (c :: cs) ++ (renderAttrs' a ++ closer sc) := rfl
  rw [e2, hasIEMarker_append_no_lt _ _ hnlt, hasIEMarker_renderAttrs_eq a h]
  have : hasIEMarker (closer sc) = false := by cases sc <;> decide
  rw [this, Bool.or_false]

theorem hasIEMarker_data_of_tokOK (s : Str) (h : TokOK (.data s)) : hasIEMarker s = false := by
  rcases h with rfl | rfl | ⟨_, hall⟩
  · decide
  · decide
  · exact hasIEMarker_no_lt s (fun hlt => (hall '<' hlt).1 rfl)

/-- markup of the shape `<c body>` at whose `<` no opener starts: the openers are those of the body (none starts
    at `c`, none reaches across the `>`) -/
theorem hasIEMarker_wrap (c : Char) (body : Str) (hc : c ≠ '<')
    (h0 : (matchItems ieOpenerPat ('<' :: c :: (body ++ ['>']))).isSome = false) :
    hasIEMarker ('<' :: c :: (body ++ ['>'])) = hasIEMarker body := by
  rw [hasIEMarker_cons, h0, Bool.false_or, hasIEMarker_cons_ne c _ hc, hasIEMarker_split '>' ieStop_gt (by decide),
    show hasIEMarker [] = false from rfl, Bool.or_false]

/-- **one token, exactly**: the rendering of a well-formed token contains the marker iff the token-level test
    says so -/
theorem tokIE_render (t : Token) (h : TokOK t) : hasIEMarker (renderTok t) = tokIE t := by
  cases t with
  | unknownDecl d => exact absurd h (by simp [TokOK])
  | data s => rfl
  | entity n =>
    show _ = false
    apply hasIEMarker_no_lt
    intro e
    simp [renderTok] at e
    exact ne_of_class (x := '<') (by decide) (h.2 _ e) rfl
  | charref n =>
    show _ = false
    apply hasIEMarker_no_lt
    intro e
    simp [renderTok] at e
    rcases h with ⟨_, hall⟩ | ⟨x, hs, rfl, hx, _, hall⟩
    · exact ne_of_class (x := '<') (by decide) (hall _ e) rfl
    · rcases List.mem_cons.mp e with e | e
      · rcases hx with rfl | rfl <;> exact absurd e (by decide)
      · exact ne_of_class (x := '<') (by decide) (hall _ e) rfl
  | end_ n =>
    show hasIEMarker ('<' :: '/' :: (n ++ ['>'])) = false
    rw [hasIEMarker_wrap '/' n (by decide) (ieOpener_not_bang '/' _ (by decide))]
    exact hasIEMarker_no_lt n (fun e => ne_of_class (x := '<') (by decide) (h.2.1 _ e) rfl)
  | comment c => exact hasIEMarker_comment c h
  | decl d =>
    show hasIEMarker ('<' :: '!' :: (d ++ ['>'])) = hasIEMarker d
    apply hasIEMarker_wrap '!' d (by decide)
    -- a declaration's name does not begin with `-`
    obtain ⟨d0, d1, rfl⟩ : ∃ d0 d1, d = d0 :: d1 := by
      cases d with
      | nil => exact absurd h.1 (by simp [lower])
      | cons d0 d1 => exact ⟨d0, d1, rfl⟩
    have hd0 : d0 ≠ '-' := by
      intro e; subst e
      have := congrArg List.head? h.1
      simp [lower, lowerChar] at this
    unfold ieOpenerPat
    rw [List.cons_append, matchItems_one_isSome, matchItems_one_isSome, matchItems_one_isSome]
    simp [hd0]
  | pi p => exact hasIEMarker_wrap '?' p (by decide) (ieOpener_not_bang '?' _ (by decide))
  | start n a =>
    have := hasIEMarker_tag_eq n a false h.1 h.2.2
    simpa [renderTok, closer, tokIE] using this
  | startend n a =>
    have := hasIEMarker_tag_eq n a true h.1 h.2
    simpa [renderTok, closer, tokIE] using this

theorem any_attrIE_false (a : List Attr) :
    a.any attrIE = false ↔ ∀ x ∈ a, ∀ v, x.2 = some v → hasIEMarker v = false := by
  rw [List.any_eq_false]
  constructor
  · intro h x hx v hv
    have := h x hx
    unfold attrIE at this
    rw [hv] at this
    simpa using this
  · intro h x hx
    unfold attrIE
    cases hv : x.2 with
    | none => simp
    | some v => simp [h x hx v hv]

theorem tokNoIE_iff (t : Token) : TokNoIE t ↔ tokIE t = false := by
  cases t <;> simp only [TokNoIE, tokIE, any_attrIE_false]

instance (t : Token) : Decidable (TokNoIE t) := decidable_of_iff _ (tokNoIE_iff t).symm

theorem tokNoIE_render (t : Token) (h : TokOK t) (hm : TokNoIE t) : hasIEMarker (renderTok t) = false := by
  rw [tokIE_render t h]
  exact (tokNoIE_iff t).mp hm

/-- the two tokens of a raw-text element that `TokOK` does not describe: its start tag, its content -/
theorem tokIE_render_raw (t : Token) (h : RawTok t) : hasIEMarker (renderTok t) = tokIE t := by
  cases t with
  | start n a =>
    have := hasIEMarker_tag_eq n a false (rawName_tagNameOK n h.1) h.2
    simpa [renderTok, closer, tokIE] using this
  | data s => rfl
  | _ => exact absurd h (by simp [RawTok])

theorem tokIE_render_any (t : Token) (h : TokOK t ∨ RawTok t) : hasIEMarker (renderTok t) = tokIE t := by
  rcases h with h | h
  · exact tokIE_render t h
  · exact tokIE_render_raw t h

/-! ### token lists: no opener reaches across a token boundary -/

theorem renderTok_last (t : Token) (hd : isData t = false) (hu : ∀ d, t ≠ .unknownDecl d) :
    ∃ y z, renderTok t = y ++ [z] ∧ (z = '>' ∨ z = ';') := by
  cases t with
  | data s => simp [isData] at hd
  | unknownDecl d => exact absurd rfl (hu d)
  | start n a => exact ⟨('<' :: n) ++ renderAttrs a ++ [' '], '>', by simp [renderTok], Or.inl rfl⟩
  | startend n a => exact ⟨('<' :: n) ++ renderAttrs a ++ [' ', '/'], '>', by simp [renderTok], Or.inl rfl⟩
  | end_ n => exact ⟨'<' :: '/' :: n, '>', by simp [renderTok], Or.inl rfl⟩
  | entity n => exact ⟨'&' :: n, ';', by simp [renderTok], Or.inr rfl⟩
  | charref n => exact ⟨'&' :: '#' :: n, ';', by simp [renderTok], Or.inr rfl⟩
  | comment c => exact ⟨"<!--".toList ++ c ++ ['-', '-'], '>', by simp [renderTok], Or.inl rfl⟩
  | decl d => exact ⟨'<' :: '!' :: d, '>', by simp [renderTok], Or.inl rfl⟩
  | pi p => exact ⟨'<' :: '?' :: p, '>', by simp [renderTok], Or.inl rfl⟩

/-- markup and references end in `>` / `;`, whatever is inside them (the tags of a raw-text element included) -/
theorem hasIEMarker_markup_step (t : Token) (hd : isData t = false) (hu : ∀ d, t ≠ .unknownDecl d) (R : Str) :
    hasIEMarker (renderTok t ++ R) = (hasIEMarker (renderTok t) || hasIEMarker R) := by
  obtain ⟨y, z, hy, hz⟩ := renderTok_last t hd hu
  have hstop : IEStop z ∧ z ≠ '<' := by rcases hz with rfl | rfl <;> exact ⟨by decide, by decide⟩
  rw [hy, List.append_assoc, List.singleton_append]
  exact hasIEMarker_stop_step z hstop.1 hstop.2 y R

theorem hasIEMarker_render_step (t : Token) (h : TokOK t) (R : Str) (hf : Follows t R) :
    hasIEMarker (renderTok t ++ R) = (hasIEMarker (renderTok t) || hasIEMarker R) := by
  cases t with
  | data s =>
    rcases h with rfl | rfl | ⟨hne, hall⟩
    · simp only [Follows, if_true] at hf
      obtain ⟨c, r, rfl, _, _, h3, _⟩ := hf
      exact (hasIEMarker_lt_cons c r h3).trans (Bool.false_or _).symm
    · exact (hasIEMarker_cons_ne '&' R (by decide)).trans (Bool.false_or _).symm
    · have hnlt : ∀ c ∈ s, c ≠ '<' := fun c hc => (hall c hc).1
      show hasIEMarker (s ++ R) = (hasIEMarker s || hasIEMarker R)
      rw [hasIEMarker_append_no_lt R s hnlt, hasIEMarker_no_lt s (fun hlt => hnlt '<' hlt rfl), Bool.false_or]
  | unknownDecl d => exact absurd h (by simp [TokOK])
  | _ => exact hasIEMarker_markup_step _ rfl (fun _ => Token.noConfusion) R

/-- **the rendering of a token list in the serialiser's image has an opener exactly when one of its tokens'
    renderings has one** (raw-text elements included: the content token's rendering is the raw text) -/
theorem hasIEMarker_renderToks (ts : List Token) (h : ListOK ts) :
    hasIEMarker (renderToks ts) = ts.any (fun t => hasIEMarker (renderTok t)) := by
  induction h with
  | nil => rfl
  | @cons t ts ht hf _ ih =>
    rw [renderToks, hasIEMarker_render_step t ht _ hf, ih, List.any_cons]
  | @raw n a raw ts _ _ _ _ _ ih =>
    -- the content of a raw-text element is ANY text; the `<` of the end tag stops every opener that starts in it
    show hasIEMarker (renderTok (.start n a) ++ (raw ++ ('<' :: ('/' :: n ++ ['>'] ++ renderToks ts)))) = _
    rw [hasIEMarker_markup_step _ rfl (fun _ => Token.noConfusion), hasIEMarker_append_stop '<' ieStop_lt,
      show '<' :: ('/' :: n ++ ['>'] ++ renderToks ts) = renderTok (.end_ n) ++ renderToks ts from rfl,
      hasIEMarker_markup_step _ rfl (fun _ => Token.noConfusion), ih, List.any_cons, List.any_cons, List.any_cons]
    rfl
  | @rawEmpty n a ts _ _ _ ih =>
    show hasIEMarker (renderTok (.start n a) ++ (renderTok (.end_ n) ++ renderToks ts)) = _
    rw [hasIEMarker_markup_step _ rfl (fun _ => Token.noConfusion),
      hasIEMarker_markup_step _ rfl (fun _ => Token.noConfusion), ih, List.any_cons, List.any_cons]

theorem hasIEMarker_renderToks_tok (ts : List Token) (h : ListOK ts) :
    hasIEMarker (renderToks ts) = ts.any tokIE := by
  rw [hasIEMarker_renderToks ts h]
  have hall := h.tokOK
  clear h
  induction ts with
  | nil => rfl
  | cons t ts ih =>
    rw [List.any_cons, List.any_cons, tokIE_render_any t (hall t List.mem_cons_self),
      ih (fun x hx => hall x (List.mem_cons_of_mem _ hx))]

theorem hasIEMarker_renderToks_of_tokNoIE (ts : List Token) (h : ListOK ts) (hm : ∀ t ∈ ts, TokNoIE t) :
    hasIEMarker (renderToks ts) = false := by
  rw [hasIEMarker_renderToks_tok ts h]
  exact List.any_eq_false.mpr fun t ht => by rw [(tokNoIE_iff t).mp (hm t ht)]; exact Bool.false_ne_true

theorem parseText_renderToks (ts : List Token) (h : ListOK ts) (hm : ∀ t ∈ ts, TokNoIE t) :
    parseText (renderToks ts) = feedText (renderToks ts) := by
  unfold parseText
  rw [stripIE_of_no_marker _ (hasIEMarker_renderToks_of_tokNoIE ts h hm)]

theorem comment_cond_split (c : Str) (h : condStart c = true) :
    ∃ op body, IsIEOpener op ∧ renderTok (.comment c) = op ++ body ++ arrow ∧ (∀ x ∈ body, x ∈ c) := by
  unfold condStart at h
  cases hm : matchItems ieCondPat c with
  | none => rw [hm] at h; cases h
  | some mr =>
    obtain ⟨hM, hc⟩ := matchItems_sound _ _ mr.1 mr.2 hm
    obtain ⟨w1, w2, hw1, hw2, hm1⟩ := matches_condPat _ hM
    refine ⟨"<!--".toList ++ w1 ++ '[' :: w2 ++ "if".toList, mr.2, ⟨w1, w2, hw1, hw2, rfl⟩, ?_, ?_⟩
    · rw [hc, hm1]; simp [renderTok, arrow]
    · intro x hx; rw [hc]; exact List.mem_append_right _ hx

/-- **a conditional comment token is dropped from the text**: in front of and behind it renderings without
    the marker, its body on one line, no further `-->` on the rest of that line -/
theorem stripIE_comment_token (ts1 ts2 : List Token) (c : Str) (hc : condStart c = true) (hnl : '\n' ∉ c)
    (h1 : hasIEMarker (renderToks ts1) = false) (h2 : hasIEMarker (renderToks ts2) = false)
    (hline : hasArrow ((renderToks ts2).takeWhile (· ≠ '\n')) = false) :
    stripIE (renderToks (ts1 ++ .comment c :: ts2)) = addHtmlIfMissing (renderToks (ts1 ++ ts2)) := by
  obtain ⟨op, body, hop, hr, hb⟩ := comment_cond_split c hc
  rw [renderToks_append, renderToks_append, renderToks, hr, ← List.append_assoc]
  exact stripIE_of_cond _ op body _ hop (fun hn => hnl (hb _ hn)) h1 h2 hline

theorem stripIE_length (s : Str) : (stripIE s).length ≤ s.length + 6 := by
  unfold stripIE
  simp only
  split
  · omega
  · unfold addHtmlIfMissing
    have := foldl_removeAll_length_le (ieFindAll s) s
    split
    · rw [addStartTagStr_length]
      have : htmlStartTag.length = 6 := rfl
      omega
    · omega

end AHP
