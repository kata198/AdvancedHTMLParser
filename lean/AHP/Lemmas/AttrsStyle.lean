/-
  AHP.Lemmas.AttrsStyle — C10: the style object as a string. `styleToDict (asStr m) = m` on the maps `styleToDict` itself
  produces (`StyRT`: trimmed, lower-case, `:`/`;`-free names, trimmed `;`-free values), because every write of `styleToDict s`
  stores such a pair made of characters of `s` (`styleToDict_ind`); the operand conditions of the property writers
  (`GoodStyName`, `GoodStyVal`) keep `StyRT`; maps and renderings without `&` (`NoAmp`); `styleEq` is extensional equality of
  the maps; `style.<name>` and `getStyle` as lookups (`styleDotGet_eq`, `getStyle_eq`).
-/
import AHP.Lemmas.AttrsStr
import AHP.Lemmas.AttrsDict
namespace AHP.Attrs
open AHP

theorem findColon_some : ∀ {s a b : Str}, findColon s = some (a, b) → ':' ∉ a ∧ s = a ++ ':' :: b
  | [], a, b, h => by simp [findColon] at h
  | c :: r, a, b, h => by
    unfold findColon at h
    split at h
    · next hc =>
      simp at h
      obtain ⟨rfl, rfl⟩ := h
      subst hc
      simp
    · next hc =>
      split at h
      · cases h
      · next a' b' heq =>
        simp at h
        obtain ⟨rfl, rfl⟩ := h
        have := findColon_some heq
        refine ⟨?_, by rw [this.2]; simp⟩
        intro hm
        rcases List.mem_cons.mp hm with hm | hm
        · exact hc hm.symm
        · exact this.1 hm

theorem findColon_none_iff : ∀ {s : Str}, findColon s = none ↔ ':' ∉ s
  | [] => by simp [findColon]
  | c :: r => by
    have ih := findColon_none_iff (s := r)
    unfold findColon
    by_cases hc : c = ':'
    · simp [hc]
    · simp only [hc, if_false]
      rcases hf : findColon r with _ | ⟨a, b⟩
      · have := ih.mp hf
        simp only [true_iff]
        intro hm
        rcases List.mem_cons.mp hm with hm | hm
        · exact hc hm.symm
        · exact this hm
      · simp only [false_iff, reduceCtorEq]
        intro hn
        have : ':' ∉ r := fun m => hn (List.mem_cons_of_mem _ m)
        rw [ih.mpr this] at hf
        cases hf

theorem findColon_append_of_no_colon : ∀ {a : Str} (b : Str), ':' ∉ a → findColon (a ++ ':' :: b) = some (a, b)
  | [], b, _ => by simp [findColon]
  | c :: a, b, h => by
    have hc : ¬ c = ':' := fun e => h (by simp [e])
    have ha : ':' ∉ a := fun m => h (List.mem_cons_of_mem _ m)
    show findColon (c :: (a ++ ':' :: b)) = _
    unfold findColon
    rw [if_neg hc, findColon_append_of_no_colon b ha]

theorem allWs_no_colon {w : Str} (hw : AllWs w) : ':' ∉ w := fun m => absurd (hw ':' m) (by decide)

theorem allWs_no_semi {w : Str} (hw : AllWs w) : ';' ∉ w := fun m => absurd (hw ';' m) (by decide)

theorem styleItem_ws_append {w : Str} (hw : AllWs w) (d : AL Str) (x : Str) : styleItem d (w ++ x) = styleItem d x := by
  unfold styleItem
  rcases hf : findColon x with _ | ⟨a, b⟩
  · have h1 : ':' ∉ w ++ x := by
      intro hm
      rcases List.mem_append.mp hm with hm | hm
      · exact allWs_no_colon hw hm
      · exact findColon_none_iff.mp hf hm
    rw [findColon_none_iff.mpr h1]
  · have h2 := findColon_some hf
    have h3 : ':' ∉ w ++ a := by
      intro hm
      rcases List.mem_append.mp hm with hm | hm
      · exact allWs_no_colon hw hm
      · exact h2.1 hm
    have : findColon (w ++ x) = some (w ++ a, b) := by
      rw [h2.2, ← List.append_assoc]
      exact findColon_append_of_no_colon b h3
    rw [this]
    simp only
    rw [strip_ws_append hw]

theorem styleItem_append_ws {w : Str} (hw : AllWs w) (d : AL Str) (x : Str) : styleItem d (x ++ w) = styleItem d x := by
  unfold styleItem
  rcases hf : findColon x with _ | ⟨a, b⟩
  · have h1 : ':' ∉ x ++ w := by
      intro hm
      rcases List.mem_append.mp hm with hm | hm
      · exact findColon_none_iff.mp hf hm
      · exact allWs_no_colon hw hm
    rw [findColon_none_iff.mpr h1]
  · have h2 := findColon_some hf
    have : findColon (x ++ w) = some (a, b ++ w) := by
      rw [h2.2, List.append_assoc]
      show findColon (a ++ ':' :: (b ++ w)) = _
      exact findColon_append_of_no_colon _ h2.1
    rw [this]
    simp only
    rw [strip_append_ws hw]

/-- the loop of `styleToDict`, started from the map `d` -/
def parseItems (d : AL Str) (s : Str) : AL Str := (splitChar ';' s).foldl styleItem d

theorem styleToDict_eq (s : Str) : styleToDict s = parseItems [] (strip s) := rfl

theorem parseItems_ws_prepend {w : Str} (hw : AllWs w) (d : AL Str) (t : Str) : parseItems d (w ++ t) = parseItems d t := by
  obtain ⟨f, r, h1, h2⟩ := splitChar_prepend (allWs_no_semi hw) t
  unfold parseItems
  rw [h1, h2]
  simp only [List.foldl_cons, styleItem_ws_append hw]

theorem parseItems_append_ws {w : Str} (hw : AllWs w) (d : AL Str) (t : Str) : parseItems d (t ++ w) = parseItems d t := by
  obtain ⟨init, last, h1, h2⟩ := splitChar_append (allWs_no_semi hw) t
  unfold parseItems
  rw [h1, h2]
  simp only [List.foldl_append, List.foldl_cons, List.foldl_nil, styleItem_append_ws hw]

/-- the `styleStr.strip()` at the head of `styleToDict` is redundant: every declaration is trimmed anyway -/
theorem parseItems_strip (d : AL Str) (s : Str) : parseItems d (strip s) = parseItems d s := by
  obtain ⟨w1, w2, hw1, hw2, h⟩ := strip_decomp s
  conv => rhs; rw [h, parseItems_ws_prepend hw1, parseItems_append_ws hw2]

theorem parseItems_sep {x : Str} (hx : ';' ∉ x) (d : AL Str) (y : Str) :
    parseItems d (x ++ ';' :: y) = parseItems (styleItem d x) y := by
  unfold parseItems
  rw [splitChar_append_sep _ hx]
  rfl

theorem parseItems_single {x : Str} (hx : ';' ∉ x) (d : AL Str) : parseItems d x = styleItem d x := by
  unfold parseItems
  rw [splitChar_no_sep hx]
  rfl

/-- a declaration `_asStr` renders and `styleToDict` reads back unchanged -/
structure GoodDecl (p : Str × Str) : Prop where
  nameTrim : strip p.1 = p.1
  nameLower : lower p.1 = p.1
  nameColon : ':' ∉ p.1
  nameSemi : ';' ∉ p.1
  valTrim : strip p.2 = p.2
  valSemi : ';' ∉ p.2

/-- a map that survives the round trip through its text -/
def StyRT (m : AL Str) : Prop := (akeys m).Nodup ∧ ∀ p ∈ m, GoodDecl p

theorem declStr_no_semi {p : Str × Str} (h : GoodDecl p) : ';' ∉ declStr p := by
  unfold declStr
  intro hm
  rcases List.mem_append.mp hm with hm | hm
  · rcases List.mem_append.mp hm with hm | hm
    · exact h.nameSemi hm
    · simp at hm
  · exact h.valSemi hm

theorem styleItem_declStr {p : Str × Str} (h : GoodDecl p) (d : AL Str) : styleItem d (declStr p) = aset p.1 p.2 d := by
  unfold styleItem declStr
  have : findColon (p.1 ++ [':', ' '] ++ p.2) = some (p.1, ' ' :: p.2) := by
    have := findColon_append_of_no_colon (' ' :: p.2) h.nameColon
    simpa using this
  rw [this]
  simp only
  have : strip (' ' :: p.2) = p.2 := by
    have := strip_ws_append allWs_space p.2
    rw [h.valTrim] at this
    exact this
  rw [this, h.nameTrim, h.nameLower]

theorem parseItems_space (d : AL Str) (t : Str) : parseItems d (' ' :: t) = parseItems d t :=
  parseItems_ws_prepend allWs_space d t

theorem parseItems_join : ∀ (m : AL Str) (d : AL Str), m ≠ [] → (∀ p ∈ m, GoodDecl p) →
    parseItems d (joinWith [';', ' '] (m.map declStr)) = m.foldl (fun d p => aset p.1 p.2 d) d
  | [], _, h, _ => absurd rfl h
  | [p], d, _, hg => by
    have hp := hg p (by simp)
    simp only [List.map_cons, List.map_nil, joinWith, List.foldl_cons, List.foldl_nil]
    rw [parseItems_single (declStr_no_semi hp), styleItem_declStr hp]
  | p :: q :: m, d, _, hg => by
    have hp := hg p (by simp)
    have ih := parseItems_join (q :: m) (aset p.1 p.2 d) (by simp) (fun x hx => hg x (List.mem_cons_of_mem _ hx))
    simp only [List.map_cons, List.foldl_cons] at ih ⊢
    rw [joinWith_cons_cons]
    have : declStr p ++ [';', ' '] ++ joinWith [';', ' '] (declStr q :: List.map declStr m)
        = declStr p ++ ';' :: (' ' :: joinWith [';', ' '] (declStr q :: List.map declStr m)) := by simp
    rw [this, parseItems_sep (declStr_no_semi hp), parseItems_space, styleItem_declStr hp]
    exact ih

theorem styleToDict_asStr {m : AL Str} (h : StyRT m) : styleToDict (asStr m) = m := by
  rw [styleToDict_eq, parseItems_strip]
  by_cases hm : m = []
  · subst hm; rfl
  · unfold asStr
    rw [parseItems_join m [] hm h.2]
    simp only [aset_eq]
    exact Dict.foldl_set_fresh m [] h.1 (fun _ _ hk => nomatch hk)

theorem asStr_ne_nil {m : AL Str} (h : m ≠ []) : asStr m ≠ [] := by
  unfold asStr
  rcases m with _ | ⟨p, r⟩
  · exact absurd rfl h
  · rcases r with _ | ⟨q, r'⟩
    · simp [joinWith, declStr]
    · simp only [List.map_cons]
      rw [joinWith_cons_cons]
      simp [declStr]

/-- `styleToDict s` is a sequence of writes `d[lower (strip n)] = strip v` with `n` free of `:`, `n` and `v` free of `;`
    and made of characters of `s` -/
theorem styleToDict_ind {P : AL Str → Prop} (s : Str) (h0 : P [])
    (h : ∀ d n v, P d → ':' ∉ n → ';' ∉ n → ';' ∉ v → (∀ x ∈ n, x ∈ s) → (∀ x ∈ v, x ∈ s) →
      P (aset (lower (strip n)) (strip v) d)) : P (styleToDict s) := by
  have fold : ∀ (items : List Str) d, P d → (∀ it ∈ items, ';' ∉ it ∧ ∀ x ∈ it, x ∈ s) → P (items.foldl styleItem d) := by
    intro items
    induction items with
    | nil => intro d hd _; exact hd
    | cons it items ih =>
      intro d hd hi
      refine ih _ ?_ (fun x hx => hi x (List.mem_cons_of_mem _ hx))
      obtain ⟨hsemi, hsub⟩ := hi it (by simp)
      unfold styleItem
      rcases hf : findColon it with _ | ⟨a, b⟩
      · exact hd
      · have h2 := findColon_some hf
        have ha : ∀ x ∈ a, x ∈ it := fun x m => by rw [h2.2]; exact List.mem_append_left _ m
        have hb : ∀ x ∈ b, x ∈ it := fun x m => by rw [h2.2]; exact List.mem_append_right _ (List.mem_cons_of_mem _ m)
        exact h d a b hd h2.1 (fun m => hsemi (ha _ m)) (fun m => hsemi (hb _ m)) (fun x m => hsub x (ha x m))
          (fun x m => hsub x (hb x m))
  exact fold _ _ h0 (fun it hit => ⟨(mem_splitChar hit).1, fun x hx => mem_strip ((mem_splitChar hit).2 x hx)⟩)

theorem styRT_nil : StyRT [] := ⟨by simp [akeys], by intro p hp; cases hp⟩

theorem styRT_aset {d : AL Str} (h : StyRT d) {n v : Str} (hg : GoodDecl (n, v)) : StyRT (aset n v d) := by
  refine ⟨nodup_aset _ _ h.1, ?_⟩
  intro p hp
  rcases mem_aset hp with hp | hp
  · subst hp; exact hg
  · exact h.2 p hp

theorem styRT_adel {d : AL Str} (h : StyRT d) (n : Str) : StyRT (adel n d) :=
  ⟨nodup_adel _ h.1, fun p hp => h.2 p (mem_adel.mp hp).1⟩

theorem styRT_styleToDict (s : Str) : StyRT (styleToDict s) :=
  styleToDict_ind s styRT_nil (fun _ n v hd hc hn hv _ _ => styRT_aset hd
    ⟨by show strip (lower (strip n)) = lower (strip n); rw [strip_lower, strip_idem], lower_idem _,
     fun hm => not_mem_strip hc (mem_lower_of_punct (by decide) hm),
     fun hm => not_mem_strip hn (mem_lower_of_punct (by decide) hm), strip_idem v, not_mem_strip hv⟩)

theorem styleToDict_render_idem (s : Str) : styleToDict (asStr (styleToDict s)) = styleToDict s :=
  styleToDict_asStr (styRT_styleToDict s)

theorem styleToDict_nil : styleToDict [] = [] := by decide

/-- the style map `__setitem__('style', v)` leaves: a copy (through `str()`) of `StyleAttribute(v)` -/
def styOf (v : Option Str) : AL Str := styleToDict (asStr (styleToDict (v.getD [])))

theorem styOf_eq (v : Option Str) : styOf v = styleToDict (v.getD []) := styleToDict_render_idem _

theorem styOf_asStr {m : AL Str} (h : StyRT m) : styOf (some (asStr m)) = m := by
  rw [styOf_eq]; exact styleToDict_asStr h

/-- the name half of `GoodDecl` -/
structure GoodStyName (n : Str) : Prop where
  trim : strip n = n
  low : lower n = n
  colon : ':' ∉ n
  semi : ';' ∉ n

/-- the value half of `GoodDecl` -/
structure GoodStyVal (v : Str) : Prop where
  trim : strip v = v
  semi : ';' ∉ v

theorem styRT_write {m : AL Str} (h : StyRT m) {n : Str} (hn : GoodStyName n) {v : Option Str}
    (hv : ∀ s, v = some s → GoodStyVal s) :
    StyRT (delOrSet n (emptyVal v) (v.getD []) m) := by
  unfold delOrSet
  split
  · exact styRT_adel h n
  · next hne =>
    cases v with
    | none => simp [emptyVal] at hne
    | some s =>
      have := hv s rfl
      exact styRT_aset h ⟨hn.trim, hn.low, hn.colon, hn.semi, this.trim, this.semi⟩

def NoAmp (m : AL Str) : Prop := ∀ p ∈ m, '&' ∉ p.1 ∧ '&' ∉ p.2

theorem noAmp_nil : NoAmp [] := fun p hp => by cases hp

theorem noAmp_aset {d : AL Str} (h : NoAmp d) {n v : Str} (hn : '&' ∉ n) (hv : '&' ∉ v) : NoAmp (aset n v d) := by
  intro p hp
  rcases mem_aset hp with hp | hp
  · subst hp; exact ⟨hn, hv⟩
  · exact h p hp

theorem noAmp_adel {d : AL Str} (h : NoAmp d) (n : Str) : NoAmp (adel n d) :=
  fun p hp => h p (mem_adel.mp hp).1

theorem noAmp_styleToDict {s : Str} (h : '&' ∉ s) : NoAmp (styleToDict s) :=
  styleToDict_ind s noAmp_nil (fun _ _ _ hd _ _ _ hn hv => noAmp_aset hd
    (fun hm => h (hn _ (mem_strip (mem_lower_of_punct (by decide) hm)))) (fun hm => h (hv _ (mem_strip hm))))

theorem amp_not_mem_asStr {m : AL Str} (h : NoAmp m) : '&' ∉ asStr m := by
  unfold asStr
  refine not_mem_joinWith (by decide) _ ?_
  intro w hw
  obtain ⟨p, hp, rfl⟩ := List.mem_map.mp hw
  unfold declStr
  intro hm
  rcases List.mem_append.mp hm with hm | hm
  · rcases List.mem_append.mp hm with hm | hm
    · exact (h p hp).1 hm
    · simp at hm
  · exact (h p hp).2 hm

theorem noAmp_write {m : AL Str} (h : NoAmp m) {n : Str} (hn : '&' ∉ n) {v : Option Str}
    (hv : ∀ s, v = some s → '&' ∉ s) : NoAmp (delOrSet n (emptyVal v) (v.getD []) m) := by
  unfold delOrSet
  split
  · exact noAmp_adel h n
  · cases v with
    | none => exact noAmp_aset h hn (by simp)
    | some s => exact noAmp_aset h hn (hv s rfl)

theorem getD_no_amp {v : Option Str} (hv : ∀ s, v = some s → '&' ∉ s) : '&' ∉ v.getD [] := by
  cases v with
  | none => simp
  | some s => exact hv s rfl

theorem styleEq_iff_ext (a b : AL Str) : styleEq a b = true ↔ ∀ k, aget k a = aget k b := by
  unfold styleEq
  simp only [Bool.and_eq_true, List.all_eq_true, List.contains_iff_mem, beq_iff_eq]
  constructor
  · rintro ⟨⟨hab, hba⟩, hv⟩ k
    by_cases hk : k ∈ akeys a
    · exact hv k hk
    · have hkb : k ∉ akeys b := fun m => hk (hba k m)
      rw [aget_eq_none_iff.mpr hk, aget_eq_none_iff.mpr hkb]
  · intro h
    refine ⟨⟨?_, ?_⟩, fun k _ => h k⟩
    · intro k hk
      apply Classical.byContradiction
      intro hn
      have := aget_eq_none_iff.mpr hn
      rw [← h k] at this
      exact (aget_eq_none_iff.mp this) hk
    · intro k hk
      apply Classical.byContradiction
      intro hn
      have := aget_eq_none_iff.mpr hn
      rw [h k] at this
      exact (aget_eq_none_iff.mp this) hk

theorem styleEq_of_perm {a b : AL Str} (hp : a.Perm b) (hn : (akeys a).Nodup) : styleEq a b = true :=
  (styleEq_iff_ext a b).mpr fun k => by rw [aget_eq, aget_eq]; exact Dict.lookup_perm hp hn k

theorem styleDotGet_eq (n : Str) (e : El) : styleDotGet n e = (aget (camelToDash n) e.sty).getD [] := by
  unfold styleDotGet
  simp only
  split
  · rfl
  · next h =>
    -- no dash was produced, so the name had no upper-case letter and is its own dash name
    rw [camelToDash_of_noUpper]
    intro c hc
    cases hu : isUpper c with
    | false => rfl
    | true => exact absurd (List.contains_iff_mem.mpr (dash_mem_camelToDash hc hu)) h

theorem getStyle_eq (n : Str) (e : El) : getStyle n e = (aget (lower n) e.sty).getD [] := by
  unfold getStyle
  rw [styleDotGet_eq, camelToDash_of_noUpper (lower_noUpper n)]

end AHP.Attrs
