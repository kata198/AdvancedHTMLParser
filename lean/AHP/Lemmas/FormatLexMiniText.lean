/-
  AHP.Lemmas.FormatLexMiniText — C12b read off the OUTPUT TEXT of the mini classes: "outside pre/code/script/style
  content no text run begins or ends with a line break or contains a tab".

  Token side (independent of the formatter model): `miniCare st` — the open-element stack `st` has no pre/code element
  and its innermost element is not script/style (what the oracle `mini_text_violation` skips); `DScan st toks` — every
  data / reference token met while `miniCare` holds is a `GoodText` (neither begins nor ends with CR/LF, no tab);
  `textRuns` — the maximal runs of data and reference tokens with the stack at their position; `dscan_split`,
  `dscan_runs` read `DScan` position-wise and run-wise.

  Tree side: `DGoodL` — every data/reference block outside preserved content is a `GoodText`; it holds of what the
  mini classes write (`dgoodL_expandL`: every data block is `squeeze` of a piece; `dgoodL_mergeL`: glued blocks are
  concatenations of good texts) — adjacent data blocks in the input allowed, no `Glued` needed.  `dscanL_good`
  transfers it to the tokens.  `mini_text_core`: the document-level statement through `lexStrict`, single- and
  multi-root; the line break `getHTML` writes after the doctype line is split off by `glueDt`.
-/
import AHP.Lemmas.FormatLexPretty
namespace AHP.Fmt
open AHP

/-- neither begins nor ends with a line break (CR or LF), contains no tab; the empty text included -/
def GoodText (s : Str) : Prop := HeadOK s ∧ LastOK s ∧ NoTab s

theorem goodText_nil : GoodText [] := by
  refine ⟨?_, ?_, ?_⟩
  · intro c h; simp at h
  · intro c h; simp at h
  · intro c h; simp at h

theorem goodText_squeeze (s : Str) : GoodText (squeeze s) :=
  ⟨(squeeze_ends s).1, (squeeze_ends s).2, squeeze_noTab s⟩

theorem goodText_append (a b : Str) (ha : GoodText a) (hb : GoodText b) : GoodText (a ++ b) := by
  refine ⟨?_, ?_, ?_⟩
  · intro c hc
    cases a with
    | nil => exact hb.1 c (by simpa using hc)
    | cons x xs => exact ha.1 c (by simpa using hc)
  · intro c hc
    by_cases hbn : b = []
    · subst hbn
      exact ha.2.1 c (by simpa using hc)
    · rw [getLast?_append_ne _ _ hbn] at hc
      exact hb.2.1 c hc
  · intro c hc
    rcases List.mem_append.mp hc with h | h
    · exact ha.2.2 c h
    · exact hb.2.2 c h

theorem goodText_ref (b : Str) (hb : ∀ c ∈ b, c ≠ '\t') : GoodText ('&' :: b ++ [';']) := by
  refine ⟨?_, ?_, ?_⟩
  · intro c hc
    simp at hc; subst hc; decide
  · intro c hc
    rw [getLast?_append_ne _ _ (by simp)] at hc
    simp at hc; subst hc; decide
  · intro c hc
    rcases List.mem_append.mp hc with h | h
    · rcases List.mem_cons.mp h with rfl | h
      · decide
      · exact hb c h
    · simp at h; subst h; decide

/-- data run or reference: the tokens a text run is made of -/
def isRunTok : Token → Bool
  | .data _ => true
  | .entity _ => true
  | .charref _ => true
  | _ => false

/-- what the clause is about: no pre/code element open, and the innermost open element is not script/style -/
def miniCare (st : List Str) : Bool :=
  noPre st && !(match st with | n :: _ => isRawText n | [] => false)

/-- every data / reference token at a position where `miniCare` holds is a good text -/
def DScan : List Str → List Token → Prop
  | _, [] => True
  | st, t :: ts => (isRunTok t = true → miniCare st = true → GoodText (renderTok t)) ∧ DScan (stAfter st t) ts

theorem dscan_split : ∀ (pre : List Token) (st : List Str) (t : Token) (post : List Token),
    DScan st (pre ++ t :: post) → isRunTok t = true → miniCare (tagStack st pre) = true → GoodText (renderTok t)
  | [], st, t, post, h => by
    simp only [List.nil_append, DScan] at h
    simpa [tagStack] using h.1
  | p :: pre, st, t, post, h => by
    simp only [List.cons_append, DScan] at h
    simpa [tagStack] using dscan_split pre _ t post h.2

def flushRun (st : List Str) (acc : Str) (r : List (List Str × Str)) : List (List Str × Str) :=
  if acc.isEmpty then r else (st, acc) :: r

def textRunsAux : List Str → Str → List Token → List (List Str × Str)
  | st, acc, [] => flushRun st acc []
  | st, acc, t :: ts =>
    if isRunTok t then textRunsAux st (acc ++ renderTok t) ts
    else flushRun st acc (textRunsAux (stAfter st t) [] ts)

/-- **the text runs of a token list**: the maximal sequences of consecutive data and reference tokens, rendered and
    glued, each with the stack of open elements at its position (a start tag pushes, an end tag pops; comments and
    tags end a run) -/
def textRuns (toks : List Token) : List (List Str × Str) := textRunsAux [] [] toks

theorem stAfter_run (st : List Str) (t : Token) (h : isRunTok t = true) : stAfter st t = st :=
  stAfter_textLike st t (by cases t <;> first | rfl | simp [isRunTok] at h)

theorem dscan_runs : ∀ (toks : List Token) (st : List Str) (acc : Str), DScan st toks →
    (miniCare st = true → GoodText acc) →
    ∀ p ∈ textRunsAux st acc toks, miniCare p.1 = true → GoodText p.2
  | [], st, acc, _, hacc, p, hp, hc => by
    simp only [textRunsAux, flushRun] at hp
    split at hp
    · simp at hp
    · simp only [List.mem_singleton] at hp
      subst hp
      exact hacc hc
  | t :: ts, st, acc, h, hacc, p, hp, hc => by
    simp only [DScan] at h
    simp only [textRunsAux] at hp
    by_cases hr : isRunTok t = true
    · simp only [hr, if_true] at hp
      rw [stAfter_run st t hr] at h
      exact dscan_runs ts st _ h.2 (fun hcare => goodText_append _ _ (hacc hcare) (h.1 hr hcare)) p hp hc
    · simp only [hr, Bool.false_eq_true, if_false, flushRun] at hp
      split at hp
      · exact dscan_runs ts _ [] h.2 (fun _ => goodText_nil) p hp hc
      · rcases List.mem_cons.mp hp with e | e
        · subst e
          exact hacc hc
        · exact dscan_runs ts _ [] h.2 (fun _ => goodText_nil) p e hc

mutual
/-- every data / reference block outside preserved content is a good text -/
def DGood : FNode → Prop
  | .tok t => isRunTok t = true → GoodText (renderTok t)
  | .elem m _ _ kk => isPreserve m = true ∨ DGoodL kk
def DGoodL : List FNode → Prop
  | [] => True
  | k :: ks => DGood k ∧ DGoodL ks
end

theorem dgoodL_append (xs ys : List FNode) : DGoodL (xs ++ ys) ↔ DGoodL xs ∧ DGoodL ys := by
  induction xs with
  | nil => simp [DGoodL]
  | cons x xs ih => simp [DGoodL, ih, and_assoc]

theorem dgoodL_dataTok (s : Str) (h : GoodText s) : DGoodL (dataTok s) := by
  unfold dataTok
  split
  · trivial
  · exact ⟨fun _ => h, trivial⟩

theorem dgoodL_pushTok (t : Token) (r : List FNode) (ht : DGood (.tok t)) (hr : DGoodL r) : DGoodL (pushTok t r) := by
  unfold pushTok
  split
  · rename_i a b r'
    simp only [DGoodL, DGood] at ht hr ⊢
    exact ⟨fun _ => goodText_append a b (ht rfl) (hr.1 rfl), hr.2⟩
  · exact ⟨ht, hr⟩

mutual
theorem dgood_merge : ∀ u : FNode, DGood u → DGood (merge u)
  | .tok t, h => by simpa [merge] using h
  | .elem m st sc kk, h => by
    rcases h with h | h
    · exact Or.inl h
    · exact Or.inr (dgoodL_mergeL kk h)
theorem dgoodL_mergeL : ∀ ks : List FNode, DGoodL ks → DGoodL (mergeL ks)
  | [], _ => by simp [mergeL, DGoodL]
  | k :: ks, h => by
    have h1 := dgood_merge k h.1
    cases k with
    | tok t =>
      simp only [mergeL]
      exact dgoodL_pushTok t _ h.1 (dgoodL_mergeL ks h.2)
    | elem m st sc kk =>
      simp only [mergeL, DGoodL]
      exact ⟨h1, dgoodL_mergeL ks h.2⟩
end

theorem entCh_noTab (n : Str) (h : ∀ c ∈ n, isEntCh c = true) : ∀ c ∈ n, c ≠ '\t' := by
  intro c hc e
  subst e
  exact absurd (h _ hc) (by decide)

theorem charref_noTab (n : Str) (h : TokOK (.charref n)) : ∀ c ∈ n, c ≠ '\t' := by
  intro c hc e
  subst e
  rcases h with ⟨_, h⟩ | ⟨x, hs, rfl, hx, _, h⟩
  · exact absurd (h _ hc) (by decide)
  · rcases List.mem_cons.mp hc with e | e
    · rcases hx with hx | hx <;> (rw [hx] at e; exact absurd e (by decide))
    · exact absurd (h _ e) (by decide)

theorem dgood_ref (t : Token) (h : (FNode.tok t).Strict) (hd : isData t = false) : DGood (.tok t) := by
  intro hr
  cases t with
  | entity n =>
    simpa [renderTok] using goodText_ref n (entCh_noTab n h.1.2)
  | charref n =>
    have := goodText_ref ('#' :: n) (fun c hc => by
      rcases List.mem_cons.mp hc with rfl | hc
      · decide
      · exact charref_noTab n h.1 c hc)
    simpa [renderTok] using this
  | data s => simp [isData] at hd
  | _ => simp [isRunTok] at hr

mutual
/-- what the mini classes write in place of a block outside preserved content obeys the clause -/
theorem dgoodL_expand (cfg : Cfg) (hm : cfg.mini = true) (c : Ctx) (p : Str) (hc : c.inPre = 0)
    (hp : isPreserve p = false) : ∀ u : FNode, u.Strict → DGoodL (expand cfg c p u)
  | .tok t, h => by
    simp only [expand]
    rcases data_cases t with ⟨s, rfl⟩ | hd
    · simp only [expandTok, dataRule_sq c p s hc hp]
      exact dgoodL_dataTok _ (goodText_squeeze s)
    · rw [expandTok_nondata c p hd]
      exact ⟨dgood_ref t h hd, trivial⟩
  | .elem m st sc kk, h => by
    rw [expand_mini_elem cfg hm]
    refine ⟨?_, trivial⟩
    rcases h.elem_cases with ⟨rfl, _⟩ | ⟨rfl, hr, _⟩ | ⟨rfl, _, hpre, _⟩ | ⟨rfl, _, hpre, hpm, hk⟩
    · exact Or.inr trivial
    · exact Or.inl (rawName_preserve m hr)
    · exact Or.inl (pre_preserve m hpre)
    · exact Or.inr (dgoodL_expandL cfg hm (c.push m) m (push_inPre_zero c m hc hpre) hpm kk hk)
theorem dgoodL_expandL (cfg : Cfg) (hm : cfg.mini = true) (c : Ctx) (p : Str) (hc : c.inPre = 0)
    (hp : isPreserve p = false) : ∀ ks : List FNode, StrictL ks → DGoodL (expandL cfg c p ks)
  | [], _ => trivial
  | k :: ks, h => by
    simp only [expandL]
    rw [dgoodL_append]
    exact ⟨dgoodL_expand cfg hm c p hc hp k h.1, dgoodL_expandL cfg hm c p hc hp ks h.2⟩
end

theorem miniCare_cons (m : Str) (st : List Str) (hp : isPreserve m = false) (h : miniCare st = true) :
    miniCare (m :: st) = true := by
  obtain ⟨hpre, hr⟩ := not_preserve m hp
  simp only [miniCare, Bool.and_eq_true, Bool.not_eq_true'] at h ⊢
  exact ⟨by rw [noPre_cons, hpre, h.1]; rfl, hr⟩

theorem miniCare_noPre (st : List Str) (h : noPre st = false) : miniCare st = false := by
  simp [miniCare, h]

theorem miniCare_raw (m : Str) (st : List Str) (h : isRawText m = true) : miniCare (m :: st) = false := by
  simp [miniCare, h]

mutual
/-- below pre/code nothing is claimed -/
theorem dscanN_pre : ∀ u : FNode, u.TextLike → ∀ (st : List Str) (rest : List Token), noPre st = false →
    DScan st rest → DScan st (u.toks ++ rest)
  | .tok t, h, st, rest, hp, hr => by
    have h2 := stAfter_textLike st t h
    simp only [FNode.toks, List.cons_append, List.nil_append, DScan, h2]
    exact ⟨fun _ hc => by rw [miniCare_noPre st hp] at hc; exact absurd hc (by decide), hr⟩
  | .elem m sto sc kk, h, st, rest, hp, hr => by
    cases sc with
    | true =>
      simp only [FNode.toks, if_true, List.cons_append, List.nil_append, DScan, stAfter]
      exact ⟨fun hh => by simp [isRunTok] at hh, hr⟩
    | false =>
      simp only [FNode.toks, Bool.false_eq_true, if_false, List.cons_append, List.append_assoc, DScan, stAfter]
      refine ⟨fun hh => by simp [isRunTok] at hh, ?_⟩
      have hp' : noPre (m :: st) = false := by rw [noPre_cons, hp]; simp
      apply dscanL_pre kk h (m :: st) _ hp'
      simp only [List.nil_append, List.cons_append, DScan, stAfter, List.tail_cons]
      exact ⟨fun hh => by simp [isRunTok] at hh, hr⟩
theorem dscanL_pre : ∀ ks : List FNode, TextLikeL ks → ∀ (st : List Str) (rest : List Token), noPre st = false →
    DScan st rest → DScan st (ftoksL ks ++ rest)
  | [], _, st, rest, _, hr => by simpa [ftoksL] using hr
  | k :: ks, h, st, rest, hp, hr => by
    simp only [ftoksL, List.append_assoc]
    exact dscanN_pre k h.1 st _ hp (dscanL_pre ks h.2 st rest hp hr)
end

/-- directly inside script/style nothing is claimed (the content is data only) -/
theorem dscanL_raw (m : Str) (hm : isRawText m = true) (st : List Str) (rest : List Token) :
    ∀ (ks : List FNode) (raw : Str), rawText ks = some raw → DScan (m :: st) rest → DScan (m :: st) (ftoksL ks ++ rest)
  | [], _, _, hr => by simpa [ftoksL] using hr
  | k :: ks, raw, h, hr => by
    obtain ⟨s, r', rfl, _, hr', _⟩ := rawText_cons k ks raw h
    simp only [ftoksL, FNode.toks, List.cons_append, List.nil_append, DScan, stAfter]
    exact ⟨fun _ hc => by rw [miniCare_raw m st hm] at hc; exact absurd hc (by decide), dscanL_raw m hm st rest ks r' hr' hr⟩

mutual
theorem dscanN_good : ∀ u : FNode, u.Strict → DGood u → ∀ (st : List Str) (rest : List Token),
    miniCare st = true → DScan st rest → DScan st (u.toks ++ rest)
  | .tok t, h, hg, st, rest, _, hr => by
    have h2 := stAfter_textLike st t h.2.2
    simp only [FNode.toks, List.cons_append, List.nil_append, DScan, h2]
    exact ⟨fun hrun _ => hg hrun, hr⟩
  | .elem m sto sc kk, h, hg, st, rest, hc, hr => by
    have hend : DScan (m :: st) (Token.end_ m :: rest) := by
      simp only [DScan, stAfter, List.tail_cons]
      exact ⟨fun hh => by simp [isRunTok] at hh, hr⟩
    have hopen : ∀ X, DScan (m :: st) X → DScan st (Token.start m sto.items :: X) := fun X hX =>
      ⟨fun hh => by simp [isRunTok] at hh, hX⟩
    rcases h.elem_cases with ⟨rfl, _⟩ | ⟨rfl, hraw, _, raw, hrawt, _⟩ | ⟨rfl, _, hpre, hk⟩ | ⟨rfl, _, _, hpm, hk⟩
    · simp only [FNode.toks, if_true, List.cons_append, List.nil_append, DScan, stAfter]
      exact ⟨fun hh => by simp [isRunTok] at hh, hr⟩
    · simpa [FNode.toks] using hopen _ (dscanL_raw m hraw st _ kk raw hrawt hend)
    · have hp' : noPre (m :: st) = false := by rw [noPre_cons, hpre]; simp
      simpa [FNode.toks] using hopen _ (dscanL_pre kk (strictL_textLike _ hk) (m :: st) _ hp' hend)
    · rcases hg with hg | hg
      · rw [hpm] at hg; cases hg
      · simpa [FNode.toks] using hopen _ (dscanL_good kk hk hg (m :: st) _ (miniCare_cons m st hpm hc) hend)
theorem dscanL_good : ∀ ks : List FNode, StrictL ks → DGoodL ks → ∀ (st : List Str) (rest : List Token),
    miniCare st = true → DScan st rest → DScan st (ftoksL ks ++ rest)
  | [], _, _, st, rest, _, hr => by simpa [ftoksL] using hr
  | k :: ks, h, hg, st, rest, hc, hr => by
    simp only [ftoksL, List.append_assoc]
    exact dscanN_good k h.1 hg.1 st _ hc (dscanL_good ks h.2 hg.2 st rest hc hr)
end

/-- the line break `getHTML` writes after the doctype line, in front of the tokens of the document's blocks: glued to a
    leading data token, a data token of its own otherwise -/
def glueDt (d : Str) : List Token → List Token
  | .data b :: r => .data (d ++ b) :: r
  | r => if d.isEmpty then r else .data d :: r

theorem ftoksL_pushData (d : Str) (B : List FNode) (hB : TextLikeL B) : ftoksL (pushData d B) = glueDt d (ftoksL B) := by
  cases B with
  | nil =>
    rw [pushData_empty]
    unfold dataTok glueDt
    split <;> simp [ftoksL, FNode.toks]
  | cons k r =>
    cases k with
    | elem n st sc kids =>
      rw [pushData_elem]
      unfold dataTok
      cases sc <;> (simp only [ftoksL, FNode.toks, glueDt]; split <;> simp [ftoksL, FNode.toks])
    | tok t =>
      simp only [TextLikeL, FNode.TextLike] at hB
      cases t with
      | data b => rw [pushData_data]; simp [ftoksL, FNode.toks, glueDt]
      | entity e =>
        rw [pushData_tok _ _ rfl]; unfold dataTok
        simp only [ftoksL, FNode.toks, glueDt]; split <;> simp [ftoksL, FNode.toks]
      | charref e =>
        rw [pushData_tok _ _ rfl]; unfold dataTok
        simp only [ftoksL, FNode.toks, glueDt]; split <;> simp [ftoksL, FNode.toks]
      | comment e =>
        rw [pushData_tok _ _ rfl]; unfold dataTok
        simp only [ftoksL, FNode.toks, glueDt]; split <;> simp [ftoksL, FNode.toks]
      | _ => simp [isTextLike] at hB

/-- **C12b on the output text, token form.**  Mini class; a token sequence whose plain-parser tree is a strict document
    (single- or multi-root).  The output text lexes to the doctype declaration followed by `glueDt (the doctype's line
    break) body`, and every data / reference token of `body` outside pre/code/script/style content is a good text. -/
theorem mini_text_core (cfg : Cfg) (hm : cfg.mini = true) (hi : IndentWS cfg) (toks : List Tok)
    (h : NoWrapperStart toks) (ps : St) (hp : Plain.feed toks = .ok ps)
    (n : Str) (st : AStore) (sc : Bool) (kids : List FNode)
    (hroot : ps.root = some (FNode.elem n st sc kids).toNode) (hw : WrapperOK n st sc kids)
    (hs : (FNode.elem n st sc kids).Strict) (hdt : DtOK ps.doctype) :
    ∃ out body, format cfg toks = .ok out ∧
      lexStrict out = some (dtToks ps.doctype ++ glueDt (dtText ps.doctype) body) ∧ DScan [] body := by
  have hB := strictL_plainBlocks n st sc kids hs
  have hX : StrictL (expandL cfg ⟨0, 0⟩ wrapper (plainBlocks n st sc kids)) := strict_expandL cfg hi _ _ _ hB
  have hM : MX cfg ⟨0, 0⟩ wrapper [] (plainBlocks n st sc kids)
      = mergeL (expandL cfg ⟨0, 0⟩ wrapper (plainBlocks n st sc kids)) := by simp [MX, dataTok]
  refine ⟨_, ftoksL (MX cfg ⟨0, 0⟩ wrapper [] (plainBlocks n st sc kids)),
    format_text cfg toks h ps hp n st sc kids hroot hw hs, ?_, ?_⟩
  · rw [doc_lex_blocks cfg hi _ hdt n st sc kids hs, docToks_eq, outToksM, outBlocksM_eq,
      ftoksL_pushData _ _ (strictL_textLike _ (hM ▸ strict_mergeL _ hX))]
  · rw [hM]
    simpa using dscanL_good _ (strict_mergeL _ hX)
      (dgoodL_mergeL _ (dgoodL_expandL cfg hm ⟨0, 0⟩ wrapper rfl preserve_wrapper _ hB)) [] [] rfl trivial

end AHP.Fmt
