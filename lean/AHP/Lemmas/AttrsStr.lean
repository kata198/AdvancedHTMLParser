/-
  AHP.Lemmas.AttrsStr — string lemmas for the attribute store (C08, C09, C10), on top of Lemmas/Str.lean: the character
  classes and `validName` under `lower`, camelCase → dash names, `collapseSpaces` / `stripWordsOnly` only keep characters of
  their input, the operand conditions `CleanName` / `SpaceOnly`, `words (join " " ws) = ws` for clean names,
  `unescQ (escQ v) = v` for values without `&`, the two values of `boolString`.
-/
import AHP.Model.Attrs
import AHP.Lemmas.Str
namespace AHP.Attrs
open AHP

theorem isAlpha_lowerChar (c : Char) : isAlpha (lowerChar c) = isAlpha c := by
  by_cases h : 'A' ≤ c ∧ c ≤ 'Z'
  · have := lowerChar_upper h
    simp [isAlpha, h.1, h.2, this.1, this.2]
  · rw [lowerChar_of_not_upper h]

theorem nameChar_lowerChar (c : Char) : nameChar (lowerChar c) = nameChar c := by
  by_cases h : 'A' ≤ c ∧ c ≤ 'Z'
  · have h1 := isAlpha_lowerChar c
    have h2 : isAlpha c = true := by simp [isAlpha, h.1, h.2]
    rw [h2] at h1
    simp [nameChar, h1, h2]
  · rw [lowerChar_of_not_upper h]

theorem all_nameChar_lower : ∀ s : Str, (lower s).all nameChar = s.all nameChar
  | [] => rfl
  | c :: r => by
    have ih := all_nameChar_lower r
    unfold lower at *
    simp only [List.map_cons, List.all_cons, nameChar_lowerChar, ih]

theorem validName_lower (n : Str) : validName (lower n) = validName n := by
  rcases n with _ | ⟨c, r⟩
  · rfl
  · have h1 := all_nameChar_lower (c :: r)
    have hl : lower (c :: r) = lowerChar c :: lower r := rfl
    have hd : decide (lowerChar c = '_') = decide (c = '_') := by
      by_cases hc : c = '_'
      · subst hc; rfl
      · rw [decide_eq_false hc, decide_eq_false (fun h => hc (lowerChar_eq_punct (by decide) c h))]
    have e1 : validName (lowerChar c :: lower r) =
        ((isAlpha (lowerChar c) || decide (lowerChar c = '_')) && (lowerChar c :: lower r).all nameChar) := rfl
    have e2 : validName (c :: r) = ((isAlpha c || decide (c = '_')) && (c :: r).all nameChar) := rfl
    rw [hl, e1, e2, ← hl, h1, isAlpha_lowerChar, hd]

theorem isUpper_lowerChar (c : Char) : isUpper (lowerChar c) = false := by
  have hn : ¬ ('A' ≤ lowerChar c ∧ lowerChar c ≤ 'Z') := by
    by_cases h : 'A' ≤ c ∧ c ≤ 'Z'
    · exact not_upper_of_lower (lowerChar_upper h)
    · rwa [lowerChar_of_not_upper h]
  cases hu : isUpper (lowerChar c) with
  | false => rfl
  | true => exact absurd (by simpa [isUpper] using hu) hn

theorem lowerChar_of_noUpper {c : Char} (h : isUpper c = false) : lowerChar c = c :=
  lowerChar_of_not_upper (fun hc => by simp [isUpper, hc.1, hc.2] at h)

theorem lower_of_noUpper : ∀ {n : Str}, (∀ c ∈ n, isUpper c = false) → lower n = n
  | [], _ => rfl
  | a :: r, h => by
    show lowerChar a :: lower r = a :: r
    rw [lowerChar_of_noUpper (h a (by simp)), lower_of_noUpper (fun c hc => h c (List.mem_cons_of_mem _ hc))]

theorem lower_noUpper (n : Str) : ∀ c ∈ lower n, isUpper c = false := by
  intro c hc
  unfold lower at hc
  obtain ⟨a, _, rfl⟩ := List.mem_map.mp hc
  exact isUpper_lowerChar a

theorem camelToDash_noUpper : ∀ (n : Str), ∀ c ∈ camelToDash n, isUpper c = false
  | [], _, h => by simp [camelToDash] at h
  | a :: r, c, h => by
    unfold camelToDash at h
    split at h
    · rcases List.mem_cons.mp h with h | h
      · subst h; decide
      · rcases List.mem_cons.mp h with h | h
        · subst h; exact isUpper_lowerChar a
        · exact camelToDash_noUpper r c h
    · next hu =>
      rcases List.mem_cons.mp h with h | h
      · subst h; simpa using hu
      · exact camelToDash_noUpper r c h

theorem camelToDash_of_noUpper : ∀ {n : Str}, (∀ c ∈ n, isUpper c = false) → camelToDash n = n
  | [], _ => rfl
  | a :: r, h => by
    unfold camelToDash
    have ha : isUpper a = false := h a (by simp)
    simp only [ha, Bool.false_eq_true, if_false]
    rw [camelToDash_of_noUpper (fun c hc => h c (List.mem_cons_of_mem _ hc))]

theorem dash_mem_camelToDash : ∀ {n : Str} {c : Char}, c ∈ n → isUpper c = true → '-' ∈ camelToDash n
  | a :: r, c, hc, hu => by
    unfold camelToDash
    rcases List.mem_cons.mp hc with hc | hc
    · subst hc; simp [hu]
    · split
      · simp
      · exact List.mem_cons_of_mem _ (dash_mem_camelToDash hc hu)

theorem mem_collapseAux {x : Char} : ∀ (b : Bool) (s : Str), x ∈ collapseAux b s → x ∈ s
  | _, [], h => by simp [collapseAux] at h
  | b, c :: r, h => by
    unfold collapseAux at h
    split at h
    · split at h
      · exact List.mem_cons_of_mem _ (mem_collapseAux true r h)
      · rcases List.mem_cons.mp h with h | h
        · subst h; simp_all
        · exact List.mem_cons_of_mem _ (mem_collapseAux true r h)
    · rcases List.mem_cons.mp h with h | h
      · subst h; simp
      · exact List.mem_cons_of_mem _ (mem_collapseAux false r h)

theorem mem_stripWordsOnly {s : Str} {x : Char} (h : x ∈ stripWordsOnly s) : x ∈ s :=
  mem_strip (mem_collapseAux false _ h)

theorem mem_words {s w : Str} (h : w ∈ words s) : w ≠ [] ∧ ' ' ∉ w ∧ ∀ x ∈ w, x ∈ s := by
  unfold words at h
  rw [List.mem_filter] at h
  have := mem_splitChar h.1
  refine ⟨by simpa using h.2, this.1, fun x hx => mem_stripWordsOnly (this.2 x hx)⟩

theorem words_nil : words [] = [] := by decide

/-- a class name as the property's operands produce them: non-empty, free of white space -/
def CleanName (w : Str) : Prop := w ≠ [] ∧ ∀ c ∈ w, isWs c = false

theorem CleanName.no_space {w : Str} (h : CleanName w) : ' ' ∉ w := fun m => ne_space_of_not_ws (h.2 _ m) rfl

theorem collapseAux_cons_ne {c : Char} (h : ¬ c = ' ') (b : Bool) (r : Str) :
    collapseAux b (c :: r) = c :: collapseAux false r := by
  conv => lhs; unfold collapseAux
  simp [h]

theorem collapseAux_space_false (r : Str) : collapseAux false (' ' :: r) = ' ' :: collapseAux true r := by
  conv => lhs; unfold collapseAux
  simp

theorem collapseAux_space_true (r : Str) : collapseAux true (' ' :: r) = collapseAux true r := by
  conv => lhs; unfold collapseAux
  simp

theorem collapseAux_word {w : Str} (hw : ' ' ∉ w) (b : Bool) (r : Str) (hne : w ≠ []) :
    collapseAux b (w ++ r) = w ++ collapseAux false r := by
  induction w generalizing b with
  | nil => exact absurd rfl hne
  | cons c w ih =>
    have hc : ¬ c = ' ' := fun e => hw (by simp [e])
    have hr : ' ' ∉ w := fun m => hw (List.mem_cons_of_mem _ m)
    show collapseAux b (c :: (w ++ r)) = _
    rw [collapseAux_cons_ne hc]
    by_cases hwn : w = []
    · subst hwn; simp
    · rw [ih hr false hwn]; simp

theorem collapseAux_noSpace {w : Str} (b : Bool) (h : ' ' ∉ w) : collapseAux b w = w := by
  by_cases hw : w = []
  · subst hw; simp [collapseAux]
  · simpa [collapseAux] using collapseAux_word h b [] hw

theorem collapse_join_clean : ∀ {ws : List Str}, (∀ w ∈ ws, w ≠ [] ∧ ' ' ∉ w) → ∀ b,
    collapseAux b (joinWith [' '] ws) = joinWith [' '] ws
  | [], _, _ => by simp [joinWith, collapseAux]
  | [w], hw, b => collapseAux_noSpace b (hw w (by simp)).2
  | w :: w' :: ws, hw, b => by
    have hc := hw w (by simp)
    have ih := collapse_join_clean (ws := w' :: ws) (fun x hx => hw x (List.mem_cons_of_mem _ hx)) true
    rw [joinWith_cons_cons, List.append_assoc, collapseAux_word hc.2 b _ hc.1]
    show w ++ collapseAux false (' ' :: joinWith [' '] (w' :: ws)) = _
    rw [collapseAux_space_false, ih]
    simp

/-- splitting the rendered `class` value gives the list back (the parse ∘ render round trip of C09) -/
theorem words_join_clean {ws : List Str} (hw : ∀ w ∈ ws, CleanName w) : words (joinWith [' '] ws) = ws := by
  by_cases h : ws = []
  · subst h; exact words_nil
  · unfold words stripWordsOnly collapseSpaces
    rw [strip_join [' '] hw, collapse_join_clean (fun w hw' => ⟨(hw w hw').1, (hw w hw').no_space⟩) false,
      splitChar_join ws h (fun w hw' => (hw w hw').no_space)]
    apply List.filter_eq_self.mpr
    intro w hwm
    simpa using (hw w hwm).1

def SpaceOnly (s : Str) : Prop := ∀ c ∈ s, isWs c = true → c = ' '

theorem stripWordsOnly_noWs {w : Str} (h : ∀ c ∈ w, isWs c = false) : stripWordsOnly w = w := by
  unfold stripWordsOnly collapseSpaces
  rw [strip_noWs h]
  exact collapseAux_noSpace false (fun hm => ne_space_of_not_ws (h _ hm) rfl)

theorem noWs_of_field {s w : Str} (hs : SpaceOnly s) (hsub : ∀ c ∈ w, c ∈ s) (hsp : ' ' ∉ w) : ∀ c ∈ w, isWs c = false := by
  intro c hc
  cases hw : isWs c with
  | false => rfl
  | true =>
    have := hs c (hsub c hc) hw
    subst this
    exact absurd hc hsp

theorem spaceOnly_stripWordsOnly {s : Str} (h : SpaceOnly s) : SpaceOnly (stripWordsOnly s) :=
  fun c hc => h c (mem_stripWordsOnly hc)

theorem unescQ_cons_of_ne {c : Char} (h : c ≠ '&') (r : Str) : unescQ (c :: r) = c :: unescQ r := by
  rw [unescQ]
  intro _ hc
  exact absurd hc h

theorem unescQ_escQ : ∀ {v : Str}, '&' ∉ v → unescQ (escQ v) = v
  | [], _ => by simp [escQ, replaceQuote, unescQ]
  | c :: r, h => by
    have hc : c ≠ '&' := fun e => h (by simp [e])
    have hr : '&' ∉ r := fun m => h (List.mem_cons_of_mem _ m)
    have ih := unescQ_escQ hr
    unfold escQ at *
    unfold replaceQuote
    split
    · next hq =>
      show unescQ ('&' :: 'q' :: 'u' :: 'o' :: 't' :: ';' :: replaceQuote r) = _
      rw [unescQ, ih, hq]
    · rw [unescQ_cons_of_ne hc, ih]

theorem boolString_cases (v : Option Str) : boolString v = strTrue ∨ boolString v = strFalse := by
  cases v with
  | none => exact Or.inr rfl
  | some s =>
    by_cases h : lower s = strFalse ∨ lower s = ['0']
    · exact Or.inr (if_pos h)
    · exact Or.inl (if_neg h)

theorem boolString_idem (v : Option Str) : boolString (some (boolString v)) = boolString v := by
  rcases boolString_cases v with h | h <;> rw [h] <;> decide

end AHP.Attrs
