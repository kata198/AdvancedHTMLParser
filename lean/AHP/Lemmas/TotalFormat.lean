/-
  C03 — totality of the four formatters (`Fmt.step`/`run`/`feed`, every `Cfg`), their object across calls, and when
  their `getHTML` is defined.  Same structure as Lemmas/TotalBuilder.lean, on the formatter's own handlers, with the same names in
  the namespace `Fmt` (`fnames…` for `names…`, `step_…` / `run_…` for `stepT_…` / `runT_…`).  `Fresh` has no twin there: the plain
  parser's outer tokens leave the state as it is, the formatters' may set the doctype.
-/
import AHP.Lemmas.Format
import AHP.Lemmas.Tree
namespace AHP.Fmt
open AHP

theorem run_append (cfg : Cfg) (l1 : List Tok) : ∀ (l2 : List Tok) (sa sb : St),
    run cfg l1 sa = .ok sb → run cfg (l1 ++ l2) sa = run cfg l2 sb := by
  induction l1 with
  | nil => intro l2 sa sb h; simp [run] at h; rw [h]; rfl
  | cons x l1 ih =>
    intro l2 sa sb h
    simp only [run, List.cons_append] at h ⊢
    cases hx : step cfg sa x <;> rw [hx] at h <;> simp at h ⊢
    exact ih l2 _ sb h

def fnames (s : St) : List Str := s.stack.map (·.name)

theorem names_attach (n : Node) (fs : List Frame) (c : Option Node) :
    (attach n fs c).1.map (·.name) = fs.map (·.name) := by
  cases fs <;> simp [attach]

theorem fnames_popImplicit (s : St) : fnames (popImplicit s) = (fnames s).tail := by
  unfold popImplicit fnames
  cases hs : s.stack with
  | nil => simp [hs]
  | cons f fs => simp [names_attach]

theorem fnames_popExplicit (n : Str) (s : St) : fnames (popExplicit n s) = (fnames s).tail := by
  unfold popExplicit fnames
  cases hs : s.stack with
  | nil => simp [hs]
  | cons f fs => simp [names_attach]

theorem fnames_appendText (s : St) (v : Bool) (t : Str) : fnames (appendText s v t) = fnames s := by
  unfold appendText fnames
  cases hs : s.stack with
  | nil => simp [hs]
  | cons f fs => simp

theorem any_iff_mem (s : St) (n : Str) : s.stack.any (fun f => f.name = n) = true ↔ n ∈ fnames s := by
  simp only [List.any_eq_true, decide_eq_true_eq, fnames, List.mem_map]

/-- the `while inTag[-1].tagName != tagName` loop, with enough fuel and `n` open, stops AT the innermost `n` -/
theorem fnames_endLoop (n : Str) : ∀ (k : Nat) (s : St), (fnames s).length ≤ k → n ∈ fnames s →
    ∃ pre post, fnames s = pre ++ n :: post ∧ n ∉ pre ∧ fnames (endLoop n k s) = n :: post := by
  intro k
  induction k with
  | zero =>
    intro s hk hm
    have : fnames s = [] := List.length_eq_zero_iff.mp (Nat.le_zero.mp hk)
    rw [this] at hm; cases hm
  | succ k ih =>
    intro s hk hm
    cases hs : s.stack with
    | nil => simp [fnames, hs] at hm
    | cons f fs =>
      have hn : fnames s = f.name :: fs.map (·.name) := by simp [fnames, hs]
      by_cases hf : f.name = n
      · refine ⟨[], fs.map (·.name), by rw [hn, hf]; rfl, by simp, ?_⟩
        simp only [endLoop, hs, hf, ne_eq, not_true_eq_false, if_false]
        rw [hn, hf]
      · have hp : fnames (popImplicit s) = fs.map (·.name) := by rw [fnames_popImplicit, hn]; rfl
        have hm' : n ∈ fnames (popImplicit s) := by
          rw [hp]; rw [hn] at hm
          rcases List.mem_cons.mp hm with h | h
          · exact absurd h.symm hf
          · exact h
        have hk' : (fnames (popImplicit s)).length ≤ k := by
          rw [hp]; rw [hn] at hk; simp at hk ⊢; omega
        obtain ⟨pre, post, h1, h2, h3⟩ := ih (popImplicit s) hk' hm'
        refine ⟨f.name :: pre, post, by rw [hn, ← hp, h1]; rfl, ?_, ?_⟩
        · intro hmem
          rcases List.mem_cons.mp hmem with h | h
          · exact hf h.symm
          · exact h2 h
        · simp only [endLoop, hs, ne_eq, hf, not_false_eq_true, if_true]
          exact h3

theorem fnames_handleEnd (s : St) (n : Str) :
    (n ∉ fnames s ∧ handleEnd s n = s) ∨
    (∃ pre post, fnames s = pre ++ n :: post ∧ n ∉ pre ∧ fnames (handleEnd s n) = post) := by
  unfold handleEnd
  by_cases h : s.stack.any (fun f => f.name = n) = true
  · right
    simp only [h, Bool.not_true, Bool.false_eq_true, if_false]
    obtain ⟨pre, post, h1, h2, h3⟩ := fnames_endLoop n s.stack.length s (by simp [fnames]) ((any_iff_mem s n).mp h)
    exact ⟨pre, post, h1, h2, by rw [fnames_popExplicit, h3]; rfl⟩
  · left
    have h' : s.stack.any (fun f => f.name = n) = false := by simpa using h
    simp only [h', Bool.not_false, if_true]
    exact ⟨fun hm => h ((any_iff_mem s n).mpr hm), trivial⟩

/-! ### the shape all handlers of the formatters share: ok or MultipleRootNodeException -/

/-- A handler raises only with nothing open.  When it accepts, the open names stay as they are, gain one in front,
    or the token is an end tag. -/
theorem step_cases (cfg : Cfg) (s : St) (t : Tok) :
    (step cfg s t = .error .multipleRoot ∧ s.stack = []) ∨
    ∃ s', step cfg s t = .ok s' ∧
      (fnames s' = fnames s ∨ (∃ n, fnames s' = n :: fnames s) ∨ ∃ n, t = .end_ n ∧ s' = handleEnd s n) := by
  have hstart : ∀ n a sc, (handleStartK cfg cfg.kind s n a sc = .error .multipleRoot ∧ s.stack = []) ∨
      ∃ s', handleStartK cfg cfg.kind s n a sc = .ok s' ∧ (fnames s' = fnames s ∨ ∃ m, fnames s' = m :: fnames s) := by
    intro n a sc
    unfold handleStartK
    by_cases h : (!s.noRoot && s.stack.isEmpty) = true
    · exact Or.inl ⟨if_pos h, List.isEmpty_iff.mp (Bool.and_eq_true_iff.mp h).2⟩
    · rw [if_neg h]
      by_cases h2 : (sc || isVoid (lower n)) = true
      · exact Or.inr ⟨_, if_pos h2, Or.inl (names_attach _ _ _)⟩
      · exact Or.inr ⟨_, if_neg h2, Or.inr ⟨lower n, rfl⟩⟩
  have hverb : ∀ x, (handleVerbatim s x = .error .multipleRoot ∧ s.stack = []) ∨
      ∃ s', handleVerbatim s x = .ok s' ∧ fnames s' = fnames s := by
    intro x
    unfold handleVerbatim
    by_cases h : s.stack.isEmpty = true
    · exact Or.inl ⟨if_pos h, List.isEmpty_iff.mp h⟩
    · exact Or.inr ⟨_, if_neg h, fnames_appendText _ _ _⟩
  have lift : ∀ {r : Except Err St}, ((r = .error .multipleRoot ∧ s.stack = []) ∨ ∃ s', r = .ok s' ∧ fnames s' = fnames s) →
      (r = .error .multipleRoot ∧ s.stack = []) ∨ ∃ s', r = .ok s' ∧
        (fnames s' = fnames s ∨ (∃ n, fnames s' = n :: fnames s) ∨ ∃ n, t = .end_ n ∧ s' = handleEnd s n) :=
    fun h => h.imp id (fun ⟨s', h1, h2⟩ => ⟨s', h1, Or.inl h2⟩)
  cases t with
  | start n a =>
    simp only [step, startHandler_eq]
    exact (hstart n a false).imp id (fun ⟨s', h1, h2⟩ => ⟨s', h1, h2.imp id Or.inl⟩)
  | startend n a =>
    simp only [step, startHandler_eq]
    exact (hstart n a true).imp id (fun ⟨s', h1, h2⟩ => ⟨s', h1, h2.imp id Or.inl⟩)
  | end_ n => exact Or.inr ⟨_, rfl, Or.inr (Or.inr ⟨n, rfl, rfl⟩)⟩
  | decl d => exact Or.inr ⟨_, rfl, Or.inl rfl⟩
  | unknownDecl d => exact Or.inr ⟨_, rfl, Or.inl (by split <;> rfl)⟩
  | pi d => exact Or.inr ⟨_, rfl, Or.inl rfl⟩
  | entity e => exact lift (hverb _)
  | charref e => exact lift (hverb _)
  | comment e => exact lift (hverb _)
  | data d =>
    apply lift
    simp only [step, handleData]
    split
    · exact Or.inr ⟨_, rfl, rfl⟩
    · split
      · exact Or.inr ⟨_, rfl, fnames_appendText _ _ _⟩
      · rename_i hs
        split
        · exact Or.inr ⟨_, rfl, rfl⟩
        · exact Or.inl ⟨rfl, hs⟩

theorem step_ok_or_multipleRoot (cfg : Cfg) (s : St) (t : Tok) :
    (∃ s', step cfg s t = .ok s') ∨ step cfg s t = .error .multipleRoot :=
  (step_cases cfg s t).elim (fun h => Or.inr h.1) (fun ⟨s', h, _⟩ => Or.inl ⟨s', h⟩)

theorem run_ok_or_multipleRoot (cfg : Cfg) (ts : List Tok) : ∀ s : St,
    (∃ s', run cfg ts s = .ok s') ∨ run cfg ts s = .error .multipleRoot := by
  induction ts with
  | nil => intro s; exact Or.inl ⟨s, rfl⟩
  | cons t ts ih =>
    intro s
    rcases step_ok_or_multipleRoot cfg s t with ⟨s', h⟩ | h
    · simp only [run, h]; exact ih s'
    · right; simp [run, h]

theorem run_keeps (cfg : Cfg) {P : St → Prop} {Q : Tok → Prop}
    (hstep : ∀ s t, P s → Q t → ∃ s', step cfg s t = .ok s' ∧ P s') :
    ∀ (ts : List Tok) (s : St), P s → (∀ t ∈ ts, Q t) → ∃ s', run cfg ts s = .ok s' ∧ P s' := by
  intro ts
  induction ts with
  | nil => intro s h _; exact ⟨s, rfl, h⟩
  | cons t ts ih =>
    intro s h hq
    obtain ⟨s1, h1, p1⟩ := hstep s t h (hq t List.mem_cons_self)
    obtain ⟨s2, h2, p2⟩ := ih s1 p1 (fun x hx => hq x (List.mem_cons_of_mem _ hx))
    exact ⟨s2, by simp only [run, h1]; exact h2, p2⟩

/-! ### `Bottom w`: the outermost open element is called `w` -/

def Bottom (w : Str) (s : St) : Prop := (fnames s).getLast? = some w

theorem Bottom.stack_ne {w : Str} {s : St} (h : Bottom w s) : s.stack ≠ [] := by
  intro e
  unfold Bottom fnames at h
  rw [e] at h; simp at h

theorem bottom_handleEnd {w : Str} {s : St} (h : Bottom w s) (n : Str) (hne : n ≠ w) :
    Bottom w (handleEnd s n) := by
  rcases fnames_handleEnd s n with ⟨_, he⟩ | ⟨pre, post, h1, _, h3⟩
  · rw [he]; exact h
  · unfold Bottom at *
    rw [h3]; rw [h1] at h
    exact AHP.getLast?_split w n hne pre post h

theorem step_bottom (cfg : Cfg) {w : Str} {s : St} (h : Bottom w s) (t : Tok) (ht : t ≠ .end_ w) :
    ∃ s', step cfg s t = .ok s' ∧ Bottom w s' := by
  rcases step_cases cfg s t with ⟨_, he⟩ | ⟨s', hs, hc⟩
  · exact absurd he h.stack_ne
  · refine ⟨s', hs, ?_⟩
    rcases hc with e | ⟨n, e⟩ | ⟨n, rfl, rfl⟩
    · unfold Bottom; rw [e]; exact h
    · unfold Bottom; rw [e]; exact AHP.getLast?_cons_of_some _ _ _ h
    · exact bottom_handleEnd h n (fun e => ht (by rw [e]))

theorem run_bottom (cfg : Cfg) {w : Str} (ts : List Tok) {s : St} (h : Bottom w s) (hw : ∀ t ∈ ts, t ≠ .end_ w) :
    ∃ s', run cfg ts s = .ok s' ∧ Bottom w s' :=
  run_keeps cfg (fun _ t h ht => step_bottom cfg h t ht) ts s h hw

/-- blank text, declarations, processing instructions, end tags -/
def isOuterTok : Tok → Bool
  | .data d => d.isEmpty || (pyStrip d).isEmpty
  | .decl _ => true
  | .unknownDecl _ => true
  | .pi _ => true
  | .end_ _ => true
  | _ => false

theorem step_outer_empty (cfg : Cfg) (s : St) (he : s.stack = []) (t : Tok) (ho : isOuterTok t = true) :
    ∃ s', step cfg s t = .ok s' ∧ s'.stack = [] ∧ s'.closed = s.closed := by
  cases t with
  | end_ n => exact ⟨s, by simp [step, handleEnd, he], he, rfl⟩
  | decl d => exact ⟨_, rfl, he, rfl⟩
  | unknownDecl d => exact ⟨_, rfl, by split <;> exact he, by split <;> rfl⟩
  | pi d => exact ⟨_, rfl, he, rfl⟩
  | data d =>
    simp only [isOuterTok, Bool.or_eq_true] at ho
    by_cases hd : d.isEmpty = true
    · exact ⟨s, by simp [step, handleData, hd], he, rfl⟩
    · exact ⟨s, by simp [step, handleData, hd, he, ho.resolve_left hd], he, rfl⟩
  | _ => cases ho

theorem step_outer_ok (cfg : Cfg) (s : St) (t : Tok) (ho : isOuterTok t = true) : ∃ s', step cfg s t = .ok s' := by
  rcases step_cases cfg s t with ⟨_, he⟩ | ⟨s', h, _⟩
  · exact (step_outer_empty cfg s he t ho).imp fun _ h => h.1
  · exact ⟨s', h⟩

theorem run_outer_ok (cfg : Cfg) (ts : List Tok) (s : St) (h : ∀ t ∈ ts, isOuterTok t = true) :
    ∃ s', run cfg ts s = .ok s' :=
  (run_keeps cfg (P := fun _ => True) (fun s t _ ho => (step_outer_ok cfg s t ho).imp fun _ h => ⟨h, trivial⟩) ts s
    trivial h).imp fun _ h => h.1

def Fresh (s : St) : Prop := s.stack = [] ∧ s.closed = none

theorem run_outer_fresh (cfg : Cfg) (ts : List Tok) (s : St) (hf : Fresh s) (h : ∀ t ∈ ts, isOuterTok t = true) :
    ∃ s', run cfg ts s = .ok s' ∧ Fresh s' :=
  run_keeps cfg (fun s t hf ho => (step_outer_empty cfg s hf.1 t ho).imp fun _ h => ⟨h.1, h.2.1, h.2.2.trans hf.2⟩)
    ts s hf h

/-- **the general wrapped pass** of every formatter class: outer tokens, the wrapper's start tag, ANY tokens
    without the wrapper's end tag, outer tokens (the closing end tag is one) — never MultipleRootNodeException -/
theorem run_wrapped_general (cfg : Cfg) (pre ts post : List Tok) (a : List (Str × Option Str))
    (hpre : ∀ t ∈ pre, isOuterTok t = true) (hw : ∀ t ∈ ts, t ≠ .end_ wrapper)
    (hpost : ∀ t ∈ post, isOuterTok t = true) :
    ∃ s', run cfg (pre ++ .start wrapper a :: (ts ++ post)) {} = .ok s' := by
  obtain ⟨s0, h0, hf0⟩ := run_outer_fresh cfg pre {} ⟨rfl, rfl⟩ hpre
  rw [run_append cfg pre _ _ _ h0]
  have hstart : ∃ s1, step cfg s0 (.start wrapper a) = .ok s1 ∧ Bottom wrapper s1 := by
    simp only [step, startHandler_eq]
    unfold handleStartK
    have hnr : s0.noRoot = true := by simp [St.noRoot, hf0.1, hf0.2]
    simp only [hnr, Bool.not_true, Bool.false_and, Bool.false_eq_true, if_false, wrapper_lower, wrapper_not_void,
      Bool.or_false]
    exact ⟨_, rfl, by simp [Bottom, fnames, hf0.1]⟩
  obtain ⟨s1, hs1, hb⟩ := hstart
  obtain ⟨s2, h2, _⟩ := run_bottom cfg ts hb hw
  obtain ⟨s3, h3⟩ := run_outer_ok cfg post s2 hpost
  refine ⟨s3, ?_⟩
  simp only [run, hs1]
  rw [run_append cfg ts post s1 s2 h2]; exact h3

theorem doctypeLead_blank (s : Str) (h : doctypeLead s = true) : (pyStrip s).isEmpty = true :=
  wsNL_isBlank s ((wsNL_eq_doctypeLead s).trans h)

theorem wrapToks_shape (toks : List Tok) : ∃ pre r, toks = pre ++ r ∧ (∀ t ∈ pre, isOuterTok t = true) ∧
    wrapToks toks = pre ++ .start wrapper [] :: (r ++ [.end_ wrapper]) := by
  unfold wrapToks
  simp only
  split
  · rename_i d rest
    split
    · exact ⟨[.decl d], rest, rfl, by simp [isOuterTok], rfl⟩
    · exact ⟨[], _, rfl, by simp, rfl⟩
  · rename_i s d rest
    split
    · rename_i hc
      simp only [Bool.and_eq_true] at hc
      refine ⟨[.data s, .decl d], rest, rfl, ?_, rfl⟩
      intro t ht
      simp at ht
      rcases ht with rfl | rfl
      · simp [isOuterTok, doctypeLead_blank s hc.1]
      · simp [isOuterTok]
    · exact ⟨[], _, rfl, by simp, rfl⟩
  · exact ⟨[], _, rfl, by simp, rfl⟩

theorem St.reset_eq_init (s : St) : s.reset = {} := rfl

theorem runS_ok (cfg : Cfg) (ts : List Tok) : ∀ s s' : St, run cfg ts s = .ok s' → runS cfg ts s = (s', none) := by
  induction ts with
  | nil => intro s s' h; simp [run] at h; simp [runS, h]
  | cons t ts ih =>
    intro s s' h
    simp only [runS, run] at h ⊢
    cases hs : step cfg s t <;> rw [hs] at h <;> simp at h ⊢
    exact ih _ _ h

theorem runS_error (cfg : Cfg) (ts : List Tok) : ∀ (s : St) (e : Err), run cfg ts s = .error e →
    (runS cfg ts s).2 = some e := by
  induction ts with
  | nil => intro s e h; simp [run] at h
  | cons t ts ih =>
    intro s e h
    simp only [runS, run] at h ⊢
    cases hs : step cfg s t <;> rw [hs] at h <;> simp at h ⊢
    · exact h
    · exact ih _ _ h

def asExcept (r : St × Option Err) : Except Err St :=
  match r.2 with
  | none => .ok r.1
  | some e => .error e

theorem runS_asExcept (cfg : Cfg) (ts : List Tok) (s : St) : asExcept (runS cfg ts s) = run cfg ts s := by
  cases h : run cfg ts s with
  | ok s' => rw [runS_ok cfg ts s s' h]; rfl
  | error e => have := runS_error cfg ts s e h; simp [asExcept, this]

theorem feedS_init (cfg : Cfg) (toks : List Tok) : asExcept (feedS cfg {} toks) = feed cfg toks := by
  unfold feedS feed
  cases h : run cfg toks {} with
  | ok s' => rw [runS_ok cfg toks _ s' h]; rfl
  | error e =>
    rw [pair_eta _ _ (runS_error cfg toks {} e h)]
    cases e with
    | multipleRoot => simp only [St.reset_eq_init]; exact runS_asExcept cfg _ _
    | noRoot => rfl

theorem rootOfStack_none (fs : List Frame) (c : Option Node) : rootOfStack fs c = none ↔ fs = [] ∧ c = none := by
  cases fs with
  | nil => simp [rootOfStack]
  | cons f fs => simp [rootOfStack]

theorem root_none_iff (s : St) : s.root = none ↔ s.noRoot = true := by
  unfold St.root St.noRoot
  rw [rootOfStack_none]
  cases s.stack <;> cases s.closed <;> simp

theorem docHTML_some (dt : Option Str) (r : Node) : ∃ str, docHTML dt (some r) = .ok str :=
  ⟨_, docHTML_eq_flat dt r⟩

end AHP.Fmt
