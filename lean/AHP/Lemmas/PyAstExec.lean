/-
  The interpreter of `Model/PyAst.lean` in the form the code ties use it: statements and expressions one at a time, for an
  arbitrary context and an arbitrary environment of which only `env.lookup x = some v` for the variables read is assumed (so that
  no fact depends on where a variable sits in the environment).  The converters of conversions.py, the parsers' handlers and every loop are taken that way; the short methods
  of the classes are evaluated as a whole by `simp`, on the object `__init__` creates.  The early-return shape `if c: return …` in
  front of the rest (`execL_guard`) turns a body into a nested `if`; a `for` loop is taken by an invariant on the items that remain
  (`forLoop_inv`); functions and methods are found by name in the table of those defined before them (`table_at`); the primitives
  have one equation per name the dumps use; the dicts, lists and sets of the hand models sit inside the interpreter's through any
  embedding that keeps `==` (`Faithful`).  Five of the statement lemmas (`execL_cons_next`, `tryS_next`, `seqItem_*`) stand in a block
  `namespace AHP.PyAstParser`: the parser ties were the first to use them and the documents cite them under those names.
-/
import AHP.Model.PyAst
import AHP.Lemmas.Dict
import AHP.Lemmas.PyAstSimp
namespace AHP.PyAst
open AHP AHP.Gen AHP.Conv

theorem assocSet_eq {α : Type} : @assocSet α = Dict.set := by
  funext l x v
  induction l with
  | nil => rfl
  | cons p r ih => rw [assocSet, Dict.set, ih]

theorem lookup_assocSet_eq {α : Type} (l : List (String × α)) (x : String) (v : α) :
    (assocSet l x v).lookup x = some v := by
  rw [assocSet_eq]; exact Dict.lookup_set_self ..

theorem lookup_assocSet_ne {α : Type} (l : List (String × α)) (x z : String) (v : α) (hz : z ≠ x) :
    (assocSet l x v).lookup z = l.lookup z := by
  rw [assocSet_eq]; exact Dict.lookup_set_ne hz ..

/-- both cases at once, for `simp` (which decides `z = x` on literals) -/
theorem lookup_assocSet {α : Type} (l : List (String × α)) (x z : String) (v : α) :
    (assocSet l x v).lookup z = if z = x then some v else l.lookup z := by
  rw [assocSet_eq]; exact Dict.lookup_set ..

theorem assocSet_assocSet {α : Type} (l : List (String × α)) (x : String) (v w : α) :
    assocSet (assocSet l x v) x w = assocSet l x w := by
  rw [assocSet_eq]; exact Dict.set_set_self ..

theorem assocSet_self {α : Type} (l : List (String × α)) (x : String) (v : α) (h : l.lookup x = some v) :
    assocSet l x v = l := by
  rw [assocSet_eq]; exact Dict.set_eq_self h

-- `execS.eq_k` is the equation of the `k`-th constructor of `Stmt`: 1–7 `pass`, `assign`, `expr`, `ret`, `raise`, `ifS`, `tryS`;
-- 10–15 `brk`, `cont`, `fieldCall`, `setAttr`, `setItem`, `delItem`.  8 and 9 (`whileS`, `forS`) are left out on purpose: with them in
-- the set `simp` would unfold a loop that one of the loop lemmas is to rewrite as a whole.  16 on (`varCall`, `alias`, …) are not in
-- the sets either; a proof about a body with such statements and no loop left in it passes `execS` itself beside the set.
attribute [py_stmts, py_straight] execS.eq_1 execS.eq_2 execS.eq_3 execS.eq_4 execS.eq_5 execS.eq_6 execS.eq_7 execS.eq_10
  execS.eq_11 execS.eq_12 execS.eq_13 execS.eq_14 execS.eq_15 execL execH
attribute [py_straight] eval evalList List.lookup Val.truthy truthy Lit.toPy resultOf

/-- how a `return` of the result `r` ends a statement list -/
def retOf : Except PyErr Val → Res
  | .ok v => .ret v
  | .error e => .exc e

theorem resultOf_retOf (r : Except PyErr Val) : resultOf (retOf r) = r := by cases r <;> rfl
/-- the form to rewrite with (`exact resultOf_retOf _` makes the unifier look for `r` by evaluating the hand model) -/
theorem resultOf_snd_retOf (env : Env) (r : Except PyErr Val) : resultOf (env, retOf r).2 = r := resultOf_retOf r

theorem execL_ret (cx : Ctx) (env : Env) (e : Expr) (ss : List Stmt) :
    execL cx env (.ret e :: ss) = (env, retOf (eval cx env e)) := by
  rw [execL, execS]; cases eval cx env e <;> rfl

theorem eval_var {cx : Ctx} {env : Env} {x : String} {v : Val} (h : env.lookup x = some v) : eval cx env (.var x) = .ok v := by
  rw [eval, h]

theorem execL_nil (cx : Ctx) (env : Env) : execL cx env [] = (env, .next) := by rw [execL]

theorem truthy_bool (b : Bool) : (Val.py (.bool b)).truthy = b := rfl

theorem execL_assignV {cx : Ctx} {env : Env} {x : String} {e : Expr} {v : Val} {ss : List Stmt}
    (h : eval cx env e = .ok v) (hm : v.mutable = false) : execL cx env (.assign x e :: ss) = execL cx (assocSet env x v) ss := by
  simp only [execL, execS, h, aliasOK, hm, Bool.not_false, Bool.true_or, if_true]

/-- `x = e` for an expression giving a model value (never a mutable object) -/
theorem execL_assign {cx : Ctx} {env : Env} {x : String} {e : Expr} {p : PyV} {ss : List Stmt}
    (h : eval cx env e = .ok (.py p)) : execL cx env (.assign x e :: ss) = execL cx (assocSet env x (.py p)) ss :=
  execL_assignV h rfl

theorem execS_ifS {cx : Ctx} {env : Env} {c : Expr} {t f : List Stmt} {b : Bool} (hc : eval cx env c = .ok (.py (.bool b))) :
    execS cx env (.ifS c t f) = if b then execL cx env t else execL cx env f := by
  rw [execS, hc]; rfl

theorem execL_single (cx : Ctx) (env : Env) (s : Stmt) : execL cx env [s] = execS cx env s := by
  rw [execL]; split
  · rw [execL_nil]; exact Eq.symm ‹_›
  · rfl

theorem evalList_cons {cx : Ctx} {env : Env} {a : Expr} {as : List Expr} {v : Val} {vs : List Val}
    (h : eval cx env a = .ok v) (hs : evalList cx env as = .ok vs) : evalList cx env (a :: as) = .ok (v :: vs) := by
  rw [evalList, h, hs]

theorem eval_avar {cx : Ctx} {env : Env} {x o f : String} {fs : List (String × Field)} {fv : Field}
    (hx : env.lookup x = some (.ref o f)) (ho : env.lookup o = some (.obj fs)) (hf : fs.lookup f = some fv) :
    eval cx env (.avar x) = .ok fv.toVal := by
  simp only [eval, hx, getField, ho, hf]

theorem execS_alias {cx : Ctx} {env : Env} (x : String) {o f : String} {fs : List (String × Field)} {fv : Field}
    (ho : env.lookup o = some (.obj fs)) (hf : fs.lookup f = some fv) :
    execS cx env (.alias x o f) = (assocSet env x (.ref o f), .next) := by
  simp only [execS, getField, ho, hf]

/-- `raise Exc(args…)`: the arguments are evaluated, then dropped (an exception is its class) -/
theorem execS_raise {cx : Ctx} {env : Env} {X : String} {args : List Expr} {vs : List Val} (h : evalList cx env args = .ok vs) :
    execS cx env (.raise (.callv (.excClass X) args)) = (env, .exc (excOf X)) := by
  simp only [execS, eval, h, callValue, raiseOf]

/-- `if c: <a block that returns>` in front of the rest of a body; the test may give any value (`a and b` gives `a` when `a` is
falsy) -/
theorem execL_guard {cx : Ctx} {env : Env} {c : Expr} {t ss : List Stmt} {x : Val} {r : Except PyErr Val}
    (hc : eval cx env c = .ok x) (ht : execL cx env t = (env, retOf r)) :
    execL cx env (.ifS c t [] :: ss) = if x.truthy then (env, retOf r) else execL cx env ss := by
  rw [execL, execS, hc]
  cases h : x.truthy
  · simp only [h, Bool.false_eq_true, if_false, execL_nil]
  · simp only [h, if_true, ht]; cases r <;> rfl

/-! statement lists one statement at a time, so that a prepared fact about a statement is used before it unfolds -/

theorem execL_cons_ret {cx : Ctx} {env env' : Env} {v : Val} {s : Stmt} {ss : List Stmt} (h : execS cx env s = (env', .ret v)) :
    execL cx env (s :: ss) = (env', .ret v) := by simp only [execL, h]
theorem execL_cons_exc {cx : Ctx} {env env' : Env} {e : PyErr} {s : Stmt} {ss : List Stmt} (h : execS cx env s = (env', .exc e)) :
    execL cx env (s :: ss) = (env', .exc e) := by simp only [execL, h]
theorem tryS_ret {cx : Ctx} {env env' : Env} {v : Val} {body : List Stmt} {hs : List Handler}
    (h : execL cx env body = (env', .ret v)) : execS cx env (.tryS body hs) = (env', .ret v) := by simp only [execS, h]

/-- what a `for` over the variable `it` checks after every iteration: `it` still holds the list it held at the start -/
def sameList (cx : Ctx) (it : String) (vs : List PyV) (env : Env) : Bool :=
  !(Val.list vs).mutable || !(Expr.var it).isVar || decide (eval cx env (.var it) = .ok (.list vs))

theorem sameList_of_lookup {cx : Ctx} {it : String} {vs : List PyV} {env : Env} (h : env.lookup it = some (.list vs)) :
    sameList cx it vs env = true := by
  simp [sameList, eval, h]

theorem execS_forVar {cx : Ctx} {env : Env} {x it : String} {body : List Stmt} {vs : List PyV}
    (h : env.lookup it = some (.list vs)) :
    execS cx env (.forS x (.var it) body)
      = forLoop (fun env v => assocSet env x v) (fun env => execL cx env body) (sameList cx it vs) (vs.map .py) env := by
  rw [execS, eval_var h]
  simp only [iterItems, Expr.isVar, Bool.or_true, Bool.true_or, if_true]
  rfl

/-- `P xs env` holds before the items `xs` are run from `env`: it says of the state now what the model still has to do with `xs`.
The run of the body is a hypothesis with its result named, not a `match` on the run in the goal: tactics that look at the goal
would start evaluating the interpreter. -/
theorem forLoop_inv {α : Type} (emb : α → Val) {bind : Env → Val → Env} {body : Env → Env × Res} {same : Env → Bool}
    (P : List α → Env → Prop) (R : Res) (Post : Env → Prop) (hnil : ∀ env, P [] env → R = .next ∧ Post env)
    (hcons : ∀ a as env, P (a :: as) env → ∃ env' r, body (bind env (emb a)) = (env', r) ∧
      match r with
      | .next | .cont => same env' = true ∧ P as env'
      | .brk => R = .next ∧ Post env'
      | r => R = r ∧ Post env') :
    ∀ xs env, P xs env → ∃ env', forLoop bind body same (xs.map emb) env = (env', R) ∧ Post env'
  | [], env, h => ⟨env, (hnil env h).1 ▸ rfl, (hnil env h).2⟩
  | a :: as, env, h => by
    obtain ⟨env', r, hb, this⟩ := hcons a as env h
    rw [List.map_cons, forLoop, hb]
    cases r <;> simp only at this ⊢ <;>
      first | exact ⟨env', this.1 ▸ rfl, this.2⟩
            | (rw [this.1, if_pos rfl]; exact forLoop_inv emb P R Post hnil hcons as env' this.2)

end AHP.PyAst

namespace AHP.PyAstParser
open AHP.PyAst

theorem execL_cons_next (cx : Ctx) (env env' : Env) (s : Stmt) (ss : List Stmt) (h : execS cx env s = (env', .next)) :
    execL cx env (s :: ss) = execL cx env' ss := by simp only [execL, h]
theorem tryS_next (cx : Ctx) (env env' : Env) (body : List Stmt) (hs : List Handler) (h : execL cx env body = (env', .next)) :
    execS cx env (.tryS body hs) = (env', .next) := by simp only [execS, h]

theorem seqItem_last {α : Type} (l : List α) (a : α) : seqItem (l ++ [a]) (-1) = some a := by
  simp only [seqItem, List.length_append, List.length_cons, List.length_nil]
  have h1 : ((-1 : Int) < 0) := by decide
  simp only [h1, if_true]
  have h2 : ¬ ((-1 : Int) + ((l.length + (0 + 1) : Nat) : Int) < 0) := by omega
  simp only [h2, if_false]
  have h3 : ((-1 : Int) + ((l.length + (0 + 1) : Nat) : Int)).toNat = l.length := by omega
  rw [h3]
  simp

theorem seqItem_nil_last {α : Type} : seqItem ([] : List α) (-1) = none := by
  simp [seqItem]

theorem seqItem_nat {α : Type} (l : List α) (k : Nat) : seqItem l (Int.ofNat k) = l[k]? := by
  simp only [seqItem]
  have h1 : ¬ (Int.ofNat k < 0) := by simp
  simp only [h1, if_false]
  simp

end AHP.PyAstParser

namespace AHP.PyAst
open AHP AHP.Gen AHP.Conv

theorem eval_callk {cx : Ctx} {env : Env} {f : String} {args : List Expr} {kws : List String} {kwvals : List Expr}
    {g : List Val → List (String × Val) → Except PyErr Val} {vs kvs : List Val}
    (ha : evalList cx env args = .ok vs) (hk : evalList cx env kwvals = .ok kvs) (hl : kws.length = kvs.length)
    (hf : cx.funs f = some g) :
    eval cx env (.callk f args kws kwvals) = g vs (kws.zip kvs) := by
  rw [eval, ha]
  simp only [hk, hl, hf, if_true]

theorem bindArgs_pos (cx : Ctx) : ∀ (ps : List (String × Option Expr)) (vs : List Val), ps.length = vs.length →
    bindArgs cx ps vs [] = some (.ok ((ps.map Prod.fst).zip vs))
  | [], [], _ => rfl
  | (x, d) :: ps, v :: vs, h => by
    rw [bindArgs, bindArgs_pos cx ps vs (by simpa using h)]; rfl

theorem run_pos {cx : Ctx} {f : Fun} {vs : List Val} (h : f.params.length = vs.length) :
    run cx f vs = resultOf (execL cx ((f.params.map Prod.fst).zip vs) f.body).2 := by
  rw [run, runKw, bindArgs_pos cx _ _ h]

theorem bindArgs_default (cx : Ctx) (x : String) (d : Expr) (v : Val) (hd : eval cx [] d = .ok v) :
    ∀ (ps : List (String × Option Expr)) (vs : List Val), ps.length = vs.length →
    bindArgs cx (ps ++ [(x, some d)]) vs [] = bindArgs cx (ps ++ [(x, some d)]) (vs ++ [v]) []
  | [], [], _ => by simp only [List.nil_append, bindArgs, List.lookup, hd, Option.isSome, Bool.false_eq_true, if_false]
  | (y, e) :: ps, w :: vs, h => by
    simp only [List.cons_append, bindArgs, bindArgs_default cx x d v hd ps vs (by simpa using h)]

theorem run_default {cx : Ctx} {f : Fun} {vs : List Val} (x : String) (d : Expr) {v : Val}
    (hp : f.params = f.params.dropLast ++ [(x, some d)]) (hl : f.params.length = vs.length + 1) (hd : eval cx [] d = .ok v) :
    run cx f vs = run cx f (vs ++ [v]) := by
  rw [run, run, runKw, runKw, hp, bindArgs_default cx x d v hd _ _ (by rw [List.length_dropLast, hl]; rfl)]

theorem runMeth_of {cx : Ctx} {f : Fun} {self : List (String × Field)} {args : List Val} (s : String) (d : Option Expr)
    (ps : List (String × Option Expr)) (hp : f.params = (s, d) :: ps) (hl : ps.length = args.length)
    {env' : Env} {res : Res} {fs' : List (String × Field)}
    (hb : execL cx ((s, Val.obj self) :: (ps.map Prod.fst).zip args) f.body = (env', res))
    (hs : env'.lookup s = some (.obj fs')) :
    runMeth cx f self args = (some fs', resultOf res) := by
  have := bindArgs_pos cx f.params (.obj self :: args) (by rw [hp]; simp [hl])
  rw [runMeth, this, hp]
  simp only [List.map_cons, List.zip_cons_cons, hb, hs]

theorem callMeth_of {cx : Ctx} {f : Fun} {self : List (String × Field)} {args : List Val} {env : Env}
    (hb : bindArgs cx f.params (.obj self :: args) [] = some (.ok env))
    (hk : argsKept (f.params.drop 1) args (execL cx env f.body).1 = true)
    {s' : Option (List (String × Field))} {r : Except PyErr Val} (hr : runMeth cx f self args = (s', r))
    (hv : ∀ v, r = .ok v → v.isBound = false) : callMeth cx f self args = (s', r) := by
  rw [callMeth, hb]
  simp only [hk, if_true, hr]
  cases r with
  | error e => rfl
  | ok v => simp only [hv v rfl, Bool.false_eq_true, if_false]

theorem reverse_take_split {α : Type} (l : List α) (i k : Nat) (f : α) (hf : l[i]? = some f) (hk : i < k) :
    (l.take k).reverse = ((l.drop (i + 1)).take (k - (i + 1))).reverse ++ f :: (l.take i).reverse := by
  obtain ⟨hi, rfl⟩ := List.getElem?_eq_some_iff.mp hf
  have h : l.take k = l.take i ++ l[i] :: (l.drop (i + 1)).take (k - (i + 1)) := by
    have h1 : k = i + 1 + (k - (i + 1)) := by omega
    conv => lhs; rw [h1, List.take_add, List.take_succ_eq_append_getElem hi]
    rw [List.append_assoc]; rfl
  rw [h, List.reverse_append, List.reverse_cons, List.append_assoc]; rfl

theorem all_take {α : Type} (p : α → Bool) (l : List α) (n : Nat) (h : l.all p = true) : (l.take n).all p = true := by
  rw [List.all_eq_true] at h ⊢
  exact fun x hx => h x (List.mem_of_mem_take hx)

/-- A table of definitions built latest first, each entry made from the definitions before it (`callIn`: the functions of a
module; `methIn`: the methods of a class): the entry `i`, seen after the first `k > i` definitions, is made from the first `i`,
when no definition between has its name. -/
theorem table_at {β : Type} (T : List Fun → String → Option β) (mk : List Fun → Fun → β)
    (hT : ∀ f r n, T (f :: r) n = if f.name = n then some (mk r f) else T r n)
    (l : List Fun) (i : Nat) (f : Fun) (hf : l[i]? = some f)
    (hn : (l.drop (i + 1)).all (fun g => g.name != f.name) = true) (k : Nat) (hk : i < k) :
    T (l.take k).reverse f.name = some (mk (l.take i).reverse f) := by
  have happ : ∀ pre post : List Fun, pre.all (fun g => g.name != f.name) = true →
      T (pre ++ f :: post) f.name = some (mk post f) := by
    intro pre post h
    induction pre with
    | nil => rw [List.nil_append, hT, if_pos rfl]
    | cons g r ih =>
      simp only [List.all_cons, Bool.and_eq_true, bne_iff_ne, ne_eq] at h
      rw [List.cons_append, hT, if_neg h.1, ih h.2]
  rw [reverse_take_split l i k f hf hk, happ _ _ (by rw [List.all_reverse]; exact all_take _ _ _ hn)]

theorem callIn_at (parseInt : Str → Except PyErr Int) (l : List Fun) (i : Nat) (f : Fun) (hf : l[i]? = some f)
    (hn : (l.drop (i + 1)).all (fun g => g.name != f.name) = true) (k : Nat) (hk : i < k) :
    callIn parseInt (l.take k).reverse f.name
      = some (runKw { parseInt := parseInt, funs := callIn parseInt (l.take i).reverse } f) :=
  table_at (callIn parseInt) (fun r f => runKw { parseInt := parseInt, funs := callIn parseInt r } f) (fun _ _ _ => rfl)
    l i f hf hn k hk

theorem runModule_at (parseInt : Str → Except PyErr Int) (args : List Val) (defs : List Fun) (i : Nat) (f : Fun)
    (hf : defs[i]? = some f) (hn : (defs.drop (i + 1)).all (fun g => g.name != f.name) = true) :
    runModule parseInt defs f.name args
      = run { parseInt := parseInt, funs := callIn parseInt (defs.take i).reverse } f args := by
  have h := callIn_at parseInt defs i f hf hn defs.length (List.getElem?_eq_some_iff.mp hf).1
  rw [List.take_length] at h
  rw [runModule, h]
  rfl

theorem methIn_at (base : Ctx) (l : List Fun) (i : Nat) (f : Fun) (hf : l[i]? = some f)
    (hn : (l.drop (i + 1)).all (fun g => g.name != f.name) = true) (k : Nat) (hk : i < k) :
    methIn base (l.take k).reverse f.name = some (callMeth { base with meths := methIn base (l.take i).reverse } f) :=
  table_at (methIn base) (fun r f => callMeth { base with meths := methIn base r } f) (fun _ _ _ => rfl) l i f hf hn k hk

/-! ### the primitives, one equation per name

`builtin`, `callMethod`, `mutCall`, `baseCall` and `getAttr` are chains of tests on a name, each followed by a `match` on the
arguments.  What each does for a name the dumps use, on the form of arguments it accepts, is stated here once, and the proofs
cite these equations: none unfolds the chains.  (Each is proved from `f.eq_def`; `simp [f]` would first derive an equation for
every path through `f`.) -/

theorem pyIndex_list {vs : List PyV} {k : Int} {v : PyV} (h : seqItem vs k = some v) :
    pyIndex (.list vs) (.py (.int k)) = .ok (.py v) := by
  show (match seqItem vs k with
    | some v => (Except.ok (Val.py v) : Except PyErr Val) | none => Except.error (PyErr.other "IndexError")) = _
  rw [h]

theorem pyCompare_lt (a b : Int) : pyCompare .lt (.py (.int a)) (.py (.int b)) = .ok (.py (.bool (decide (a < b)))) := rfl
theorem pyCompare_gt (a b : Int) : pyCompare .gt (.py (.int a)) (.py (.int b)) = .ok (.py (.bool (decide (a > b)))) := rfl

section
variable (pi : Str → Except PyErr Int)

theorem builtin_int (v : PyV) : builtin pi "int" [.py v] = (pyInt pi v).map (fun n => .py (.int n)) := by
  rw [builtin.eq_def]; simp; cases pyInt pi v <;> rfl
theorem builtin_bool (x : Val) : builtin pi "bool" [x] = .ok (.py (.bool x.truthy)) := by rw [builtin.eq_def]; simp
theorem builtin_tostr (p : PyV) : builtin pi "tostr" [.py p] = .ok (.py (.str (tostr p))) := by rw [builtin.eq_def]; simp
theorem builtin_str (p : PyV) : builtin pi "str" [.py p] = .ok (.py (.str (tostr p))) := by rw [builtin.eq_def]; simp
theorem builtin_hasattr_lower (p : PyV) :
    builtin pi "hasattr" [.py p, .py (.str "lower".toList)] = .ok (.py (.bool (hasLower p))) := by rw [builtin.eq_def]; simp
theorem builtin_issubclass (a b : Val) : builtin pi "issubclass" [a, b] = pyIsSubclass a b := by rw [builtin.eq_def]; simp
theorem builtin_len (x : Val) : builtin pi "len" [x] = pyLen x := by rw [builtin.eq_def]; simp
theorem builtin_list_str (s : Str) : builtin pi "list" [.py (.str s)] = .ok (.list (s.map (fun c => .str [c]))) := by
  rw [builtin.eq_def]; simp
theorem builtin_list_obj (fs : List (String × Field)) (vs : List PyV) (h : fs.lookup listPart = some (.list vs)) :
    builtin pi "list" [.obj fs] = .ok (.list vs) := by rw [builtin.eq_def]; simp [h]
theorem builtin_range (n : Int) :
    builtin pi "range" [.py (.int n)] = .ok (.tuple ((List.range n.toNat).map (fun i => .int (Int.ofNat i)))) := by
  rw [builtin.eq_def]; simp
end

theorem callMethod_lower (s : Str) : callMethod (.py (.str s)) "lower" [] = .ok (.py (.str (lower s))) := by
  rw [callMethod.eq_def]; simp
theorem callMethod_isalpha (s : Str) :
    callMethod (.py (.str s)) "isalpha" [] = .ok (.py (.bool (!s.isEmpty && s.all asciiAlpha))) := by rw [callMethod.eq_def]; simp
theorem callMethod_isalnum (s : Str) :
    callMethod (.py (.str s)) "isalnum" [] = .ok (.py (.bool (!s.isEmpty && s.all asciiAlnum))) := by rw [callMethod.eq_def]; simp
theorem callMethod_isupper (s : Str) :
    callMethod (.py (.str s)) "isupper" [] = .ok (.py (.bool (s.any asciiUpper && s.all (fun c => !asciiLower c)))) := by
  rw [callMethod.eq_def]; simp
theorem callMethod_strip (s : Str) : callMethod (.py (.str s)) "strip" [] = .ok (.py (.str (strip s))) := by
  rw [callMethod.eq_def]; simp
theorem callMethod_split (s : Str) (c : Char) :
    callMethod (.py (.str s)) "split" [.py (.str [c])] = .ok (.list ((splitChar c s).map .str)) := by rw [callMethod.eq_def]; simp
theorem callMethod_index (s : Str) (c : Char) :
    callMethod (.py (.str s)) "index" [.py (.str [c])] = if c ∈ s then .ok (.py (.int (s.idxOf c))) else .error .valueError := by
  rw [callMethod.eq_def]; simp
theorem callMethod_join (s : Str) (vs : List PyV) :
    callMethod (.py (.str s)) "join" [.list vs]
      = ((strItems vs).map fun ws => Val.py (.str (joinWith s ws))).elim (.error .typeError) .ok := by
  rw [callMethod.eq_def]; simp; cases strItems vs <;> rfl
theorem callMethod_startswith (s a : Str) :
    callMethod (.py (.str s)) "startswith" [.py (.str a)] = .ok (.py (.bool (a.isPrefixOf s))) := by rw [callMethod.eq_def]; simp
theorem callMethod_endswith (s a : Str) :
    callMethod (.py (.str s)) "endswith" [.py (.str a)] = .ok (.py (.bool (a.isSuffixOf s))) := by rw [callMethod.eq_def]; simp
theorem callMethod_replace (s a b : Str) :
    callMethod (.py (.str s)) "replace" [.py (.str a), .py (.str b)]
      = if a = [] then .error (unsupported "replace of the empty string") else .ok (.py (.str (replaceAll a b s))) := by
  rw [callMethod.eq_def]; simp
theorem callMethod_getAttribute (e : Elem) (n : Str) (d : PyV) :
    callMethod (.elem e) "getAttribute" [.py (.str n), .py d] = .ok (.py (e.getAttribute genTables (String.ofList n) d)) := by
  rw [callMethod.eq_def]; simp
theorem callMethod_hasAttribute (e : Elem) (n : Str) :
    callMethod (.elem e) "hasAttribute" [.py (.str n)] = .ok (.py (.bool (e.hasAttribute (String.ofList n)))) := by
  rw [callMethod.eq_def]; simp
theorem callMethod_get (kvs : List (PyV × PyV)) (k : PyV) :
    callMethod (.dict kvs) "get" [.py k]
      = if hashable k then .ok (.py ((dGet kvs k).getD .none)) else .error (unsupported "dict key") := by
  rw [callMethod.eq_def]; simp
theorem callMethod_get2 (kvs : List (PyV × PyV)) (k d : PyV) :
    callMethod (.dict kvs) "get" [.py k, .py d]
      = if hashable k then .ok (.py ((dGet kvs k).getD d)) else .error (unsupported "dict key") := by
  rw [callMethod.eq_def]; simp
theorem callMethod_items (kvs : List (PyV × PyV)) : callMethod (.dict kvs) "items" [] = .ok (.pairs kvs) := by
  rw [callMethod.eq_def]; simp
theorem callMethod_getUid (u : Nat) : callMethod (.py (.ancestor u)) "getUid" [] = .ok (.py (.int u)) := by
  rw [callMethod.eq_def]; simp

theorem callMethod_nontext (v : PyV) (m : String) (args : List Val) (hs : ∀ s, v ≠ .str s) (hm : m ≠ "getUid") :
    callMethod (.py v) m args = .error (.other "AttributeError") := by
  cases v <;> first | rfl | exact absurd rfl (hs _) | (rw [callMethod.eq_def]; simp [hm])

theorem mutCall_append (vs : List PyV) (v : PyV) : mutCall (.list vs) "append" [.py v] = .ok (.list (vs ++ [v])) := by
  rw [mutCall.eq_def]; simp
theorem mutCall_remove (vs : List PyV) (v : PyV) :
    mutCall (.list vs) "remove" [.py v] = ((removeFirst v vs).map Field.list).elim (.error .valueError) .ok := by
  rw [mutCall.eq_def]; simp; cases removeFirst v vs <;> rfl
theorem mutCall_pop (vs : List PyV) :
    mutCall (.list vs) "pop" [] = if vs.isEmpty then .error (.other "IndexError") else .ok (.list vs.dropLast) := by
  rw [mutCall.eq_def]; simp
theorem mutCall_acquire (h : Bool) :
    mutCall (.lock h) "acquire" [] = if h then .error (unsupported "acquire of a held lock") else .ok (.lock true) := by
  rw [mutCall.eq_def]; simp
theorem mutCall_release (h : Bool) :
    mutCall (.lock h) "release" [] = if h then .ok (.lock false) else .error (.other "RuntimeError") := by
  rw [mutCall.eq_def]; simp
theorem mutCall_add (vs : List PyV) (v : PyV) :
    mutCall (.set vs) "add" [.py v] = if hashable v then .ok (.set (sAdd vs v)) else .error (unsupported "set member") := by
  rw [mutCall.eq_def]; simp
theorem mutCall_sremove (vs : List PyV) (v : PyV) :
    mutCall (.set vs) "remove" [.py v]
      = if hashable v then ((sRemove v vs).map Field.set).elim (.error .keyError) .ok else .error (unsupported "set member") := by
  rw [mutCall.eq_def]; simp; cases sRemove v vs <;> rfl

theorem baseCall_init (cur : Option Field) : baseCall cur "__init__" [] = .ok (.list []) := by rw [baseCall.eq_def]; simp
theorem baseCall_append (vs : List PyV) (args : List Val) :
    baseCall (some (.list vs)) "append" args = mutCall (.list vs) "append" args := by rw [baseCall.eq_def]; simp
theorem baseCall_remove (vs : List PyV) (args : List Val) :
    baseCall (some (.list vs)) "remove" args = mutCall (.list vs) "remove" args := by rw [baseCall.eq_def]; simp

theorem getAttr_field (fs : List (String × Field)) (a : String) (ha : a ≠ "__class__") :
    getAttr (.obj fs) a = ((fs.lookup a).map Field.toVal).elim (.error (.other "AttributeError")) .ok := by
  rw [getAttr.eq_def]; simp [ha]; cases fs.lookup a <;> rfl
theorem getAttr_class_excInst (n : String) : getAttr (.excInst n) "__class__" = .ok (.excType n) := by rw [getAttr.eq_def]; simp
theorem getAttr_class_excType (n : String) : getAttr (.excType n) "__class__" = .ok (.cls "type") := by rw [getAttr.eq_def]; simp
theorem getAttr_class_cls (n : String) : getAttr (.cls n) "__class__" = .ok (.cls "type") := by rw [getAttr.eq_def]; simp
theorem getAttr_class_caught (e : PyErr) : getAttr (.caught e) "__class__" = .ok (.excType (errName e)) := by
  rw [getAttr.eq_def]; simp
theorem getAttr_class_ref (o f : String) : getAttr (.ref o f) "__class__" = .error (unsupported "attribute of an alias") := by
  rw [getAttr.eq_def]; simp
theorem getAttr_tagName (e : Elem) : getAttr (.elem e) "tagName" = .ok (.py (.str e.tag.toList)) := by
  rw [getAttr.eq_def]; simp
theorem getAttr_uid (u : Nat) : getAttr (.py (.ancestor u)) "uid" = .ok (.py (.int u)) := by
  rw [getAttr.eq_def]; simp

theorem pyEq_py (a b : PyV) : pyEq (.py a) (.py b) = .ok (pyEqV a b) := rfl
theorem pyIn_py_tuple (a : PyV) (vs : List PyV) : pyIn (.py a) (.tuple vs) = .ok (vs.any (fun e => pyEqV a e)) := rfl
theorem pyIn_py_set (a : PyV) (vs : List PyV) :
    pyIn (.py a) (.set vs) = if hashable a then .ok (sMem vs a) else .error (unsupported "in") := rfl
theorem pyIn_py_dict (a : PyV) (kvs : List (PyV × PyV)) :
    pyIn (.py a) (.dict kvs) = if hashable a then .ok (kvs.any (fun e => pyEqV a e.1)) else .error (unsupported "in") := rfl
theorem pyIn_char_str (c : Char) (s : Str) : pyIn (.py (.str [c])) (.py (.str s)) = .ok (s.contains c) := rfl
theorem pyIndex_str (s : Str) (n : Int) :
    pyIndex (.py (.str s)) (.py (.int n)) = ((seqItem s n).map fun c => Val.py (.str [c])).elim (.error (.other "IndexError")) .ok := by
  rw [pyIndex.eq_def]; simp only; cases seqItem s n <;> rfl

/-- `val in possibleValues` for a tuple of texts. -/
theorem any_members (s : Str) (ms : List String) :
    (ms.map (fun m => PyV.str m.toList)).any (fun e => pyEqV (.str s) e) = ms.contains (String.ofList s) := by
  induction ms with
  | nil => rfl
  | cons m r ih =>
    rw [List.map_cons, List.any_cons, ih, List.contains_cons]
    congr 1
    simp only [pyEqV]
    by_cases h : s = m.toList
    · subst h; simp
    · have : ¬ (String.ofList s = m) := fun h' => h (by rw [← h']; simp)
      simp [h, this]

theorem pyIn_ofMembers (t : Str) (ms : List String) :
    pyIn (.py (.str t)) (ofMembers ms) = .ok (ms.contains (String.ofList t)) := by
  rw [ofMembers, pyIn_py_tuple, any_members]

theorem strItems_map_comp {α : Type} (f : α → Str) (l : List α) : strItems (l.map (PyV.str ∘ f)) = some (l.map f) := by
  induction l with
  | nil => rfl
  | cons a r ih => simp [strItems, ih]

/-! ### a hand model inside the interpreter's

The hand models keep texts, uids, elements; the interpreter keeps model values and compares them with `pyEqV`.  What the ties need of
an embedding `f` is that `==` between two images is equality of the members. -/

def Faithful {α : Type} [DecidableEq α] (f : α → PyV) : Prop := ∀ a b, pyEqV (f a) (f b) = decide (a = b)

theorem pyEqV_str (a b : Str) : pyEqV (.str a) (.str b) = decide (a = b) := rfl

section
variable {κ β : Type} [DecidableEq κ] [BEq κ] [LawfulBEq κ] {e : κ → PyV} (he : Faithful e) (g : β → PyV)
include he

theorem dGet_map (d : List (κ × β)) (k : κ) : dGet (d.map fun p => (e p.1, g p.2)) (e k) = (d.lookup k).map g := by
  induction d with
  | nil => rfl
  | cons p r ih =>
    obtain ⟨a, w⟩ := p
    rw [List.map_cons, dGet, he, ih]
    by_cases h : a = k
    · subst h; rw [decide_eq_true rfl, if_pos rfl, List.lookup_cons_self]; rfl
    · rw [decide_eq_false h, if_neg Bool.false_ne_true, Dict.lookup_cons_ne (Ne.symm h)]

omit [BEq κ] [LawfulBEq κ] in
theorem dSet_map (d : List (κ × β)) (k : κ) (v : β) :
    dSet (d.map fun p => (e p.1, g p.2)) (e k) (g v) = (Dict.set d k v).map fun p => (e p.1, g p.2) := by
  induction d with
  | nil => rfl
  | cons p r ih =>
    obtain ⟨a, w⟩ := p
    rw [List.map_cons, dSet, he, ih]
    by_cases h : a = k
    · subst h; rw [decide_eq_true rfl, if_pos rfl, Dict.set_cons_self]; rfl
    · rw [decide_eq_false h, if_neg Bool.false_ne_true, Dict.set_cons_ne h]; rfl

omit [BEq κ] [LawfulBEq κ] in
theorem dDel_map (d : List (κ × β)) (k : κ) :
    dDel (d.map fun p => (e p.1, g p.2)) (e k) = (Dict.del d k).map fun p => (e p.1, g p.2) := by
  unfold dDel Dict.del
  rw [List.filter_map]
  exact congrArg _ (List.filter_congr fun p _ => by rw [Function.comp_apply, he, decide_not])

end

section
variable {α : Type} [DecidableEq α] {f : α → PyV} (hf : Faithful f)
include hf

theorem sMem_map (l : List α) (x : α) : sMem (l.map f) (f x) = decide (x ∈ l) := by
  induction l with
  | nil => rfl
  | cons a r ih =>
    rw [sMem, List.map_cons, List.any_cons, hf, ← sMem, ih]
    simp

theorem removeFirst_map (x : α) (l : List α) :
    removeFirst (f x) (l.map f) = if x ∈ l then some ((l.erase x).map f) else none := by
  induction l with
  | nil => rfl
  | cons a r ih =>
    rw [List.map_cons, removeFirst, hf, ih]
    by_cases h : a = x
    · subst h; simp
    · have h2 : ¬ x = a := fun e => h e.symm
      have h3 : ¬ (a == x) = true := by simpa using h
      by_cases hm : x ∈ r <;> simp [h, h2, hm, List.erase_cons_tail h3]

/-- `set.remove` is `list.remove` on such values (a set tests `v == member`, a list `item == v`) -/
theorem sRemove_map (x : α) (l : List α) : sRemove (f x) (l.map f) = removeFirst (f x) (l.map f) := by
  induction l with
  | nil => rfl
  | cons a r ih => rw [List.map_cons, sRemove, removeFirst, hf, hf, ih]; simp only [eq_comm]
end

end AHP.PyAst
