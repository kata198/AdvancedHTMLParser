/-
  The simp sets of the code ties: the equations of the interpreter's straight-line statements (`py_stmts`: the
  loops stay folded and are rewritten as a whole by their own lemmas), those plus expression evaluation (`py_straight`),
  and the evaluation of the cache methods (`py_cache`).  The lemmas are tagged in `Lemmas/PyAstExec.lean` and `Lemmas/PyAstCache.lean`.
-/
import Lean.Meta.Tactic.Simp.RegisterCommand

/-- the equations of `execS` for the straight-line statements (not the loops: those are rewritten as a whole), `execL`, `execH` -/
register_simp_attr py_stmts
/-- `py_stmts` and the evaluation of expressions and of variable lookups -/
register_simp_attr py_straight
/-- the cache object, its context and the primitives its methods use -/
register_simp_attr py_cache
