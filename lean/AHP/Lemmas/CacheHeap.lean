/-
  AHP.Lemmas.CacheHeap — the heap of shared compiled objects (`Model/CacheHeap.lean`) behaves like the value model
  (`Model/Cache.lean`) *provided evaluation only reads* (`EvalReadsOnly`) (C15b on shared objects).  The heap only
  grows: `Heap.Le`.
-/
import AHP.Model.CacheHeap
import AHP.Lemmas.Cache
namespace AHP.Cache

section MapV
variable {K A B : Type} [DecidableEq K]

/-- Replace every stored value `v` by `f v`. -/
def mapV (f : A → B) (s : State K A) : State K B := ⟨s.map.map (fun p => (p.1, f p.2)), s.recent⟩

theorem get_mapV (f : A → B) (s : State K A) (k : K) :
    get (mapV f s) k = (mapV f (get s k).1, (get s k).2.map f) := by
  unfold get
  simp only [mapV, dictGet_eq, Dict.lookup_map (fun _ => f)]
  cases s.map.lookup k <;> rfl

theorem set_mapV (f : A → B) (MAX CLEAR : Nat) (s : State K A) (k : K) (v : A) :
    set MAX CLEAR (mapV f s) k (f v) = mapV f (set MAX CLEAR s k v) := by
  unfold set
  simp only [mapV, dictSet_eq, dictDel_eq, ← Dict.set_map (fun _ => f), ← Dict.foldl_del_map (fun _ => f)]
  split <;> rfl

omit [DecidableEq K] in
theorem mapV_congr {f g : A → B} {s : State K A} (h : ∀ p ∈ s.map, f p.2 = g p.2) : mapV f s = mapV g s := by
  unfold mapV
  congr 1
  apply List.map_congr_left
  intro p hp
  rw [h p hp]

end MapV

section HeapFacts
variable {O : Type}

/-- Every address an expression object holds is an operation object. -/
def Heap.WF (h : Heap O) : Prop := ∀ addrs ∈ h.exprs, ∀ a ∈ addrs, a < h.ops.length

theorem Heap.WF.empty : (Heap.empty : Heap O).WF := by intro addrs h; cases h

theorem filterMap_getElem?_append (ops vs : List O) (addrs : List Nat) (h : ∀ a ∈ addrs, a < ops.length) :
    addrs.filterMap (fun a => (ops ++ vs)[a]?) = addrs.filterMap (fun a => ops[a]?) := by
  induction addrs with
  | nil => rfl
  | cons a rest ih =>
    have ha : a < ops.length := h a List.mem_cons_self
    have hr : ∀ b ∈ rest, b < ops.length := fun b hb => h b (List.mem_cons_of_mem _ hb)
    simp only [List.filterMap_cons, List.getElem?_append_left ha, ih hr]

theorem filterMap_range'_fresh (ops vs : List O) :
    (List.range' ops.length vs.length).filterMap (fun a => (ops ++ vs)[a]?) = vs := by
  induction vs generalizing ops with
  | nil => rfl
  | cons v vs ih =>
    have h1 : (ops ++ v :: vs)[ops.length]? = some v := by simp
    have h2 : ops ++ v :: vs = (ops ++ [v]) ++ vs := by simp
    have h3 := ih (ops ++ [v])
    simp only [List.length_append, List.length_singleton] at h3
    simp only [List.length_cons, List.range'_succ, List.filterMap_cons, h1]
    rw [h2, h3]

theorem getD_append_left {α : Type} (l l' : List α) (x : Nat) (d : α) (h : x < l.length) :
    (l ++ l').getD x d = l.getD x d := by
  simp [List.getD, List.getElem?_append_left h]

theorem getD_append_length {α : Type} (l : List α) (a d : α) : (l ++ [a]).getD l.length d = a := by
  simp [List.getD]

theorem Heap.WF.addrs_lt {h : Heap O} (hw : h.WF) {x : Nat} (hx : x < h.exprs.length) :
    ∀ a ∈ h.exprs.getD x [], a < h.ops.length := by
  apply hw
  simp only [List.getD, List.getElem?_eq_getElem hx, Option.getD_some]
  exact List.getElem_mem hx

theorem deref_allocExpr_new (h : Heap O) (addrs : List Nat) :
    (h.allocExpr addrs).1.deref (h.allocExpr addrs).2 = addrs.filterMap (fun a => h.ops[a]?) := by
  unfold Heap.deref Heap.allocExpr
  simp only
  rw [getD_append_length]

/-- `h'` extends `h`; every allocation extends the heap. -/
structure Heap.Le (h h' : Heap O) : Prop where
  wf : h'.WF
  len : h.exprs.length ≤ h'.exprs.length
  deref : ∀ x, x < h.exprs.length → h'.deref x = h.deref x

theorem Heap.Le.trans {h h1 h2 : Heap O} (a : h.Le h1) (b : h1.Le h2) : h.Le h2 :=
  ⟨b.wf, Nat.le_trans a.len b.len, fun x hx => (b.deref x (Nat.lt_of_lt_of_le hx a.len)).trans (a.deref x hx)⟩

theorem Heap.Le.lt {h h' : Heap O} (hle : h.Le h') {x : Nat} (hx : x < h.exprs.length) : x < h'.exprs.length :=
  Nat.lt_of_lt_of_le hx hle.len

theorem Heap.Le.map_deref {h h' : Heap O} (hle : h.Le h') {l : List Nat} (hl : ∀ x ∈ l, x < h.exprs.length) :
    l.map h'.deref = l.map h.deref :=
  List.map_congr_left fun x hx => hle.deref x (hl x hx)

theorem Heap.le_allocOps {h : Heap O} (hw : h.WF) (vs : List O) : h.Le (h.allocOps vs).1 := by
  refine ⟨fun addrs ha a hm => ?_, Nat.le_refl _, fun x hx => filterMap_getElem?_append _ _ _ (hw.addrs_lt hx)⟩
  exact Nat.lt_of_lt_of_le (hw addrs ha a hm) (by simp [Heap.allocOps])

theorem Heap.le_allocExpr {h : Heap O} (hw : h.WF) {addrs : List Nat} (ha : ∀ a ∈ addrs, a < h.ops.length) :
    h.Le (h.allocExpr addrs).1 := by
  refine ⟨fun as hm a hma => ?_, by simp [Heap.allocExpr], fun x hx => ?_⟩
  · rcases List.mem_append.mp hm with hm | hm
    · exact hw as hm a hma
    · cases List.mem_singleton.mp hm; exact ha a hma
  · unfold Heap.deref Heap.allocExpr
    simp only
    rw [getD_append_left _ _ _ _ hx]

end HeapFacts

section Sim
variable {E K O T R : Type} [DecidableEq K]

/-- The hypothesis on evaluation: `evaluate` writes neither the expression object nor any operation object,
    and its outcome is a function of the operations the object holds (and the tree). -/
structure EvalReadsOnly (evalH : Heap O → Nat → T → Heap O × R) (eval : List O → T → R) : Prop where
  no_write : ∀ h x t, (evalH h x t).1 = h
  reads : ∀ h x t, (evalH h x t).2 = eval (h.deref x) t

/-- The value-level world a heap-level world denotes. -/
def HWorld.abs (w : HWorld K O) : World K (List O) := ⟨mapV w.heap.deref w.cache, w.slots.map w.heap.deref⟩

/-- Nothing dangles. -/
structure HWorld.OK (w : HWorld K O) : Prop where
  wf : w.heap.WF
  cache : ∀ p ∈ w.cache.map, p.2 < w.heap.exprs.length
  slots : ∀ x ∈ w.slots, x < w.heap.exprs.length

omit [DecidableEq K] in
theorem HWorld.OK.empty : (HWorld.empty : HWorld K O).OK :=
  ⟨Heap.WF.empty, (by intro p h; cases h), (by intro x h; cases h)⟩

omit [DecidableEq K] in
theorem Heap.Le.mapV {h h' : Heap O} (hle : h.Le h') {c : State K Nat} (hc : ∀ p ∈ c.map, p.2 < h.exprs.length) :
    mapV h'.deref c = mapV h.deref c :=
  mapV_congr fun p hp => hle.deref p.2 (hc p hp)

variable (compile : E → Option (List O)) (key : E → K) (MAX CLEAR : Nat)

theorem hNewExpr_eq (h : Heap O) (c : State K Nat) (e : E) :
    hNewExpr compile key MAX CLEAR h c e =
      match dictGet c.map (key e) with
      | some x => ((h.allocExpr (h.exprs.getD x [])).1, (get c (key e)).1, some h.exprs.length)
      | none =>
        match compile e with
        | none => (h, c, none)
        | some vs => (((h.allocOps vs).1.allocExpr (h.allocOps vs).2).1, set MAX CLEAR c (key e) h.exprs.length,
            some h.exprs.length) := by
  unfold hNewExpr
  cases hg : dictGet c.map (key e) with
  | none => rw [get_of_miss hg]; rfl
  | some x => rw [get_of_hit hg]; rfl

/-- `XPathExpression(text)` on the heap is `newExpr` on the values: the new object denotes what `newExpr`
    returns, every older object denotes what it did, nothing dangles.  (The first three conjuncts are `h.Le r.1`.) -/
theorem hNewExpr_spec {h : Heap O} {c : State K Nat} (hw : h.WF) (hc : ∀ p ∈ c.map, p.2 < h.exprs.length) (e : E) :
    let r := hNewExpr compile key MAX CLEAR h c e
    r.1.WF ∧ h.exprs.length ≤ r.1.exprs.length ∧ (∀ x, x < h.exprs.length → r.1.deref x = h.deref x) ∧
    (∀ p ∈ r.2.1.map, p.2 < r.1.exprs.length) ∧ (∀ y, r.2.2 = some y → y < r.1.exprs.length) ∧
    newExpr compile key MAX CLEAR (mapV h.deref c) e = (mapV r.1.deref r.2.1, r.2.2.map r.1.deref) := by
  have hnew : ∀ {h' : Heap O}, h'.exprs.length = h.exprs.length + 1 →
      ∀ y, some h.exprs.length = some y → y < h'.exprs.length := fun hl y hy => by cases hy; omega
  dsimp only
  rw [hNewExpr_eq, newExpr_eq, show (mapV h.deref c).map = c.map.map (fun p => (p.1, h.deref p.2)) from rfl, dictGet_eq (c.map.map _), Dict.lookup_map (fun _ => h.deref), ← dictGet_eq]
  cases hg : dictGet c.map (key e) with
  | some x =>
    -- a hit: one new expression object holding the addresses of the cached one
    have hx : x < h.exprs.length := hc _ (Dict.mem_of_lookup ((dictGet_eq ..).symm.trans hg))
    have hle := Heap.le_allocExpr hw (hw.addrs_lt hx)
    refine ⟨hle.wf, hle.len, hle.deref, fun p hp => hle.lt (hc p (get_fst_map c (key e) ▸ hp)),
      hnew (by simp [Heap.allocExpr]), ?_⟩
    show (_, some (h.deref x)) = _
    rw [get_mapV, hle.mapV (fun p hp => hc p (get_fst_map c (key e) ▸ hp))]
    exact congrArg (fun v => (_, some v)) (deref_allocExpr_new h _).symm
  | none =>
    cases hce : compile e with
    | none => exact ⟨hw, Nat.le_refl _, fun _ _ => rfl, hc, nofun, rfl⟩
    | some vs =>
      -- a miss: fresh operation objects, then the expression object holding them, stored as it is
      have hle1 := Heap.le_allocOps hw vs
      have hle := hle1.trans (Heap.le_allocExpr hle1.wf (addrs := (h.allocOps vs).2) (fun a ha => by
        simp only [Heap.allocOps, List.mem_range'_1, List.length_append] at ha ⊢; omega))
      have hd : ((h.allocOps vs).1.allocExpr (h.allocOps vs).2).1.deref h.exprs.length = vs :=
        (deref_allocExpr_new (h.allocOps vs).1 _).trans (filterMap_range'_fresh h.ops vs)
      refine ⟨hle.wf, hle.len, hle.deref, fun p hp => ?_, hnew (by simp [Heap.allocExpr, Heap.allocOps]), ?_⟩
      · rcases mem_map_set hp with rfl | hp
        · exact hnew (h' := ((h.allocOps vs).1.allocExpr (h.allocOps vs).2).1) (by simp [Heap.allocExpr, Heap.allocOps]) _ rfl
        · exact hle.lt (hc p hp)
      · show (set MAX CLEAR (mapV h.deref c) (key e) vs, some vs) =
          (mapV _ (set MAX CLEAR c (key e) h.exprs.length), some _)
        rw [← set_mapV, hd, hle.mapV hc]

variable (evalH : Heap O → Nat → T → Heap O × R) (eval : List O → T → R)

/-- One event on the heap is the same event on the values it denotes — *given that evaluation only reads*
    (`hro` is used exactly in the two evaluation cases: the heap after `evaluate` is the heap before, so
    every other object — the cached live object and every copy sharing its operations — still denotes what
    it did). -/
theorem hstep_spec (hro : EvalReadsOnly evalH eval) {w : HWorld K O} (hok : w.OK) (ev : Event E T) :
    (hstep compile key evalH MAX CLEAR w ev).1.OK ∧
    step compile key eval MAX CLEAR w.abs ev =
      ((hstep compile key evalH MAX CLEAR w ev).1.abs, (hstep compile key evalH MAX CLEAR w ev).2) := by
  -- the constructor, with the new object among the held ones (`.new`) or not (`.query`)
  have hne : ∀ e, ∃ h' c' res, hNewExpr compile key MAX CLEAR w.heap w.cache e = (h', c', res) ∧
      newExpr compile key MAX CLEAR w.abs.cache e = (mapV h'.deref c', res.map h'.deref) ∧
      w.slots.map h'.deref = w.abs.slots ∧
      ∀ ys, (∀ y ∈ ys, res = some y) → HWorld.OK ⟨h', c', w.slots ++ ys⟩ := fun e => by
    obtain ⟨h1, h2, h3, h4, h5, h6⟩ := hNewExpr_spec compile key MAX CLEAR hok.wf hok.cache e
    have hle : w.heap.Le _ := ⟨h1, h2, h3⟩
    refine ⟨_, _, _, rfl, h6, hle.map_deref hok.slots, fun ys hys => ⟨h1, h4, fun x hx => ?_⟩⟩
    rcases List.mem_append.mp hx with hx | hx
    · exact hle.lt (hok.slots x hx)
    · exact h5 x (hys x hx)
  cases ev with
  | evalSlot i t =>
    simp only [hstep, step, HWorld.abs, List.getElem?_map]
    cases hx : w.slots[i]? with
    | none => exact ⟨hok, rfl⟩
    | some x =>
      simp only [Option.map_some, hro.no_write, hro.reads]
      exact ⟨hok, trivial⟩
  | new e =>
    obtain ⟨h', c', res, e1, e2, hsl, hok'⟩ := hne e
    simp only [hstep, step, e1, e2]
    cases res with
    | some y => exact ⟨hok' [y] (fun _ hy => by rw [List.mem_singleton.mp hy]), by simp [HWorld.abs, hsl]⟩
    | none => exact ⟨by simpa using hok' [] nofun, by simp [HWorld.abs, hsl]⟩
  | query e t =>
    obtain ⟨h', c', res, e1, e2, hsl, hok'⟩ := hne e
    simp only [hstep, step, e1, e2]
    cases res with
    | some y =>
      simp only [Option.map_some, hro.no_write, hro.reads]
      exact ⟨by simpa using hok' [] nofun, by simp [HWorld.abs, hsl]⟩
    | none => exact ⟨by simpa using hok' [] nofun, by simp [HWorld.abs, hsl]⟩

theorem hrun_eq_run (hro : EvalReadsOnly evalH eval) (evs : List (Event E T)) : ∀ (w : HWorld K O), w.OK →
    hrun compile key evalH MAX CLEAR w evs = (run compile key eval MAX CLEAR w.abs evs).map (·.1) := by
  induction evs with
  | nil => intro w _; rfl
  | cons ev evs ih =>
    intro w hok
    obtain ⟨h1, h2⟩ := hstep_spec compile key MAX CLEAR evalH eval hro hok ev
    unfold hrun run
    rw [h2]
    simp only [List.map_cons]
    rw [ih _ h1]

end Sim
end AHP.Cache
