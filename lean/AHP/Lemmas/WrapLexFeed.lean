/-
  C02f, composition with the strict lexer (second half): lexing the text of the second pass,

      lexStrict (wrapStr (renderToks ts)) = some (wrapToks ts)

  for every token list in the serialiser's image, and the two-pass `feed` on text (`feedText`).
-/
import AHP.Lemmas.WrapStr
namespace AHP

theorem Follows_append (t : Token) (rest xr : Str) (h : Follows t rest) : Follows t (rest ++ '<' :: xr) := by
  cases rest with
  | cons c r => exact follows_head t (c :: r) _ rfl h
  | nil => cases t <;> simp_all [Follows]

theorem listOKThen_of_listOK (xr : Str) (ts : List Token) (h : ListOK ts) : ListOKThen ('<' :: xr) ts := by
  induction h with
  | nil => exact .nil
  | cons ht hf _ ih => exact .cons ht (Follows_append _ _ xr hf) ih
  | raw hr ha hne hok _ ih => exact .raw hr ha hne hok ih
  | rawEmpty hr ha _ ih => exact .rawEmpty hr ha ih

theorem lexN_raw_step_then (X : Str) (ys : List Token) (n : Str) (a : List Attr) (raw : Str) (ts : List Token)
    (hr : isRawText n = true) (ha : ∀ x ∈ a, AttrOK x) (hok : RawOK n raw)
    (ih : ∀ k, (renderToks ts ++ X).length < k → lexN k (renderToks ts ++ X) = some (ts ++ ys)) :
    ∀ k, (renderToks (rawBlock n a raw ++ ts) ++ X).length < k →
      lexN k (renderToks (rawBlock n a raw ++ ts) ++ X) = some (rawBlock n a raw ++ ts ++ ys) := by
  have := lexN_raw_stepY_then TagStyle.normal TagStyle.normal_ok X ys n a raw ts hr ha hok
  rw [renderToksY_normal, renderToksY_normal] at this
  exact this ih

theorem lexN_render_then (X : Str) (ys : List Token) (hX : ∀ k, X.length < k → lexN k X = some ys)
    (ts : List Token) (h : ListOKThen X ts) :
    ∀ k, (renderToks ts ++ X).length < k → lexN k (renderToks ts ++ X) = some (ts ++ ys) := by
  have := lexN_renderToksY_then TagStyle.normal TagStyle.normal_ok X ys hX ts h
  rwa [renderToksY_normal] at this

theorem wrapper_not_raw : isRawText wrapperName = false := by decide
theorem wrapper_tagNameOK : TagNameOK wrapperName := by decide +kernel

theorem wrapClose_render : wrapClose = renderToks [.end_ wrapperName] := by
  simp [wrapClose, renderToks, renderTok]

theorem lexN_wrapClose : ∀ k, wrapClose.length < k → lexN k wrapClose = some [.end_ wrapperName] := by
  intro k hk
  rw [wrapClose_render] at hk ⊢
  exact lexN_renderToks [.end_ wrapperName] (.cons wrapper_tagNameOK trivial .nil) k hk

/-- `<xxxblank>` (no white space before `>`: not the serialiser's spelling) lexes to the wrapper's start tag -/
theorem lexOne_wrapOpen (X : Str) (k : Nat) : lexOne (k + 1) (wrapOpen ++ X) = some ([.start wrapperName []], X) := by
  have := lexOne_startTag wrapperName [] ">".toList false X wrapper_tagNameOK (by simp) .sOpen (k + 1) (by simp)
  rw [if_neg Bool.false_ne_true, wrapper_not_raw, if_neg Bool.false_ne_true] at this
  rw [← this]
  simp [wrapOpen, renderAttrs]

theorem lexN_wrapOpen (X : Str) (ys : List Token) (hX : ∀ k, X.length < k → lexN k X = some ys) :
    ∀ k, (wrapOpen ++ X).length < k → lexN k (wrapOpen ++ X) = some (.start wrapperName [] :: ys) := by
  intro k hk
  cases k with
  | zero => simp at hk
  | succ k =>
    have hwl : wrapOpen.length = 10 := by decide
    rw [lexN_step (lexOne_wrapOpen X k) (by simp [hwl]), hX k (by simp [hwl] at hk; omega)]
    rfl

/-- Without the hypothesis the statement is false: behind the start tag of `script` / `style` stands the content as one
    data token, which is no token list of the grammar outside raw text (the two `example`s below). -/
theorem ListOK.tail_partial {t : Token} {ts : List Token} (h : ListOK (t :: ts))
    (hnr : ∀ n a, t = .start n a → isRawText n = false) : ListOK ts := by
  cases h with
  | cons _ _ hts => exact hts
  | raw hr _ _ _ _ => rw [hnr _ _ rfl] at hr; exact absurd hr (by simp)
  | rawEmpty hr _ _ => rw [hnr _ _ rfl] at hr; exact absurd hr (by simp)

example : ListOK [.start "script".toList [], .data "a<b".toList, .end_ "script".toList] :=
  .raw (by decide) (by simp) (by decide) (by decide) .nil
example : ¬ ListOK [.data "a<b".toList, .end_ "script".toList] := by
  intro h
  cases h with
  | cons ht _ _ => exact absurd ht (by decide)

theorem lexN_render_close (ts : List Token) (h : ListOK ts) :
    ∀ k, (renderToks ts ++ wrapClose).length < k →
      lexN k (renderToks ts ++ wrapClose) = some (ts ++ [.end_ wrapperName]) :=
  lexN_render_then wrapClose [.end_ wrapperName] lexN_wrapClose ts
    (listOKThen_of_listOK ('/' :: wrapperName ++ ['>']) ts h)

/-- **character-level and token-level wrapper placement agree**: on the rendering of a token list in the
    serialiser's image, lexing `addStartTag(text, '<xxxblank>') + '</xxxblank>'` gives `wrapToks` of the list -/
theorem lexN_wrapStr_renderToks (ts : List Token) (h : ListOK ts) :
    ∀ k, (wrapStr (renderToks ts)).length < k → lexN k (wrapStr (renderToks ts)) = some (wrapToks ts) := by
  intro k hk
  have hw := wrapStr_eq (renderToks ts)
  rw [addStartTagStr_renderToks ts h] at hw
  cases hl : leadDoctype ts with
  | none =>
    rw [hl, List.append_assoc] at hw
    have ht : wrapToks ts = .start wrapperName [] :: (ts ++ [.end_ wrapperName]) := by
      unfold wrapToks; rw [hl]; rfl
    rw [hw] at hk ⊢
    rw [ht]
    exact lexN_wrapOpen _ _ (lexN_render_close ts h) k hk
  | some p =>
    obtain ⟨pre, r⟩ := p
    rw [hl] at hw
    simp only [List.append_assoc] at hw
    obtain ⟨hts, hshape⟩ := leadDoctype_cases hl
    have ht : wrapToks ts = pre ++ (.start wrapperName [] :: (r ++ [.end_ wrapperName])) := by
      unfold wrapToks; rw [hl]; simp
    rw [hw] at hk ⊢
    rw [ht]
    have hr : ListOK r := by
      rcases hshape with ⟨d, rfl⟩ | ⟨ws, d, _, rfl⟩
      · rw [hts] at h; exact ListOK.tail_partial h (by simp)
      · rw [hts] at h; exact ListOK.tail_partial (ListOK.tail_partial h (by simp)) (by simp)
    have hX := lexN_wrapOpen _ _ (lexN_render_close r hr)
    apply lexN_render_then _ _ hX pre _ k hk
    -- the prefix is well formed in front of the wrapper's start tag
    rcases hshape with ⟨d, rfl⟩ | ⟨ws, d, _, rfl⟩
    · rw [hts] at h
      cases h with
      | cons hd _ _ => exact .cons hd trivial .nil
    · rw [hts] at h
      obtain ⟨hws, hf, hd⟩ : TokOK (.data ws) ∧ Follows (Token.data ws) (renderToks (Token.decl d :: r))
          ∧ TokOK (.decl d) := by
        cases h with
        | cons h1 h2 h3 =>
          cases h3 with
          | cons h4 _ _ => exact ⟨h1, h2, h4⟩
      refine .cons hws ?_ (.cons hd trivial .nil)
      have e1 : renderToks (Token.decl d :: r) = '<' :: ('!' :: d ++ ['>'] ++ renderToks r) := by
        simp [renderToks, renderTok]
      have e2 : renderToks [Token.decl d] ++ (wrapOpen ++ (renderToks r ++ wrapClose))
          = '<' :: ('!' :: d ++ ['>'] ++ (wrapOpen ++ (renderToks r ++ wrapClose))) := by
        simp [renderToks, renderTok]
      rw [e2]
      rw [e1] at hf
      exact follows_head _ ('<' :: ('!' :: d ++ ['>'] ++ renderToks r)) _ rfl hf

theorem lexStrict_wrapStr_renderToks (ts : List Token) (h : ListOK ts) :
    lexStrict (wrapStr (renderToks ts)) = some (wrapToks ts) :=
  lexN_wrapStr_renderToks ts h _ (Nat.lt_succ_self _)

/-- `AdvancedHTMLParser.feed(contents)` on the strict sub-language (`none` = the text is outside it):
    `HTMLParser.feed(contents)`; on MultipleRootNodeException `reset()` and
    `HTMLParser.feed(addStartTag(contents, '<xxxblank>') + '</xxxblank>')`.
    (`stripIEConditionals`, the first line of `feed`, is left out here and modelled in `Model/StripIE.lean`; `parseText := feedText ∘ stripIE`
    and `parseText_eq_spec` are in `Lemmas/StripIERender.lean` / `Props/C02.lean`.) -/
def feedText (s : Str) : Option FeedResult :=
  match lexStrict s with
  | none => none
  | some toks =>
    match run BState.init toks with
    | .multipleRoot =>
      match lexStrict (wrapStr s) with
      | none => none
      | some toks2 => some (FeedResult.ofPass true (run BState.init toks2))
    | o => some (FeedResult.ofPass false o)

theorem feedText_renderToks (ts : List Token) (h : ListOK ts) :
    feedText (renderToks ts) = some (feedTokens ts) := by
  unfold feedText feedTokens
  rw [lexStrict_renderToks ts h, lexStrict_wrapStr_renderToks ts h]
  dsimp only
  generalize run BState.init ts = o
  cases o <;> rfl

end AHP
