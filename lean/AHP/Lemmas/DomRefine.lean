/-
  AHP.Lemmas.DomRefine — the bookkeeping model refines the list-of-blocks specification (C05a): `abs`
  (forget the cached fields) commutes with every building block of the model, with the traversal `upd`
  (`abs_apply`: any pair of local effects that agree on consistent elements), with each call of the op
  alphabet, and serialisation only looks at `abs`.
-/
import AHP.Lemmas.DomSpec
import AHP.Lemmas.DomStep
namespace AHP.Dom.Spec
open AHP AHP.Dom

@[simp] theorem abs_text (s) : abs (.text s) = .text s := by simp [abs]

@[simp] theorem abs_el (m bs) : abs (.el m bs) = .el (absM m) (absL bs) := by simp [abs]

@[simp] theorem absL_nil : absL [] = [] := by simp [absL]

@[simp] theorem absL_cons (b bs) : absL (b :: bs) = abs b :: absL bs := by simp [absL]

theorem absL_eq_map (bs : List DN) : absL bs = bs.map abs := by
  induction bs with
  | nil => simp
  | cons b bs ih => simp [ih]

theorem absL_append (a b : List DN) : absL (a ++ b) = absL a ++ absL b := by simp [absL_eq_map]

theorem absL_length (a : List DN) : (absL a).length = a.length := by simp [absL_eq_map]

theorem absL_insertAt (i) (x : DN) (a : List DN) : absL (insertAt i x a) = insertAt i (abs x) (absL a) := by
  simp [insertAt, absL_eq_map]

@[simp] theorem selemIds_nil : selemIds [] = [] := rfl

@[simp] theorem selemIds_text (s) (bs : List SN) : selemIds (.text s :: bs) = selemIds bs := rfl

@[simp] theorem selemIds_el (m k) (bs : List SN) : selemIds (.el m k :: bs) = m.id :: selemIds bs := rfl

theorem selemIds_absL (bs : List DN) : selemIds (absL bs) = elemIds bs := by
  induction bs with
  | nil => simp
  | cons b bs ih => cases b <;> simp [ih, absM]

mutual
theorem abs_reown (o) (n : DN) : abs (reown o n) = abs n := by
  match n with
  | .text s => simp
  | .el m bs => simp [absM, absL_reownL o bs]
theorem absL_reownL (o) (bs : List DN) : absL (reownL o bs) = absL bs := by
  match bs with
  | [] => simp
  | b :: bs => simp [abs_reown o b, absL_reownL o bs]
end

theorem abs_setParent (p) (n : DN) : abs (setParent p n) = abs n := by
  cases n <;> simp [absM]

theorem abs_attach (m : Meta) (c : DN) : abs (attach m c) = abs c := by
  unfold attach; rw [abs_reown, abs_setParent]

theorem absL_map_attach (m : Meta) (l : List DN) : absL (l.map (attach m)) = absL l := by
  simp [absL_eq_map, abs_attach]

theorem srootId_abs (n : DN) : srootId (abs n) = rootId n := by
  cases n <;> simp [srootId, rootId, absM]

theorem sblockEq_abs (r : Blk) (b : DN) : sblockEq r (abs b) = blockEq r b := by
  cases r <;> cases b <;> simp [sblockEq, blockEq, absM]

theorem sindexOf_absL (r : Blk) (bs : List DN) : sindexOf r (absL bs) = indexOf r bs := by
  induction bs with
  | nil => simp [sindexOf, indexOf]
  | cons b bs ih => simp [sindexOf, indexOf, sblockEq_abs, ih]

theorem sreplaceFirstText_absL (s : Str) (bs : List DN) :
    sreplaceFirstText s (absL bs) = (replaceFirstText s bs).map (fun r => (r.1, absL r.2)) := by
  induction bs with
  | nil => simp [sreplaceFirstText, replaceFirstText]
  | cons b bs ih =>
    cases b with
    | el m k => simp [sreplaceFirstText, replaceFirstText, ih, Option.map_map, Function.comp_def]
    | text x =>
      simp only [absL_cons, abs_text, sreplaceFirstText, replaceFirstText]
      split
      · simp
      · simp [ih, Option.map_map, Function.comp_def]

theorem sreplaceAllText_absL (s : Str) (bs : List DN) :
    sreplaceAllText s (absL bs) = ((replaceAllText s bs).1, absL (replaceAllText s bs).2) := by
  induction bs with
  | nil => simp [sreplaceAllText, replaceAllText]
  | cons b bs ih =>
    cases b with
    | el m k => simp [sreplaceAllText, replaceAllText, ih]
    | text x =>
      simp only [absL_cons, abs_text, sreplaceAllText, replaceAllText]
      split <;> simp [ih]

def absP (r : Meta × List DN) : SMeta × List SN := (absM r.1, absL r.2)

mutual
theorem sfind?_abs (t) (n : DN) : sfind? t (abs n) = (find? t n).map absP := by
  match n with
  | .text s => simp [sfind?]
  | .el m bs =>
    simp only [abs_el, sfind?, find?_el]
    have : (absM m).id = m.id := rfl
    rw [this]
    split
    · simp [absP]
    · exact sfindL?_absL t bs
theorem sfindL?_absL (t) (l : List DN) : sfindL? t (absL l) = (findL? t l).map absP := by
  match l with
  | [] => simp [sfindL?]
  | b :: bs =>
    simp only [absL_cons, sfindL?, findL?_cons]
    rw [sfind?_abs t b]
    cases find? t b with
    | some r => simp
    | none => simpa using sfindL?_absL t bs
end

theorem stakeRoot_absL (c : Nat) (l : List DN) :
    stakeRoot c (absL l) = (takeRoot c l).map (fun r => (abs r.1, absL r.2)) := by
  induction l with
  | nil => simp [stakeRoot, takeRoot]
  | cons r rs ih =>
    simp only [absL_cons, stakeRoot, takeRoot, srootId_abs]
    split
    · simp
    · simp [ih, Option.map_map, Function.comp_def]

theorem sremoveFirstEl_eq_stakeRoot (c : Nat) (bs : List SN) : sremoveFirstEl c bs = stakeRoot c bs := by
  induction bs with
  | nil => rfl
  | cons b bs ih => cases b <;> simp [sremoveFirstEl, stakeRoot, srootId, ih]

theorem sremoveFirstEl_absL (c : Nat) (bs : List DN) :
    sremoveFirstEl c (absL bs) = (removeFirstEl c bs).map (fun r => (abs r.1, absL r.2)) := by
  rw [sremoveFirstEl_eq_stakeRoot, removeFirstEl_eq_takeRoot, stakeRoot_absL]

/-- A total edit `f` does, on consistent elements, what the reference edit `g` does. For the edits handed to `World.edit` directly
    (`World.insert` with an element); the calls through `World.apply` carry an `Option` and a value: `LocRefines`. -/
def Refines (f : Meta → List DN → Edit) (g : SMeta → List SN → SEdit) : Prop :=
  ∀ par own m bs, OK par own (.el m bs) → absE (f m bs) = g (absM m) (absL bs)

mutual
theorem abs_upd (t f g) (h : Refines f g) (par own) (n : DN) (hn : OK par own n) :
    abs (upd t f n).1 = (supd t g (abs n)).1 ∧ absL (upd t f n).2 = (supd t g (abs n)).2 := by
  match n, hn with
  | .text s, _ => simp [supd]
  | .el m bs, hn =>
    have hid : (absM m).id = m.id := rfl
    simp only [abs_el, supd, upd_el, hid]
    split
    · have := h par own m bs hn
      simp only [absE] at this
      rw [← this]
      simp
    · simp only [OK_el] at hn
      have := absL_updL t f g h _ _ bs hn.2.2.2.2.2
      simp [this.1, this.2]
theorem absL_updL (t f g) (h : Refines f g) (par own) (l : List DN) (hl : OKL par own l) :
    absL (updL t f l).1 = (supdL t g (absL l)).1 ∧ absL (updL t f l).2 = (supdL t g (absL l)).2 := by
  match l, hl with
  | [], _ => simp [supdL]
  | b :: bs, hl =>
    simp only [OKL_cons] at hl
    have h1 := abs_upd t f g h par own b hl.1
    have h2 := absL_updL t f g h par own bs hl.2
    simp [supdL, absL_append, h1.1, h1.2, h2.1, h2.2]
end

theorem absL_updL_roots (t f g) (h : Refines f g) (l : List DN) (hl : ∀ r ∈ l, RootOK r) :
    absL (updL t f l).1 = (supdL t g (absL l)).1 ∧ absL (updL t f l).2 = (supdL t g (absL l)).2 := by
  induction l with
  | nil => simp [supdL]
  | cons r rs ih =>
    obtain ⟨m, bs, rfl, hk⟩ := hl r (by simp)
    have h1 := abs_upd t f g h _ _ _ hk
    have h2 := ih (fun x hx => hl x (by simp [hx]))
    simp [supdL, absL_append, h1.1, h1.2, h2.1, h2.2]

theorem absW_edit (w : World) (t f g) (h : Refines f g) (hl : ∀ r ∈ w.roots, RootOK r) :
    absW (w.edit t f) = (absW w).edit t g := by
  have := absL_updL_roots t f g h w.roots hl
  simp [absW, World.edit, SWorld.edit, absL_append, this.1, this.2]

def absR (r : World × Val) : SWorld × Val := (absW r.1, r.2)

/-- `Refines` for a call through `World.apply` (an optional edit and a value); `abs_apply` turns it into a `Refines` of `applyEdit loc`. -/
def LocRefines (loc : Meta → List DN → Option Edit × Val) (sloc : SMeta → List SN → Option SEdit × Val) : Prop :=
  ∀ par own m bs, OK par own (.el m bs) →
    (loc m bs).1.map absE = (sloc (absM m) (absL bs)).1 ∧ (loc m bs).2 = (sloc (absM m) (absL bs)).2

theorem abs_apply (w : World) (t loc sloc) (h : LocRefines loc sloc) (hl : ∀ r ∈ w.roots, RootOK r) :
    (w.apply t loc).map absR = (absW w).apply t sloc := by
  unfold World.apply SWorld.apply
  have hf : sfindL? t (absW w).roots = (w.find? t).map absP := sfindL?_absL t w.roots
  rw [hf]
  cases hfind : w.find? t with
  | none => simp
  | some r =>
    obtain ⟨m, bs⟩ := r
    obtain ⟨-, p, o, hk⟩ := findL?_roots t w.roots hl hfind
    obtain ⟨h1, h2⟩ := h p o m bs hk
    simp only [Option.map_some, absP]
    cases hloc : (loc m bs).1 with
    | none =>
      rw [hloc] at h1
      simp only [Option.map_none] at h1
      simp [← h1, absR, h2]
    | some e =>
      rw [hloc] at h1
      simp only [Option.map_some] at h1
      rw [← h1]
      simp only [Option.map_some, absR, h2]
      congr 2
      refine absW_edit w t _ _ ?_ hl
      intro par own m' bs' hk'
      obtain ⟨h1', _⟩ := h par own m' bs' hk'
      show absE ((loc m' bs').1.getD ⟨m', bs', []⟩) = ((sloc (absM m') (absL bs')).1).getD ⟨absM m', absL bs', []⟩
      rw [← h1']
      cases (loc m' bs').1 <;> simp [absE]

theorem absM_sc_false (m : Meta) : absM { m with sc := false } = { absM m with sc := false } := rfl

theorem refines_appendText (s : Str) :
    LocRefines (fun m bs => (some (locAppendText s m bs), .none)) (fun m bs => (some (sAppend (.text s) m bs), .none)) := by
  intro par own m bs _
  simp [locAppendText, sAppend, absE, absL_append, absM]

theorem refines_appendChild (ct : DN) (c : Nat) :
    LocRefines (fun m bs => (some (locAppendChild ct m bs), .el c)) (fun m bs => (some (sAppend (abs ct) m bs), .el c)) := by
  intro par own m bs _
  simp [locAppendChild, sAppend, absE, absL_append, absM, abs_attach]

theorem absE_insertTextAt (i s m bs) : absE (locInsertTextAt i s m bs) = sInsertAt i (.text s) (absM m) (absL bs) := by
  simp [locInsertTextAt, sInsertAt, absE, absL_insertAt, absM]

theorem absE_insertElAt (i c m bs) : absE (locInsertElAt i c m bs) = sInsertAt i (abs c) (absM m) (absL bs) := by
  simp [locInsertElAt, sInsertAt, absE, absL_insertAt, absM, abs_attach]

theorem refines_insertText (after : Bool) (r : Blk) (s : Str) :
    LocRefines (locInsertText after r s) (sInsert after r (.text s) (.str s)) := by
  intro par own m bs _
  simp only [locInsertText, sInsert, sindexOf_absL]
  cases indexOf r bs with
  | none => simp
  | some i => simp [absE_insertTextAt]

/-- A `Refines`, not a `LocRefines`: `World.insert` checks the reference block before it edits, so the edit is
    total. Its `getD (sAppend …)` mirrors the branch of `locInsertEl` for a reference that is not a block, which is never
    executed (the model appends there). -/
theorem refines_insertEl (after : Bool) (r : Blk) (ct : DN) (c : Nat) :
    Refines (locInsertEl after r ct) (fun m bs => ((sInsert after r (abs ct) (.el c) m bs).1).getD (sAppend (abs ct) m bs)) := by
  intro par own m bs _
  simp only [locInsertEl, sInsert, sindexOf_absL]
  cases indexOf r bs with
  | none =>
    simp only [Option.getD_none, absE_insertElAt]
    simp [sInsertAt, sAppend, insertAt, ← absL_length bs]
  | some i => simp [absE_insertElAt]

theorem refines_removeChild (c : Nat) : LocRefines (locRemoveChild c) (sRemoveChild c) := by
  intro par own m bs hk
  simp only [locRemoveChild, sRemoveChild, sremoveFirstEl_absL]
  by_cases hc : c ∈ m.children
  · rw [if_pos hc]
    cases hr : removeFirstEl c bs with
    | none => exact absurd (hk.children ▸ hc) (removeFirstEl_none c bs hr)
    | some r => simp [absE, absM, abs_reown, abs_setParent]
  · rw [if_neg hc]
    cases hr : removeFirstEl c bs with
    | none => simp
    | some r => exact absurd (hk.children ▸ (removeFirstEl_spec c bs hr).mem) hc

theorem refines_removeText (s : Str) :
    LocRefines (fun m bs => (some (locRemoveText s m bs).1, (locRemoveText s m bs).2))
      (fun m bs => (some (sRemoveText s m bs).1, (sRemoveText s m bs).2)) := by
  intro par own m bs _
  simp only [locRemoveText, sRemoveText, sreplaceFirstText_absL]
  cases replaceFirstText s bs with
  | none => simp [absE, absM]
  | some r => simp [absE, absM]

theorem refines_removeTextAll (s : Str) :
    LocRefines (fun m bs => (some (locRemoveTextAll s m bs).1, (locRemoveTextAll s m bs).2))
      (fun m bs => (some (sRemoveTextAll s m bs).1, (sRemoveTextAll s m bs).2)) := by
  intro par own m bs _
  simp [locRemoveTextAll, sRemoveTextAll, sreplaceAllText_absL, absE, absM]

theorem refines_setAttribute (k v : Str) : LocRefines (locSetAttribute k v) (sSetAttribute k v) := by
  intro par own m bs _
  simp only [locSetAttribute, sSetAttribute]
  split <;> simp [absE, absM]

section
variable {w : World}

theorem abs_appendText (hw : Inv w) (t s) : (w.appendText t s).map absR = (absW w).appendText t s :=
  abs_apply w t _ _ (refines_appendText s) hw.roots

theorem rest_roots (hw : Inv w) {c ct rest} (h : takeRoot c w.roots = some (ct, rest)) : ∀ r ∈ rest, RootOK r := by
  intro r hr
  exact hw.roots r ((List.Perm.mem_iff (takeRoot_spec c w.roots h).1).mpr (by simp [hr]))

theorem abs_appendChild (hw : Inv w) (t c) : (w.appendChild t c).map absR = (absW w).appendChild t c := by
  unfold World.appendChild SWorld.appendChild
  have : stakeRoot c (absW w).roots = (takeRoot c w.roots).map (fun r => (abs r.1, absL r.2)) := stakeRoot_absL c w.roots
  rw [this]
  cases h : takeRoot c w.roots with
  | none => simp
  | some r =>
    obtain ⟨ct, rest⟩ := r
    simp only [Option.map_some]
    exact abs_apply { w with roots := rest } t _ _ (refines_appendChild ct c) (rest_roots hw h)

theorem abs_appendBlock (hw : Inv w) (t b) : (w.appendBlock t b).map absR = (absW w).appendBlock t b := by
  cases b with
  | txt s =>
    simp only [World.appendBlock, SWorld.appendBlock, ← abs_appendText hw t s, Option.map_map]
    rfl
  | elm c => exact abs_appendChild hw t c

theorem abs_appendBlocksLoop (hw : Inv w) (t) (bs : List Blk) :
    (w.appendBlocksLoop t bs).map absW = (absW w).appendBlocksLoop t bs := by
  induction bs generalizing w with
  | nil => simp [World.appendBlocksLoop, SWorld.appendBlocksLoop]
  | cons b bs ih =>
    simp only [World.appendBlocksLoop, SWorld.appendBlocksLoop, ← abs_appendBlock hw t b]
    cases h : w.appendBlock t b with
    | none => simp
    | some r =>
      simp only [Option.map_some, absR]
      exact ih (appendBlock_Inv (w' := r.1) (v := r.2) hw (by simpa using h))

theorem abs_appendBlocks (hw : Inv w) (t bs) : (w.appendBlocks t bs).map absR = (absW w).appendBlocks t bs := by
  simp only [World.appendBlocks, SWorld.appendBlocks, ← abs_appendBlocksLoop hw t bs, Option.map_map]
  rfl

mutual
theorem abs_mk (p o) (f : FN) (n : Nat) : abs (mk p o f n).1 = (smk f n).1 ∧ (mk p o f n).2 = (smk f n).2 := by
  match f with
  | .text s => simp [smk]
  | .el name attrs sc kids =>
    have := absL_mkL (some n) o kids (n+1)
    rw [mk_el]
    simp [smk, absM, this.1, this.2]
theorem absL_mkL (p o) (fs : List FN) (n : Nat) : absL (mkL p o fs n).1 = (smkL fs n).1 ∧ (mkL p o fs n).2 = (smkL fs n).2 := by
  match fs with
  | [] => simp [smkL]
  | f :: fs =>
    have h1 := abs_mk p o f n
    have h2 := absL_mkL p o fs (mk p o f n).2
    rw [mkL_cons]
    rw [h1.2] at h2
    simp [smkL, h1.1, h1.2, h2.1, h2.2]
end

theorem abs_detach (b : DN) : abs (detach b) = abs b := by rw [detach, abs_reown, abs_setParent]

theorem absL_map_detach (l : List DN) : absL (l.map detach) = absL l := by
  simp [absL_eq_map, abs_detach]

theorem abs_createBlocks (p : Parsed) (hp : Parsed.plain p) (d n : Nat) :
    absL (createBlocks (p.build d n).1) = (sfragment n p).1 ∧ (p.build d n).2 = (sfragment n p).2 := by
  cases p with
  | single r =>
    have := abs_mk none (some d) r n
    exact ⟨by rw [createBlocks_single r hp, absL_cons, this.1]; rfl, this.2⟩
  | multi tops =>
    have := absL_mkL (some n) (some d) tops (n+1)
    exact ⟨by rw [createBlocks_multi, absL_map_detach, absL_cons, this.1]; rfl, this.2⟩

theorem isEl_abs (b : DN) : SN.isEl (abs b) = b.isEl := by cases b <;> rfl

theorem stoBlk_abs (b : DN) : stoBlk (abs b) = toBlk b := by cases b <;> simp [stoBlk, toBlk, absM]

theorem absL_filter_isEl (l : List DN) : absL (l.filter DN.isEl) = (absL l).filter SN.isEl := by
  simp [absL_eq_map, List.filter_map, Function.comp_def, isEl_abs]

theorem map_stoBlk_absL (l : List DN) : (absL l).map stoBlk = l.map toBlk := by
  simp [absL_eq_map, Function.comp_def, stoBlk_abs]

theorem abs_appendInnerHTML (hw : Inv w) (t) (p : Parsed) (hp : Parsed.plain p) :
    (w.appendInnerHTML t p).map absR = (absW w).appendInnerHTML t p := by
  obtain ⟨h1, h2⟩ := abs_createBlocks p hp w.nextDoc w.next
  simp only [World.appendInnerHTML, SWorld.appendInnerHTML, Option.map_map]
  have hloop := abs_appendBlocksLoop (fragment_world_Inv p hw) t ((createBlocks (p.build w.nextDoc w.next).1).map toBlk)
  have hW : absW { roots := w.roots ++ (createBlocks (p.build w.nextDoc w.next).1).filter DN.isEl,
                   next := (p.build w.nextDoc w.next).2, nextDoc := w.nextDoc + 1 } =
      { roots := (absW w).roots ++ (sfragment (absW w).next p).1.filter SN.isEl, next := (sfragment (absW w).next p).2,
        nextDoc := (absW w).nextDoc + 1 } := by
    simp only [absW, absL_append, absL_filter_isEl, h1, h2]
  have e1 : (sfragment (absW w).next p).1.map stoBlk = (createBlocks (p.build w.nextDoc w.next).1).map toBlk := by
    rw [show (absW w).next = w.next from rfl, ← h1, map_stoBlk_absL]
  rw [← hW, e1, ← hloop, Option.map_map]
  rfl

theorem abs_insert (hw : Inv w) (after t b ref) : (w.insert after t b ref).map absR = (absW w).insert after t b ref := by
  unfold World.insert SWorld.insert
  cases ref with
  | none => exact abs_appendBlock hw t b
  | some r =>
    cases b with
    | txt s => exact abs_apply w t _ _ (refines_insertText after r s) hw.roots
    | elm c =>
      simp only
      have : stakeRoot c (absW w).roots = (takeRoot c w.roots).map (fun r => (abs r.1, absL r.2)) := stakeRoot_absL c w.roots
      rw [this]
      cases h : takeRoot c w.roots with
      | none => simp
      | some x =>
        obtain ⟨ct, rest⟩ := x
        simp only [Option.map_some, sfindL?_absL]
        cases hf : findL? t rest with
        | none => simp
        | some y =>
          obtain ⟨m, bs⟩ := y
          simp only [Option.map_some, absP, sindexOf_absL]
          cases indexOf r bs with
          | none => simp [absR]
          | some i =>
            simp only [Option.map_some, absR]
            congr 2
            exact absW_edit { w with roots := rest } t _ _ (refines_insertEl after r ct c) (rest_roots hw h)

theorem abs_removeText (hw : Inv w) (t s) : (w.removeText t s).map absR = (absW w).removeText t s :=
  abs_apply w t _ _ (refines_removeText s) hw.roots

theorem abs_removeTextAll (hw : Inv w) (t s) : (w.removeTextAll t s).map absR = (absW w).removeTextAll t s :=
  abs_apply w t _ _ (refines_removeTextAll s) hw.roots

theorem abs_removeChild (hw : Inv w) (t c) : (w.removeChild t c).map absR = (absW w).removeChild t c :=
  abs_apply w t _ _ (refines_removeChild c) hw.roots

theorem abs_removeBlock (hw : Inv w) (t b) : (w.removeBlock t b).map absR = (absW w).removeBlock t b := by
  cases b with
  | elm c => exact abs_removeChild hw t c
  | txt s => exact abs_removeText hw t s

theorem abs_removeBlocksLoop (hw : Inv w) (t) (bs : List Blk) :
    (w.removeBlocksLoop t bs).map (fun r => (absW r.1, r.2)) = (absW w).removeBlocksLoop t bs := by
  induction bs generalizing w with
  | nil => simp [World.removeBlocksLoop, SWorld.removeBlocksLoop]
  | cons b bs ih =>
    simp only [World.removeBlocksLoop, SWorld.removeBlocksLoop, ← abs_removeBlock hw t b]
    cases h : w.removeBlock t b with
    | none => simp
    | some r =>
      simp only [Option.map_some, absR]
      rw [← ih (removeBlock_Inv (w' := r.1) (v := r.2) hw (by simpa using h))]
      simp [Option.map_map, Function.comp_def]

theorem abs_removeBlocks (hw : Inv w) (t bs) : (w.removeBlocks t bs).map absR = (absW w).removeBlocks t bs := by
  simp only [World.removeBlocks, SWorld.removeBlocks, ← abs_removeBlocksLoop hw t bs, Option.map_map]
  rfl

theorem abs_setAttribute (hw : Inv w) (t k v) : (w.setAttribute t k v).map absR = (absW w).setAttribute t k v := by
  unfold World.setAttribute SWorld.setAttribute
  split
  · rfl
  · exact abs_apply w t _ _ (refines_setAttribute k v) hw.roots

end

/-! ### `remove()`: the cached `parentNode` is the element that holds the block -/

theorem sparent?_text (t s) : sparent? t (.text s) = none := by simp [sparent?]

theorem sparent?_el (t m bs) : sparent? t (.el m bs) = if t ∈ selemIds bs then some m.id else sparentL? t bs := by simp [sparent?]

theorem sparentL?_nil (t) : sparentL? t [] = none := by simp [sparentL?]

theorem sparentL?_cons (t b bs) : sparentL? t (b :: bs) = match sparent? t b with
    | some r => some r
    | none => sparentL? t bs := by
  rw [sparentL?]; cases sparent? t b <;> rfl

mutual
theorem sparent?_none (t) (n : DN) (h : t ∉ ids n) : sparent? t (abs n) = none := by
  match n with
  | .text s => simp [sparent?_text]
  | .el m bs =>
    simp only [ids_el, List.mem_cons, not_or] at h
    rw [abs_el, sparent?_el, selemIds_absL]
    rw [if_neg (fun hm => h.2 (elemIds_subset_idsL bs t hm))]
    exact sparentL?_none t bs h.2
theorem sparentL?_none (t) (l : List DN) (h : t ∉ idsL l) : sparentL? t (absL l) = none := by
  match l with
  | [] => simp [sparentL?_nil]
  | b :: bs =>
    simp only [idsL_cons, List.mem_append, not_or] at h
    rw [absL_cons, sparentL?_cons, sparent?_none t b h.1]
    exact sparentL?_none t bs h.2
end

mutual
theorem parent_cached (t) (n : DN) {par own} (hn : OK par own n) (hd : (ids n).Nodup) {m bs} (h : find? t n = some (m, bs)) :
    m.parent = if rootId n = some t then par else sparent? t (abs n) := by
  match n with
  | .text s => simp at h
  | .el m' bs' =>
    rw [find?_el] at h
    simp only [OK_el] at hn
    split at h
    · rename_i he
      cases h
      simp [rootId, he, hn.1]
    · rename_i hne
      simp only [ids_el, List.nodup_cons] at hd
      have hroot : ¬ rootId (DN.el m' bs') = some t := by simp [rootId, hne]
      rw [parentL_cached t bs' (fun b hb => ⟨own, OKL_mem hn.2.2.2.2.2 hb⟩) hd.2 h, abs_el, sparent?_el, selemIds_absL,
        if_neg hroot]
      rfl
theorem parentL_cached (t) (l : List DN) {par} (hl : ∀ b ∈ l, ∃ o, OK par o b) (hd : (idsL l).Nodup) {m bs}
    (h : findL? t l = some (m, bs)) :
    m.parent = if t ∈ elemIds l then par else sparentL? t (absL l) := by
  match l with
  | [] => simp at h
  | b :: rest =>
    simp only [idsL_cons] at hd
    have hdd := List.nodup_append.mp hd
    rw [findL?_cons] at h
    obtain ⟨o, hb⟩ := hl b (by simp)
    rw [absL_cons, sparentL?_cons]
    simp only [mem_elemIds_cons]
    cases hfb : find? t b with
    | some r =>
      rw [hfb] at h
      cases h
      have hnr : t ∉ idsL rest := fun hr => hdd.2.2 t (find?_mem t b hfb) t hr rfl
      have hne : t ∉ elemIds rest := fun hm => hnr (elemIds_subset_idsL rest t hm)
      rw [parent_cached t b hb hdd.1 hfb, sparentL?_none t rest hnr]
      simp only [hne, or_false]
      cases sparent? t (abs b) <;> rfl
    | none =>
      rw [hfb] at h
      have hnb : t ∉ ids b := find?_not_mem t b hfb
      have hroot : rootId b ≠ some t := fun e => hnb (rootId_mem_ids e)
      rw [parentL_cached t rest (fun x hx => hl x (by simp [hx])) hdd.2.1 h, sparent?_none t b hnb]
      simp only [hroot, false_or]
end

theorem abs_remove {w : World} (hw : Inv w) (t) : (w.remove t).map absR = (absW w).remove t := by
  unfold World.remove SWorld.remove
  have hf : sfindL? t (absW w).roots = (w.find? t).map absP := sfindL?_absL t w.roots
  rw [hf]
  cases hfind : w.find? t with
  | none => simp
  | some r =>
    obtain ⟨m, bs⟩ := r
    simp only [Option.map_some]
    have hroots : ∀ b ∈ w.roots, ∃ o, OK none o b := by
      intro b hb
      obtain ⟨m', bs', rfl, hk⟩ := hw.roots b hb
      exact ⟨_, hk⟩
    have hp := parentL_cached t w.roots hroots hw.nodup hfind
    have he : selemIds (absW w).roots = elemIds w.roots := selemIds_absL w.roots
    rw [he]
    have hp' : m.parent = if t ∈ elemIds w.roots then none else sparentL? t (absW w).roots := hp
    rw [← hp']
    cases m.parent with
    | none => simp [absR]
    | some p =>
      simp only [← abs_removeChild hw p t, Option.map_map]
      rfl

end AHP.Dom.Spec

namespace AHP.Dom
open AHP.Dom.Spec

mutual
theorem outerHTML_abs (n : DN) : outerHTML n = shtml (abs n) := by
  match n with
  | .text s => simp [outerHTML, shtml]
  | .el m bs =>
    simp only [outerHTML, abs_el, shtml, innerL_abs bs]
    rfl
theorem innerL_abs (bs : List DN) : innerL bs = shtmlL (absL bs) := by
  match bs with
  | [] => simp [innerL, shtmlL]
  | b :: bs => simp [innerL, shtmlL, outerHTML_abs b, innerL_abs bs]
end

mutual
theorem textContent_abs (n : DN) : textContent n = stext (abs n) := by
  match n with
  | .text s => simp [textContent, stext]
  | .el m bs => simp [textContent, stext, textContentL_abs bs]
theorem textContentL_abs (bs : List DN) : textContentL bs = stextL (absL bs) := by
  match bs with
  | [] => simp [textContentL, stextL]
  | b :: bs => simp [textContentL, stextL, textContent_abs b, textContentL_abs bs]
end

theorem shtmlL_append (a b : List SN) : shtmlL (a ++ b) = shtmlL a ++ shtmlL b := by
  induction a with
  | nil => simp [shtmlL]
  | cons x xs ih => simp [shtmlL, ih]

end AHP.Dom
