/-
  The doctype field of the parser object: `handle_decl` / `unknown_decl` folded over the token sequence (`stepD`)
  against the independent reading `Spec.doctypeRead` (Spec/Attrs.lean): the last doctype declaration when it is
  non-empty, otherwise the first non-empty unknown declaration behind it.
-/
import AHP.Spec.Attrs
import AHP.Model.Builder
import AHP.Lemmas.Str
namespace AHP

theorem doctypeRead_eq (ts : List Token) :
    Spec.doctypeRead ts = Spec.doctypeOfParts (Spec.lastDecl ts) (Spec.unknownsAfterLastDecl ts) := rfl

theorem lastDecl_snoc (ts : List Token) (t : Token) :
    Spec.lastDecl (ts ++ [t]) = match t with | .decl d => some d | _ => Spec.lastDecl ts := by
  cases t <;> simp [Spec.lastDecl, List.foldl_append]

theorem unknowns_snoc (ts : List Token) (t : Token) :
    Spec.unknownsAfterLastDecl (ts ++ [t]) = match t with
      | .decl _ => []
      | .unknownDecl u => Spec.unknownsAfterLastDecl ts ++ [u]
      | _ => Spec.unknownsAfterLastDecl ts := by
  cases t <;> simp [Spec.unknownsAfterLastDecl, List.foldl_append]

theorem doctypeOfParts_decl (d : Str) : Spec.doctypeOfParts (some d) [] = some d := by
  cases d <;> simp [Spec.doctypeOfParts]

/-- with no doctype yet, or an empty one (both falsy in Python), the reading is decided by the unknown declarations -/
theorem doctypeOfParts_falsy {b : Option Str} (hb : b = none ∨ b = some []) (vs : List Str) :
    Spec.doctypeOfParts b vs = match vs.find? (fun u => !u.isEmpty) with
      | some u => some u
      | none => if vs.isEmpty then b else some [] := by
  rcases hb with rfl | rfl <;> rfl

theorem stepD_unknown_falsy {x : Option Str} (hx : x = none ∨ x = some []) (u : Str) :
    stepD x (.unknownDecl u) = some u := by
  rcases hx with rfl | rfl <;> rfl

theorem stepD_doctypeOfParts_unknown (base : Option Str) (us : List Str) (u : Str) :
    stepD (Spec.doctypeOfParts base us) (.unknownDecl u) = Spec.doctypeOfParts base (us ++ [u]) := by
  by_cases hb : base = none ∨ base = some []
  · rw [doctypeOfParts_falsy hb us, doctypeOfParts_falsy hb (us ++ [u]), List.find?_append]
    cases hf : us.find? (fun u => !u.isEmpty) with
    | some u0 =>
      have hne : u0.isEmpty = false := by simpa using List.find?_some hf
      simp [stepD, hne]
    | none =>
      have hcur : (if us.isEmpty = true then base else some []) = none ∨
          (if us.isEmpty = true then base else some []) = some [] := by
        split
        · exact hb
        · exact Or.inr rfl
      simp only [Option.none_or, List.find?_cons, List.find?_nil]
      rw [stepD_unknown_falsy hcur]
      cases u <;> simp
  · -- a non-empty declaration stays
    match base, hb with
    | none, hb => exact absurd (Or.inl rfl) hb
    | some [], hb => exact absurd (Or.inr rfl) hb
    | some (c :: d), _ => rfl

/-- The doctype the handlers leave after ANY token sequence is the independent reading:
    the last doctype declaration when it is non-empty; otherwise the first non-empty unknown declaration behind it
    (behind the start of the input when there is no declaration); `none` when there is neither. -/
theorem doctype_fold_eq_read (ts : List Token) : ts.foldl stepD none = Spec.doctypeRead ts := by
  rw [doctypeRead_eq]
  induction ts using snoc_induction with
  | h0 => rfl
  | hs ts t ih =>
    rw [List.foldl_append, List.foldl_cons, List.foldl_nil, ih, lastDecl_snoc, unknowns_snoc]
    cases t with
    | decl d => simp only [stepD]; exact (doctypeOfParts_decl d).symm
    | unknownDecl u => exact stepD_doctypeOfParts_unknown _ _ u
    | _ => rfl

theorem foldl_stepD_fix (x : Option Str) : ∀ ts : List Token, (∀ t ∈ ts, stepD x t = x) → ts.foldl stepD x = x :=
  foldl_fix stepD x

theorem foldl_stepD_keep (c : Char) (d : Str) (ts : List Token) (h : ∀ t ∈ ts, ∀ x, t ≠ .decl x) :
    ts.foldl stepD (some (c :: d)) = some (c :: d) :=
  foldl_stepD_fix _ ts fun t ht => by
    cases t with
    | decl x => exact absurd rfl (h _ ht x)
    | _ => rfl

theorem foldl_stepD_falsy : ∀ (ts : List Token) (x : Option Str), x = none ∨ x = some [] →
    (∀ t ∈ ts, (∀ y, t ≠ .decl y) ∧ (∀ y, t = .unknownDecl y → y = [])) →
    ts.foldl stepD x = none ∨ ts.foldl stepD x = some []
  | [], _, hx, _ => hx
  | t :: ts, x, hx, h => by
    refine foldl_stepD_falsy ts _ ?_ (fun t' ht' => h t' (List.mem_cons_of_mem _ ht'))
    have ht := h t List.mem_cons_self
    cases t with
    | decl y => exact absurd rfl (ht.1 y)
    | unknownDecl y => rw [stepD_unknown_falsy hx, ht.2 y rfl]; exact Or.inr rfl
    | _ => exact hx

end AHP
