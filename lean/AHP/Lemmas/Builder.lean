/-
  The open-element stack machine (AHP.Model.Builder) on its own.  What each handler does to the state, by the kind
  of state, stated once; the shape all handlers share, as a case split (`stepT_ok_cases`) and as an invariant
  principle (`Kept`; `BuilderInv` for properties of the open elements and the finished root, with `feedTokens_inv`);
  the two passes of `feed` in terms of the tree run (`feedTokens_cases`).  Everything about C02 / C03 / C13 builds on this file.
  Last, a Boolean comparison of trees (`Node.beq`) with its soundness, through which concrete parses are checked by evaluation.
-/
import AHP.Model.Builder
import AHP.Lemmas.Tree
import AHP.Spec.Build
namespace AHP
open Spec

/-! ### table facts tying the specification's constants to the generated ones -/

theorem void_tables_agree :
    (Spec.voidTags.all (fun x => AHP.voidTags.contains x) && AHP.voidTags.all (fun x => Spec.voidTags.contains x)) = true := by
  decide +kernel

/-- The equations that meet the specification (`handleStart_*` below, `items_*` in Lemmas/BuilderSpec.lean) are stated with
    `Spec.isVoid`; the case split `stepT_ok_cases` and the invariant principles, whose users speak about the model's own trees,
    keep the model's `isVoid`.  This lemma goes from one to the other. -/
theorem isVoid_eq (n : Str) : AHP.isVoid n = Spec.isVoid n := by
  have h := void_tables_agree
  simp only [Bool.and_eq_true, List.all_eq_true] at h
  unfold AHP.isVoid Spec.isVoid
  cases h1 : AHP.voidTags.contains n <;> cases h2 : Spec.voidTags.contains n <;> try rfl
  · have := h.1 n (by simpa using h2)
    simp_all
  · have := h.2 n (by simpa using h1)
    simp_all

theorem wrapper_not_void : AHP.isVoid wrapperName = false := by decide +kernel
theorem wrapper_lower : lower wrapperName = wrapperName := by decide +kernel

/-! ### `run` in terms of `runT`; outcomes -/

theorem run_eq (ts : List Token) : ∀ s : BState,
    run s ts = (runT s.tree ts).map (fun tr => ⟨tr, ts.foldl stepD s.doctype⟩) := by
  induction ts with
  | nil => intro s; rfl
  | cons t ts ih =>
    intro s
    simp only [run, runT, step]
    cases h : stepT s.tree t <;> simp [Outcome.map, ih]

theorem stepD_eq_spec : stepD = Spec.doctypeStep := by
  funext dt t
  cases t <;> rfl

theorem Outcome.err_map {σ τ : Type} (f : σ → τ) (o : Outcome σ) : (o.map f).err = o.err := by
  cases o <;> rfl

theorem exc_of_err {σ : Type} (o : Outcome σ) (e : Exc) (h : o.err = some e) : o.exc = e := by
  cases o <;> simp [Outcome.err] at h <;> simp [Outcome.exc, h]

theorem Outcome.multipleRoot_of_err {σ : Type} {o : Outcome σ} (h : o.err = some .multipleRoot) : o = .multipleRoot := by
  cases o <;> first | rfl | cases h

/-! ### the state: `names`, `addNodes`, `pop1`, `finish` -/

/-- the outcome of a pass with what is still open closed (`finish`): the stack machine and the specification agree
    only after that, which is why the refinement lemmas are equations between `.fin`s -/
def Outcome.fin : Outcome TState → Outcome TState
  | .ok s => .ok (finish s)
  | .multipleRoot => .multipleRoot
  | .invalidClose => .invalidClose
  | .missedClose => .missedClose
  | .invalidAttr => .invalidAttr

/-- the names of the open elements, innermost first -/
def names (s : TState) : List Str := s.stack.map (·.name)
def addNodes (s : TState) (is : List Node) : TState := is.foldl addNode s

@[simp] theorem names_addNode (s : TState) (c : Node) : names (addNode s c) = names s := by
  unfold addNode names; cases s.stack <;> simp
@[simp] theorem names_addNodes (s : TState) (is : List Node) : names (addNodes s is) = names s := by
  induction is generalizing s with
  | nil => rfl
  | cons i is ih => simp only [addNodes, List.foldl_cons] at ih ⊢; rw [ih]; simp
theorem len_addNode (s : TState) (c : Node) : (addNode s c).stack.length = s.stack.length := by
  unfold addNode; cases s.stack <;> simp
theorem addNodes_cons (s : TState) (i : Node) (is : List Node) :
    addNodes s (i :: is) = addNodes (addNode s i) is := rfl
theorem addNodes_single (s : TState) (c : Node) : addNodes s [c] = addNode s c := rfl

theorem addNodes_push (f : Frame) (fs : List Frame) (r : Option Node) (l : List Node) :
    addNodes ⟨f :: fs, r⟩ l = ⟨{ f with rev := l.reverse ++ f.rev } :: fs, r⟩ := by
  induction l generalizing f with
  | nil => rfl
  | cons c l ih =>
    rw [addNodes_cons, show addNode ⟨f :: fs, r⟩ c = ⟨{ f with rev := c :: f.rev } :: fs, r⟩ from rfl, ih]
    simp

theorem names_ne_nil {s : TState} : names s ≠ [] ↔ s.stack ≠ [] := by
  unfold names; cases s.stack <;> simp

theorem names_isEmpty (s : TState) : (names s).isEmpty = s.stack.isEmpty := by
  unfold names; cases s.stack <;> rfl

theorem addNode_stack_ne_nil {s : TState} (h : s.stack ≠ []) (c : Node) : (addNode s c).stack ≠ [] :=
  names_ne_nil.mp (by rw [names_addNode]; exact names_ne_nil.mpr h)

theorem stack_isEmpty_eq_false {s : TState} (h : s.stack ≠ []) : s.stack.isEmpty = false := by
  cases hs : s.stack with
  | nil => exact absurd hs h
  | cons f fs => rfl

theorem hasRoot_of_stack {s : TState} (h : s.stack ≠ []) : s.hasRoot = true := by
  simp [TState.hasRoot, stack_isEmpty_eq_false h]

theorem hasRoot_addNode (s : TState) (c : Node) : (addNode s c).hasRoot = true := by
  unfold addNode TState.hasRoot
  cases s.stack <;> simp

theorem hasRoot_pop1 (s : TState) (h : s.hasRoot = true) : (pop1 s).hasRoot = true := by
  unfold pop1
  cases hs : s.stack with
  | nil => simpa [hs] using h
  | cons f fs => exact hasRoot_addNode _ _

theorem mem_stack_addNode {s : TState} {c : Node} {f : Frame} (h : f ∈ (addNode s c).stack) :
    (∃ g, g ∈ s.stack ∧ f = { g with rev := c :: g.rev }) ∨ f ∈ s.stack := by
  unfold addNode at h
  cases hs : s.stack with
  | nil => rw [hs] at h; cases h
  | cons g gs =>
    rw [hs] at h
    rcases List.mem_cons.mp h with e | e
    · exact Or.inl ⟨g, List.mem_cons_self, e⟩
    · exact Or.inr (List.mem_cons_of_mem _ e)

theorem root_addNode {s : TState} {c : Node} {r : Node} (h : (addNode s c).root = some r) :
    r = c ∨ s.root = some r := by
  unfold addNode at h
  cases hs : s.stack <;> rw [hs] at h
  · cases h; exact Or.inl rfl
  · exact Or.inr h

theorem names_pop1_tail (s : TState) : names (pop1 s) = (names s).tail := by
  unfold pop1
  cases hs : s.stack with
  | nil => simp [names, hs]
  | cons f fs => simp only [names_addNode]; simp [names, hs]

theorem names_pop1 {s : TState} {f : Frame} {fs : List Frame} (hs : s.stack = f :: fs) :
    names (pop1 s) = fs.map (·.name) := by
  rw [names_pop1_tail]; simp [names, hs]

theorem finish_nil (r : Option Node) : finish ⟨[], r⟩ = ⟨[], r⟩ := rfl

theorem len_pop1 (s : TState) : (pop1 s).stack.length = s.stack.length - 1 := by
  unfold pop1
  cases hs : s.stack with
  | nil => simp [hs]
  | cons f fs => rw [len_addNode]; rfl

theorem finish_pop1 (s : TState) (h : s.stack ≠ []) : finish s = finish (pop1 s) := by
  obtain ⟨f, fs, hs⟩ := List.exists_cons_of_ne_nil h
  unfold finish
  rw [len_pop1, hs]
  simp only [List.length_cons, Nat.add_sub_cancel, closeAll]
  split
  · rename_i h0; rw [hs] at h0; cases h0
  · rfl

theorem finish_pops {P : TState → Prop} (hp : ∀ s, s.stack ≠ [] → P s → P (pop1 s)) (s : TState) (h : P s) :
    P (finish s) ∧ (finish s).stack = [] := by
  generalize hn : s.stack.length = n
  induction n generalizing s with
  | zero =>
    obtain ⟨st, r⟩ := s
    cases List.length_eq_zero_iff.mp hn
    exact ⟨h, rfl⟩
  | succ n ih =>
    have hne : s.stack ≠ [] := by intro e; rw [e] at hn; cases hn
    rw [finish_pop1 s hne]
    exact ih (pop1 s) (hp s hne h) (by rw [len_pop1, hn]; rfl)

theorem popTo_skip (m : Str) (k : Nat) (s : TState) (f : Frame) (fs : List Frame)
    (hs : s.stack = f :: fs) (hne : f.name ≠ m) : popTo m (k + 1) s = popTo m k (pop1 s) := by
  simp [popTo, hs, hne]

theorem popTo_hit (m : Str) (k : Nat) (s : TState) (f : Frame) (fs : List Frame)
    (hs : s.stack = f :: fs) (he : f.name = m) : popTo m (k + 1) s = pop1 s := by
  simp [popTo, hs, he]

theorem pop1_push (s : TState) (n : Str) (a : AttrState) (kids : List Node) :
    pop1 (addNodes { s with stack := ⟨n, a, []⟩ :: s.stack } kids) = addNode s (.elem n a false kids) := by
  rw [show ({ s with stack := ⟨n, a, []⟩ :: s.stack } : TState) = ⟨⟨n, a, []⟩ :: s.stack, s.root⟩ from rfl, addNodes_push]
  simp [pop1, Frame.close]

/-! ### the handlers, case by case -/

theorem addTextStrict_inside (s : TState) (h : s.stack ≠ []) (t : Str) :
    addTextStrict s t = .ok (addNode s (.text t)) := by
  simp [addTextStrict, stack_isEmpty_eq_false h]

/-- `handle_starttag`: a second top-level node when the root is complete; else a leaf, or a newly opened element -/
theorem handleStart_eq (s : TState) (n : Str) (a : List Attr) (sc : Bool) :
    handleStart s n a sc =
      if s.hasRoot && s.stack.isEmpty then .multipleRoot
      else if sc || Spec.isVoid (lower n) then .ok (addNode s (.elem (lower n) (intake a AttrState.empty) true []))
      else .ok { s with stack := ⟨lower n, intake a AttrState.empty, []⟩ :: s.stack } := by
  rw [← isVoid_eq]
  unfold handleStart
  cases s.hasRoot <;> cases s.stack.isEmpty <;> rfl

theorem handleStart_inside (s : TState) (h : s.stack ≠ []) (n : Str) (a : List Attr) (sc : Bool) :
    handleStart s n a sc =
      if (sc || Spec.isVoid (lower n)) then .ok (addNode s (.elem (lower n) (intake a AttrState.empty) true []))
      else .ok { s with stack := ⟨lower n, intake a AttrState.empty, []⟩ :: s.stack } := by
  rw [handleStart_eq, stack_isEmpty_eq_false h, Bool.and_false, if_neg Bool.false_ne_true]

theorem handleStart_init (n : Str) (a : List Attr) (sc : Bool) :
    handleStart TState.init n a sc =
      if (sc || Spec.isVoid (lower n)) then .ok ⟨[], some (.elem (lower n) (intake a AttrState.empty) true [])⟩
      else .ok ⟨[⟨lower n, intake a AttrState.empty, []⟩], none⟩ := by
  rw [handleStart_eq]; rfl

theorem handleStart_done (r : Node) (n : Str) (a : List Attr) (sc : Bool) :
    handleStart ⟨[], some r⟩ n a sc = .multipleRoot := by
  rw [handleStart_eq]; rfl

theorem stepT_data (s : TState) (d : Str) : stepT s (.data d) =
    if d.isEmpty then .ok s else if !s.stack.isEmpty then .ok (addNode s (.text d))
    else if isBlank d then .ok s else .multipleRoot := rfl

theorem stepT_text_inside {s : TState} (h : s.stack ≠ []) {t : Token} (h1 : ∀ n, t = .end_ n → False)
    (h2 : ∀ n a, t = .start n a → False) (h3 : ∀ n a, t = .startend n a → False) :
    stepT s t = .ok (match textOf t with | some x => addNode s (.text x) | none => s) := by
  cases t with
  | end_ n => exact absurd rfl (h1 n)
  | start n a => exact absurd rfl (h2 n a)
  | startend n a => exact absurd rfl (h3 n a)
  | data d => by_cases hd : d.isEmpty = true <;> simp [stepT, textOf, hd, stack_isEmpty_eq_false h]
  | decl d => rfl
  | unknownDecl d => rfl
  | pi d => rfl
  | comment c => exact addTextStrict_inside s h _
  | entity c => exact addTextStrict_inside s h _
  | charref c => exact addTextStrict_inside s h _

theorem stepT_outer_empty (s : TState) (he : s.stack = []) (t : Token) (ho : isOuter t = true) :
    stepT s t = .ok s := by
  cases t with
  | end_ n => simp [stepT, handleEnd, he]
  | data d =>
    simp only [isOuter, Bool.or_eq_true] at ho
    by_cases hd : d.isEmpty = true
    · simp [stepT, hd]
    · simp [stepT, hd, he, ho.resolve_left hd]
  | decl d => rfl
  | unknownDecl d => rfl
  | pi d => rfl
  | _ => cases ho

theorem stepT_text_outside {s : TState} (he : s.stack = []) {t : Token} (ho : isOuter t = false)
    (h2 : ∀ n a, t = .start n a → False) (h3 : ∀ n a, t = .startend n a → False) : stepT s t = .multipleRoot := by
  cases t with
  | start n a => exact absurd rfl (h2 n a)
  | startend n a => exact absurd rfl (h3 n a)
  | data d =>
    simp only [isOuter, Bool.or_eq_false_iff] at ho
    simp [stepT, ho.1, ho.2, he]
  | comment c => simp [stepT, addTextStrict, he]
  | entity c => simp [stepT, addTextStrict, he]
  | charref c => simp [stepT, addTextStrict, he]
  | _ => cases ho

theorem handleEnd_stray {s : TState} {n : Str} (h : (names s).contains n = false) : handleEnd s n = s := by
  unfold handleEnd; unfold names at h; rw [h]; rfl

theorem handleEnd_own {s : TState} {f : Frame} {fs : List Frame} (hs : s.stack = f :: fs) :
    handleEnd s f.name = pop1 s := by
  have hc : (s.stack.map (·.name)).contains f.name = true := by rw [hs]; simp
  have hl : s.stack.length = fs.length + 1 := by rw [hs]; rfl
  unfold handleEnd
  rw [hc, if_pos rfl, hl, popTo_hit _ _ s f fs hs rfl]

theorem handleEnd_ancestor {s : TState} {f : Frame} {fs : List Frame} {n : Str} (hs : s.stack = f :: fs)
    (hne : f.name ≠ n) (hin : n ∈ fs.map (·.name)) : handleEnd s n = handleEnd (pop1 s) n := by
  have hc : (s.stack.map (·.name)).contains n = true := by rw [hs]; simp [hin]
  have hc' : ((pop1 s).stack.map (·.name)).contains n = true := by
    show (names (pop1 s)).contains n = true
    rw [names_pop1 hs]; simpa using hin
  have hl : s.stack.length = fs.length + 1 := by rw [hs]; rfl
  have hl' : (pop1 s).stack.length = fs.length := by
    have := congrArg List.length (names_pop1 hs); simpa [names] using this
  unfold handleEnd
  rw [hc, hc', if_pos rfl, if_pos rfl, hl', hl, popTo_skip n _ s f fs hs hne]

theorem stepT_close_own (s : TState) (n : Str) (a : AttrState) (kids : List Node) :
    stepT (addNodes { s with stack := ⟨n, a, []⟩ :: s.stack } kids) (.end_ n)
      = .ok (addNode s (.elem n a false kids)) := by
  have hn := names_addNodes { s with stack := ⟨n, a, []⟩ :: s.stack } kids
  cases hst : (addNodes { s with stack := ⟨n, a, []⟩ :: s.stack } kids).stack with
  | nil => simp [names, hst] at hn
  | cons f fs =>
    have hf : f.name = n := by simp [names, hst] at hn; exact hn.1
    have := handleEnd_own hst
    rw [hf] at this
    rw [← pop1_push, ← this]
    rfl

/-- **the shape all handlers share**: an accepted token leaves the state alone, appends a text block or a
    childless self-closing element, opens a non-void element without blocks, or is an end tag -/
theorem stepT_ok_cases {s s' : TState} {t : Token} (h : stepT s t = .ok s') :
    s' = s ∨ (∃ x, textOf t = some x ∧ s' = addNode s (.text x)) ∨
    (∃ n a, (t = .start n a ∨ t = .startend n a) ∧
      s' = addNode s (.elem (lower n) (intake a AttrState.empty) true [])) ∨
    (∃ n a, (t = .start n a ∨ t = .startend n a) ∧ AHP.isVoid (lower n) = false ∧
      s' = { s with stack := ⟨lower n, intake a AttrState.empty, []⟩ :: s.stack }) ∨
    (∃ n, t = .end_ n ∧ s' = handleEnd s n) := by
  have hstart : ∀ n a sc, (t = .start n a ∨ t = .startend n a) → handleStart s n a sc = .ok s' →
      (∃ n a, (t = .start n a ∨ t = .startend n a) ∧
        s' = addNode s (.elem (lower n) (intake a AttrState.empty) true [])) ∨
      (∃ n a, (t = .start n a ∨ t = .startend n a) ∧ AHP.isVoid (lower n) = false ∧
        s' = { s with stack := ⟨lower n, intake a AttrState.empty, []⟩ :: s.stack }) := by
    intro n a sc ht he
    rw [handleStart_eq] at he
    split at he
    · cases he
    · split at he
      · cases he; exact Or.inl ⟨n, a, ht, rfl⟩
      · rename_i h2
        cases he
        exact Or.inr ⟨n, a, ht, by rw [isVoid_eq]; exact (Bool.or_eq_false_iff.mp (Bool.not_eq_true _ ▸ h2)).2, rfl⟩
  have htext : ∀ x, addTextStrict s x = .ok s' → s' = addNode s (.text x) := by
    intro x he
    unfold addTextStrict at he
    split at he
    · cases he
    · cases he; rfl
  cases t with
  | start n a => exact Or.inr (Or.inr ((hstart n a false (Or.inl rfl) h).elim Or.inl (fun h => Or.inr (Or.inl h))))
  | startend n a => exact Or.inr (Or.inr ((hstart n a true (Or.inr rfl) h).elim Or.inl (fun h => Or.inr (Or.inl h))))
  | end_ n => cases h; exact Or.inr (Or.inr (Or.inr (Or.inr ⟨n, rfl, rfl⟩)))
  | decl d => cases h; exact Or.inl rfl
  | unknownDecl d => cases h; exact Or.inl rfl
  | pi d => cases h; exact Or.inl rfl
  | comment c => exact Or.inr (Or.inl ⟨_, rfl, htext _ h⟩)
  | entity c => exact Or.inr (Or.inl ⟨_, rfl, htext _ h⟩)
  | charref c => exact Or.inr (Or.inl ⟨_, rfl, htext _ h⟩)
  | data d =>
    rw [stepT_data] at h
    split at h
    · cases h; exact Or.inl rfl
    · rename_i hd
      split at h
      · cases h; exact Or.inr (Or.inl ⟨d, by simp [textOf, hd], rfl⟩)
      · split at h
        · cases h; exact Or.inl rfl
        · cases h

theorem stepT_ok_or_multipleRoot (s : TState) (t : Token) :
    (∃ s', stepT s t = .ok s') ∨ stepT s t = .multipleRoot := by
  have hstart : ∀ n a sc, (∃ s', handleStart s n a sc = .ok s') ∨ handleStart s n a sc = .multipleRoot := by
    intro n a sc; rw [handleStart_eq]; split
    · exact Or.inr rfl
    · split <;> exact Or.inl ⟨_, rfl⟩
  have htext : ∀ x, (∃ s', addTextStrict s x = .ok s') ∨ addTextStrict s x = .multipleRoot := by
    intro x; unfold addTextStrict
    by_cases h : s.stack.isEmpty = true
    · exact Or.inr (if_pos h)
    · exact Or.inl ⟨_, if_neg h⟩
  cases t with
  | start n a => exact hstart n a false
  | startend n a => exact hstart n a true
  | comment c => exact htext _
  | entity c => exact htext _
  | charref c => exact htext _
  | data d =>
    rw [stepT_data]
    by_cases h1 : d.isEmpty = true
    · exact Or.inl ⟨_, if_pos h1⟩
    · rw [if_neg h1]
      by_cases h2 : (!s.stack.isEmpty) = true
      · exact Or.inl ⟨_, if_pos h2⟩
      · rw [if_neg h2]
        by_cases h3 : isBlank d = true
        · exact Or.inl ⟨_, if_pos h3⟩
        · exact Or.inr (if_neg h3)
  | _ => exact Or.inl ⟨_, rfl⟩

theorem runT_ok_or_multipleRoot (ts : List Token) : ∀ s : TState,
    (∃ s', runT s ts = .ok s') ∨ runT s ts = .multipleRoot := by
  induction ts with
  | nil => intro s; exact Or.inl ⟨s, rfl⟩
  | cons t ts ih =>
    intro s
    rcases stepT_ok_or_multipleRoot s t with ⟨s', h⟩ | h
    · simp only [runT, h]; exact ih s'
    · right; simp [runT, h]

theorem runT_cons {s s' : TState} {t : Token} (ts : List Token) (h : stepT s t = .ok s') :
    runT s (t :: ts) = runT s' ts := by
  simp only [runT, h]

theorem runT_cons_ok {s s' : TState} {t : Token} {ts : List Token} (h : runT s (t :: ts) = .ok s') :
    ∃ s1, stepT s t = .ok s1 ∧ runT s1 ts = .ok s' := by
  simp only [runT] at h
  cases hs : stepT s t <;> rw [hs] at h <;> first | exact ⟨_, rfl, h⟩ | cases h

theorem runT_append_ok (l1 : List Token) : ∀ (l2 : List Token) (sa sb : TState),
    runT sa l1 = .ok sb → runT sa (l1 ++ l2) = runT sb l2 := by
  induction l1 with
  | nil => intro l2 sa sb h; cases h; rfl
  | cons x l1 ih =>
    intro l2 sa sb h
    obtain ⟨s1, h1, h2⟩ := runT_cons_ok h
    simp only [List.cons_append, runT, h1]
    exact ih l2 _ sb h2

/-! ### properties kept by everything a handler does -/

theorem textOf_ne_nil {t : Token} {x : Str} (h : textOf t = some x) : x ≠ [] := by
  cases t with
  | data d =>
    simp only [textOf] at h
    split at h
    · cases h
    · rename_i hd; cases h; exact fun e => hd (by rw [e]; rfl)
  | entity e => cases h; exact List.cons_ne_nil _ _
  | charref c => cases h; exact List.cons_ne_nil _ _
  | comment c => cases h; simp
  | _ => cases h

theorem handleEnd_pops {P : TState → Prop} (hp : ∀ s, s.stack ≠ [] → P s → P (pop1 s)) (s : TState) (n : Str)
    (h : P s) : P (handleEnd s n) := by
  have key : ∀ (k : Nat) (s : TState), P s → P (popTo n k s) := by
    intro k
    induction k with
    | zero => intro s h; exact h
    | succ k ih =>
      intro s h
      unfold popTo
      cases hs : s.stack with
      | nil => exact h
      | cons f fs =>
        have := hp s (by rw [hs]; simp) h
        simp only
        split
        · exact this
        · exact ih _ this
  unfold handleEnd; split
  · exact key _ s h
  · exact h

/-- A property of the builder's state that survives the four things handlers do to it.  It then survives every
    accepted token, every accepted run and the closing of what is still open at the end of input. -/
structure Kept (P : TState → Prop) : Prop where
  text : ∀ s x, x ≠ [] → P s → P (addNode s (.text x))
  leaf : ∀ s n a, P s → P (addNode s (.elem (lower n) (intake a AttrState.empty) true []))
  push : ∀ s n a, AHP.isVoid (lower n) = false → P s →
    P { s with stack := ⟨lower n, intake a AttrState.empty, []⟩ :: s.stack }
  pop : ∀ s, s.stack ≠ [] → P s → P (pop1 s)

namespace Kept
variable {P : TState → Prop} (K : Kept P)
include K

theorem stepT {s s' : TState} {t : Token} (hs : AHP.stepT s t = .ok s') (h : P s) : P s' := by
  rcases stepT_ok_cases hs with rfl | ⟨x, hx, rfl⟩ | ⟨n, a, _, rfl⟩ | ⟨n, a, _, hv, rfl⟩ | ⟨n, _, rfl⟩
  · exact h
  · exact K.text s x (textOf_ne_nil hx) h
  · exact K.leaf s n a h
  · exact K.push s n a hv h
  · exact handleEnd_pops K.pop s n h

theorem runT (ts : List Token) : ∀ {s s' : TState}, AHP.runT s ts = .ok s' → P s → P s' := by
  induction ts with
  | nil => intro s s' hr h; cases hr; exact h
  | cons t ts ih =>
    intro s s' hr h
    obtain ⟨s1, h1, h2⟩ := runT_cons_ok hr
    exact ih h2 (K.stepT h1 h)

theorem finish (s : TState) (h : P s) : P (AHP.finish s) := (finish_pops K.pop s h).1

end Kept

/-- The usual shape of such a property: `F` holds of every open element, `P` of a finished root.  It is kept when
    `P` and `F` are closed under the five things the handlers construct: a non-empty text block, a childless
    self-closing element, a newly opened element, an open element that receives a block, an element that is closed. -/
structure BuilderInv (P : Node → Prop) (F : Frame → Prop) : Prop where
  text : ∀ t : Str, t ≠ [] → P (.text t)
  leaf : ∀ (n : Str) (a : List Attr), P (.elem (lower n) (intake a AttrState.empty) true [])
  opened : ∀ (n : Str) (a : List Attr), isVoid (lower n) = false → F ⟨lower n, intake a AttrState.empty, []⟩
  push : ∀ (f : Frame) (c : Node), F f → P c → F { f with rev := c :: f.rev }
  close : ∀ f : Frame, F f → P f.close

def TState.Inv (P : Node → Prop) (F : Frame → Prop) (s : TState) : Prop :=
  (∀ f ∈ s.stack, F f) ∧ (∀ r, s.root = some r → P r)

section
variable {P : Node → Prop} {F : Frame → Prop}

theorem inv_init : TState.init.Inv P F := ⟨fun _ h => (nomatch h), fun _ h => (nomatch h)⟩

theorem addNode_inv (I : BuilderInv P F) {s : TState} (h : s.Inv P F) {c : Node} (hc : P c) : (addNode s c).Inv P F := by
  refine ⟨fun f hf => ?_, fun r hr => ?_⟩
  · rcases mem_stack_addNode hf with ⟨g, hg, rfl⟩ | hf
    · exact I.push g c (h.1 g hg) hc
    · exact h.1 f hf
  · rcases root_addNode hr with rfl | hr
    · exact hc
    · exact h.2 r hr

theorem BuilderInv.kept (I : BuilderInv P F) : Kept (TState.Inv P F) where
  text s x hx h := addNode_inv I h (I.text x hx)
  leaf s n a h := addNode_inv I h (I.leaf n a)
  push s n a hv h := by
    refine ⟨fun g hg => ?_, h.2⟩
    rcases List.mem_cons.mp hg with e | e
    · rw [e]; exact I.opened n a hv
    · exact h.1 g e
  pop s _ h := by
    unfold pop1
    cases hs : s.stack with
    | nil => exact h
    | cons f fs =>
      exact addNode_inv I (s := { s with stack := fs })
        ⟨fun g hg => h.1 g (by rw [hs]; exact List.mem_cons_of_mem _ hg), h.2⟩
        (I.close f (h.1 f (by rw [hs]; exact List.mem_cons_self)))

end

/-! ### the two passes of `feed` in terms of the tree run -/

theorem wrapToks_shape (toks : List Token) :
    ∃ pre, toks = pre ++ topTokens toks ∧
      (pre = [] ∨ (∃ d, pre = [.decl d]) ∨ ∃ ws d, wsNL ws = true ∧ pre = [.data ws, .decl d]) ∧
      wrapToks toks = pre ++ .start wrapperName [] :: (topTokens toks ++ [.end_ wrapperName]) := by
  unfold wrapToks topTokens
  cases hl : leadDoctype toks with
  | none => exact ⟨[], rfl, Or.inl rfl, rfl⟩
  | some p =>
    obtain ⟨e, h⟩ := leadDoctype_cases hl
    exact ⟨p.1, e, Or.inr h, by simp⟩

theorem wrapToks_length (toks : List Token) : (wrapToks toks).length = toks.length + 2 := by
  obtain ⟨pre, e, _, h⟩ := wrapToks_shape toks
  rw [h, congrArg List.length e]; simp; omega

/-- `feed` over any tree run `R` (the plain one, the validating one): the first pass; when that meets a second
    top-level node, the pass over the wrapped tokens -/
def twoPass (R : List Token → Outcome TState) (toks : List Token) : FeedResult :=
  match R toks with
  | .ok s => .doc ⟨toks.foldl stepD none, (finish s).root⟩ false
  | .multipleRoot =>
    match R (wrapToks toks) with
    | .ok s => .doc ⟨(wrapToks toks).foldl stepD none, (finish s).root⟩ true
    | o => .raised o.exc
  | o => .raised o.exc

theorem twoPass_of_map (R : List Token → Outcome TState) (toks : List Token) :
    (match (R toks).map (fun tr => (⟨tr, toks.foldl stepD none⟩ : BState)) with
      | .multipleRoot => FeedResult.ofPass true
          ((R (wrapToks toks)).map (fun tr => (⟨tr, (wrapToks toks).foldl stepD none⟩ : BState)))
      | o => FeedResult.ofPass false o) = twoPass R toks := by
  unfold twoPass
  cases R toks <;> try rfl
  cases R (wrapToks toks) <;> rfl

theorem feedTokens_eq (toks : List Token) : feedTokens toks = twoPass (runT TState.init) toks := by
  rw [← twoPass_of_map]; unfold feedTokens; rw [run_eq, run_eq]; rfl

theorem run_init_ok {ts : List Token} {s : TState} (h : runT TState.init ts = .ok s) :
    run BState.init ts = .ok ⟨s, ts.foldl stepD none⟩ := by
  rw [run_eq, show BState.init.tree = TState.init from rfl, h]; rfl

theorem run_multipleRoot {ts : List Token} (h : runT TState.init ts = .multipleRoot) :
    run BState.init ts = .multipleRoot := by
  rw [run_eq, show BState.init.tree = TState.init from rfl, h]; rfl

/-- **`feed`, case by case**: the first pass is accepted; or it meets a second top-level node and the wrapped pass
    is accepted; or that one meets a further top-level node too -/
theorem feedTokens_cases (toks : List Token) :
    (∃ s, runT TState.init toks = .ok s ∧
      feedTokens toks = .doc ⟨toks.foldl stepD none, (finish s).root⟩ false) ∨
    (runT TState.init toks = .multipleRoot ∧
      ((∃ s, runT TState.init (wrapToks toks) = .ok s ∧
          feedTokens toks = .doc ⟨(wrapToks toks).foldl stepD none, (finish s).root⟩ true) ∨
       (runT TState.init (wrapToks toks) = .multipleRoot ∧ feedTokens toks = .raised .multipleRoot))) := by
  rw [feedTokens_eq]
  unfold twoPass
  rcases runT_ok_or_multipleRoot toks TState.init with ⟨s, h⟩ | h <;> rw [h]
  · exact Or.inl ⟨s, rfl, rfl⟩
  · rcases runT_ok_or_multipleRoot (wrapToks toks) TState.init with ⟨s, h2⟩ | h2 <;> rw [h2]
    · exact Or.inr ⟨rfl, Or.inl ⟨s, rfl, rfl⟩⟩
    · exact Or.inr ⟨rfl, Or.inr ⟨rfl, rfl⟩⟩

theorem run_unfold (b : BState) (tok : Token) (ts : List Token) :
    run b (tok :: ts) = match stepT b.tree tok with
      | .ok t' => run ⟨t', stepD b.doctype tok⟩ ts
      | .multipleRoot => .multipleRoot
      | .invalidClose => .invalidClose
      | .missedClose => .missedClose
      | .invalidAttr => .invalidAttr := by
  simp only [run, step]
  cases stepT b.tree tok <;> rfl

theorem feedTokens_run (toks : List Token) :
    (∃ b sp, run BState.init (if sp then wrapToks toks else toks) = .ok b ∧
      (sp = true → run BState.init toks = .multipleRoot) ∧ feedTokens toks = .doc b.doc sp) ∨
    (run BState.init toks = .multipleRoot ∧ run BState.init (wrapToks toks) = .multipleRoot ∧
      feedTokens toks = .raised .multipleRoot) := by
  rcases feedTokens_cases toks with ⟨s, hr, hf⟩ | ⟨hm, ⟨s, hr, hf⟩ | ⟨hm2, hf⟩⟩
  · exact Or.inl ⟨_, false, run_init_ok hr, nofun, hf⟩
  · exact Or.inl ⟨_, true, run_init_ok hr, fun _ => run_multipleRoot hm, hf⟩
  · exact Or.inr ⟨run_multipleRoot hm, run_multipleRoot hm2, hf⟩

theorem feedTokens_doc {toks : List Token} {d : Doc} {sp : Bool} (h : feedTokens toks = .doc d sp) :
    ∃ b, run BState.init (if sp then wrapToks toks else toks) = .ok b ∧ d = b.doc := by
  rcases feedTokens_run toks with ⟨b, sp', h1, _, h2⟩ | ⟨_, _, h2⟩ <;> rw [h2] at h <;> cases h
  exact ⟨b, h1, rfl⟩

/-- **`P` holds of every root the builder returns**: any token list, first pass or wrapped second pass. -/
theorem feedTokens_inv {P : Node → Prop} {F : Frame → Prop} (I : BuilderInv P F) (toks : List Token) (d : Doc) (b : Bool)
    (h : feedTokens toks = .doc d b) : ∀ r, d.root = some r → P r := by
  have key : ∀ {l : List Token} {s : TState}, runT TState.init l = .ok s → ∀ r, (finish s).root = some r → P r :=
    fun hr => (I.kept.finish _ (I.kept.runT _ hr inv_init)).2
  rcases feedTokens_cases toks with ⟨s, hr, hf⟩ | ⟨_, ⟨s, hr, hf⟩ | ⟨_, hf⟩⟩ <;> rw [hf] at h <;> cases h
  · exact key hr
  · exact key hr

/-! ### test vectors on trees, by evaluation

  `Node` is a nested inductive type and has no decidable equality, so a concrete parse cannot be checked by `decide`.  A Boolean
  comparison proved sound once does it: `FeedResult.eq_of_beq (by decide +kernel)` has the kernel run both sides and compare. -/

mutual
def Node.beq : Node → Node → Bool
  | .text a, .text b => a == b
  | .elem n a sc ks, .elem n' a' sc' ks' => n == n' && a == a' && sc == sc' && beqL ks ks'
  | _, _ => false
def beqL : List Node → List Node → Bool
  | [], [] => true
  | k :: ks, k' :: ks' => k.beq k' && beqL ks ks'
  | _, _ => false
end

mutual
theorem Node.eq_of_beq : ∀ {x y : Node}, x.beq y = true → x = y
  | .text a, .text b, h => by simp only [Node.beq, beq_iff_eq] at h; rw [h]
  | .elem n a sc ks, .elem n' a' sc' ks', h => by
    simp only [Node.beq, Bool.and_eq_true, beq_iff_eq] at h
    obtain ⟨⟨⟨rfl, rfl⟩, rfl⟩, h4⟩ := h
    rw [eq_of_beqL h4]
  | .text _, .elem .., h => by simp [Node.beq] at h
  | .elem .., .text _, h => by simp [Node.beq] at h
theorem eq_of_beqL : ∀ {xs ys : List Node}, beqL xs ys = true → xs = ys
  | [], [], _ => rfl
  | k :: ks, k' :: ks', h => by
    simp only [beqL, Bool.and_eq_true] at h
    rw [Node.eq_of_beq h.1, eq_of_beqL h.2]
  | [], _ :: _, h => by simp [beqL] at h
  | _ :: _, [], h => by simp [beqL] at h
end

def FeedResult.beq : FeedResult → FeedResult → Bool
  | .doc ⟨dt, some r⟩ b, .doc ⟨dt', some r'⟩ b' => dt == dt' && r.beq r' && b == b'
  | .doc ⟨dt, none⟩ b, .doc ⟨dt', none⟩ b' => dt == dt' && b == b'
  | .raised e, .raised e' => e == e'
  | _, _ => false

theorem FeedResult.eq_of_beq {x y : FeedResult} (h : x.beq y = true) : x = y := by
  unfold FeedResult.beq at h
  split at h
  · simp only [Bool.and_eq_true, beq_iff_eq] at h
    obtain ⟨⟨rfl, h2⟩, rfl⟩ := h
    rw [Node.eq_of_beq h2]
  · simp only [Bool.and_eq_true, beq_iff_eq] at h
    obtain ⟨rfl, rfl⟩ := h; rfl
  · simp only [beq_iff_eq] at h; rw [h]
  · cases h

def FeedResult.pass? : FeedResult → Option Bool
  | .doc _ b => some b
  | .raised _ => none

theorem FeedResult.doc_of_pass? {x : FeedResult} {b : Bool} (h : x.pass? = some b) : ∃ d, x = .doc d b := by
  cases x with
  | doc d b' => cases h; exact ⟨d, rfl⟩
  | raised e => cases h

end AHP
