/-
  C14c: in a document table listed in pre-order the recursive descendant walk
  (`Doc.desc`, the model of `getAllChildNodes` / `TagCollection._subset`) is the list of elements that
  have the start element among their ancestors, in document order (`specDesc`).
-/
import AHP.Model.XPathSpec
namespace AHP.XPath

/-- a parent precedes its children (the first half of `PreOrder`; all that the ancestor chain needs) -/
def ParentsFirst (d : Doc) : Prop := ∀ j p, d.parent j = some p → p < j

/-- The table is a pre-order listing of a forest: a parent precedes its children, and the element after
    `j` is a child of `j`, or of an ancestor of `j`, or a new root. -/
structure PreOrder (d : Doc) : Prop where
  parentLt : ∀ j p, d.parent j = some p → p < j
  next : ∀ j p, d.parent (j + 1) = some p → p = j ∨ p ∈ d.anc j

theorem parent_lt_length (d : Doc) (j p : Nat) (h : d.parent j = some p) : j < d.length := by
  rcases Nat.lt_or_ge j d.length with h1 | h1
  · exact h1
  · simp only [Doc.parent, List.getD] at h
    rw [List.getElem?_eq_none_iff.mpr h1] at h
    have hd : (default : Elem).parent = none := rfl
    simp only [Option.getD_none] at h
    rw [hd] at h
    cases h

/-- the decidable check the driver runs on every document implies the hypothesis of C14c/d -/
theorem preOrder_of_check (d : Doc) (h : d.isPreOrder = true) : PreOrder d := by
  simp only [Doc.isPreOrder, List.all_eq_true, List.mem_range, Bool.and_eq_true] at h
  refine ⟨?_, ?_⟩
  · intro j p hp
    have hj := parent_lt_length d j p hp
    have := (h j hj).1
    rw [hp] at this
    simpa using this
  · intro j p hp
    have hj1 := parent_lt_length d (j + 1) p hp
    have := (h j (by omega)).2
    rw [hp] at this
    simp only [Bool.or_eq_true, beq_iff_eq, List.contains_iff_mem] at this
    exact this

theorem check_of_preOrder (d : Doc) (h : PreOrder d) : d.isPreOrder = true := by
  simp only [Doc.isPreOrder, List.all_eq_true, List.mem_range, Bool.and_eq_true]
  intro j _
  constructor
  · cases hp : d.parent j with
    | none => rfl
    | some p => simpa using h.parentLt j p hp
  · cases hp : d.parent (j + 1) with
    | none => rfl
    | some p =>
      simp only [Bool.or_eq_true, beq_iff_eq, List.contains_iff_mem]
      exact h.next j p hp

theorem ancFuel_stable (d : Doc) (hlt : ParentsFirst d) :
    ∀ (f f' j : Nat), j < f → j < f' → d.ancFuel f j = d.ancFuel f' j := by
  intro f
  induction f with
  | zero => intro f' j h; omega
  | succ f ih =>
    intro f' j h h'
    cases f' with
    | zero => omega
    | succ f' =>
      simp only [Doc.ancFuel]
      cases hpar : d.parent j with
      | none => rfl
      | some p =>
        have := hlt j p hpar
        simp only
        rw [ih f' p (by omega) (by omega)]

theorem anc_unfold (d : Doc) (hlt : ParentsFirst d) (j : Nat) :
    d.anc j = match d.parent j with
      | none => []
      | some p => p :: d.anc p := by
  unfold Doc.anc
  cases hpar : d.parent j with
  | none =>
    cases hl : d.length with
    | zero => rfl
    | succ n => simp [Doc.ancFuel, hpar]
  | some p =>
    have hj := parent_lt_length d j p hpar
    have hpj := hlt j p hpar
    cases hl : d.length with
    | zero => omega
    | succ n =>
      simp only [Doc.ancFuel, hpar]
      congr 1
      exact ancFuel_stable d hlt n (n + 1) p (by omega) (by omega)

theorem mem_anc_of_parent (d : Doc) (hlt : ParentsFirst d) {j p : Nat} (h : d.parent j = some p) :
    p ∈ d.anc j := by
  rw [anc_unfold d hlt, h]; exact List.mem_cons_self

theorem parent_of_mem_anc (d : Doc) (hlt : ParentsFirst d) {x c : Nat} (h : c ∈ d.anc x) :
    ∃ q, d.parent x = some q ∧ (q = c ∨ c ∈ d.anc q) := by
  rw [anc_unfold d hlt] at h
  cases hpar : d.parent x with
  | none => rw [hpar] at h; cases h
  | some q =>
    rw [hpar] at h
    rcases List.mem_cons.mp h with rfl | h
    · exact ⟨_, rfl, Or.inl rfl⟩
    · exact ⟨q, rfl, Or.inr h⟩

theorem anc_induct (d : Doc) (hlt : ParentsFirst d) {motive : Nat → Nat → Prop}
    (parent : ∀ x p, d.parent x = some p → motive x p)
    (step : ∀ x q i, d.parent x = some q → i ∈ d.anc q → motive q i → motive x i) :
    ∀ x i, i ∈ d.anc x → motive x i := by
  intro x
  induction x using Nat.strongRecOn with
  | _ x ih =>
    intro i hi
    obtain ⟨q, hq, rfl | hqi⟩ := parent_of_mem_anc d hlt hi
    · exact parent x q hq
    · exact step x q i hq hqi (ih q (hlt x q hq) i hqi)

theorem anc_lt (d : Doc) (hlt : ParentsFirst d) : ∀ (j i : Nat), i ∈ d.anc j → i < j :=
  anc_induct d hlt hlt fun x q _ hq _ h => Nat.lt_trans h (hlt x q hq)

theorem anc_trans (d : Doc) (hlt : ParentsFirst d) (k j i : Nat) (hj : j ∈ d.anc k)
    (hi : i ∈ d.anc j) : i ∈ d.anc k := by
  revert hi
  refine anc_induct d hlt (motive := fun k j => i ∈ d.anc j → i ∈ d.anc k) ?_ ?_ k j hj
  · intro x p hp hi
    rw [anc_unfold d hlt x, hp]; exact List.mem_cons_of_mem _ hi
  · intro x q j hq _ ih hi
    rw [anc_unfold d hlt x, hq]; exact List.mem_cons_of_mem _ (ih hi)

theorem mem_children (d : Doc) (i c : Nat) : c ∈ d.children i ↔ d.parent c = some i := by
  simp only [Doc.children, List.mem_filter, List.mem_range, beq_iff_eq]
  constructor
  · exact fun h => h.2
  · exact fun h => ⟨parent_lt_length d c i h, h⟩

theorem children_sorted (d : Doc) (i : Nat) : (d.children i).Pairwise (· < ·) := by
  unfold Doc.children
  exact (List.pairwise_lt_range).filter _

theorem subtree_before_next_sibling (d : Doc) (hp : PreOrder d) {i c1 c2 : Nat}
    (h1 : d.parent c1 = some i) (h2 : d.parent c2 = some i) (h12 : c1 < c2) :
    ∀ x, c1 ∈ d.anc x → x < c2 := by
  -- Walk back one row at a time from a descendant `x ≥ c2` of `c1`: the row before `x` is again a descendant of `c1`
  -- (`PreOrder.next`), and `c2` itself is none.
  have hnot : c1 ∉ d.anc c2 := by
    intro h
    rw [anc_unfold d hp.parentLt, h2] at h
    have hi := hp.parentLt c1 i h1
    rcases List.mem_cons.mp h with e | h
    · omega
    · have := anc_lt d hp.parentLt i c1 h; omega
  intro x
  induction x using Nat.strongRecOn with
  | _ x ih =>
    intro hx
    rcases Nat.lt_or_ge x c2 with hlt2 | hge
    · exact hlt2
    · exfalso
      have hxc : x ≠ c2 := fun e => hnot (e ▸ hx)
      have hgt : c2 < x := by omega
      obtain ⟨q, hq, hqc⟩ := parent_of_mem_anc d hp.parentLt hx
      have hqx := hp.parentLt x q hq
      obtain ⟨y, rfl⟩ : ∃ y, x = y + 1 := ⟨x - 1, by omega⟩
      have hy : c2 ≤ y := by omega
      have hc1y : c1 ∈ d.anc y := by
        rcases hp.next y q hq with rfl | hqy
        · rcases hqc with rfl | h
          · omega
          · exact h
        · rcases hqc with rfl | h
          · exact hqy
          · exact anc_trans d hp.parentLt y q c1 hqy h
      have := ih y (by omega) hc1y
      omega

theorem descFuel_mem_anc (d : Doc) (hlt : ParentsFirst d) :
    ∀ (f x i : Nat), x ∈ d.descFuel f i → i ∈ d.anc x := by
  intro f
  induction f with
  | zero => intro x i h; cases h
  | succ f ih =>
    intro x i h
    simp only [Doc.descFuel, List.mem_flatMap] at h
    obtain ⟨c, hc, hx⟩ := h
    have hpc := (mem_children d i c).mp hc
    rcases List.mem_cons.mp hx with rfl | hx
    · exact mem_anc_of_parent d hlt hpc
    · exact anc_trans d hlt x c i (ih x c hx) (mem_anc_of_parent d hlt hpc)

/-- the child of `i` on the way down to its descendant `x` -/
theorem child_toward (d : Doc) (hlt : ParentsFirst d) :
    ∀ (x i : Nat), i ∈ d.anc x → ∃ c, d.parent c = some i ∧ (c = x ∨ c ∈ d.anc x) := by
  refine anc_induct d hlt (fun x p hp => ⟨x, hp, Or.inl rfl⟩) ?_
  intro x q i hq _ ⟨c, hc, hcq⟩
  refine ⟨c, hc, Or.inr ?_⟩
  rcases hcq with rfl | hcq
  · exact mem_anc_of_parent d hlt hq
  · exact anc_trans d hlt x q c (mem_anc_of_parent d hlt hq) hcq

theorem mem_descFuel (d : Doc) (hlt : ParentsFirst d) :
    ∀ (f x i : Nat), i ∈ d.anc x → x < i + f + 1 → x ∈ d.descFuel f i
  | 0, x, i, hi, hx => by have := anc_lt d hlt x i hi; omega
  | f + 1, x, i, hi, hx => by
    obtain ⟨c, hc, hcx⟩ := child_toward d hlt x i hi
    simp only [Doc.descFuel, List.mem_flatMap]
    refine ⟨c, (mem_children d i c).mpr hc, ?_⟩
    rcases hcx with rfl | hcx
    · exact List.mem_cons_self
    · exact List.mem_cons_of_mem _ (mem_descFuel d hlt f x c hcx (by have := hlt c i hc; omega))

theorem descFuel_sorted (d : Doc) (hp : PreOrder d) : ∀ (f i : Nat), (d.descFuel f i).Pairwise (· < ·) := by
  intro f
  induction f with
  | zero => intro i; exact List.Pairwise.nil
  | succ f ih =>
    intro i
    simp only [Doc.descFuel]
    have hch := children_sorted d i
    have hmem : ∀ c ∈ d.children i, d.parent c = some i := fun c hc => (mem_children d i c).mp hc
    generalize d.children i = cs at hch hmem
    induction cs with
    | nil => exact List.Pairwise.nil
    | cons c cs ihc =>
      have ⟨hc1, hc2⟩ := List.pairwise_cons.mp hch
      simp only [List.flatMap_cons]
      rw [List.pairwise_append]
      refine ⟨?_, ihc hc2 (fun c' h => hmem c' (List.mem_cons_of_mem _ h)), ?_⟩
      · refine List.pairwise_cons.mpr ⟨?_, ih c⟩
        intro x hx
        exact anc_lt d hp.parentLt x c (descFuel_mem_anc d hp.parentLt f x c hx)
      · intro x hx y hy
        simp only [List.mem_flatMap] at hy
        obtain ⟨c2, hc2m, hy⟩ := hy
        have hlt : c < c2 := hc1 c2 hc2m
        have hpc := hmem c List.mem_cons_self
        have hpc2 := hmem c2 (List.mem_cons_of_mem _ hc2m)
        have hxlt : x < c2 := by
          rcases List.mem_cons.mp hx with rfl | hx
          · exact hlt
          · exact subtree_before_next_sibling d hp hpc hpc2 hlt x (descFuel_mem_anc d hp.parentLt f x c hx)
        have hyge : c2 ≤ y := by
          rcases List.mem_cons.mp hy with rfl | hy
          · exact Nat.le_refl _
          · exact Nat.le_of_lt (anc_lt d hp.parentLt y c2 (descFuel_mem_anc d hp.parentLt f y c2 hy))
        omega

theorem sorted_ext (l1 l2 : List Nat) (h1 : l1.Pairwise (· < ·)) (h2 : l2.Pairwise (· < ·))
    (h : ∀ x, x ∈ l1 ↔ x ∈ l2) : l1 = l2 :=
  List.Perm.eq_of_pairwise (fun _ _ _ _ hab hba => absurd hab (Nat.lt_asymm hba)) h1 h2
    ((List.perm_ext_iff_of_nodup (h1.imp Nat.ne_of_lt) (h2.imp Nat.ne_of_lt)).2 h)

theorem desc_eq_specDesc (d : Doc) (hp : PreOrder d) (i : Nat) : d.desc i = specDesc d i := by
  apply sorted_ext
  · exact descFuel_sorted d hp d.length i
  · unfold specDesc
    exact (List.pairwise_lt_range).filter _
  · intro x
    unfold specDesc Doc.desc
    simp only [List.mem_filter, List.mem_range, List.contains_iff_mem]
    constructor
    · intro h
      have hi := descFuel_mem_anc d hp.parentLt d.length x i h
      obtain ⟨q, hq, _⟩ := parent_of_mem_anc d hp.parentLt hi
      exact ⟨parent_lt_length d x q hq, hi⟩
    · intro ⟨hx, hi⟩
      exact mem_descFuel d hp.parentLt d.length x i hi (by omega)

end AHP.XPath
