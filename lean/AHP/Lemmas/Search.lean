/-
  AHP.Lemmas.Search — specification functions and helper lemmas for C06 (searches), used by AHP/Props/C06.lean and C07.
  Namespace `AHP.G3` (as in Model/Search.lean, Model/Index.lean): the search and index models have an `Elem` and a
  `Node` of their own, apart from the builder's and the DOM's.

  Specification side (independent of the scans in AHP/Model/Search.lean):
    `Node.preorder`   the document order
    `Node.desc`       the strict descendants of an element, in document order
    `fil p xs`        the elements of `xs` satisfying `p`, order kept
    `dedupN seen xs`  first occurrences (by uid) of `xs` not in `seen`, order kept
  Every scan of the model is brought to the form `fil p scope`; a parser form's scope is `parserScope`
  (`fil_parserScope`: the root's test when the scan starts at the document root, then the descendants).
  Also here: `TC.Inv` and `+=` on `TC` (through `TC.toColl` from `Coll`), `getAllChildNodes` / `getAllNodes`, and
  `classWords` on query strings.
-/
import AHP.Model.Search
import AHP.Lemmas.Coll
import AHP.Lemmas.Str
namespace AHP.G3

mutual
def Node.preorder : Node → List Node
  | .mk e ks => .mk e ks :: preorderL ks
def preorderL : List Node → List Node
  | [] => []
  | k :: ks => k.preorder ++ preorderL ks
end

def Node.desc (n : Node) : List Node := preorderL n.kids

def fil (p : Elem → Bool) (xs : List Node) : List Node := xs.filter (fun n => p n.elem)

abbrev uidsOf (xs : List Node) : List Nat := xs.map Node.uid

/-- "ids are distinct" below (and including) an element. -/
def Node.Distinct (n : Node) : Prop := (uidsOf n.preorder).Nodup

theorem Node.preorder_eq (n : Node) : n.preorder = n :: n.desc := by
  cases n with
  | mk e ks => simp [Node.preorder, Node.desc, Node.kids]

theorem Node.desc_sublist (n : Node) : n.desc.Sublist n.preorder := by
  rw [Node.preorder_eq]; exact List.sublist_cons_self _ _

theorem preorderL_eq_flatMap (ks : List Node) : preorderL ks = ks.flatMap Node.preorder := by
  induction ks with
  | nil => rfl
  | cons k ks ih => simp [preorderL, ih]

theorem preorderL_append (a b : List Node) : preorderL (a ++ b) = preorderL a ++ preorderL b := by
  simp [preorderL_eq_flatMap]

@[simp] theorem preorderL_nil : preorderL [] = [] := by simp [preorderL]

@[simp] theorem preorderL_single (n : Node) : preorderL [n] = n.preorder := by simp [preorderL]

theorem fil_append (p : Elem → Bool) (xs ys : List Node) : fil p (xs ++ ys) = fil p xs ++ fil p ys := by
  simp [fil]

theorem fil_flatMap (p : Elem → Bool) (ms : List Node) (f : Node → List Node) :
    fil p (ms.flatMap f) = ms.flatMap (fun m => fil p (f m)) := List.filter_flatMap

theorem fil_cons (p : Elem → Bool) (x : Node) (xs : List Node) :
    fil p (x :: xs) = (if p x.elem then [x] else []) ++ fil p xs := by
  by_cases h : p x.elem <;> simp [fil, h]

theorem fil_preorder (p : Elem → Bool) (n : Node) :
    fil p n.preorder = (if p n.elem then [n] else []) ++ fil p n.desc := by
  rw [Node.preorder_eq, fil_cons]

theorem fil_sublist (p : Elem → Bool) (xs : List Node) : (fil p xs).Sublist xs := List.filter_sublist

theorem fil_congr {p q : Elem → Bool} {xs : List Node} (h : ∀ n ∈ xs, p n.elem = q n.elem) : fil p xs = fil q xs :=
  List.filter_congr h

theorem uids_nodup_of_sublist {xs ys : List Node} (h : xs.Sublist ys) (hn : (uidsOf ys).Nodup) :
    (uidsOf xs).Nodup := (h.map Node.uid).nodup hn

theorem Node.Distinct.desc {n : Node} (h : n.Distinct) : (uidsOf n.desc).Nodup := by
  unfold Node.Distinct at h
  rw [Node.preorder_eq] at h
  exact (List.nodup_cons.mp h).2

theorem distinct_of_mem_preorderL {ks : List Node} (h : (uidsOf (preorderL ks)).Nodup) :
    ∀ k ∈ ks, k.Distinct := by
  intro k hk
  rw [preorderL_eq_flatMap, List.flatMap_def] at h
  exact uids_nodup_of_sublist (List.sublist_flatten_of_mem (List.mem_map_of_mem hk)) h

mutual
theorem preorder_sublist_of_mem : ∀ (n r : Node), r ∈ n.preorder → r.preorder.Sublist n.preorder
  | .mk e ks, r, hr => by
    simp only [Node.preorder, List.mem_cons] at hr
    rcases hr with rfl | hr
    · exact List.Sublist.refl _
    · simp only [Node.preorder]
      exact (preorderL_sublist_of_mem ks r hr).cons _
theorem preorderL_sublist_of_mem :
    ∀ (ks : List Node) (r : Node), r ∈ preorderL ks → r.preorder.Sublist (preorderL ks)
  | [], r, hr => by simp [preorderL] at hr
  | k :: ks, r, hr => by
    simp only [preorderL, List.mem_append] at hr ⊢
    rcases hr with hr | hr
    · exact (preorder_sublist_of_mem k r hr).trans (List.sublist_append_left _ _)
    · exact (preorderL_sublist_of_mem ks r hr).trans (List.sublist_append_right _ _)
end

theorem desc_sublist_of_mem {n r : Node} (hr : r ∈ n.preorder) : r.desc.Sublist n.preorder :=
  r.desc_sublist.trans (preorder_sublist_of_mem n r hr)

/-- Every element of a document with distinct ids has distinct ids below it (so `root=` arguments taken
    from the document satisfy the hypothesis of the parser theorems). -/
theorem distinct_of_mem {root : Node} (h : root.Distinct) : ∀ r ∈ root.preorder, r.Distinct := by
  intro r hr
  exact uids_nodup_of_sublist (preorder_sublist_of_mem root r hr) h

theorem eq_of_uid_eq {xs : List Node} (h : (uidsOf xs).Nodup) {a b : Node} (ha : a ∈ xs) (hb : b ∈ xs)
    (e : a.uid = b.uid) : a = b := by
  have h1 := find?_key (k := Node.uid) h ha
  rw [e, find?_key (k := Node.uid) h hb] at h1
  exact (Option.some.inj h1).symm

theorem mem_of_uid_mem {xs : List Node} {u : Nat} (h : u ∈ uidsOf xs) : ∃ a ∈ xs, a.uid = u := by
  simpa [uidsOf] using h

def dedupN : List Nat → List Node → List Node
  | _, [] => []
  | seen, x :: xs => if x.uid ∈ seen then dedupN seen xs else x :: dedupN (x.uid :: seen) xs

theorem uidsOf_dedupN (seen : List Nat) (xs : List Node) :
    uidsOf (dedupN seen xs) = firstOcc seen (uidsOf xs) := by
  induction xs generalizing seen with
  | nil => rfl
  | cons x xs ih =>
    by_cases h : x.uid ∈ seen
    · simp only [dedupN, h, if_true, uidsOf, List.map_cons, firstOcc]
      exact ih seen
    · simp only [dedupN, h, if_false, uidsOf, List.map_cons, firstOcc]
      congr 1
      exact ih _

theorem dedupN_sublist (seen : List Nat) (xs : List Node) : (dedupN seen xs).Sublist xs := by
  induction xs generalizing seen with
  | nil => exact .slnil
  | cons x xs ih =>
    unfold dedupN
    split
    · exact (ih _).cons _
    · exact (ih _).cons_cons _

theorem dedupN_congr {s₁ s₂ : List Nat} (h : ∀ y, y ∈ s₁ ↔ y ∈ s₂) (xs : List Node) :
    dedupN s₁ xs = dedupN s₂ xs := by
  induction xs generalizing s₁ s₂ with
  | nil => rfl
  | cons x xs ih =>
    have hc : ∀ y, y ∈ x.uid :: s₁ ↔ y ∈ x.uid :: s₂ := fun y => by simp only [List.mem_cons, h y]
    simp only [dedupN, h x.uid, ih h, ih hc]

theorem dedupN_of_nodup {seen : List Nat} {xs : List Node} (hn : (uidsOf xs).Nodup)
    (hd : ∀ x ∈ xs, x.uid ∉ seen) : dedupN seen xs = xs := by
  -- a sublist that keeps every uid keeps every element
  apply (dedupN_sublist seen xs).eq_of_length
  have := congrArg List.length (uidsOf_dedupN seen xs)
  rwa [firstOcc_of_nodup_disjoint hn (by simpa using hd), List.length_map, List.length_map] at this

theorem mem_dedupN_uid {seen : List Nat} {xs : List Node} {u : Nat} :
    u ∈ uidsOf (dedupN seen xs) ↔ u ∈ uidsOf xs ∧ u ∉ seen := by
  rw [uidsOf_dedupN]; exact mem_firstOcc

theorem nodup_dedupN (seen : List Nat) (xs : List Node) : (uidsOf (dedupN seen xs)).Nodup := by
  rw [uidsOf_dedupN]; exact nodup_firstOcc _ _

theorem mem_dedupN_iff {doc : Node} (hd : doc.Distinct) {xs : List Node} (hs : ∀ x ∈ xs, x ∈ doc.preorder)
    {n : Node} : n ∈ dedupN [] xs ↔ n ∈ xs := by
  refine ⟨fun h => (dedupN_sublist _ _).subset h, fun h => ?_⟩
  obtain ⟨n', hn', hu⟩ := mem_of_uid_mem (mem_dedupN_uid.mpr ⟨List.mem_map_of_mem h, List.not_mem_nil⟩)
  exact eq_of_uid_eq hd (hs n' ((dedupN_sublist _ _).subset hn')) (hs n h) hu ▸ hn'

/-! ### TagCollection with payload refines `Coll`

  `TC` (Model/Search.lean) carries the elements, `Coll` (Model/Coll.lean) their uids; both are written as the code's
  loops are, so neither is an instance of the other over a key function.  The invariant and the uid bookkeeping are
  transported through `toColl` (`toColl_iadd`, `iadd_spec`); what speaks of the element list itself (`iadd_items`,
  `foldl_iadd`) is proved here as it is for `Coll`. -/
namespace TC

def Inv (c : TC) : Prop := Coll.Inv c.toColl

theorem inv_empty : Inv empty := Coll.inv_empty

theorem toColl_append (c : TC) (x : Node) : (c.append x).toColl = c.toColl.append x.uid := by
  simp [append, toColl, Coll.append]

theorem hasTag_toColl (c : TC) (x : Node) : c.hasTag x = c.toColl.hasTag x.uid := rfl

theorem iadd_cons (c : TC) (x : Node) (xs : List Node) :
    c.iadd (x :: xs) = (if c.hasTag x then c else c.append x).iadd xs := rfl

theorem toColl_iadd (c : TC) (xs : List Node) : (c.iadd xs).toColl = c.toColl.iadd (uidsOf xs) := by
  induction xs generalizing c with
  | nil => rfl
  | cons x xs ih =>
    rw [iadd_cons, ih, apply_ite toColl, toColl_append]
    rfl

theorem toColl_ofList (xs : List Node) : (ofList xs).toColl = Coll.ofList (uidsOf xs) :=
  toColl_iadd empty xs

theorem iadd_append (c : TC) (xs ys : List Node) : c.iadd (xs ++ ys) = (c.iadd xs).iadd ys :=
  List.foldl_append

theorem foldl_iadd {α : Type} (g : α → List Node) (xs : List α) (r : TC) :
    xs.foldl (fun r x => r.iadd (g x)) r = r.iadd (xs.flatMap g) := by
  induction xs generalizing r with
  | nil => rfl
  | cons x xs ih => rw [List.foldl_cons, ih, List.flatMap_cons, iadd_append]

/-- `+=` in any state: the test reads `uids`. -/
theorem iadd_items (c : TC) (xs : List Node) : (c.iadd xs).items = c.items ++ dedupN c.uids xs := by
  induction xs generalizing c with
  | nil => simp [iadd, dedupN]
  | cons x xs ih =>
    rw [iadd_cons, ih]
    by_cases hx : x.uid ∈ c.uids
    · simp [hasTag, hx, dedupN]
    · simp only [hasTag, append, List.contains_iff_mem, hx, if_false, dedupN, List.append_assoc, List.singleton_append]
      rw [dedupN_congr (s₂ := x.uid :: c.uids) (fun y => by simp [or_comm])]

/-- `+=`: old items, then the operands that are new (by uid), first occurrence wins. -/
theorem iadd_spec {c : TC} (h : Inv c) (xs : List Node) :
    Inv (c.iadd xs) ∧ (c.iadd xs).items = c.items ++ dedupN c.ids xs := by
  refine ⟨?_, (iadd_items c xs).trans (congrArg _ (dedupN_congr h.same xs))⟩
  unfold Inv
  rw [toColl_iadd]
  exact (Coll.iadd_spec h _).1

theorem ofList_spec (xs : List Node) : Inv (ofList xs) ∧ (ofList xs).items = dedupN [] xs :=
  iadd_spec inv_empty xs

theorem ofList_items_of_nodup {xs : List Node} (h : (uidsOf xs).Nodup) : (ofList xs).items = xs := by
  rw [(ofList_spec xs).2]
  exact dedupN_of_nodup h (by simp)

theorem ofList_filter_items {xs : List Node} (h : (uidsOf xs).Nodup) (g : Node → Bool) :
    (ofList (xs.filter g)).items = xs.filter g :=
  ofList_items_of_nodup (uids_nodup_of_sublist List.filter_sublist h)

theorem ids_nodup {c : TC} (h : Inv c) : c.ids.Nodup := h.nodup

theorem iadd_items_of_fresh {c : TC} (h : Inv c) {xs : List Node}
    (hn : (c.ids ++ uidsOf xs).Nodup) : Inv (c.iadd xs) ∧ (c.iadd xs).items = c.items ++ xs := by
  have hs := iadd_spec h xs
  have hh := List.nodup_append.mp hn
  rw [dedupN_of_nodup hh.2.1 (fun x hx hm => hh.2.2 _ hm _ (List.mem_map_of_mem hx) rfl)] at hs
  exact hs

/-- `ret.append(k); ret += ds` (the step of `getAllChildNodes`/`getAllNodes`) when nothing of `k :: ds` is in `ret`. -/
theorem append_iadd_fresh {c : TC} (h : Inv c) {k : Node} {ds : List Node}
    (hn : (c.ids ++ uidsOf (k :: ds)).Nodup) :
    Inv ((c.append k).iadd ds) ∧ ((c.append k).iadd ds).items = c.items ++ k :: ds := by
  have hk : c.hasTag k = false := by
    rw [hasTag_toColl, Coll.hasTag_eq h]
    exact decide_eq_false (fun hm => (List.nodup_append.mp hn).2.2 _ hm _ List.mem_cons_self rfl)
  have e : (c.append k).iadd ds = c.iadd (k :: ds) := by rw [iadd_cons, hk]; rfl
  rw [e]
  exact iadd_items_of_fresh h hn

end TC

mutual
theorem descScan_items (p : Elem → Bool) :
    ∀ n : Node, n.Distinct → (descScan p n).items = fil p n.desc
  | .mk e ks, h => by
    have hk : (uidsOf (preorderL ks)).Nodup := Node.Distinct.desc h
    simp only [descScan, Node.desc, Node.kids]
    rw [descScanL_eq p ks hk]
    exact TC.ofList_filter_items hk _
theorem descScanL_eq (p : Elem → Bool) :
    ∀ ks : List Node, (uidsOf (preorderL ks)).Nodup → descScanL p ks = fil p (preorderL ks)
  | [], _ => rfl
  | k :: ks, h => by
    have h' : (uidsOf k.preorder ++ uidsOf (preorderL ks)).Nodup := by
      simpa [preorderL, uidsOf] using h
    have h2 := List.nodup_append.mp h'
    simp only [descScanL, preorderL]
    rw [descScan_items p k h2.1, descScanL_eq p ks h2.2.1, fil_append, fil_preorder]
end

theorem descScanL_kids (p : Elem → Bool) {n : Node} (h : n.Distinct) : descScanL p n.kids = fil p n.desc :=
  descScanL_eq p n.kids (Node.Distinct.desc h)

mutual
theorem descFirst_eq (p : Elem → Bool) : ∀ n : Node, descFirst p n = (fil p n.desc).head?
  | .mk e ks => by
    simp only [descFirst, Node.desc, Node.kids]
    exact descFirstL_eq p ks
theorem descFirstL_eq (p : Elem → Bool) : ∀ ks : List Node, descFirstL p ks = (fil p (preorderL ks)).head?
  | [] => rfl
  | k :: ks => by
    simp only [descFirstL, preorderL]
    rw [fil_append, fil_preorder, descFirst_eq p k, descFirstL_eq p ks]
    by_cases hk : p k.elem
    · simp [hk]
    · simp only [hk, Bool.false_eq_true, if_false, List.nil_append]
      cases fil p k.desc <;> rfl
end

/-- The scope of a parser-level search after `_handleRootArg`. -/
def parserScope (root : Node) : Option Node → List Node
  | none => root.preorder
  | some r => if r.uid == root.uid then root.preorder else r.desc

/-- The element `_handleRootArg` hands to the scan. -/
def scanRoot (root : Node) (arg : Option Node) : Node := (handleRootArg root arg).1

theorem handleRootArg_cases (root : Node) (arg : Option Node) :
    (handleRootArg root arg = (root, true) ∧ parserScope root arg = root.preorder) ∨
    (∃ r, arg = some r ∧ handleRootArg root arg = (r, false) ∧ parserScope root arg = r.desc) := by
  cases arg with
  | none => exact Or.inl ⟨rfl, rfl⟩
  | some r =>
    by_cases h : (r.uid == root.uid) = true
    · exact Or.inl ⟨by simp [handleRootArg, h], by simp [parserScope, h]⟩
    · exact Or.inr ⟨r, rfl, by simp [handleRootArg, h], by simp [parserScope, h]⟩

/-- What every parser form computes: the root's test when the scan starts at the document root, then the
    descendants of the scan root. -/
theorem fil_parserScope (p : Elem → Bool) (root : Node) (arg : Option Node) :
    fil p (parserScope root arg) =
      (if (handleRootArg root arg).2 && p (handleRootArg root arg).1.elem then [(handleRootArg root arg).1] else [])
        ++ fil p (handleRootArg root arg).1.desc := by
  rcases handleRootArg_cases root arg with ⟨h1, h2⟩ | ⟨r, _, h1, h2⟩ <;> rw [h1, h2]
  · rw [fil_preorder]; rfl
  · rfl

theorem parserScope_sublist (root : Node) (arg : Option Node) :
    (parserScope root arg).Sublist (scanRoot root arg).preorder := by
  unfold scanRoot
  rcases handleRootArg_cases root arg with ⟨h1, h2⟩ | ⟨r, _, h1, h2⟩ <;> rw [h1, h2]
  · exact List.Sublist.refl _
  · exact r.desc_sublist

theorem optRoot_sublist (b : Bool) (p : Elem → Bool) (n : Node) :
    ((if b then [n] else []) ++ fil p n.desc).Sublist n.preorder := by
  rw [Node.preorder_eq]
  cases b
  · exact (fil_sublist p n.desc).cons n
  · exact (fil_sublist p n.desc).cons_cons n

theorem scanP_items (rp p : Elem → Bool) (isRoot : Bool) {n : Node} (h : n.Distinct) :
    (scanP rp p isRoot n).items = (if isRoot && rp n.elem then [n] else []) ++ fil p n.desc := by
  simp only [scanP, descScanL_kids p h]
  exact TC.ofList_items_of_nodup (uids_nodup_of_sublist (optRoot_sublist _ p n) h)

theorem scanP_root (p : Elem → Bool) {n : Node} (h : n.Distinct) :
    (scanP p p true n).items = fil p n.preorder := by
  rw [scanP_items p p true h, fil_preorder]; rfl

theorem firstP_eq (rp p : Elem → Bool) (isRoot : Bool) (n : Node) :
    firstP rp p isRoot n = ((if isRoot && rp n.elem then [n] else []) ++ fil p n.desc).head? := by
  simp only [firstP]
  split <;> simp [descFirst_eq]

mutual
theorem subset_eq (cmp : Elem → Bool) : ∀ (n : Node) (ret : TC), subset cmp ret n = ret.iadd (fil cmp n.preorder)
  | .mk e ks, ret => by
    simp only [subset, Node.preorder, fil_cons, Node.elem]
    rw [subsetL_eq cmp ks]
    by_cases hc : cmp e
    · by_cases ht : ret.hasTag (.mk e ks) <;> simp [hc, ht, TC.iadd]
    · simp [hc]
theorem subsetL_eq (cmp : Elem → Bool) :
    ∀ (ks : List Node) (ret : TC), subsetL cmp ret ks = ret.iadd (fil cmp (preorderL ks))
  | [], ret => rfl
  | k :: ks, ret => by
    simp only [subsetL, preorderL, fil_append]
    rw [subset_eq cmp k ret, subsetL_eq cmp ks, TC.iadd_append]
end

theorem collScan_eq (cmp : Elem → Bool) (ms : List Node) :
    collScan cmp ms = TC.ofList (fil cmp (ms.flatMap Node.preorder)) := by
  have : subset cmp = fun ret n => ret.iadd (fil cmp n.preorder) := funext fun ret => funext fun n => subset_eq cmp n ret
  rw [collScan, this, TC.foldl_iadd, fil_flatMap]
  rfl

theorem collFirst_eq (mp p : Elem → Bool) (ms : List Node) :
    collFirst mp p ms =
      (ms.flatMap (fun m => (if mp m.elem then [m] else []) ++ fil p m.desc)).head? := by
  induction ms with
  | nil => rfl
  | cons m ms ih =>
    simp only [collFirst, List.flatMap_cons]
    by_cases hm : mp m.elem
    · simp [hm]
    · simp only [hm, Bool.false_eq_true, if_false, List.nil_append, descFirst_eq, ih]
      cases fil p m.desc <;> rfl

mutual
theorem allChildNodes_spec : ∀ n : Node, n.Distinct → TC.Inv (allChildNodes n) ∧ (allChildNodes n).items = n.desc
  | .mk _ ks, h => allChildNodesL_spec ks TC.empty TC.inv_empty (Node.Distinct.desc h)
theorem allChildNodesL_spec : ∀ (ks : List Node) (ret : TC), TC.Inv ret →
    (ret.ids ++ uidsOf (preorderL ks)).Nodup →
    TC.Inv (allChildNodesL ret ks) ∧ (allChildNodesL ret ks).items = ret.items ++ preorderL ks
  | [], ret, hi, _ => ⟨hi, (List.append_nil _).symm⟩
  | k :: ks, ret, hi, hn => by
    rw [preorderL, uidsOf, List.map_append, ← List.append_assoc] at hn
    have hn1 : (ret.ids ++ uidsOf k.preorder).Nodup := (List.nodup_append.mp hn).1
    have hac := allChildNodes_spec k (List.nodup_append.mp hn1).2.1
    have h2 := TC.append_iadd_fresh hi (k := k) (ds := (allChildNodes k).items)
      (by rw [hac.2, ← Node.preorder_eq]; exact hn1)
    rw [hac.2, ← Node.preorder_eq] at h2
    have h3 := allChildNodesL_spec ks _ h2.1 (by rw [TC.ids, h2.2, List.map_append]; exact hn)
    rw [allChildNodesL, hac.2]
    exact ⟨h3.1, by rw [h3.2, h2.2, preorderL, List.append_assoc]⟩
end

/-- "itself, then `getAllChildNodes`" — `AdvancedTag.getAllNodes`, and one round of `parser.getAllNodes`. -/
theorem selfThenDesc_spec {n : Node} (h : n.Distinct) :
    TC.Inv ((TC.empty.append n).iadd (allChildNodes n).items) ∧
      ((TC.empty.append n).iadd (allChildNodes n).items).items = n.preorder := by
  rw [(allChildNodes_spec n h).2, Node.preorder_eq]
  exact TC.append_iadd_fresh TC.inv_empty (by rw [← Node.preorder_eq]; exact h)

theorem elemAllNodes_spec {n : Node} (h : n.Distinct) :
    TC.Inv (elemAllNodes n) ∧ (elemAllNodes n).items = n.preorder := selfThenDesc_spec h

/-- `parser.getAllNodes` for a document with a real (non-wrapper) root. -/
theorem parserAllNodes_spec {root : Node} (h : root.Distinct) (hw : root.elem.tag ≠ wrapperTag) :
    TC.Inv (parserAllNodes root) ∧ (parserAllNodes root).items = root.preorder := by
  simp only [parserAllNodes, rootNodes, hw, if_false, List.foldl_cons, List.foldl_nil]
  exact selfThenDesc_spec h

theorem allChildNodesL_eq_foldl (ks : List Node) (ret : TC) :
    allChildNodesL ret ks = ks.foldl (fun ret r => (ret.append r).iadd (allChildNodes r).items) ret := by
  induction ks generalizing ret with
  | nil => rfl
  | cons k ks ih => rw [allChildNodesL, List.foldl_cons, ih]

/-- `parser.getAllNodes` for a document with several roots (the invisible wrapper is skipped). -/
theorem parserAllNodes_wrapper {root : Node} (h : root.Distinct) (hw : root.elem.tag = wrapperTag) :
    TC.Inv (parserAllNodes root) ∧ (parserAllNodes root).items = root.desc := by
  have hEq : parserAllNodes root = allChildNodes root := by
    cases root with
    | mk e ks =>
      simp only [parserAllNodes, rootNodes, Node.elem] at hw ⊢
      simp only [hw, if_true, Node.kids, allChildNodes, allChildNodesL_eq_foldl]
  rw [hEq]
  exact allChildNodes_spec root h

/-- `TagCollection.getAllNodes`: members and descendants, first occurrence wins. -/
theorem collAllNodes_eq {ms : List Node} (h : ∀ m ∈ ms, m.Distinct) :
    collAllNodes ms = TC.ofList (ms.flatMap Node.preorder) := by
  have : ms.flatMap Node.preorder = ms.flatMap (fun t => t :: (allChildNodes t).items) := by
    rw [List.flatMap_def, List.flatMap_def]
    exact congrArg _ (List.map_congr_left fun m hm => by rw [(allChildNodes_spec m (h m hm)).2, Node.preorder_eq])
  rw [this]
  -- "append the member unless present, then `+=` its descendants" is `+=` of the member followed by them (`iadd_cons`)
  exact TC.foldl_iadd (fun t => t :: (allChildNodes t).items) ms TC.empty

theorem pAttr_eq (a v : Str) (e : Elem) : pAttr a v e = true ↔ e.attr a = some v := by
  simp [pAttr]

/-- Parser forms whose root test reads the dot-access value (`root.name`, `root.id`): same answer for
    non-empty searched values. -/
theorem pDot_eq_pAttr (a q : Str) (hq : q ≠ []) : pDot a q = pAttr a q := by
  funext e
  simp only [pDot, pAttr, Elem.attrOr]
  cases e.attr a with
  | none => simpa using hq  -- `[] == q` is `false` as `q ≠ []`
  | some v => simp

/-- The parser/element forms compute "first name by the scan, the other names by a filter over the
    result": that is "all names". -/
theorem first_then_rest (c : Str) (rest : List Str) (xs : List Node) :
    (if rest.isEmpty then fil (pClass c) xs else (fil (pClass c) xs).filter (fun n => pAllClasses rest n.elem))
      = fil (pAllClasses (c :: rest)) xs := by
  have : (fil (pClass c) xs).filter (fun n => pAllClasses rest n.elem) = fil (pAllClasses (c :: rest)) xs := by
    simp only [fil, List.filter_filter]
    exact List.filter_congr (fun n _ => by simp [pAllClasses, pClass, Bool.and_comm])
  split
  · rename_i hr
    rw [← this, List.isEmpty_iff.mp hr]
    exact (List.filter_eq_self.mpr (fun _ _ => rfl)).symm
  · exact this

theorem classScan_items (c : Str) (rest : List Str) {xs : List Node} (h : (uidsOf xs).Nodup) :
    (TC.ofList (if rest.isEmpty then fil (pClass c) xs
        else (fil (pClass c) xs).filter (fun n => pAllClasses rest n.elem))).items
      = fil (pAllClasses (c :: rest)) xs := by
  rw [first_then_rest]
  exact TC.ofList_filter_items h _

theorem isSub_iff_infix (needle hay : Str) : isSub needle hay = true ↔ needle <:+: hay := by
  induction hay with
  | nil => simp [isSub]
  | cons c cs ih => simp [isSub, ih, List.infix_cons_iff]

/-- `find` lower-cases every keyword before anything else: keys that agree up to case compile alike. -/
theorem compileFind_congr_lower {k k' : Str} (h : lower k = lower k') (v : FVal) :
    compileFind k v = compileFind k' v := by
  unfold compileFind
  rw [h]

/-!
  ### Class names in a query string

  `classWords`, the normalisation `[x.strip() for x in className.strip().split(' ') if x.strip()]` of the three
  `getElementsByClassName` — on query strings made of class names separated by single spaces:
  it returns those names.  (Ties the class-query theorems of C06/C07, stated on name lists, to query strings.)
-/
/-- A class name: non-empty, no white space. -/
def Word (w : Str) : Prop := w ≠ [] ∧ ∀ c ∈ w, isWs c = false

theorem Word.noSpace {w : Str} (h : Word w) : ' ' ∉ w := fun m => ne_space_of_not_ws (h.2 _ m) rfl

theorem strip_word {w : Str} (h : Word w) : strip w = w := strip_noWs h.2

theorem classWords_join (names : List Str) (hne : names ≠ []) (hw : ∀ n ∈ names, Word n) :
    classWords (joinWith [' '] names) = names := by
  simp only [classWords]
  rw [strip_join [' '] hw, splitChar_join names hne (fun n hn => (hw n hn).noSpace)]
  rw [List.map_congr_left (f := strip) (g := id) (fun n hn => strip_word (hw n hn)), List.map_id]
  exact List.filter_eq_self.mpr (fun n hn => by simpa using (hw n hn).1)

/-- A single class name is read back as itself (what the recursive calls of the class search pass on). -/
theorem classWords_word {w : Str} (h : Word w) : classWords w = [w] :=
  classWords_join [w] (List.cons_ne_nil _ _) (fun n hn => by rwa [List.mem_singleton.mp hn])

end AHP.G3
