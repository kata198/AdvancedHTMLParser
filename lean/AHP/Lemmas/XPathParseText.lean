/-
  C14f, the texts a predicate is written as, before any loop runs over them: the character classes of the pieces (names,
  numerals, spelled words and operators are solid: ordinary characters, no white space), what the two scanners that run over a
  whole predicate need of its text (`BSafe` for `BRACKETED_SUBSET_RE`, no line feed for the `.+` of a group or call: `Safe`),
  `strip` on a text with tight ends behind the white space of a layout, and `Good`: no line feed and a tight end from a place to
  the end of the text, which every suffix inherits.
-/
import AHP.Lemmas.XPathParseTok
import AHP.Lemmas.Str
namespace AHP.XPath

variable {N : Type}

theorem not_isSpTab_of_not_isWs {c : Char} (h : isWs c = false) : isSpTab c = false := by
  cases hs : isSpTab c with
  | false => rfl
  | true =>
    have : c = ' ' ∨ c = '\t' := by simpa [isSpTab] using hs
    rcases this with rfl | rfl <;> revert h <;> decide +kernel

theorem not_isWs_of_attrChar {c : Char} (h : isAttrChar c = true) : isWs c = false :=
  isWs_false_of (p := isAttrChar) (by decide) h

theorem isAttrChar_of_nameChar {c : Char} (h : isNameChar c = true) : isAttrChar c = true := by
  simp [isAttrChar, h]

theorem isNameChar_of_nameStart {c : Char} (h : isNameStart c = true) : isNameChar c = true := by
  simp only [isNameStart, Bool.or_eq_true] at h
  simp only [isNameChar, Bool.or_eq_true]
  rcases h with h | h
  · exact .inl (.inl h)
  · exact .inr h

/-- a character a rendered predicate may start with: no white space; not `)` or `,`, where the loop closes a group or
    goes to the next argument; not `=`, which after `<` / `>` would be read as `<=` / `>=` (`opStop`) -/
def startOk (c : Char) : Bool := !isWs c && c != ')' && c != ',' && c != '='

theorem startOk_of_plainHead : ∀ {c : Char}, plainHead c = true → isWs c = false → c ≠ '=' → startOk c = true := by
  intro c h hw he
  obtain ⟨_, _, h3, h4, _⟩ := plainHead_facts h
  simp [startOk, hw, h3, h4, he]

theorem startOk_facts {c : Char} (h : startOk c = true) :
    isWs c = false ∧ isSpTab c = false ∧ c ≠ ')' ∧ c ≠ ',' ∧ c ≠ '=' := by
  simp only [startOk, Bool.and_eq_true, Bool.not_eq_true', bne_iff_ne, ne_eq] at h
  exact ⟨h.1.1.1, not_isSpTab_of_not_isWs h.1.1.1, h.1.1.2, h.1.2, h.2⟩

theorem quoteWith_facts (b : Bool) (s : Str) :
    quoteWith b s ≠ '\n' ∧ isWs (quoteWith b s) = false ∧ startOk (quoteWith b s) = true := by
  rcases quoteWith_cases b s with hq | hq <;> rw [hq] <;> decide +kernel

/-- the text does not end in white space (`strip` leaves its end alone) -/
def EndsTight (s : Str) : Prop := ∀ c, s.getLast? = some c → isWs c = false

theorem endsTight_append_cons (a : Str) (c : Char) (b : Str) : EndsTight (a ++ c :: b) ↔ EndsTight (c :: b) := by
  unfold EndsTight
  rw [List.getLast?_append]
  cases h : (c :: b).getLast? with
  | none => simp at h
  | some d => simp

theorem endsTight_single {c : Char} (h : isWs c = false) : EndsTight [c] := by
  intro d hd
  simp at hd
  subst hd
  exact h

theorem endsTight_snoc (a : Str) {c : Char} (h : isWs c = false) : EndsTight (a ++ [c]) :=
  (endsTight_append_cons a c []).2 (endsTight_single h)

theorem endsTight_cons_of {c : Char} {s : Str} (h : EndsTight s) (hs : s ≠ []) : EndsTight (c :: s) := by
  cases s with
  | nil => exact absurd rfl hs
  | cons d r => exact (endsTight_append_cons [c] d r).2 h

theorem sp_all (st : Style) (k : Site) (π : List Nat) : (st.sp k π).all isSpTab = true := by
  simp [Style.sp, List.all_filter]

theorem sepOf_all {b : Bool} {w : Str} (h : w.all isSpTab = true) : (sepOf b w).all isSpTab = true := by
  unfold sepOf
  split
  · rfl
  · exact h

theorem sepOf_ne_nil {w : Str} : sepOf true w ≠ [] := by
  unfold sepOf
  split
  · simp
  · next h => simpa using h

theorem ws_mem {w : Str} (h : w.all isSpTab = true) {c : Char} (hc : c ∈ w) : c = ' ' ∨ c = '\t' := by
  have := List.all_eq_true.1 h c hc
  simpa [isSpTab] using this

theorem okFollow_ws_cons {w : Str} (hw : w.all isSpTab = true) {c : Char} (t : Str) (hc : w ≠ [] ∨ c ∈ followChars) :
    okFollow (w ++ c :: t) = true := by
  cases w with
  | nil => exact okFollow_of_mem (hc.resolve_left (fun h => h rfl))
  | cons d r =>
    apply okFollow_of_mem
    rcases ws_mem hw (c := d) (by simp) with rfl | rfl <;> decide +kernel

theorem spell_map (st : Style) (π : List Nat) {w : Str} (hw : w.map lowerChar = w) : (st.spell π w).map lowerChar = w := by
  unfold Style.spell
  split
  · next h => exact h
  · exact hw

theorem spelled_mem {w v : Str} (hv : v.map lowerChar = w) {k : Char} (hk : lowerChar k = k) (h : k ∈ v) : k ∈ w := by
  rw [← hv]
  exact List.mem_map.2 ⟨k, h, hk⟩

theorem spelled_length {w v : Str} (hv : v.map lowerChar = w) : v.length = w.length := by
  rw [← hv]; simp

theorem spellOp_spelled (st : Style) (π : List Nat) (o : Op) : OpSpelled o (st.spellOp π o) := by
  unfold OpSpelled Style.spellOp
  cases h : isWordOp o with
  | false => simp
  | true =>
    simp only [if_true]
    apply spell_map
    rcases o with (_ | _ | _ | _ | _ | _) | (_ | _ | _ | _ | _ | _) | (_ | _) <;> decide +kernel

theorem spellOp_length (st : Style) (π : List Nat) (o : Op) : (st.spellOp π o).length ≤ 3 := by
  have h := spellOp_spelled st π o
  unfold OpSpelled at h
  split at h
  · rw [spelled_length h]
    rcases o with (_ | _ | _ | _ | _ | _) | (_ | _ | _ | _ | _ | _) | (_ | _) <;> decide +kernel
  · rw [h]
    rcases o with (_ | _ | _ | _ | _ | _) | (_ | _ | _ | _ | _ | _) | (_ | _) <;> decide +kernel

/-! ### Texts the bracket scanner gets through -/

/-- a character the bracket scanner steps over: not the closing bracket, not a quote -/
def plainB (c : Char) : Bool := c != ']' && c != '"' && c != '\''

/-- Texts the bracket scanner walks through item by item: ordinary characters and closed strings. -/
inductive BSafe : Str → Prop
  | nil : BSafe []
  | plain (c : Char) (s : Str) : plainB c = true → BSafe s → BSafe (c :: s)
  | quoted (q : Char) (body s : Str) : (q = '"' ∨ q = '\'') → body.contains q = false → endsBs false body = false →
      BSafe s → BSafe (q :: (body ++ q :: s))

theorem BSafe.append {a b : Str} (ha : BSafe a) (hb : BSafe b) : BSafe (a ++ b) := by
  induction ha with
  | nil => exact hb
  | plain c s hc _ ih => exact .plain c _ hc ih
  | quoted q body s hq h1 h2 _ ih =>
    rw [List.cons_append, List.append_assoc, List.cons_append]
    exact .quoted q body _ hq h1 h2 ih

theorem BSafe.of_all {s : Str} (h : s.all plainB = true) : BSafe s := by
  induction s with
  | nil => exact .nil
  | cons c r ih =>
    simp only [List.all_cons, Bool.and_eq_true] at h
    exact .plain c r h.1 (ih h.2)

/-! ### What the scanners that run over a whole predicate need of its text -/

/-- an ordinary character: nothing to the bracket scanner, and not the line feed `.+` stops at -/
def plainC (c : Char) : Bool := plainB c && c != '\n'

/-- The bracket scanner gets through the text (`BSafe`), and so does the `.+` of a group or a call (no line feed). -/
structure Safe (s : Str) : Prop where
  bsafe : BSafe s
  nonl : '\n' ∉ s

theorem Safe.nil : Safe [] := ⟨.nil, List.not_mem_nil⟩

theorem Safe.append {a b : Str} (ha : Safe a) (hb : Safe b) : Safe (a ++ b) :=
  ⟨ha.bsafe.append hb.bsafe, fun h => (List.mem_append.1 h).elim ha.nonl hb.nonl⟩

theorem Safe.of_all {s : Str} (h : ∀ c ∈ s, plainC c = true) : Safe s := by
  refine ⟨BSafe.of_all (List.all_eq_true.2 fun c hc => ?_), fun hm => absurd (h _ hm) (by decide)⟩
  have := h c hc
  simp only [plainC, Bool.and_eq_true] at this
  exact this.1

theorem Safe.cons {c : Char} {s : Str} (hc : plainC c = true) (hs : Safe s) : Safe (c :: s) :=
  Safe.append (a := [c]) (.of_all fun d hd => by rw [List.mem_singleton.1 hd]; exact hc) hs

theorem Safe.ws {w : Str} (h : w.all isSpTab = true) : Safe w :=
  .of_all fun _ hc => by rcases ws_mem h hc with rfl | rfl <;> rfl

theorem ws_bsafe {w : Str} (h : w.all isSpTab = true) : BSafe w := (Safe.ws h).bsafe

/-- a character of a name, a numeral, a word or an operator: ordinary, and no white space -/
def solidC (c : Char) : Bool := plainC c && !isWs c

theorem solidC_facts {c : Char} (h : solidC c = true) : plainC c = true ∧ isWs c = false := by
  simpa [solidC] using h

theorem Safe.solid {s : Str} (h : ∀ c ∈ s, solidC c = true) : Safe s := .of_all fun c hc => (solidC_facts (h c hc)).1

theorem endsTight_solid {s : Str} (h : ∀ c ∈ s, solidC c = true) (hs : s ≠ []) (pre : Str) : EndsTight (pre ++ s) := by
  intro d hd
  cases hl : s.getLast? with
  | none => exact absurd (List.getLast?_eq_none_iff.1 hl) hs
  | some e =>
    rw [List.getLast?_append, hl] at hd
    obtain rfl : e = d := by simpa using hd
    exact (solidC_facts (h _ (List.mem_of_getLast? hl))).2

/-- only letters change under `lowerChar`, and they are solid -/
theorem solidC_of_lowerChar {c : Char} (h : solidC (lowerChar c) = true) : solidC c = true := by
  by_cases hu : 'A' ≤ c ∧ c ≤ 'Z'
  · have ne : ∀ k, ¬ ('A' ≤ k ∧ k ≤ 'Z') → c ≠ k := fun k hk e => hk (e ▸ hu)
    simp [solidC, plainC, plainB, isWs_of_letter (.inl hu), ne ']' (by decide), ne '"' (by decide), ne '\'' (by decide),
      ne '\n' (by decide)]
  · rwa [lowerChar_of_not_upper hu] at h

theorem spelled_solid {w v : Str} (hv : v.map lowerChar = w) (hw : ∀ x ∈ w, solidC x = true) : ∀ c ∈ v, solidC c = true :=
  fun _ hc => solidC_of_lowerChar (hw _ (hv ▸ List.mem_map_of_mem hc))

theorem solidC_of_attrChar {c : Char} (h : isAttrChar c = true) : solidC c = true := by
  have ne : ∀ k, isAttrChar k = false → c ≠ k := fun k hk => ne_of_class (p := isAttrChar) hk h
  simp [solidC, plainC, plainB, not_isWs_of_attrChar h, ne ']' (by decide), ne '"' (by decide), ne '\'' (by decide), ne '\n' (by decide)]

theorem numChars_solid : ∀ c ∈ numChars, solidC c = true := by decide +kernel

theorem attrName_solid {n : Str} (h : attrNameOk n = true) : ∀ c ∈ '@' :: n, solidC c = true := by
  cases n with
  | nil => simp [attrNameOk] at h
  | cons c r =>
    simp only [attrNameOk, Bool.or_eq_true, Bool.and_eq_true, decide_eq_true_eq, List.isEmpty_iff] at h
    rcases h with ⟨rfl, rfl⟩ | ⟨h1, h2⟩
    · decide
    · intro x hx
      rcases List.mem_cons.1 hx with rfl | hx
      · decide
      · apply solidC_of_attrChar
        rcases List.mem_cons.1 hx with rfl | hx
        · exact isAttrChar_of_nameChar (isNameChar_of_nameStart h1)
        · exact List.all_eq_true.1 h2 x hx

theorem opText_solid (o : Op) : ∀ x ∈ opText o, solidC x = true := by
  rcases o with (_ | _ | _ | _ | _ | _) | (_ | _ | _ | _ | _ | _) | (_ | _) <;> decide +kernel

theorem OpSpelled.solid {o : Op} {v : Str} (h : OpSpelled o v) : ∀ c ∈ v, solidC c = true := by
  unfold OpSpelled at h
  split at h
  · exact spelled_solid h (opText_solid o)
  · rw [h]; exact opText_solid o

/-! ### The words that are spelled -/

/-- lower-case letters and dashes, the first one a letter -/
def wordOk (w : Str) : Bool := w.map lowerChar == w && w.all solidC && w.head?.any isAlpha

theorem wordOk_lower {w : Str} (hw : wordOk w = true) : w.map lowerChar = w := by
  simp only [wordOk, Bool.and_eq_true, beq_iff_eq] at hw
  exact hw.1.1

theorem wordOk_spelled {w v : Str} (hw : wordOk w = true) (hv : v.map lowerChar = w) :
    (∀ c ∈ v, solidC c = true) ∧ ∃ c r, v = c :: r ∧ isAlpha c = true := by
  simp only [wordOk, Bool.and_eq_true, beq_iff_eq, List.all_eq_true] at hw
  refine ⟨spelled_solid hv hw.1.2, ?_⟩
  cases w with
  | nil => simp at hw
  | cons x t =>
    obtain ⟨c, r, rfl, _, hc⟩ := spelled_letter hv (by simpa using hw.2)
    exact ⟨c, r, rfl, hc⟩

theorem letter_facts {c : Char} (h : isAlpha c = true) : startOk c = true ∧ c ≠ '(' ∧ c ≠ '@' ∧ c ≠ '/' := by
  have ne : ∀ k, isAlpha k = false → c ≠ k := fun k hk => ne_of_class (p := isAlpha) hk h
  refine ⟨?_, ne _ (by decide), ne _ (by decide), ne _ (by decide)⟩
  simp [startOk, isWs_false_of (p := isAlpha) (by decide) h, ne ')' (by decide), ne ',' (by decide), ne '=' (by decide)]

theorem words_ok : ∀ w ∈ [wText, wLast, wPosition, wConcat, wContains, wNspace], wordOk w = true := by decide +kernel

theorem spell_word (st : Style) (π : List Nat) {w : Str} (hw : w ∈ [wText, wLast, wPosition, wConcat, wContains, wNspace]) :
    (st.spell π w).map lowerChar = w :=
  spell_map st π (wordOk_lower (words_ok w hw))

/-! ### `strip` on a text with tight ends, behind white space -/

theorem strip_tight {c : Char} {r : Str} (hc : isWs c = false) (h : EndsTight (c :: r)) : strip (c :: r) = c :: r :=
  strip_of_ends (fun _ e => Option.some.inj e ▸ hc) h

theorem allWs_of_isSpTab {w : Str} (h : w.all isSpTab = true) : AllWs w := by
  intro c hc
  rcases ws_mem h hc with rfl | rfl <;> decide +kernel

theorem strip_ws_tight {w : Str} (hw : w.all isSpTab = true) {c : Char} {r : Str} (hc : isWs c = false)
    (h : EndsTight (c :: r)) : strip (w ++ c :: r) = c :: r := by
  rw [strip_ws_append (allWs_of_isSpTab hw), strip_tight hc h]

theorem strip_ws_both {w1 w2 : Str} (h1 : w1.all isSpTab = true) (h2 : w2.all isSpTab = true) {c : Char} {r : Str}
    (hc : isWs c = false) (hE : EndsTight (c :: r)) : strip (w1 ++ ((c :: r) ++ w2)) = c :: r := by
  rw [strip_ws_append (allWs_of_isSpTab h1), strip_append_ws (allWs_of_isSpTab h2), strip_tight hc hE]

theorem strip_all_ws {w : Str} (h : w.all isSpTab = true) : strip w = [] := by
  have := strip_ws_append (allWs_of_isSpTab h) []
  rwa [List.append_nil] at this

/-! ### The text from where the loop stands to its end -/

/-- The `.+$` of a group or call runs to the end of the text and does not cross a line feed; `strip` of what it matched must not
    touch the end.  Both pass to every suffix, so they are asked of the whole remaining text, once. -/
structure Good (s : Str) : Prop where
  nonl : '\n' ∉ s
  tight : EndsTight s

theorem Good.drop {a b : Str} (h : Good (a ++ b)) : Good b :=
  ⟨fun m => h.nonl (List.mem_append_right a m), fun c hc => h.tight c (by rw [List.getLast?_append, hc]; rfl)⟩

theorem Good.tail {c : Char} {s : Str} (h : Good (c :: s)) : Good s := Good.drop (a := [c]) h

theorem Good.strip {w : Str} {c : Char} {t : Str} (h : Good (w ++ c :: t)) (hw : w.all isSpTab = true) (hc : isWs c = false) :
    strip (w ++ c :: t) = c :: t :=
  strip_ws_tight hw hc h.drop.tight

end AHP.XPath
