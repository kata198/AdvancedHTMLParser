/-
  AHP.Lemmas.PickleStr — the two string round trips of C17.

  Class lists: `classTokens (className cls) = cls` holds exactly for the lists of shape `ClsOK`, and every list the
  `className` setter stores has that shape.  Style maps: `styleToDict (styleStr sty) = sty` holds exactly for maps with
  unique names and `GoodDecl` declarations, and every map `styleToDict` produces is one; both facts are those of the
  attribute-store model (`Lemmas/AttrsStyle.lean`), carried over through the equalities of `Lemmas/AttrStores*.lean`.
  `Tok` and `PropOK` are the narrower syntactic descriptions `C17.wf_of_syntactic` is stated with: a round trip named
  `…_wide` is the one under the exact shape (`ClsOK`, `GoodDecl`); `classTokens_className` is the class one for `Tok`,
  and `goodDecl_of_propOK` feeds `PropOK` to the style one.  `…_pk` marks this model's copy of a fact the attribute-store
  models have under the same name.
  `Attrs.GoodDecl`, `Attrs.styleToDict_asStr`, `Attrs.styRT_styleToDict`, `Attrs.collapse_join_clean` below are names of
  `AHP.Attrs` (the attribute model of C08–C10), not of this model's store `AHP.Pk.Attrs`.
-/
import AHP.Lemmas.IntakeStableStr
import AHP.Lemmas.AttrStoresDict
namespace AHP.Pk
open AHP

/-- a class token as `className.split(' ')` of a stripped string leaves it, without inner white space -/
def Tok (t : Str) : Prop := t ≠ [] ∧ ∀ c ∈ t, isWs c = false

def NoSp (t : Str) : Prop := ∀ c ∈ t, c ≠ ' '

theorem tok_no_space (t : Str) (h : Tok t) : NoSp t :=
  fun c hc => ne_space_of_not_ws (h.2 c hc)

/-- `AHP.splitChar_ne_nil` (Lemmas/Str.lean) under this namespace -/
theorem splitChar_ne_nil (sep : Char) (s : Str) : splitChar sep s ≠ [] := AHP.splitChar_ne_nil sep s

/-! ### class lists -/

/-- The exact shape of a class list that `classTokens (className cls)` reproduces: tokens non-empty and free of
    spaces (other white space is allowed inside a token and at the inner ends), the first token does not start and
    the last token does not end with white space (the `strip` of the whole string would eat it). -/
structure ClsOK (cls : List Str) : Prop where
  tok : ∀ t ∈ cls, t ≠ [] ∧ NoSp t
  first : ∀ t r, cls = t :: r → ∀ c r', t = c :: r' → isWs c = false
  last : ∀ i t, cls = i ++ [t] → ∀ j l, t = j ++ [l] → isWs l = false

theorem clsOK_nil : ClsOK [] :=
  ⟨fun t ht => (by cases ht), fun t r h => (by cases h), fun i t h => (by simp at h)⟩

theorem clsOK_of_tok (cls : List Str) (h : ∀ t ∈ cls, Tok t) : ClsOK cls := by
  refine ⟨fun t ht => ⟨(h t ht).1, tok_no_space t (h t ht)⟩, ?_, ?_⟩
  · intro t r e c r' et
    have := h t (by rw [e]; exact List.mem_cons_self)
    exact this.2 c (by rw [et]; exact List.mem_cons_self)
  · intro i t e j l et
    have := h t (by rw [e]; simp)
    exact this.2 l (by rw [et]; simp)

theorem collapseSp_join (ws : List Str) (h : ∀ w ∈ ws, w ≠ [] ∧ NoSp w) :
    collapseSp (joinWith [' '] ws) = joinWith [' '] ws := by
  rw [AttrStores.collapse_pk, ← AttrStores.collapse_attrs]
  exact Attrs.collapse_join_clean (fun w hw => ⟨(h w hw).1, fun m => (h w hw).2 _ m rfl⟩) false

/-- **the class round trip, exact form**: a class list of the shape `ClsOK` survives `' '.join` followed by the
    `className` setter's `stripWordsOnly` + `split(' ')` + drop-empties. -/
theorem classTokens_className_wide (cls : List Str) (h : ClsOK cls) : classTokens (className cls) = cls := by
  by_cases hn : cls = []
  · subst hn; decide
  -- the joined text starts as the first token and ends as the last: `strip` leaves it
  have hs : strip (joinWith [' '] cls) = joinWith [' '] cls := by
    refine strip_of_ends (fun c hc => ?_) (fun d hd => ?_)
    · obtain ⟨t, r, rfl⟩ := List.exists_cons_of_ne_nil hn
      rw [head?_joinWith _ r (h.tok t List.mem_cons_self).1] at hc
      obtain ⟨r', et⟩ := List.head?_eq_some_iff.mp hc
      exact h.first t r rfl c r' et
    · obtain ⟨i, e⟩ := List.getLast?_eq_some_iff.mp (List.getLast?_eq_some_getLast hn)
      rw [getLast?_joinWith _ cls (List.getLast?_eq_some_getLast hn) (h.tok _ (List.getLast_mem hn)).1] at hd
      obtain ⟨j, et⟩ := List.getLast?_eq_some_iff.mp hd
      exact h.last i _ e j d et
  unfold classTokens stripWordsOnly className
  rw [hs, collapseSp_join cls h.tok, splitChar_join cls hn fun w hw m => (h.tok w hw).2 _ m rfl]
  exact List.filter_eq_self.mpr fun w hw => by simpa using (h.tok w hw).1

/-- tokens that are non-empty and free of white space: the description `C17.wf_of_syntactic` asks for -/
theorem classTokens_className (cls : List Str) (h : ∀ t ∈ cls, Tok t) : classTokens (className cls) = cls :=
  classTokens_className_wide cls (clsOK_of_tok cls h)

/-- **every class list the `className` setter can store has the round-trip shape** — whatever string is
    assigned.  Hence `classTokens (className (classTokens v)) = classTokens v` for every `v`. -/
theorem clsOK_classTokens (v : Str) : ClsOK (classTokens v) := by
  have htok : ∀ t ∈ classTokens v, t ≠ [] ∧ NoSp t := by
    intro t ht
    unfold classTokens at ht
    rw [List.mem_filter] at ht
    refine ⟨?_, fun c hc e => (mem_splitChar ht.1).1 (e ▸ hc)⟩
    intro e; rw [e] at ht; simp at ht
  -- the tokens joined are the text as `stripWordsOnly` leaves it: it starts and ends as the stripped text does
  have hj := AttrStores.className_classTokens v
  rw [stripWordsOnly, AttrStores.collapse_pk] at hj
  refine ⟨htok, ?_, ?_⟩
  · intro t r e c r' et
    rw [e, et, className, joinWith_cons_head] at hj
    cases hs : strip v with
    | nil => rw [hs] at hj; cases hj
    | cons d ds =>
      have hd := strip_head hs
      rw [hs, AttrStores.collapse_cons_ne (ne_space_of_not_ws hd)] at hj
      exact (List.cons.inj hj).1 ▸ hd
  · intro i t e j l et
    refine strip_last (s := v) ?_
    rw [← AttrStores.collapse_getLast, ← hj, e, className,
      getLast?_joinWith _ _ List.getLast?_concat (htok t (by rw [e]; simp)).1, et, List.getLast?_concat]

theorem classTokens_idem (v : Str) : classTokens (className (classTokens v)) = classTokens v :=
  classTokens_className_wide _ (clsOK_classTokens v)

/-- the semantic field of `Attrs.WF` and the syntactic shape are the same thing -/
theorem clsOK_iff (cls : List Str) : classTokens (className cls) = cls ↔ ClsOK cls :=
  ⟨fun h => by rw [← h]; exact clsOK_classTokens _, classTokens_className_wide cls⟩

/-! ### style maps -/

def NoEdgeWs (x : Str) : Prop :=
  (∀ c r, x = c :: r → isWs c = false) ∧ (∀ i l, x = i ++ [l] → isWs l = false)

theorem strip_noEdge (x : Str) (h : NoEdgeWs x) : strip x = x :=
  strip_of_ends (fun c hc => (List.head?_eq_some_iff.mp hc).elim fun r e => h.1 c r e)
    (fun d hd => (List.getLast?_eq_some_iff.mp hd).elim fun i e => h.2 i d e)

/-- a style property as `styleToDict` stores it and `_asStr` prints it back -/
structure PropOK (p : Str × Str) : Prop where
  nameNe : p.1 ≠ []
  nameLow : lower p.1 = p.1
  nameEdge : NoEdgeWs p.1
  nameChars : ∀ c ∈ p.1, c ≠ ':' ∧ c ≠ ';'
  valNe : p.2 ≠ []
  valEdge : NoEdgeWs p.2
  valChars : ∀ c ∈ p.2, c ≠ ';'

theorem styleToDict_idem_pk (s : Str) : styleToDict (styleStr (styleToDict s)) = styleToDict s := by
  rw [AttrStores.styleStr_pk, AttrStores.styleToDict_pk, AttrStores.styleToDict_pk]
  exact AttrStores.styleToDict_idem s

/-- **the style round trip**: a style map with unique names whose declarations are `GoodDecl`
    (name: trimmed, lower-case, no `:`/`;` — may be empty; value: trimmed, no `;` — may be empty) survives
    `_asStr` → `styleToDict`. -/
theorem styleToDict_styleStr_wide (sty : List (Str × Str)) (hn : (dkeys sty).Nodup)
    (h : ∀ q ∈ sty, Attrs.GoodDecl q) : styleToDict (styleStr sty) = sty := by
  rw [AttrStores.styleStr_pk, AttrStores.styleToDict_pk, ← AttrStores.styleToDict_attrs]
  exact Attrs.styleToDict_asStr ⟨hn, h⟩

theorem goodDecl_styleToDict (s : Str) : (dkeys (styleToDict s)).Nodup ∧ ∀ q ∈ styleToDict s, Attrs.GoodDecl q := by
  rw [AttrStores.styleToDict_pk, ← AttrStores.styleToDict_attrs]
  exact Attrs.styRT_styleToDict s

/-- the narrower description `C17.wf_of_syntactic` asks for is a special case -/
theorem goodDecl_of_propOK (q : Str × Str) (h : PropOK q) : Attrs.GoodDecl q :=
  ⟨strip_noEdge _ h.nameEdge, h.nameLow, fun m => (h.nameChars _ m).1 rfl, fun m => (h.nameChars _ m).2 rfl,
   strip_noEdge _ h.valEdge, fun m => h.valChars _ m rfl⟩

end AHP.Pk
