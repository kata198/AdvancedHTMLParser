/-
  AHP.Lemmas.Dom — the tree layer of the DOM bookkeeping model: the invariant (`OK` per element, threaded
  top-down; `Inv` per world), the edit combinator `upd` (one traversal that rewrites the element with uid `t`
  and collects what left it) with the local obligations under which it keeps the invariant, lookup by uid
  (`find?`) and the element list `elems`, and the frame of an edit (`outside`: the fields of everything
  outside the subtree of the target; off the target it is `metas`, all fields). Before `elems`: `getAllChildNodes` lists
  `idsL` (`descL_eq_idsL`), and the accounting of a block that changes place (`reown`, `setParent`, `attach`, `detach`)
  keeps uids and consistency. At the end the unfolding equations of `mk` and `innerHTML` / `textContent` as joins.

  A forest function is `map` / `flatMap` / `∀ ∈` / first match of its node function (`idsL_eq`, `elemsL_eq`, `OKL_iff`,
  `reownL_eq`, `updL_eq`, `find?_eq`). Where that makes the forest half of a fact a corollary of the node half, the node
  half is proved by `DN.ind`; where the forest half needs an induction of its own, the two are a mutual pair.
-/
import AHP.Model.Dom
import AHP.Model.DomView
import AHP.Lemmas.Str
namespace AHP.Dom

/-- no element block and no text but empty strings: all a self-closing element may hold -/
def noContent (bs : List DN) : Prop := elemIds bs = [] ∧ textOf bs = []

mutual
/-- Threaded top-down: `par`/`own` are the parent uid and the document the element must point to. -/
def OK (par own : Option Nat) : DN → Prop
  | .text _ => True
  | .el m bs => m.parent = par ∧ m.owner = own ∧ m.children = elemIds bs ∧ m.text = textOf bs ∧
      (m.sc = true → noContent bs) ∧ OKL (some m.id) own bs
def OKL (par own : Option Nat) : List DN → Prop
  | [] => True
  | b :: bs => OK par own b ∧ OKL par own bs
end

/-- a root of a world: an element without parent, consistent below, whatever document it names -/
def RootOK (r : DN) : Prop := ∃ m bs, r = .el m bs ∧ OK none m.owner r

def Detached (r : DN) : Prop := ∃ m bs, r = .el m bs ∧ OK none none r

/-- The world invariant of C04. -/
structure Inv (w : World) : Prop where
  roots : ∀ r ∈ w.roots, RootOK r
  nodup : (idsL w.roots).Nodup
  fresh : ∀ i ∈ idsL w.roots, i < w.next

theorem Detached.rootOK {r : DN} (h : Detached r) : RootOK r := by
  obtain ⟨m, bs, rfl, h⟩ := h
  have : m.owner = none := by simp only [OK] at h; exact h.2.1
  exact ⟨m, bs, rfl, this ▸ h⟩

theorem noContent.congr {bs bs' : List DN} (h : noContent bs) (he : elemIds bs' = elemIds bs) (ht : textOf bs' = textOf bs) :
    noContent bs' := by
  unfold noContent; rw [he, ht]; exact h

@[simp] theorem elemIds_nil : elemIds [] = [] := rfl

@[simp] theorem elemIds_text (s) (bs : List DN) : elemIds (.text s :: bs) = elemIds bs := rfl

@[simp] theorem elemIds_el (m k) (bs : List DN) : elemIds (.el m k :: bs) = m.id :: elemIds bs := rfl

@[simp] theorem textOf_nil : textOf [] = [] := rfl

@[simp] theorem textOf_text (s) (bs : List DN) : textOf (.text s :: bs) = s ++ textOf bs := rfl

@[simp] theorem textOf_el (m k) (bs : List DN) : textOf (.el m k :: bs) = textOf bs := rfl

@[simp] theorem idsL_nil : idsL [] = [] := by simp [idsL]

@[simp] theorem idsL_cons (b) (bs : List DN) : idsL (b :: bs) = ids b ++ idsL bs := by simp [idsL]

@[simp] theorem ids_text (s) : ids (.text s) = [] := by simp [ids]

@[simp] theorem ids_el (m bs) : ids (.el m bs) = m.id :: idsL bs := by simp [ids]

@[simp] theorem OKL_nil (p o) : OKL p o [] = True := by simp [OKL]

@[simp] theorem OKL_cons (p o b bs) : OKL p o (b :: bs) = (OK p o b ∧ OKL p o bs) := by simp [OKL]

@[simp] theorem OK_text (p o s) : OK p o (.text s) = True := by simp [OK]

theorem OK_el (p o m bs) : OK p o (.el m bs) = (m.parent = p ∧ m.owner = o ∧ m.children = elemIds bs ∧
    m.text = textOf bs ∧ (m.sc = true → noContent bs) ∧ OKL (some m.id) o bs) := by simp [OK]

theorem DN.ind {P : DN → Prop} (text : ∀ s, P (.text s)) (el : ∀ m bs, (∀ b ∈ bs, P b) → P (.el m bs)) (n : DN) : P n :=
  DN.rec (motive_1 := P) (motive_2 := fun l => ∀ b ∈ l, P b) text el nofun
    (fun _ _ hb hbs => List.forall_mem_cons.mpr ⟨hb, hbs⟩) n

theorem OK.parent {p o m bs} (h : OK p o (.el m bs)) : m.parent = p := (OK_el .. ▸ h).1

theorem OK.owner {p o m bs} (h : OK p o (.el m bs)) : m.owner = o := (OK_el .. ▸ h).2.1

theorem OK.children {p o m bs} (h : OK p o (.el m bs)) : m.children = elemIds bs := (OK_el .. ▸ h).2.2.1

theorem OK.text {p o m bs} (h : OK p o (.el m bs)) : m.text = textOf bs := (OK_el .. ▸ h).2.2.2.1

theorem OK.sc {p o m bs} (h : OK p o (.el m bs)) : m.sc = true → noContent bs := (OK_el .. ▸ h).2.2.2.2.1

theorem OK.kids {p o m bs} (h : OK p o (.el m bs)) : OKL (some m.id) o bs := (OK_el .. ▸ h).2.2.2.2.2

theorem elemIds_append (a b : List DN) : elemIds (a ++ b) = elemIds a ++ elemIds b := by
  induction a with
  | nil => rfl
  | cons x xs ih => cases x <;> simp [ih]

theorem textOf_append (a b : List DN) : textOf (a ++ b) = textOf a ++ textOf b := by
  induction a with
  | nil => rfl
  | cons x xs ih => cases x <;> simp [ih]

theorem idsL_eq (l : List DN) : idsL l = l.flatMap ids := by
  induction l with
  | nil => simp
  | cons b bs ih => simp [ih]

theorem idsL_append (a b : List DN) : idsL (a ++ b) = idsL a ++ idsL b := by simp [idsL_eq]

theorem mem_idsL {x : Nat} {l : List DN} : x ∈ idsL l ↔ ∃ b ∈ l, x ∈ ids b := by simp [idsL_eq]

theorem OKL_iff {p o} {l : List DN} : OKL p o l ↔ ∀ b ∈ l, OK p o b := by
  induction l with
  | nil => simp
  | cons b bs ih => simp [ih]

theorem OKL_append (p o) (a b : List DN) : OKL p o (a ++ b) ↔ OKL p o a ∧ OKL p o b := by
  simp only [OKL_iff, List.forall_mem_append]

theorem OKL_mem {p o} {bs : List DN} (h : OKL p o bs) {b : DN} (hb : b ∈ bs) : OK p o b := OKL_iff.mp h b hb

theorem OKL_of_forall {p o} {bs : List DN} (h : ∀ b ∈ bs, OK p o b) : OKL p o bs := OKL_iff.mpr h

theorem OKL_map {g : DN → DN} {p o p' o'} {l : List DN} (h : ∀ b ∈ l, OK p o b → OK p' o' (g b)) (hl : OKL p o l) :
    OKL p' o' (l.map g) :=
  OKL_iff.mpr (List.forall_mem_map.mpr fun b hb => h b hb (OKL_mem hl hb))

theorem mem_elemIds {c : Nat} {l : List DN} : c ∈ elemIds l ↔ ∃ m k, DN.el m k ∈ l ∧ m.id = c := by
  induction l with
  | nil => simp
  | cons b bs ih =>
    cases b with
    | text s => simp [ih]
    | el m' k' =>
      simp only [elemIds_el, List.mem_cons, ih, DN.el.injEq]
      constructor
      · rintro (rfl | ⟨m, k, h, rfl⟩)
        · exact ⟨m', k', Or.inl ⟨rfl, rfl⟩, rfl⟩
        · exact ⟨m, k, Or.inr h, rfl⟩
      · rintro ⟨m, k, (⟨rfl, rfl⟩ | h), rfl⟩
        · exact Or.inl rfl
        · exact Or.inr ⟨m, k, h, rfl⟩

theorem elemIds_subset_idsL (bs : List DN) : ∀ i ∈ elemIds bs, i ∈ idsL bs := by
  intro i hi
  obtain ⟨m, k, h, rfl⟩ := mem_elemIds.mp hi
  exact mem_idsL.mpr ⟨_, h, by simp⟩

theorem elemIds_nodup (bs : List DN) (h : (idsL bs).Nodup) : (elemIds bs).Nodup := by
  induction bs with
  | nil => simp
  | cons b bs ih =>
    simp only [idsL_cons] at h
    have hd := List.nodup_append.mp h
    cases b with
    | text s => simpa using ih hd.2.1
    | el m k =>
      simp only [elemIds_el, List.nodup_cons]
      refine ⟨?_, ih hd.2.1⟩
      intro hm
      exact hd.2.2 m.id (by simp) m.id (elemIds_subset_idsL bs _ hm) rfl

theorem mem_elemIds_cons (t : Nat) (b : DN) (rest : List DN) :
    t ∈ elemIds (b :: rest) ↔ rootId b = some t ∨ t ∈ elemIds rest := by
  cases b <;> simp [rootId, eq_comm]

theorem indexOf_elm (bs : List DN) (hn : (elemIds bs).Nodup) (i : Nat) {m k} (h : bs[i]? = some (.el m k)) :
    indexOf (.elm m.id) bs = some i := by
  induction bs generalizing i with
  | nil => simp at h
  | cons b bs ih =>
    cases i with
    | zero =>
      simp only [List.getElem?_cons_zero, Option.some.injEq] at h
      subst h
      simp [indexOf, blockEq]
    | succ i =>
      simp only [List.getElem?_cons_succ] at h
      cases b with
      | text s =>
        simp only [indexOf, blockEq]
        rw [ih (by simpa using hn) i h]; simp
      | el m' k' =>
        simp only [elemIds_el, List.nodup_cons] at hn
        have hmem : m.id ∈ elemIds bs := mem_elemIds.mpr ⟨m, k, List.mem_of_getElem? h, rfl⟩
        have hne : ¬ (m'.id = m.id) := fun e => hn.1 (e ▸ hmem)
        simp only [indexOf, blockEq, beq_iff_eq, hne, if_false]
        rw [ih hn.2 i h]; simp

theorem natIndex_of_getElem (l : List Nat) (hn : l.Nodup) (j : Nat) {x} (h : l[j]? = some x) : natIndex x l = some j := by
  induction l generalizing j with
  | nil => simp at h
  | cons y ys ih =>
    cases j with
    | zero => simp only [List.getElem?_cons_zero, Option.some.injEq] at h; simp [natIndex, h]
    | succ j =>
      simp only [List.getElem?_cons_succ] at h
      simp only [List.nodup_cons] at hn
      have hne : y ≠ x := fun e => hn.1 (e ▸ List.mem_of_getElem? h)
      simp [natIndex, hne, ih hn.2 j h]

theorem rootId_mem_ids {r : DN} {c : Nat} (h : rootId r = some c) : c ∈ ids r := by
  cases r with
  | text s => simp [rootId] at h
  | el m k => simp only [rootId, Option.some.injEq] at h; simp [h]

theorem idsL_perm {l₁ l₂ : List DN} (h : l₁.Perm l₂) : (idsL l₁).Perm (idsL l₂) := by
  rw [idsL_eq, idsL_eq]; exact h.flatMap_right ids

theorem nodup_of_mem_idsL {l : List DN} (h : (idsL l).Nodup) {b} (hb : b ∈ l) : (ids b).Nodup := by
  obtain ⟨a, c, rfl⟩ := List.append_of_mem hb
  rw [idsL_append, idsL_cons] at h
  exact (List.nodup_append.mp (List.nodup_append.mp h).2.1).1

@[simp] theorem descL_nil : descL [] = [] := by simp [descL]

@[simp] theorem descL_text (s) (bs : List DN) : descL (.text s :: bs) = descL bs := by simp [descL]

@[simp] theorem descL_el (m k) (bs : List DN) : descL (.el m k :: bs) = (m.id :: descL k) ++ descL bs := by simp [descL]

mutual
theorem descL_cons : ∀ (b : DN) (bs : List DN), descL (b :: bs) = ids b ++ descL bs
  | .text s, bs => by simp
  | .el m k, bs => by rw [descL_el, descL_eq_idsL k, ids_el]
/-- `getAllChildNodes` lists exactly the uids below, in document order -/
theorem descL_eq_idsL (bs : List DN) : descL bs = idsL bs := by
  match bs with
  | [] => simp
  | b :: bs => rw [descL_cons, descL_eq_idsL bs, idsL_cons]
end

/-- the `getAllChildNodes` walk (children, each followed by its descendants) lists the element blocks' trees -/
theorem desc_eq_ids_tail (n : DN) : desc n = (ids n).tail := by
  cases n <;> simp [desc, descL_eq_idsL]

@[simp] theorem reownL_nil (o) : reownL o [] = [] := by simp [reownL]

@[simp] theorem reownL_cons (o b bs) : reownL o (b :: bs) = reown o b :: reownL o bs := by simp [reownL]

@[simp] theorem reown_text (o s) : reown o (.text s) = .text s := by simp [reown]

@[simp] theorem reown_el (o m bs) : reown o (.el m bs) = .el { m with owner := o } (reownL o bs) := by simp [reown]

@[simp] theorem setParent_text (p s) : setParent p (.text s) = .text s := rfl

@[simp] theorem setParent_el (p m bs) : setParent p (.el m bs) = .el { m with parent := p } bs := rfl

theorem elemIds_reownL (o) (bs : List DN) : elemIds (reownL o bs) = elemIds bs := by
  induction bs with
  | nil => simp
  | cons b bs ih => cases b <;> simp [ih]

theorem textOf_reownL (o) (bs : List DN) : textOf (reownL o bs) = textOf bs := by
  induction bs with
  | nil => simp
  | cons b bs ih => cases b <;> simp [ih]

theorem reownL_eq (o) (l : List DN) : reownL o l = l.map (reown o) := by
  induction l with
  | nil => simp
  | cons b bs ih => simp [ih]

mutual
theorem ids_reown (o) (n : DN) : ids (reown o n) = ids n := by
  match n with
  | .text s => simp
  | .el m bs => simp [idsL_reownL o bs]
theorem idsL_reownL (o) (bs : List DN) : idsL (reownL o bs) = idsL bs := by
  match bs with
  | [] => simp
  | b :: bs => simp [ids_reown o b, idsL_reownL o bs]
end

theorem ids_setParent (p) (n : DN) : ids (setParent p n) = ids n := by
  cases n <;> simp

theorem reown_OK (par own own' : Option Nat) (n : DN) (h : OK par own n) : OK par own' (reown own' n) := by
  induction n using DN.ind generalizing par own with
  | text x => simp
  | el m bs ih =>
    rw [reown_el, OK_el, elemIds_reownL, textOf_reownL]
    exact ⟨h.parent, rfl, h.children, h.text, fun hs => (h.sc hs).congr (elemIds_reownL ..) (textOf_reownL ..),
      reownL_eq own' bs ▸ OKL_map (fun b hb => ih b hb _ _) h.kids⟩

theorem reownL_OK (par own own' : Option Nat) (bs : List DN) (h : OKL par own bs) :
    OKL par own' (reownL own' bs) :=
  reownL_eq own' bs ▸ OKL_map (fun b _ => reown_OK par own own' b) h

theorem setParent_OK (p p' own : Option Nat) (n : DN) (h : OK p own n) : OK p' own (setParent p' n) := by
  cases n with
  | text x => simp
  | el m bs =>
    simp only [OK_el] at h
    simp only [setParent_el, OK_el]
    exact ⟨trivial, h.2.1, h.2.2.1, h.2.2.2.1, h.2.2.2.2.1, h.2.2.2.2.2⟩

theorem attach_OK (m : Meta) (c : DN) {p o} (h : OK p o c) : OK (some m.id) m.owner (attach m c) :=
  reown_OK _ o _ _ (setParent_OK p _ o c h)

theorem ids_attach (m : Meta) (c : DN) : ids (attach m c) = ids c := by
  unfold attach; rw [ids_reown, ids_setParent]

theorem rid_attach (m : Meta) (c : DN) : (attach m c).rid = c.rid := by
  cases c <;> simp [attach, DN.rid]

theorem isEl_attach (m : Meta) (c : DN) : (attach m c).isEl = c.isEl := by
  cases c <;> simp [attach, DN.isEl]

/-- what `removeChild` and `createBlocksFromHTML` do to a block they hand out: `parentNode` cleared, `ownerDocument` cleared below -/
def detach (b : DN) : DN := reown none (setParent none b)

theorem ids_detach (b : DN) : ids (detach b) = ids b := by rw [detach, ids_reown, ids_setParent]

theorem isEl_detach (b : DN) : (detach b).isEl = b.isEl := by cases b <;> simp [detach, DN.isEl]

theorem detach_Detached {p o} (x : DN) (hx : x.isEl = true) (h : OK p o x) : Detached (detach x) := by
  cases x with
  | text s => simp [DN.isEl] at hx
  | el m bs =>
    refine ⟨{ m with parent := none, owner := none }, reownL none bs, by simp [detach], ?_⟩
    have := reown_OK none o none _ (setParent_OK p none o _ h)
    simpa [detach] using this

@[simp] theorem elems_text (s) : elems (.text s) = [] := by simp [elems]

@[simp] theorem elems_el (m bs) : elems (.el m bs) = (m, bs) :: elemsL bs := by simp [elems]

@[simp] theorem elemsL_nil : elemsL [] = [] := by simp [elemsL]

@[simp] theorem elemsL_cons (b bs) : elemsL (b :: bs) = elems b ++ elemsL bs := by simp [elemsL]

theorem mem_elemsL {e : Meta × List DN} {l : List DN} : e ∈ elemsL l ↔ ∃ b ∈ l, e ∈ elems b := by
  induction l with
  | nil => simp
  | cons b bs ih => simp [ih]

theorem elemsL_eq (l : List DN) : elemsL l = l.flatMap elems := by
  induction l with
  | nil => simp
  | cons b bs ih => simp [ih]

theorem elemsL_append (a b : List DN) : elemsL (a ++ b) = elemsL a ++ elemsL b := by simp [elemsL_eq]

mutual
theorem ids_eq_map_elems (n : DN) : ids n = (elems n).map (fun e => e.1.id) := by
  match n with
  | .text s => simp
  | .el m bs => simp [idsL_eq_map_elemsL bs]
theorem idsL_eq_map_elemsL (l : List DN) : idsL l = (elemsL l).map (fun e => e.1.id) := by
  match l with
  | [] => simp
  | b :: bs => simp [ids_eq_map_elems b, idsL_eq_map_elemsL bs]
end

theorem elems_id_mem (n : DN) {e} (h : e ∈ elems n) : e.1.id ∈ ids n :=
  ids_eq_map_elems n ▸ List.mem_map_of_mem h

theorem elemsL_id_mem (l : List DN) {e} (h : e ∈ elemsL l) : e.1.id ∈ idsL l :=
  idsL_eq_map_elemsL l ▸ List.mem_map_of_mem h

theorem ids_mem_elems (n : DN) {x} (h : x ∈ ids n) : ∃ e ∈ elems n, e.1.id = x :=
  List.mem_map.mp (ids_eq_map_elems n ▸ h)

theorem idsL_mem_elemsL (l : List DN) {x} (h : x ∈ idsL l) : ∃ e ∈ elemsL l, e.1.id = x :=
  List.mem_map.mp (idsL_eq_map_elemsL l ▸ h)

theorem elems_induct {P : DN → Prop} (down : ∀ m bs, P (.el m bs) → ∀ b ∈ bs, P b) {n : DN} (hn : P n)
    {e : Meta × List DN} (he : e ∈ elems n) : P (.el e.1 e.2) := by
  induction n using DN.ind with
  | text s => simp at he
  | el m bs ih =>
    rw [elems_el, List.mem_cons, mem_elemsL] at he
    obtain rfl | ⟨b, hb, he⟩ := he
    · exact hn
    · exact ih b hb (down m bs hn b hb) he

theorem elems_OK (n : DN) {p o} (hn : OK p o n) {e} (h : e ∈ elems n) : ∃ p' o', OK p' o' (.el e.1 e.2) :=
  elems_induct (P := fun n => ∃ p o, OK p o n) (fun _ _ ⟨_, _, h⟩ _ hb => ⟨_, _, OKL_mem h.kids hb⟩) ⟨p, o, hn⟩ h

theorem elemsL_OK (l : List DN) {p o} (hn : OKL p o l) {e} (h : e ∈ elemsL l) : ∃ p' o', OK p' o' (.el e.1 e.2) :=
  let ⟨b, hb, he⟩ := mem_elemsL.mp h
  elems_OK b (OKL_mem hn hb) he

theorem elems_nodup (n : DN) (hn : (ids n).Nodup) {e : Meta × List DN} (h : e ∈ elems n) : (idsL e.2).Nodup :=
  (List.nodup_cons.mp (ids_el .. ▸ elems_induct (P := fun n => (ids n).Nodup)
    (fun _ _ h _ hb => nodup_of_mem_idsL (List.nodup_cons.mp (ids_el .. ▸ h)).2 hb) hn h)).2

theorem elemsL_nodup (l : List DN) (hn : (idsL l).Nodup) {e : Meta × List DN} (h : e ∈ elemsL l) : (idsL e.2).Nodup :=
  let ⟨b, hb, he⟩ := mem_elemsL.mp h
  elems_nodup b (nodup_of_mem_idsL hn hb) he

theorem elems_owner (n : DN) {p o} (hn : OK p o n) {e} (h : e ∈ elems n) : e.1.owner = o :=
  let ⟨_, h⟩ := elems_induct (P := fun n => ∃ p, OK p o n) (fun _ _ ⟨_, h⟩ _ hb => ⟨_, OKL_mem h.kids hb⟩) ⟨p, hn⟩ h
  h.owner

theorem elemsL_owner (l : List DN) {p o} (hn : OKL p o l) {e} (h : e ∈ elemsL l) : e.1.owner = o :=
  let ⟨b, hb, he⟩ := mem_elemsL.mp h
  elems_owner b (OKL_mem hn hb) he

theorem elems_trans (n : DN) {e e' : Meta × List DN} (h : e ∈ elems n) (h' : e' ∈ elems (.el e.1 e.2)) : e' ∈ elems n :=
  elems_induct (P := fun x => ∀ e' ∈ elems x, e' ∈ elems n)
    (fun _ _ h b hb e' he' => h e' (by rw [elems_el, List.mem_cons, mem_elemsL]; exact Or.inr ⟨b, hb, he'⟩))
    (fun _ h => h) h e' h'

theorem elemsL_trans (l : List DN) {e e' : Meta × List DN} (h : e ∈ elemsL l) (h' : e' ∈ elems (.el e.1 e.2)) : e' ∈ elemsL l :=
  let ⟨b, hb, he⟩ := mem_elemsL.mp h
  mem_elemsL.mpr ⟨b, hb, elems_trans b he h'⟩

theorem elems_sub (n : DN) {e : Meta × List DN} (h : e ∈ elems n) : ∀ x ∈ idsL e.2, x ∈ ids n := by
  intro x hx
  obtain ⟨e', he', rfl⟩ := idsL_mem_elemsL e.2 hx
  exact elems_id_mem n (elems_trans n h (by simp [he']))

theorem elemsL_sub (l : List DN) {e : Meta × List DN} (h : e ∈ elemsL l) : ∀ x ∈ idsL e.2, x ∈ idsL l := by
  intro x hx
  obtain ⟨e', he', rfl⟩ := idsL_mem_elemsL e.2 hx
  exact elemsL_id_mem l (elemsL_trans l h (by simp [he']))

theorem elemsL_of_block {bs : List DN} {m k} (h : DN.el m k ∈ bs) : (m, k) ∈ elemsL bs :=
  mem_elemsL.mpr ⟨_, h, by simp⟩

@[simp] theorem find?_text (t s) : find? t (.text s) = none := by simp [find?]

theorem find?_el (t m bs) : find? t (.el m bs) = if m.id = t then some (m, bs) else findL? t bs := by simp [find?]

@[simp] theorem findL?_nil (t) : findL? t [] = none := by simp [findL?]

theorem findL?_cons (t b bs) : findL? t (b :: bs) = match find? t b with
    | some r => some r
    | none => findL? t bs := by
  rw [findL?]; cases find? t b <;> rfl

mutual
theorem find?_eq (t) : ∀ n, find? t n = (elems n).find? (·.1.id == t)
  | .text s => by simp
  | .el m bs => by
    rw [find?_el, elems_el, List.find?_cons, ← findL?_eq t bs]
    by_cases h : m.id = t
    · simp [h]
    · simp [h, beq_eq_false_iff_ne.mpr h]
theorem findL?_eq (t) : ∀ l, findL? t l = (elemsL l).find? (·.1.id == t)
  | [] => by simp
  | b :: bs => by
    rw [findL?_cons, elemsL_cons, List.find?_append, ← find?_eq t b, ← findL?_eq t bs]
    cases find? t b <;> rfl
end

theorem find?_some {t} {n : DN} {e} (h : find? t n = some e) : e ∈ elems n ∧ e.1.id = t := by
  rw [find?_eq] at h
  exact ⟨List.mem_of_find?_eq_some h, by simpa using List.find?_some h⟩

theorem findL?_some {t} {l : List DN} {e} (h : findL? t l = some e) : e ∈ elemsL l ∧ e.1.id = t := by
  rw [findL?_eq] at h
  exact ⟨List.mem_of_find?_eq_some h, by simpa using List.find?_some h⟩

theorem find?_eq_none {t} {n : DN} : find? t n = none ↔ t ∉ ids n := by
  simp [find?_eq, ids_eq_map_elems]

theorem findL?_eq_none {t} {l : List DN} : findL? t l = none ↔ t ∉ idsL l := by
  simp [findL?_eq, idsL_eq_map_elemsL]

theorem find?_mem (t) (n : DN) {r} (h : find? t n = some r) : t ∈ ids n :=
  (find?_some h).2 ▸ elems_id_mem n (find?_some h).1

theorem findL?_mem (t) (bs : List DN) {r} (h : findL? t bs = some r) : t ∈ idsL bs :=
  (findL?_some h).2 ▸ elemsL_id_mem bs (findL?_some h).1

theorem find?_OK (t) (n : DN) {par own} (hn : OK par own n) {m bs} (h : find? t n = some (m, bs)) :
    m.id = t ∧ ∃ p o, OK p o (.el m bs) :=
  ⟨(find?_some h).2, elems_OK n hn (find?_some h).1⟩

theorem findL?_OK (t) (l : List DN) {par own} (hn : OKL par own l) {m bs} (h : findL? t l = some (m, bs)) :
    m.id = t ∧ ∃ p o, OK p o (.el m bs) :=
  ⟨(findL?_some h).2, elemsL_OK l hn (findL?_some h).1⟩

theorem find?_none (t) (n : DN) (h : t ∉ ids n) : find? t n = none := find?_eq_none.mpr h

theorem findL?_none (t) (l : List DN) (h : t ∉ idsL l) : findL? t l = none := findL?_eq_none.mpr h

theorem find?_not_mem (t) (n : DN) (h : find? t n = none) : t ∉ ids n := find?_eq_none.mp h

theorem findL?_not_mem (t) (l : List DN) (h : findL? t l = none) : t ∉ idsL l := findL?_eq_none.mp h

theorem findL?_isSome_of_mem (t) (l : List DN) (h : t ∈ idsL l) : (findL? t l).isSome = true :=
  Option.isSome_iff_ne_none.mpr fun e => findL?_eq_none.mp e h

theorem find?_unique (n : DN) (hn : (ids n).Nodup) {e : Meta × List DN} (h : e ∈ elems n) : find? e.1.id n = some e :=
  find?_eq .. ▸ find?_key (ids_eq_map_elems n ▸ hn) h

theorem findL?_unique (l : List DN) (hn : (idsL l).Nodup) {e : Meta × List DN} (h : e ∈ elemsL l) : findL? e.1.id l = some e :=
  findL?_eq .. ▸ find?_key (idsL_eq_map_elemsL l ▸ hn) h

theorem findL?_roots (t) (l : List DN) (hl : ∀ r ∈ l, RootOK r) {m bs} (h : findL? t l = some (m, bs)) :
    m.id = t ∧ ∃ p o, OK p o (.el m bs) := by
  obtain ⟨he, hid⟩ := findL?_some h
  obtain ⟨r, hr, he⟩ := mem_elemsL.mp he
  obtain ⟨_, _, rfl, hk⟩ := hl r hr
  exact ⟨hid, elems_OK _ hk he⟩

theorem find?_mem_elems (t) (n : DN) {e} (h : find? t n = some e) : e ∈ elems n := (find?_some h).1

theorem findL?_mem_elemsL (t) (l : List DN) {e} (h : findL? t l = some e) : e ∈ elemsL l := (findL?_some h).1

theorem elem_unique (l : List DN) (hn : (idsL l).Nodup) {e e' : Meta × List DN} (h : e ∈ elemsL l) (h' : e' ∈ elemsL l)
    (hid : e.1.id = e'.1.id) : e = e' := by
  have h1 := findL?_unique l hn h
  have h2 := findL?_unique l hn h'
  rw [hid, h2] at h1
  exact (Option.some.inj h1).symm

theorem findL?_append_some (t) (a b : List DN) {r} (h : findL? t a = some r) : findL? t (a ++ b) = some r := by
  rw [findL?_eq] at h ⊢; rw [elemsL_append, List.find?_append, h]; rfl

theorem findL?_append_none (t) (a b : List DN) (h : t ∉ idsL a) : findL? t (a ++ b) = findL? t b := by
  rw [findL?_eq, elemsL_append, List.find?_append, ← findL?_eq, ← findL?_eq, findL?_none t a h]; rfl

theorem world_elem_OK {w : World} (hw : Inv w) {e} (h : e ∈ elemsL w.roots) : ∃ p o, OK p o (.el e.1 e.2) := by
  obtain ⟨r, hr, he⟩ := mem_elemsL.mp h
  obtain ⟨m, bs, rfl, hk⟩ := hw.roots r hr
  exact elems_OK _ hk he

/-- what the cached navigation reads for an element block `el m k` of an element `(pm, pbs)` of an invariant world:
    its `parentNode` is `pm`, looking `pm` up finds `(pm, pbs)`, `pm.children` are the element blocks, without repetition -/
theorem child_of_elem {w : World} (hw : Inv w) {pm : Meta} {pbs : List DN} (hp : (pm, pbs) ∈ elemsL w.roots)
    {m : Meta} {k : List DN} (hmem : DN.el m k ∈ pbs) :
    m.parent = some pm.id ∧ w.find? pm.id = some (pm, pbs) ∧ pm.children = elemIds pbs ∧ (elemIds pbs).Nodup := by
  obtain ⟨p, o, hk⟩ := world_elem_OK hw hp
  rw [OK_el] at hk
  have hmk := OKL_mem hk.2.2.2.2.2 hmem
  rw [OK_el] at hmk
  exact ⟨hmk.1, findL?_unique w.roots hw.nodup hp, hk.2.2.1, elemIds_nodup pbs (elemsL_nodup w.roots hw.nodup hp)⟩

@[simp] theorem upd_text (t f s) : upd t f (.text s) = (.text s, []) := by simp [upd]

theorem upd_el (t f m bs) : upd t f (.el m bs) =
    if m.id = t then (.el (f m bs).m (f m bs).blocks, (f m bs).out)
    else (.el m (updL t f bs).1, (updL t f bs).2) := by simp [upd]

@[simp] theorem updL_nil (t f) : updL t f [] = ([], []) := by simp [updL]

@[simp] theorem updL_cons (t f b bs) : updL t f (b :: bs) =
    ((upd t f b).1 :: (updL t f bs).1, (upd t f b).2 ++ (updL t f bs).2) := by simp [updL]

theorem updL_eq (t f) (l : List DN) :
    (updL t f l).1 = l.map (fun b => (upd t f b).1) ∧ (updL t f l).2 = l.flatMap (fun b => (upd t f b).2) := by
  induction l with
  | nil => simp
  | cons b bs ih => simp [ih.1, ih.2]

def KeepsId (f : Meta → List DN → Edit) : Prop := ∀ m bs, (f m bs).m.id = m.id

theorem upd_isEl_rid (t f) (hid : KeepsId f) (n : DN) :
    (upd t f n).1.isEl = n.isEl ∧ (upd t f n).1.rid = n.rid := by
  cases n with
  | text s => simp
  | el m bs =>
    rw [upd_el]; split
    · simp [DN.isEl, DN.rid, hid m bs]
    · simp [DN.isEl, DN.rid]

theorem elemIds_updL (t f) (hid : KeepsId f) (bs : List DN) : elemIds (updL t f bs).1 = elemIds bs := by
  induction bs with
  | nil => simp
  | cons b bs ih =>
    cases b with
    | text s => simp [ih]
    | el m k =>
      simp only [updL_cons, upd_el]
      split
      · simp [ih, hid m k]
      · simp [ih]

theorem textOf_updL (t f) (bs : List DN) : textOf (updL t f bs).1 = textOf bs := by
  induction bs with
  | nil => simp
  | cons b bs ih =>
    cases b with
    | text s => simp [ih]
    | el m k =>
      simp only [updL_cons, upd_el]
      split <;> simp [ih]

def KeepsOK (f : Meta → List DN → Edit) : Prop :=
  ∀ par own m bs, OK par own (.el m bs) → OK par own (.el (f m bs).m (f m bs).blocks)

theorem upd_OK (t f) (hid : KeepsId f) (hok : KeepsOK f) (par own) (n : DN) (h : OK par own n) :
    OK par own (upd t f n).1 := by
  induction n using DN.ind generalizing par own with
  | text s => simp
  | el m bs ih =>
    rw [upd_el]; split
    · exact hok par own m bs h
    · rw [OK_el, elemIds_updL t f hid, textOf_updL, (updL_eq t f bs).1]
      exact ⟨h.parent, h.owner, h.children, h.text,
        fun hs => (h.sc hs).congr ((updL_eq t f bs).1 ▸ elemIds_updL t f hid bs) ((updL_eq t f bs).1 ▸ textOf_updL t f bs),
        OKL_map (fun b hb => ih b hb _ _) h.kids⟩

theorem updL_OK (t f) (hid : KeepsId f) (hok : KeepsOK f) (par own) (bs : List DN) (h : OKL par own bs) :
    OKL par own (updL t f bs).1 :=
  (updL_eq t f bs).1 ▸ OKL_map (fun b _ => upd_OK t f hid hok par own b) h

def OutDetached (f : Meta → List DN → Edit) : Prop :=
  ∀ par own m bs, OK par own (.el m bs) → ∀ x ∈ (f m bs).out, Detached x

theorem upd_out (t f) (ho : OutDetached f) (par own) (n : DN) (h : OK par own n) :
    ∀ x ∈ (upd t f n).2, Detached x := by
  induction n using DN.ind generalizing par own with
  | text s => simp
  | el m bs ih =>
    rw [upd_el]; split
    · exact ho par own m bs h
    · intro x hx
      obtain ⟨b, hb, hx⟩ := List.mem_flatMap.mp ((updL_eq t f bs).2 ▸ hx)
      exact ih b hb _ _ (OKL_mem h.kids hb) x hx

theorem updL_out (t f) (ho : OutDetached f) (par own) (bs : List DN) (h : OKL par own bs) :
    ∀ x ∈ (updL t f bs).2, Detached x := by
  intro x hx
  obtain ⟨b, hb, hx⟩ := List.mem_flatMap.mp ((updL_eq t f bs).2 ▸ hx)
  exact upd_out t f ho par own b (OKL_mem h hb) x hx

mutual
theorem upd_not_mem (t f) (n : DN) (h : t ∉ ids n) : upd t f n = (n, []) := by
  match n with
  | .text s => simp
  | .el m bs =>
    simp only [ids_el, List.mem_cons, not_or] at h
    rw [upd_el, if_neg (fun e => h.1 e.symm), updL_not_mem t f bs h.2]
theorem updL_not_mem (t f) (bs : List DN) (h : t ∉ idsL bs) : updL t f bs = (bs, []) := by
  match bs with
  | [] => simp
  | b :: bs =>
    simp only [idsL_cons, List.mem_append, not_or] at h
    rw [updL_cons, upd_not_mem t f b h.1, updL_not_mem t f bs h.2]
    rfl
end

/-- the uids `f` keeps together with those it sends out are the old ones and `extra` (the uids of a tree put in), as multisets -/
def IdsPlus (f : Meta → List DN → Edit) (extra : List Nat) : Prop :=
  ∀ m bs, ((f m bs).m.id :: idsL (f m bs).blocks ++ idsL (f m bs).out).Perm (m.id :: idsL bs ++ extra)

mutual
theorem upd_ids (t f extra) (hp : IdsPlus f extra) (n : DN) (hn : (ids n).Nodup) (ht : t ∈ ids n) :
    (ids (upd t f n).1 ++ idsL (upd t f n).2).Perm (ids n ++ extra) := by
  match n with
  | .text s => simp at ht
  | .el m bs =>
    rw [upd_el]; split
    · simpa using hp m bs
    · rename_i hne
      simp only [ids_el, List.mem_cons] at ht
      have ht' : t ∈ idsL bs := by
        cases ht with
        | inl h => exact absurd h.symm hne
        | inr h => exact h
      simp only [ids_el, List.nodup_cons] at hn
      have := updL_ids t f extra hp bs hn.2 ht'
      simp only [ids_el, List.cons_append]
      exact List.Perm.cons _ this
theorem updL_ids (t f extra) (hp : IdsPlus f extra) (bs : List DN) (hn : (idsL bs).Nodup) (ht : t ∈ idsL bs) :
    (idsL (updL t f bs).1 ++ idsL (updL t f bs).2).Perm (idsL bs ++ extra) := by
  match bs with
  | [] => simp at ht
  | b :: bs =>
    simp only [idsL_cons, List.mem_append] at ht
    simp only [idsL_cons] at hn
    have hd := List.nodup_append.mp hn
    simp only [updL_cons, idsL_cons, idsL_append]
    by_cases hb : t ∈ ids b
    · have hnot : t ∉ idsL bs := fun h => hd.2.2 t hb t h rfl
      rw [updL_not_mem t f bs hnot]
      have := upd_ids t f extra hp b hd.1 hb
      simp only [idsL_nil, List.append_nil]
      -- (ids b' ++ idsL bs) ++ out  ~  (ids b ++ idsL bs) ++ extra
      have h1 : (ids (upd t f b).1 ++ idsL bs ++ idsL (upd t f b).2).Perm
          (ids (upd t f b).1 ++ idsL (upd t f b).2 ++ idsL bs) := by
        rw [List.append_assoc, List.append_assoc]
        exact List.Perm.append_left _ List.perm_append_comm
      have h2 : (ids b ++ extra ++ idsL bs).Perm (ids b ++ idsL bs ++ extra) := by
        rw [List.append_assoc, List.append_assoc]
        exact List.Perm.append_left _ List.perm_append_comm
      exact h1.trans ((List.Perm.append_right _ this).trans h2)
    · have hbs : t ∈ idsL bs := by
        cases ht with
        | inl h => exact absurd h hb
        | inr h => exact h
      rw [upd_not_mem t f b hb]
      have := updL_ids t f extra hp bs hd.2.1 hbs
      simp only [idsL_nil, List.nil_append]
      rw [List.append_assoc, List.append_assoc]
      exact List.Perm.append_left _ this
end

mutual
theorem upd_out_mem (t f) (n : DN) {m bs} (h : find? t n = some (m, bs)) : ∀ x ∈ (f m bs).out, x ∈ (upd t f n).2 := by
  match n with
  | .text s => simp at h
  | .el m' bs' =>
    rw [find?_el] at h
    rw [upd_el]
    split at h
    · rename_i he
      cases h
      rw [if_pos he]; exact fun x hx => hx
    · rename_i he
      rw [if_neg he]
      exact updL_out_mem t f bs' h
theorem updL_out_mem (t f) (l : List DN) {m bs} (h : findL? t l = some (m, bs)) : ∀ x ∈ (f m bs).out, x ∈ (updL t f l).2 := by
  match l with
  | [] => simp at h
  | b :: l' =>
    rw [findL?_cons] at h
    intro x hx
    rw [updL_cons]
    split at h
    · rename_i r hr
      cases h
      exact List.mem_append_left _ (upd_out_mem t f b hr x hx)
    · exact List.mem_append_right _ (updL_out_mem t f l' h x hx)
end

mutual
theorem upd_found_id (t f) (n : DN) (hd : (ids n).Nodup) {m bs} (h : find? t n = some (m, bs))
    (hf : f m bs = ⟨m, bs, []⟩) : upd t f n = (n, []) := by
  match n with
  | .text s => simp
  | .el m' bs' =>
    rw [find?_el] at h
    rw [upd_el]
    split at h
    · rename_i he
      cases h
      rw [if_pos he, hf]
    · rename_i he
      simp only [ids_el, List.nodup_cons] at hd
      rw [if_neg he, updL_found_id t f bs' hd.2 h hf]
theorem updL_found_id (t f) (l : List DN) (hd : (idsL l).Nodup) {m bs} (h : findL? t l = some (m, bs))
    (hf : f m bs = ⟨m, bs, []⟩) : updL t f l = (l, []) := by
  match l with
  | [] => simp
  | b :: rest =>
    simp only [idsL_cons] at hd
    have hdd := List.nodup_append.mp hd
    rw [findL?_cons] at h
    rw [updL_cons]
    cases hfb : find? t b with
    | some r =>
      rw [hfb] at h
      cases h
      have htb : t ∈ ids b := find?_mem t b hfb
      have hnr : t ∉ idsL rest := fun hr => hdd.2.2 t htb t hr rfl
      rw [upd_found_id t f b hdd.1 hfb hf, updL_not_mem t f rest hnr]
      rfl
    | none =>
      rw [hfb] at h
      rw [upd_not_mem t f b (find?_not_mem t b hfb), updL_found_id t f rest hdd.2.1 h hf]
      rfl
end

mutual
theorem find?_upd (t f) (hid : KeepsId f) (n : DN) {m bs} (h : find? t n = some (m, bs)) :
    find? t (upd t f n).1 = some ((f m bs).m, (f m bs).blocks) := by
  match n with
  | .text s => simp at h
  | .el m' bs' =>
    rw [find?_el] at h
    rw [upd_el]
    split at h
    · rename_i he
      cases h
      rw [if_pos he, find?_el, if_pos (by rw [hid]; exact he)]
    · rename_i he
      rw [if_neg he, find?_el, if_neg he]
      exact findL?_updL t f hid bs' h
theorem findL?_updL (t f) (hid : KeepsId f) (l : List DN) {m bs} (h : findL? t l = some (m, bs)) :
    findL? t (updL t f l).1 = some ((f m bs).m, (f m bs).blocks) := by
  match l with
  | [] => simp at h
  | b :: rest =>
    rw [findL?_cons] at h
    rw [updL_cons, findL?_cons]
    cases hfb : find? t b with
    | some r =>
      rw [hfb] at h
      cases h
      rw [find?_upd t f hid b hfb]
    | none =>
      rw [hfb] at h
      rw [upd_not_mem t f b (find?_not_mem t b hfb), hfb]
      exact findL?_updL t f hid rest h
end

theorem updL_append (t f) (a b : List DN) :
    (updL t f (a ++ b)).1 = (updL t f a).1 ++ (updL t f b).1 ∧ (updL t f (a ++ b)).2 = (updL t f a).2 ++ (updL t f b).2 := by
  simp [updL_eq]

theorem upd_out_nil (t f) (h : ∀ m bs, (f m bs).out = []) (n : DN) : (upd t f n).2 = [] := by
  induction n using DN.ind with
  | text s => simp
  | el m bs ih =>
    rw [upd_el]; split
    · exact h m bs
    · exact (updL_eq t f bs).2 ▸ List.flatMap_eq_nil_iff.mpr ih

theorem updL_out_nil (t f) (h : ∀ m bs, (f m bs).out = []) (l : List DN) : (updL t f l).2 = [] :=
  (updL_eq t f l).2 ▸ List.flatMap_eq_nil_iff.mpr fun b _ => upd_out_nil t f h b

theorem mem_updL_of_not_mem (t f) (r : DN) (l : List DN) (hr : r ∈ l) (ht : t ∉ ids r) : r ∈ (updL t f l).1 := by
  rw [(updL_eq t f l).1]
  exact List.mem_map.mpr ⟨r, hr, by rw [upd_not_mem t f r ht]⟩

mutual
/-- the fields of every element outside the subtree of the element with uid `t`, pre-order -/
def outside (t : Nat) : DN → List Meta
  | .text _ => []
  | .el m bs => if m.id = t then [] else m :: outsideL t bs
def outsideL (t : Nat) : List DN → List Meta
  | [] => []
  | b :: bs => outside t b ++ outsideL t bs
end

mutual
theorem outside_upd (t f) (hid : KeepsId f) (n : DN) : outside t (upd t f n).1 = outside t n := by
  match n with
  | .text s => simp
  | .el m bs =>
    rw [upd_el]
    by_cases he : m.id = t
    · rw [if_pos he]
      simp only [outside, if_pos he, hid m bs]
    · rw [if_neg he]
      simp only [outside, if_neg he, outsideL_updL t f hid bs]
theorem outsideL_updL (t f) (hid : KeepsId f) (l : List DN) : outsideL t (updL t f l).1 = outsideL t l := by
  match l with
  | [] => simp
  | b :: bs => simp only [updL_cons, outsideL, outside_upd t f hid b, outsideL_updL t f hid bs]
end

mutual
def metas : DN → List Meta
  | .text _ => []
  | .el m bs => m :: metasL bs
def metasL : List DN → List Meta
  | [] => []
  | b :: bs => metas b ++ metasL bs
end

@[simp] theorem metas_text (s) : metas (.text s) = [] := by simp [metas]

@[simp] theorem metas_el (m bs) : metas (.el m bs) = m :: metasL bs := by simp [metas]

@[simp] theorem metasL_nil : metasL [] = [] := by simp [metasL]

@[simp] theorem metasL_cons (b bs) : metasL (b :: bs) = metas b ++ metasL bs := by simp [metasL]

mutual
theorem metas_reown (o) (n : DN) : metas (reown o n) = (metas n).map (fun m => { m with owner := o }) := by
  match n with
  | .text s => simp
  | .el m bs => simp [metasL_reownL o bs]
theorem metasL_reownL (o) (l : List DN) : metasL (reownL o l) = (metasL l).map (fun m => { m with owner := o }) := by
  match l with
  | [] => simp
  | b :: bs => simp [metas_reown o b, metasL_reownL o bs]
end

theorem outsideL_append (t) (a b : List DN) : outsideL t (a ++ b) = outsideL t a ++ outsideL t b := by
  induction a with
  | nil => simp [outsideL]
  | cons x xs ih => simp [outsideL, ih]

mutual
theorem outside_not_mem (t) (n : DN) (h : t ∉ ids n) : outside t n = metas n := by
  match n with
  | .text s => simp [outside]
  | .el m bs =>
    simp only [ids_el, List.mem_cons, not_or] at h
    simp only [outside, if_neg (show ¬ m.id = t from fun e => h.1 e.symm), metas_el, outsideL_not_mem t bs h.2]
theorem outsideL_not_mem (t) (l : List DN) (h : t ∉ idsL l) : outsideL t l = metasL l := by
  match l with
  | [] => simp [outsideL]
  | b :: bs =>
    simp only [idsL_cons, List.mem_append, not_or] at h
    simp only [outsideL, metasL_cons, outside_not_mem t b h.1, outsideL_not_mem t bs h.2]
end

@[simp] theorem mk_text (p o s n) : mk p o (.text s) n = (.text s, n) := by simp [mk]

theorem mk_el (p o name attrs sc kids n) : mk p o (.el name attrs sc kids) n =
    (.el ⟨n, name, attrs, (sc || isVoid name) && kids.isEmpty, elemIds (mkL (some n) o kids (n+1)).1,
          textOf (mkL (some n) o kids (n+1)).1, p, o⟩ (.text [] :: (mkL (some n) o kids (n+1)).1),
     (mkL (some n) o kids (n+1)).2) := by simp [mk]

@[simp] theorem mkL_nil (p o n) : mkL p o [] n = ([], n) := by simp [mkL]

theorem mkL_cons (p o k ks n) : mkL p o (k :: ks) n =
    ((mk p o k n).1 :: (mkL p o ks (mk p o k n).2).1, (mkL p o ks (mk p o k n).2).2) := by simp [mkL]

theorem innerL_eq_flatten (bs : List DN) : innerL bs = (bs.map outerHTML).flatten := by
  induction bs with
  | nil => simp [innerL]
  | cons b bs ih => simp [innerL, ih]

theorem noContent_innerL (bs : List DN) (h : noContent bs) : innerL bs = [] := by
  induction bs with
  | nil => simp [innerL]
  | cons b bs ih =>
    cases b with
    | el m k => simp [noContent] at h
    | text s =>
      simp only [noContent, elemIds_text, textOf_text, List.append_eq_nil_iff] at h
      simp only [innerL, outerHTML, h.2.1, List.nil_append]
      exact ih ⟨h.1, h.2.2⟩

theorem textContentL_eq_flatten (bs : List DN) : textContentL bs = (bs.map textContent).flatten := by
  induction bs with
  | nil => simp [textContentL]
  | cons b bs ih => simp [textContentL, ih]

end AHP.Dom
