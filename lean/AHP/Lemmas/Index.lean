/-
  AHP.Lemmas.Index — lookups in the document, for C07: association lists as dicts, `Node.find?`, creation order =
  document order, the parent chain (`hasTagInParentLine doc x r` ⇔ `x` is a strict descendant of `r`), the restriction
  of a document-order list to a subtree, the id entry, and the re-entering recursion of the `useIndex=False` leg.
-/
import AHP.Model.Index
import AHP.Lemmas.Search
import AHP.Lemmas.Dict
namespace AHP.G3

theorem assocSet_eq {β : Type} (m : List (Str × β)) (k : Str) (v : β) : assocSet m k v = Dict.set m k v := by
  induction m with
  | nil => rfl
  | cons p rest ih =>
    obtain ⟨k', v'⟩ := p
    by_cases h : k' = k
    · subst h; rw [assocSet, if_pos (beq_self_eq_true _), Dict.set_cons_self]
    · rw [assocSet, if_neg (by simpa using h), Dict.set_cons_ne h, ih]

theorem assocDel_eq {β : Type} (m : List (Str × β)) (k : Str) : assocDel m k = Dict.del m k :=
  List.filter_congr fun p _ => by rw [Bool.eq_iff_iff]; simp

theorem assocPush_eq (m : List (Str × List Nat)) (k : Str) (x : Nat) :
    assocPush m k x = Dict.set m k (assocGet m k ++ [x]) := by
  unfold assocGet
  induction m with
  | nil => rfl
  | cons p rest ih =>
    obtain ⟨k', xs⟩ := p
    by_cases h : k' = k
    · subst h; rw [assocPush, if_pos (beq_self_eq_true _), Dict.set_cons_self, List.lookup_cons_self]; rfl
    · rw [assocPush, if_neg (by simpa using h), Dict.set_cons_ne h, Dict.lookup_cons_ne (Ne.symm h), ih]

theorem lookup_assocSet_same {β : Type} (m : List (Str × β)) (k : Str) (v : β) :
    (assocSet m k v).lookup k = some v := by
  rw [assocSet_eq]; exact Dict.lookup_set_self ..

theorem lookup_assocSet_other {β : Type} (m : List (Str × β)) (k k2 : Str) (v : β) (hne : k2 ≠ k) :
    (assocSet m k v).lookup k2 = m.lookup k2 := by
  rw [assocSet_eq]; exact Dict.lookup_set_ne hne ..

theorem assocGet_push (m : List (Str × List Nat)) (k k2 : Str) (x : Nat) :
    assocGet (assocPush m k x) k2 = assocGet m k2 ++ (if k2 = k then [x] else []) := by
  rw [assocPush_eq, assocGet, Dict.lookup_set]
  split
  · next h => rw [h]; rfl
  · exact (List.append_nil _).symm

mutual
theorem find?_eq (x : Nat) : ∀ n : Node, n.find? x = n.preorder.find? (fun a => a.uid == x)
  | .mk e ks => by
    simp only [Node.find?, Node.preorder, List.find?_cons, Node.uid, Node.elem, findL?_eq x ks]
    cases e.uid == x <;> rfl
theorem findL?_eq (x : Nat) : ∀ ks : List Node, findL? ks x = (preorderL ks).find? (fun a => a.uid == x)
  | [] => rfl
  | k :: ks => by
    simp only [findL?, preorderL, List.find?_append, find?_eq x k, findL?_eq x ks]
    cases k.preorder.find? (fun a => a.uid == x) <;> rfl
end

theorem find?_uid {xs : List Node} (hn : (uidsOf xs).Nodup) {a : Node} (ha : a ∈ xs) :
    xs.find? (fun b => b.uid == a.uid) = some a :=
  find?_key (k := Node.uid) hn ha

theorem find?_none (x : Nat) : ∀ n : Node, x ∉ uidsOf n.preorder → n.find? x = none := by
  intro n h
  rw [find?_eq, List.find?_eq_none]
  intro a ha hx
  exact h (List.mem_map.mpr ⟨a, ha, by simpa using hx⟩)

theorem find?_mem (x : Nat) : ∀ n : Node, n.Distinct → ∀ a ∈ n.preorder, a.uid = x → n.find? x = some a := by
  intro n hd a ha hx
  rw [find?_eq, ← hx]; exact find?_uid hd ha

theorem findL?_mem (x : Nat) : ∀ ks : List Node, (uidsOf (preorderL ks)).Nodup →
    ∀ a ∈ preorderL ks, a.uid = x → findL? ks x = some a := by
  intro ks hd a ha hx
  rw [findL?_eq, ← hx]; exact find?_uid hd ha

theorem resolve_uids {doc : Node} (hd : doc.Distinct) {ys : List Node} (hs : ∀ y ∈ ys, y ∈ doc.preorder) :
    resolve doc (uidsOf ys) = ys := by
  induction ys with
  | nil => rfl
  | cons y ys ih =>
    have hy := find?_mem y.uid doc hd y (hs y List.mem_cons_self) rfl
    simp only [resolve, uidsOf, List.map_cons, List.filterMap_cons, hy]
    congr 1
    exact ih (fun z hz => hs z (List.mem_cons_of_mem _ hz))

namespace Idx

mutual
theorem creationOrder_eq : ∀ n : Node, creationOrder n = n.preorder.map Node.elem
  | .mk e ks => by simp [creationOrder, Node.preorder, Node.elem, creationOrderL_eq ks]
theorem creationOrderL_eq : ∀ ks : List Node, creationOrderL ks = (preorderL ks).map Node.elem
  | [] => rfl
  | k :: ks => by simp [creationOrderL, preorderL, creationOrder_eq k, creationOrderL_eq ks]
end

end Idx

theorem inParentLine_iff (c : List Nat) (r : Nat) : inParentLine c r = true ↔ r ∈ c := by
  induction c with
  | nil => simp [inParentLine]
  | cons p rest ih =>
    simp only [inParentLine, Bool.or_eq_true, beq_iff_eq, ih, List.mem_cons]
    rw [eq_comm]

theorem desc_uids_subset {n r : Node} (hr : r ∈ n.preorder) : ∀ u ∈ uidsOf r.desc, u ∈ uidsOf n.preorder :=
  fun _ hu => ((desc_sublist_of_mem hr).map Node.uid).subset hu

theorem descL_uids_subset {ks : List Node} {r : Node} (hr : r ∈ preorderL ks) {u : Nat}
    (hu : u ∈ uidsOf r.desc) : u ∈ uidsOf (preorderL ks) :=
  ((r.desc_sublist.trans (preorderL_sublist_of_mem ks r hr)).map Node.uid).subset hu

/-- What following `parentNode` from `x` inside the nodes `U` (a subtree, or sibling subtrees, in document order) yields:
    nothing when `x` is not there; otherwise uids of `U`, which under distinct uids are exactly those of the elements
    that have `x` strictly below them. -/
def ChainSpec (U : List Node) (x : Nat) : Option (List Nat) → Prop
  | none => x ∉ uidsOf U
  | some c => x ∈ uidsOf U ∧ (∀ u ∈ c, u ∈ uidsOf U) ∧
      ((uidsOf U).Nodup → ∀ r ∈ U, (r.uid ∈ c ↔ x ∈ uidsOf r.desc))

mutual
theorem chain_ok (x : Nat) : ∀ n : Node, ChainSpec n.preorder x (chain n x)
  | .mk e ks => by
    have ih := chainL_ok x ks
    simp only [chain]
    by_cases h1 : e.uid = x
    · -- `x` is the root of this subtree: no proper ancestors here, and it is nobody's strict descendant
      subst h1
      simp only [beq_self_eq_true, if_true]
      refine ⟨by simp [Node.preorder, uidsOf, Node.uid, Node.elem], by simp, fun hd r hr => ?_⟩
      simp only [List.not_mem_nil, false_iff]
      intro hx
      refine (List.nodup_cons.mp hd).1 ?_
      rcases List.mem_cons.mp hr with rfl | hr
      · exact hx
      · exact descL_uids_subset hr hx
    · have h1' : (e.uid == x) = false := by simpa using h1
      simp only [h1', Bool.false_eq_true, if_false]
      cases hc : chainL ks x with
      | none =>
        rw [hc] at ih
        simp only [Option.map_none, ChainSpec, Node.preorder, uidsOf, List.map_cons, List.mem_cons, not_or]
        exact ⟨fun c => h1 c.symm, ih⟩
      | some c =>
        rw [hc] at ih
        obtain ⟨hm, hs, hsp⟩ := ih
        refine ⟨List.mem_cons_of_mem _ hm, fun u hu => ?_, fun hd r hr => ?_⟩
        · rcases List.mem_append.mp hu with hu | hu
          · exact List.mem_cons_of_mem _ (hs u hu)
          · rw [List.mem_singleton.mp hu]; exact List.mem_cons_self
        · have hd' := List.nodup_cons.mp hd
          rcases List.mem_cons.mp hr with rfl | hr
          · -- `r` is the root: it is an ancestor, and `x` is below it
            simpa [Node.desc, Node.kids, Node.uid, Node.elem] using hm
          · have hne : r.uid ≠ e.uid := fun c => hd'.1 (by
              have := List.mem_map_of_mem (f := Node.uid) hr; rwa [c] at this)
            simp only [List.mem_append, List.mem_singleton, hne, or_false]
            exact hsp hd'.2 r hr
theorem chainL_ok (x : Nat) : ∀ ks : List Node, ChainSpec (preorderL ks) x (chainL ks x)
  | [] => by simp [chainL, ChainSpec, preorderL]
  | k :: ks => by
    have ihk := chain_ok x k
    have ihs := chainL_ok x ks
    simp only [chainL, preorderL]
    -- `x` and the chain lie in one of the two parts, `r` with its descendants in the other, and the parts share no
    -- uid: `r` is not on the chain and `x` is not below `r`
    have side : ∀ {A B : List Node} {c : List Nat}, x ∈ uidsOf A → (∀ u ∈ c, u ∈ uidsOf A) →
        (∀ u, u ∈ uidsOf A → u ∈ uidsOf B → False) → ∀ r ∈ B, (∀ u ∈ uidsOf r.desc, u ∈ uidsOf B) →
        (r.uid ∈ c ↔ x ∈ uidsOf r.desc) :=
      fun hx hc hdis r hr hB => ⟨fun h => (hdis _ (hc _ h) (List.mem_map_of_mem hr)).elim,
        fun h => (hdis _ hx (hB _ h)).elim⟩
    cases hc : chain k x with
    | some c =>
      rw [hc] at ihk
      obtain ⟨hm, hs, hsp⟩ := ihk
      refine ⟨by simp [uidsOf, hm], fun u hu => by simp [uidsOf, hs u hu], fun hd r hr => ?_⟩
      have h2 := List.nodup_append.mp (by simpa [uidsOf] using hd)
      rcases List.mem_append.mp hr with hr | hr
      · exact hsp h2.1 r hr
      · exact side hm hs (fun u a b => h2.2.2 u a u b rfl) r hr (fun u => descL_uids_subset hr)
    | none =>
      rw [hc] at ihk
      cases hcs : chainL ks x with
      | none =>
        rw [hcs] at ihs
        simp only [ChainSpec, uidsOf, List.map_append, List.mem_append, not_or] at ihk ihs ⊢
        exact ⟨ihk, ihs⟩
      | some c =>
        rw [hcs] at ihs
        obtain ⟨hm, hs, hsp⟩ := ihs
        refine ⟨by simp [uidsOf, hm], fun u hu => by simp [uidsOf, hs u hu], fun hd r hr => ?_⟩
        have h2 := List.nodup_append.mp (by simpa [uidsOf] using hd)
        rcases List.mem_append.mp hr with hr | hr
        · exact side hm hs (fun u a b => h2.2.2 u b u a rfl) r hr (fun u => desc_uids_subset hr u)
        · exact hsp h2.2.1 r hr
end

theorem chain_none (x : Nat) : ∀ n : Node, chain n x = none → x ∉ uidsOf n.preorder := by
  intro n h
  have := chain_ok x n; rwa [h] at this

theorem chainL_none (x : Nat) : ∀ ks : List Node, chainL ks x = none → x ∉ uidsOf (preorderL ks) := by
  intro ks h
  have := chainL_ok x ks; rwa [h] at this

/-- Following `parentNode` from `x` meets `r` exactly when `x` is a strict descendant of `r`. -/
theorem chain_spec (x : Nat) : ∀ (n : Node) (c : List Nat), n.Distinct → chain n x = some c →
    ∀ r ∈ n.preorder, (r.uid ∈ c ↔ x ∈ uidsOf r.desc) := by
  intro n c hd h
  have := chain_ok x n; rw [h] at this; exact this.2.2 hd

theorem chainL_spec (x : Nat) : ∀ (ks : List Node) (c : List Nat), (uidsOf (preorderL ks)).Nodup →
    chainL ks x = some c → ∀ r ∈ preorderL ks, (r.uid ∈ c ↔ x ∈ uidsOf r.desc) := by
  intro ks c hd h
  have := chainL_ok x ks; rw [h] at this; exact this.2.2 hd

theorem hasTagInParentLine_iff {doc : Node} (hd : doc.Distinct) {a r : Node} (ha : a ∈ doc.preorder)
    (hr : r ∈ doc.preorder) : hasTagInParentLine doc a.uid r = true ↔ a.uid ∈ uidsOf r.desc := by
  simp only [hasTagInParentLine]
  cases hc : chain doc a.uid with
  | none => exact absurd (List.mem_map_of_mem ha) (chain_none a.uid doc hc)
  | some c =>
    simp only [inParentLine_iff]
    exact chain_spec a.uid doc c hd hc r hr

theorem filter_mem_sublist {xs ys : List Node} (hs : ys.Sublist xs) (hn : (uidsOf xs).Nodup) :
    xs.filter (fun x => decide (x.uid ∈ uidsOf ys)) = ys := by
  -- `ys` survives the filter, and the filter keeps no more than `ys` has: distinct uids, all among those of `ys`
  have h1 := hs.filter (fun x => decide (x.uid ∈ uidsOf ys))
  rw [List.filter_eq_self.mpr (fun y hy => decide_eq_true (List.mem_map_of_mem hy))] at h1
  refine (h1.eq_of_length_le ?_).symm
  have := (uids_nodup_of_sublist List.filter_sublist hn).length_le_of_subset (l₂ := uidsOf ys)
    (fun u hu => by obtain ⟨x, hx, rfl⟩ := List.mem_map.mp hu; exact of_decide_eq_true (List.mem_filter.mp hx).2)
  simpa using this

/-- The subtree restriction of the indexed lookups: from the matches of the whole document keep those
    that `_hasTagInParentLine` accepts — these are the matches among the strict descendants of `r`. -/
theorem restrict_desc {doc : Node} (hd : doc.Distinct) {r : Node} (hr : r ∈ doc.preorder) (p : Elem → Bool) :
    (fil p doc.preorder).filter (fun x => hasTagInParentLine doc x.uid r) = fil p r.desc := by
  have h1 : doc.preorder.filter (fun x => hasTagInParentLine doc x.uid r) = r.desc := by
    rw [← filter_mem_sublist (desc_sublist_of_mem hr) hd]
    apply List.filter_congr
    intro x hx
    have := hasTagInParentLine_iff hd hx hr
    cases hh : hasTagInParentLine doc x.uid r
    · have : x.uid ∉ uidsOf r.desc := fun c => by simp [this.mpr c] at hh
      simp [this]
    · simp [this.mp hh]
  simp only [fil, List.filter_filter]
  rw [← h1, List.filter_filter]
  exact List.filter_congr (fun x _ => Bool.and_comm _ _)

theorem restrict_eq_filter (doc : Node) (isRoot : Bool) (r : Node) (xs : List Node) :
    restrict doc isRoot r xs = xs.filter (fun x => isRoot || hasTagInParentLine doc x.uid r) := by
  cases isRoot
  · rfl
  · exact (List.filter_eq_self.mpr (fun _ _ => rfl)).symm

theorem restrict_parserScope {doc : Node} (hd : doc.Distinct) (p : Elem → Bool) (arg : Option Node)
    (ha : ∀ r, arg = some r → r ∈ doc.preorder) :
    restrict doc (handleRootArg doc arg).2 (handleRootArg doc arg).1 (fil p doc.preorder)
      = fil p (parserScope doc arg) := by
  rcases handleRootArg_cases doc arg with ⟨h1, h2⟩ | ⟨r, hr, h1, h2⟩ <;> rw [h1, h2]
  · rfl
  · exact restrict_desc hd (ha r hr) p

/-- The id entry of a document in which the id is unique resolves to that element. -/
theorem resolve_unique {doc : Node} (hd : doc.Distinct) {l : List Node} (hs : ∀ x ∈ l, x ∈ doc.preorder)
    (hl : l.length ≤ 1) : (uidsOf l).getLast?.bind doc.find? = l.head? := by
  match l, hl with
  | [], _ => rfl
  | [a], _ => exact find?_mem a.uid doc hd a (hs a List.mem_cons_self) rfl

/-- "answer the indexed element unless the subtree test rejects it", for an entry of at most one element. -/
theorem head?_guard {l : List Node} (hl : l.length ≤ 1) (g : Node → Bool) :
    (match l.head? with
      | none => none
      | some el => if !(g el) then none else some el) = (l.filter g).head? := by
  match l, hl with
  | [], _ => rfl
  | [a], _ => cases h : g a <;> simp [h]

/-! ### the `useIndex=False` leg: the base-class loop re-enters the indexed override for every child

  If, whenever the re-entered call uses its index, the index answers `fil pred k.desc` for every element `k` of the
  document, the re-entering recursion (`reenter`, `reenterL`, `scanFB`, `reenterFirst`, `reenterFirstL` of
  Model/Index.lean) computes the plain recursive scan of C06 (`descScanL` / `descFirstL`), as the same LIST. -/

theorem mem_preorder_of_mem_desc {root n : Node} (hn : n ∈ root.preorder) : ∀ k ∈ preorderL n.kids, k ∈ root.preorder :=
  fun _ hk => (desc_sublist_of_mem hn).subset hk

section scan
variable {root : Node} {useIdx : Bool} {indexed : Node → List Node} {pred : Elem → Bool}

mutual
theorem reenter_items
    (hH : useIdx = true → ∀ k ∈ root.preorder, (TC.ofList (indexed k)).items = fil pred k.desc) :
    ∀ n : Node, n ∈ root.preorder → n.Distinct → (reenter useIdx indexed pred n).items = fil pred n.desc
  | .mk e ks, hn, hd => by
    cases hu : useIdx with
    | true =>
      simp only [reenter, if_true]
      exact hH hu _ hn
    | false =>
      have hk : (uidsOf (preorderL ks)).Nodup := Node.Distinct.desc hd
      simp only [reenter, Bool.false_eq_true, if_false]
      have := reenterL_eq hH ks (mem_preorder_of_mem_desc hn) hk
      rw [hu] at this
      rw [this]
      exact TC.ofList_items_of_nodup (uids_nodup_of_sublist (fil_sublist _ _) hk)
theorem reenterL_eq
    (hH : useIdx = true → ∀ k ∈ root.preorder, (TC.ofList (indexed k)).items = fil pred k.desc) :
    ∀ ks : List Node, (∀ k ∈ preorderL ks, k ∈ root.preorder) → (uidsOf (preorderL ks)).Nodup →
      reenterL useIdx indexed pred ks = fil pred (preorderL ks)
  | [], _, _ => rfl
  | k :: ks, hm, h => by
    have h' : (uidsOf k.preorder ++ uidsOf (preorderL ks)).Nodup := by
      simpa [preorderL, uidsOf] using h
    have h2 := List.nodup_append.mp h'
    have hk : k ∈ root.preorder := hm k (by simp [preorderL, Node.preorder_eq k])
    simp only [reenterL, preorderL]
    rw [reenter_items hH k hk h2.1,
        reenterL_eq hH ks (fun x hx => hm x (by simp only [preorderL, List.mem_append]; exact Or.inr hx)) h2.2.1,
        fil_append, Node.preorder_eq, fil_cons]
end

theorem reenterL_eq_descScanL
    (hH : useIdx = true → ∀ k ∈ root.preorder, (TC.ofList (indexed k)).items = fil pred k.desc)
    {r : Node} (hr : r ∈ root.preorder) (hd : root.Distinct) :
    reenterL useIdx indexed pred r.kids = descScanL pred r.kids := by
  have hrd : (uidsOf (preorderL r.kids)).Nodup := Node.Distinct.desc (distinct_of_mem hd r hr)
  rw [reenterL_eq hH r.kids (mem_preorder_of_mem_desc hr) hrd, descScanL_eq pred r.kids hrd]

/-- the base-class method entered with `useIndex=False` on an indexed parser is the plain parser method -/
theorem scanFB_eq_scanP
    (hH : useIdx = true → ∀ k ∈ root.preorder, (TC.ofList (indexed k)).items = fil pred k.desc)
    (rootPred : Elem → Bool) (isRoot : Bool) {r : Node} (hr : r ∈ root.preorder) (hd : root.Distinct) :
    scanFB useIdx indexed rootPred pred isRoot r = scanP rootPred pred isRoot r := by
  simp only [scanFB, scanP]
  rw [reenterL_eq_descScanL hH hr hd]

end scan

section first
variable {root : Node} {useIdx : Bool} {indexed : Node → Option Node} {pred : Elem → Bool}

mutual
theorem reenterFirst_eq (hH : useIdx = true → ∀ k ∈ root.preorder, indexed k = (fil pred k.desc).head?) :
    ∀ n : Node, n ∈ root.preorder → reenterFirst useIdx indexed pred n = descFirst pred n
  | .mk e ks, hn => by
    cases hu : useIdx with
    | true =>
      simp only [reenterFirst, if_true]
      rw [hH hu _ hn, descFirst_eq]
    | false =>
      simp only [reenterFirst, Bool.false_eq_true, if_false, descFirst]
      have := reenterFirstL_eq hH ks (mem_preorder_of_mem_desc hn)
      rw [hu] at this
      exact this
theorem reenterFirstL_eq (hH : useIdx = true → ∀ k ∈ root.preorder, indexed k = (fil pred k.desc).head?) :
    ∀ ks : List Node, (∀ k ∈ preorderL ks, k ∈ root.preorder) →
      reenterFirstL useIdx indexed pred ks = descFirstL pred ks
  | [], _ => rfl
  | k :: ks, hm => by
    have hk : k ∈ root.preorder := hm k (by simp [preorderL, Node.preorder_eq k])
    simp only [reenterFirstL, descFirstL]
    rw [reenterFirst_eq hH k hk,
        reenterFirstL_eq hH ks (fun x hx => hm x (by simp only [preorderL, List.mem_append]; exact Or.inr hx))]
    by_cases hp : pred k.elem = true
    · simp only [hp, if_true]
    · simp only [hp]
      cases descFirst pred k <;> rfl
end

end first

/-- the index branch of a re-entered list lookup (`root=k`, `k` an element of the document): the matches below `k` -/
theorem indexed_child {doc : Node} (hd : doc.Distinct) (p : Elem → Bool) {k : Node} (hk : k ∈ doc.preorder) :
    (TC.ofList (restrict doc false k (resolve doc (uidsOf (fil p doc.preorder))))).items = fil p k.desc := by
  rw [resolve_uids hd (fun y hy => (fil_sublist p _).subset hy)]
  simp only [restrict, Bool.false_eq_true, if_false]
  rw [restrict_desc hd hk p]
  exact TC.ofList_items_of_nodup
    (uids_nodup_of_sublist (fil_sublist _ _) (Node.Distinct.desc (distinct_of_mem hd k hk)))

end AHP.G3
