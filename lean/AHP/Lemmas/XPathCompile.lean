/-
  C14b, full form: the whole compile step (`compileLevel`: groups and function
  arguments optimised inside-out, all-static `concat` replaced by its value, then the folder) preserves
  the value of every well-formed predicate for every tag; a compile step that raises means the predicate
  raises for every tag (`Denotes`).  Then every predicate of every step of an expression (`compileSteps_for`).

  `compileBE` rebuilds an element with the same constructor from its compiled parts, and the value of an element is
  compositional in those constructors; so the step is a congruence (`Denotes.leaf`, `Denotes.node`, `ElemFor.group`,
  `ElemFor.nspace1`, `ElemFor.contains`, `ArgsFor.cons`: about any optional compiled parts, with the value functions as
  variables) except where something is rewritten: a level is folded (`Denotes.optimize`) and an all-static `concat` is
  replaced by its value (`ElemFor.concat`).  The induction over the syntax (`eachOK`, `argsOK`) names one of them per
  constructor.
-/
import AHP.Lemmas.XPathOpt
import AHP.Lemmas.XPathSteps
namespace AHP.XPath

variable {N : Type}

theorem joinStrs_of_noNull : ∀ {parts : List (Val N)}, parts.all (fun v => !v.isNull) = true →
    joinStrs parts = joinStatic parts := by
  intro parts
  induction parts with
  | nil => intro _; rfl
  | cons v vs ih =>
    intro h
    simp only [List.all_cons, Bool.and_eq_true] at h
    cases v with
    | null => simp [Val.isNull] at h
    | str s => simp only [joinStrs, joinStatic, ih h.2]
    | num n => rfl
    | bool b => rfl

theorem compileEach_append (nm : Num N) (xs ys : List (BE N)) :
    compileEach nm (xs ++ ys) =
      match compileEach nm xs, compileEach nm ys with
      | some a, some b => some (a ++ b)
      | _, _ => none := by
  induction xs with
  | nil =>
    simp only [List.nil_append, compileEach]
    cases compileEach nm ys <;> rfl
  | cons x xs ih =>
    simp only [List.cons_append, compileEach, ih]
    cases compileBE nm x <;> cases compileEach nm xs <;> cases compileEach nm ys <;> rfl

theorem compileEach_single (nm : Num N) (e : BE N) :
    compileEach nm [e] = (compileBE nm e).map (fun x => [x]) := by
  simp only [compileEach]
  cases compileBE nm e <;> rfl

theorem compileEach_node (nm : Num N) (o : Op) (xs ys : List (BE N)) :
    compileEach nm (xs ++ .op o :: ys) =
      match compileEach nm xs, compileEach nm ys with
      | some a, some b => some (a ++ .op o :: b)
      | _, _ => none := by
  rw [show xs ++ BE.op o :: ys = xs ++ ([BE.op o] ++ ys) from rfl, compileEach_append, compileEach_append,
    compileEach_single]
  cases compileEach nm xs <;> cases compileEach nm ys <;> rfl

theorem compileBE_group_eq (nm : Num N) (l : List (BE N)) :
    compileBE nm (.group l) = ((compileEach nm l).bind (optimize nm)).map .group := by
  conv => lhs; unfold compileBE
  cases compileEach nm l <;> rfl

theorem compileBE_nspace1_eq (nm : Num N) (a : BE N) :
    compileBE nm (.nspace1 a) = (compileBE nm a).map .nspace1 := by
  conv => lhs; unfold compileBE

theorem compileBE_contains_eq (nm : Num N) (a b : BE N) :
    compileBE nm (.containsFn a b) =
      match compileBE nm a, compileBE nm b with
      | some a', some b' => some (.containsFn a' b')
      | _, _ => none := by
  conv => lhs; unfold compileBE
  cases compileBE nm a <;> cases compileBE nm b <;> rfl

theorem compileBE_concat_eq (nm : Num N) (args : List (BE N)) :
    compileBE nm (.concatFn args) =
      match compileEach nm args with
      | some args' =>
        match staticArgs args' with
        | some parts => (joinStatic parts).map (fun s => .val (.str s))
        | none => some (.concatFn args')
      | none => none := by
  conv => lhs; unfold compileBE
  cases compileEach nm args with
  | none => rfl
  | some args' => cases staticArgs args' <;> rfl

/-- An optional flat list stands for the value function `f`: it is the in-order list of a well-formed mixed tree of
    level `k` without Null literals whose value is `f c` for every tag; when there is none, `f` has no value on any tag. -/
@[reducible] def Denotes (nm : Num N) (k : Nat) (f : Ctx → Option (Val N)) : Option (List (BE N)) → Prop
  | some l => ∃ t : MT N, l = t.flat ∧ MT.wf k t = true ∧ t.noNull = true ∧ ∀ c, t.eval nm c = f c
  | none => ∀ c, f c = none

theorem Denotes.optimize {nm : Num N} {f : Ctx → Option (Val N)} {o : Option (List (BE N))} (h : Denotes nm 3 f o) :
    Denotes nm 3 f (o.bind (optimize nm)) := by
  cases o with
  | none => exact h
  | some l =>
    obtain ⟨t, rfl, hw, hn, hev⟩ := h
    have h2 := optimize_refines nm t hw
    simp only [Option.bind_some]
    -- qualified: inside `Denotes.optimize` the bare name is this theorem
    cases ho : AHP.XPath.optimize nm t.flat with
    | none => rw [ho] at h2; exact fun c => (hev c).symm.trans (h2 c)
    | some l' =>
      rw [ho] at h2
      obtain ⟨t', e, w', n', ev'⟩ := h2
      exact ⟨t', e, w', n' hn, fun c => (ev' c).trans (hev c)⟩

theorem Denotes.evalLevel {nm : Num N} {f : Ctx → Option (Val N)} {l : List (BE N)} (h : Denotes nm 3 f (some l)) :
    l ≠ [] ∧ ∀ c, evalLevel nm c l = f c := by
  obtain ⟨t, rfl, w, _, ev⟩ := h
  exact ⟨MT.flat_ne_nil t, fun c => by rw [MT.evalLevel_flat nm c t w, ev]⟩

/-- A compiled element stands for the value function `f`: it is no operator and no Null literal and resolves to `f c` for
    every tag; when the compile step raised, `f` has no value on any tag. -/
@[reducible] def ElemFor (nm : Num N) (f : Ctx → Option (Val N)) : Option (BE N) → Prop
  | some e' => e'.isOp = false ∧ (∀ v, e' = .val v → v.isNull = false) ∧ ∀ c, valOf (resolve nm c e') = f c
  | none => ∀ c, f c = none

theorem Denotes.leaf {nm : Num N} {k : Nat} {f : Ctx → Option (Val N)} {oe : Option (BE N)} (h : ElemFor nm f oe) :
    Denotes nm k f (oe.map fun e => [e]) := by
  cases oe with
  | none => exact h
  | some e' =>
    obtain ⟨h1, h2, h3⟩ := h
    refine ⟨MT.leaf e', rfl, by simp [MT.wf, h1], ?_, fun c => by rw [MT.eval_leaf, h3]⟩
    cases e' <;> simp only [MT.noNull]
    rename_i v
    simp [h2 v rfl]

-- `generalizing := false`: otherwise the `match` of the statement abstracts `hl` and `hr` as well
theorem Denotes.node {nm : Num N} {b : Nat} {o : Op} {f g : Ctx → Option (Val N)} {ol or' : Option (List (BE N))}
    (ho : o.cls < b) (hl : Denotes nm (o.cls + 1) f ol) (hr : Denotes nm o.cls g or') :
    Denotes nm b (fun c => match f c, g c with | some x, some y => applyOp nm o x y | _, _ => none)
      (match (generalizing := false) ol, or' with | some a, some b => some (a ++ .op o :: b) | _, _ => none) := by
  cases ol with
  | none => intro c; simp only [hl c]
  | some a =>
    cases or' with
    | none => intro c; simp only [hr c]; cases f c <;> rfl
    | some b =>
      obtain ⟨tl, rfl, wl, nl, el⟩ := hl
      obtain ⟨tr, rfl, wr, nr, er⟩ := hr
      refine ⟨.node o tl tr, rfl, ?_, ?_, fun c => ?_⟩
      · simp only [MT.wf, Bool.and_eq_true, decide_eq_true_eq]; exact ⟨⟨ho, wl⟩, wr⟩
      · simp only [MT.noNull, nl, nr, Bool.and_self]
      · dsimp only; rw [MT.eval_node, el, er]; rfl

theorem ElemFor.group {nm : Num N} {f : Ctx → Option (Val N)} {ol : Option (List (BE N))} (h : Denotes nm 3 f ol) :
    ElemFor nm f (ol.map .group) := by
  cases ol with
  | none => exact h
  | some l => exact ⟨rfl, (fun v h => by cases h), fun c => by rw [resolve_group_eq, valOf_map_val, h.evalLevel.2 c]⟩

theorem ElemFor.nspace1 {nm : Num N} {f : Ctx → Option (Val N)} {oa : Option (BE N)} (h : ElemFor nm f oa) :
    ElemFor nm (fun c => nspaceVal (f c)) (oa.map .nspace1) := by
  cases oa with
  | none => intro c; simp only [h c]; rfl
  | some a' => exact ⟨rfl, (fun v h => by cases h), fun c => by rw [resolve_nspace1_eq, h.2.2 c, valOf_map_val]⟩

theorem ElemFor.contains {nm : Num N} {f g : Ctx → Option (Val N)} {oa ob : Option (BE N)} (ha : ElemFor nm f oa)
    (hb : ElemFor nm g ob) :
    ElemFor nm (fun c => containsVal nm (f c) (g c))
      (match (generalizing := false) oa, ob with | some a', some b' => some (.containsFn a' b') | _, _ => none) := by
  cases oa with
  | none => intro c; simp only [ha c]; rfl
  | some a' =>
    cases ob with
    | none => intro c; simp only [hb c]; cases f c <;> rfl
    | some b' =>
      exact ⟨rfl, (fun v h => by cases h), fun c => by rw [resolve_contains_eq, ha.2.2 c, hb.2.2 c, valOf_map_val]⟩

theorem staticParts_flat {t : MT N} {parts : List (Val N)} (hw : MT.wf 3 t = true) (h : staticParts t.flat = some parts) :
    ∃ v, t = .leaf (.val v) ∧ parts = [v] := by
  cases t with
  | leaf e =>
    cases e <;> simp [MT.flat, staticParts] at h
    rename_i v
    exact ⟨v, rfl, h.symm⟩
  | node o l r =>
    exfalso
    simp only [MT.flat] at h
    -- an operator occurs in the list
    have : ∀ (xs ys : List (BE N)) ps, staticParts (xs ++ BE.op o :: ys) = some ps → False := by
      intro xs
      induction xs with
      | nil => intro ys ps hh; simp [staticParts] at hh
      | cons x xs ih =>
        intro ys ps hh
        cases x <;> simp only [List.cons_append, staticParts] at hh <;> try cases hh
        rename_i v
        cases h2 : staticParts (xs ++ BE.op o :: ys) with
        | none => simp [h2] at hh
        | some q => exact ih ys q h2
    exact this _ _ _ h

/-- an optional list of compiled argument groups stands for the list-valued function `F` -/
@[reducible] def ArgsFor (nm : Num N) (F : Ctx → Option (List (Val N))) : Option (List (BE N)) → Prop
  | some args' =>
      (∀ c, resolveList nm c args' = (F c).map (List.map BE.val)) ∧
      (∀ parts, staticArgs args' = some parts →
        (∀ c, F c = some parts) ∧ parts.all (fun v => !v.isNull) = true)
  | none => ∀ c, F c = none

theorem ArgsFor.nil {nm : Num N} : ArgsFor nm (fun _ => some []) (some []) :=
  ⟨fun _ => rfl, fun parts h => by cases h; exact ⟨fun _ => rfl, rfl⟩⟩

theorem ArgsFor.cons {nm : Num N} {f : Ctx → Option (Val N)} {F : Ctx → Option (List (Val N))}
    {ol oargs : Option (List (BE N))} (h : Denotes nm 3 f ol) (hs : ArgsFor nm F oargs) :
    ArgsFor nm (fun c => match f c, F c with | some v, some vs => some (v :: vs) | _, _ => none)
      (match (generalizing := false) ol.map BE.group, oargs with | some e, some es => some (e :: es) | _, _ => none) := by
  cases ol with
  | none => intro c; simp only [h c]
  | some l =>
    cases oargs with
    | none => intro c; simp only [hs c]; cases f c <;> rfl
    | some es =>
      obtain ⟨t, rfl, w, n, ev⟩ := h
      obtain ⟨hres, hstat⟩ := hs
      refine ⟨fun c => ?_, fun parts hp => ?_⟩
      · simp only [resolveList]
        rw [resolve_group_eq, MT.evalLevel_flat nm c t w, ev c, hres c]
        cases f c <;> cases F c <;> rfl
      · simp only [staticArgs] at hp
        cases hsp : staticParts t.flat with
        | none => simp [hsp] at hp
        | some a =>
          cases hss : staticArgs es with
          | none => simp [hsp, hss] at hp
          | some b =>
            simp only [hsp, hss, Option.some.injEq] at hp
            subst hp
            obtain ⟨v, rfl, rfl⟩ := staticParts_flat w hsp
            have ⟨hc2, hn2⟩ := hstat b hss
            refine ⟨fun c => ?_, ?_⟩
            · show (match f c, F c with | some v, some vs => some (v :: vs) | _, _ => none) = _
              rw [← ev c, MT.eval_val, hc2 c]; rfl
            · simp only [MT.noNull, Bool.not_eq_eq_eq_not, Bool.not_true] at n
              simp [n, hn2]

theorem ElemFor.concat {nm : Num N} {F : Ctx → Option (List (Val N))} {oargs : Option (List (BE N))}
    (h : ArgsFor nm F oargs) :
    ElemFor nm (fun c => concatVal (F c))
      (match (generalizing := false) oargs with
       | some args' =>
         match staticArgs args' with
         | some parts => (joinStatic parts).map (fun s => .val (.str s))
         | none => some (.concatFn args')
       | none => none) := by
  cases oargs with
  | none => intro c; simp only [h c]; rfl
  | some args' =>
    obtain ⟨hres, hstat⟩ := h
    show ElemFor nm _ (match staticArgs args' with
      | some parts => (joinStatic parts).map (fun s => .val (.str s))
      | none => some (.concatFn args'))
    cases hs : staticArgs args' with
    | none =>
      refine ⟨rfl, (fun v h => by cases h), fun c => ?_⟩
      dsimp only
      rw [resolve_concat_eq, hres c, valOf_map_val]
      cases F c with
      | none => rfl
      | some vs => simp only [Option.map_some, Option.bind_some, vals_map_val]
    | some parts =>
      have ⟨hconst, hnn⟩ := hstat parts hs
      have hv : ∀ c, concatVal (F c) = (joinStatic parts).map .str := fun c => by
        rw [hconst c, concatVal, joinStrs_of_noNull hnn]
      show ElemFor nm _ ((joinStatic parts).map (fun s => .val (.str s)))
      cases hj : joinStatic parts with
      | none => intro c; dsimp only; rw [hv c, hj]; rfl
      | some s =>
        refine ⟨rfl, (fun v h => by cases h; rfl), fun c => ?_⟩
        dsimp only; rw [hv c, hj]; rfl

/-- the elements of `flatten p`, each compiled, stand for the value of `p` (the level itself not yet folded) -/
def EachOK (nm : Num N) (k : Nat) (p : P N) : Prop := Denotes nm k (fun c => evalP nm c p) (compileEach nm (flatten p))

theorem eachOK_atom (nm : Num N) {k : Nat} {p : P N} {e : BE N} (hf : flatten p = [e])
    (h : ElemFor nm (fun c => evalP nm c p) (compileBE nm e)) : EachOK nm k p := by
  unfold EachOK
  rw [hf, compileEach_single]
  exact Denotes.leaf h

theorem elemFor_attr (nm : Num N) (name : Str) :
    ElemFor nm (fun c => evalP nm c (.attr name)) (some (.attr name)) :=
  ⟨rfl, (fun v h => by cases h), fun c => by rw [resolve_attr, valOf_map_val]⟩

mutual
theorem eachOK (nm : Num N) : ∀ (p : P N) (k : Nat), P.wf k p = true → P.noNull p = true → EachOK nm k p
  | .lit v, k, _, hn =>
    eachOK_atom nm (e := .val v) rfl ⟨rfl, (fun v' hv => by cases hv; simpa [P.noNull] using hn), fun _ => rfl⟩
  | .attr name, k, _, _ => eachOK_atom nm rfl (elemFor_attr nm name)
  | .text, k, _, _ | .last, k, _, _ | .position, k, _, _ | .nspace0, k, _, _ =>
    eachOK_atom nm rfl ⟨rfl, (fun v h => by cases h), fun _ => rfl⟩
  | .group q, k, hw, hn =>
    eachOK_atom nm rfl (by rw [compileBE_group_eq]; exact ElemFor.group (eachOK nm q 3 hw hn).optimize)
  | .nspace1 a, k, hw, hn =>
    eachOK_atom nm rfl (by
      rw [compileBE_nspace1_eq, compileBE_group_eq]; exact ElemFor.nspace1 (ElemFor.group (eachOK nm a 3 hw hn).optimize))
  | .contains a b, k, hw, hn => by
    have hab := P.wf_contains.1 hw
    have hnn := P.noNull_contains.1 hn
    refine eachOK_atom nm rfl ?_
    rw [compileBE_contains_eq, compileBE_group_eq, compileBE_group_eq]
    exact ElemFor.contains (ElemFor.group (eachOK nm a 3 hab.1 hnn.1).optimize)
      (ElemFor.group (eachOK nm b 3 hab.2 hnn.2).optimize)
  | .concat args, k, hw, hn => by
    refine eachOK_atom nm (e := .concatFn (flattenArgs args)) rfl ?_
    rw [compileBE_concat_eq]
    exact ElemFor.concat (argsOK nm args hw hn)
  | .bin o l r, k, hw, hn => by
    have hh := P.wf_bin.1 hw
    have hnn := P.noNull_bin.1 hn
    unfold EachOK
    rw [flatten, compileEach_node]
    exact Denotes.node hh.1.1 (eachOK nm l _ hh.1.2 hnn.1) (eachOK nm r _ hh.2 hnn.2)
-- the conclusion is `ArgsFor nm (fun c => evalArgs nm c args) (compileEach nm (flattenArgs args))`, written out
theorem argsOK (nm : Num N) : ∀ (args : List (P N)), P.wfList args = true → P.noNullList args = true →
    match compileEach nm (flattenArgs args) with
    | some args' =>
      (∀ c, resolveList nm c args' = (evalArgs nm c args).map (List.map BE.val)) ∧
      (∀ parts, staticArgs args' = some parts →
        (∀ c, evalArgs nm c args = some parts) ∧ parts.all (fun v => !v.isNull) = true)
    | none => ∀ c, evalArgs nm c args = none
  | [], _, _ => ArgsFor.nil
  | p :: ps, hw, hn => by
    have hh := P.wfList_cons.1 hw
    have hnn := P.noNullList_cons.1 hn
    have := ArgsFor.cons (eachOK nm p 3 hh.1 hnn.1).optimize (argsOK nm ps hh.2 hnn.2)
    rw [← compileBE_group_eq] at this
    exact this
end

def Hopeless (nm : Num N) (p : P N) : Prop := ∀ c, evalP nm c p = none

theorem compilePreds_for (nm : Num N) (ps : List (P N)) (h : ∀ p ∈ ps, P.wf 3 p = true ∧ P.noNull p = true) :
    match compileSteps.compilePreds nm (ps.map flatten) with
    | some ls => PredsFor nm ls ps
    | none => ∃ p ∈ ps, Hopeless nm p := by
  have key := AllFor.of_mapM (f := compileLevel nm) (g := compileSteps.compilePreds nm) (R := LevelFor nm)
    (H := Hopeless nm) rfl (fun p ps => ?_) flatten ps fun p hp => ?_
  · cases hc : compileSteps.compilePreds nm (ps.map flatten) with
    | none => rw [hc] at key; exact key
    | some ls => rw [hc] at key; exact key
  · conv => lhs; unfold compileSteps.compilePreds
    cases compileLevel nm p <;> cases compileSteps.compilePreds nm ps <;> rfl
  · have hl : Denotes nm 3 (fun c => evalP nm c p) (compileLevel nm (flatten p)) :=
      (eachOK nm p 3 (h p hp).1 (h p hp).2).optimize
    cases hc : compileLevel nm (flatten p) with
    | none => rw [hc] at hl; exact hl
    | some l => rw [hc] at hl; exact hl.evalLevel

theorem compileSteps_for (nm : Num N) (ss : List (SStep N))
    (h : ∀ s ∈ ss, ∀ p ∈ s.preds, P.wf 3 p = true ∧ P.noNull p = true) :
    match compileSteps nm (flattenSteps ss) with
    | some cs => StepsFor nm cs ss
    | none => ∃ s ∈ ss, ∃ p ∈ s.preds, Hopeless nm p := by
  have key := AllFor.of_mapM (f := fun s : Step N => (compileSteps.compilePreds nm s.preds).map fun ps => { s with preds := ps })
    (g := compileSteps nm) (R := StepFor nm) (H := fun s => ∃ p ∈ s.preds, Hopeless nm p) rfl (fun s ss => ?_)
    (fun s : SStep N => { dbl := s.dbl, axis := s.axis, name := s.name, preds := s.preds.map flatten }) ss fun s hs => ?_
  · cases hc : compileSteps nm (flattenSteps ss) with
    | none => rw [flattenSteps] at hc; rw [hc] at key; exact key
    | some cs => rw [flattenSteps] at hc; rw [hc] at key; exact key
  · conv => lhs; unfold compileSteps
    cases compileSteps.compilePreds nm s.preds <;> cases compileSteps nm ss <;> rfl
  · have hp := compilePreds_for nm s.preds (h s hs)
    dsimp only
    cases hc : compileSteps.compilePreds nm (s.preds.map flatten) with
    | none => rw [hc] at hp; exact hp
    | some ls => rw [hc] at hp; exact ⟨rfl, rfl, rfl, hp⟩

end AHP.XPath
