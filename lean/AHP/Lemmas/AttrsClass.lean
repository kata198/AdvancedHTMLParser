/-
  AHP.Lemmas.AttrsClass — the class-list operations on their own (`addClassL`, `rmClassL` of AHP/Model/Attrs.lean):
  they act name by name, `addClass` only ever appends non-empty space-free names made of characters of its argument
  (`addClassL_ind`, from which the invariants of C09 follow), `removeClass` only removes; the operand conditions
  `GoodName` / `GoodStr` under which the rendered `class` value reads back as the same list.
-/
import AHP.Lemmas.AttrsStr
namespace AHP.Attrs
open AHP

theorem addOne_of_mem {cls : List Str} {w : Str} (h : w ∈ cls) : addOne cls w = cls := by
  unfold addOne
  rw [if_pos (List.contains_iff_mem.mpr h)]

theorem addOne_of_not_mem {cls : List Str} {w : Str} (h : w ∉ cls) : addOne cls w = cls ++ [w] := by
  unfold addOne
  rw [if_neg (fun hc => h (List.contains_iff_mem.mp hc))]

theorem rmOne_of_not_mem {cls : List Str} {w : Str} (h : w ∉ cls) : rmOne cls w = cls := by
  unfold rmOne
  rw [if_neg (fun hc => h (List.contains_iff_mem.mp hc))]

theorem rmOne_of_mem {cls : List Str} {w : Str} (h : w ∈ cls) : rmOne cls w = cls.erase w := by
  unfold rmOne
  rw [if_pos (List.contains_iff_mem.mpr h)]

theorem nodup_addOne {cls : List Str} (h : cls.Nodup) (w : Str) : (addOne cls w).Nodup := by
  by_cases hm : w ∈ cls
  · rw [addOne_of_mem hm]; exact h
  · rw [addOne_of_not_mem hm]
    rw [List.nodup_append]
    refine ⟨h, by simp, ?_⟩
    intro a ha b hb
    simp at hb
    subst hb
    intro e; subst e
    exact hm ha

/-- never more than one new occurrence of a name; duplicates already there (a `className` assignment can make them) stay -/
theorem count_addOne (cls : List Str) (w x : Str) : (addOne cls w).count x ≤ max 1 (cls.count x) := by
  by_cases hm : w ∈ cls
  · rw [addOne_of_mem hm]; omega
  · rw [addOne_of_not_mem hm, List.count_append]
    by_cases hx : w = x
    · subst hx
      have : cls.count w = 0 := List.count_eq_zero.mpr hm
      simp [this]
    · have : List.count x [w] = 0 := by simp [hx]
      omega

theorem forall_addOne {Q : Str → Prop} {cls : List Str} {w : Str} (hc : ∀ x ∈ cls, Q x) (hw : Q w) :
    ∀ x ∈ addOne cls w, Q x := by
  intro x hx
  unfold addOne at hx
  split at hx
  · exact hc x hx
  · rcases List.mem_append.mp hx with h | h
    · exact hc x h
    · simp at h; subst h; exact hw

/-- the common body of `addClassL` / `rmClassL` (`one` = `addOne` / `rmOne`, `word` = `addWord` / `rmWord`): on a string whose
    only white space is the space it is a fold of `one` over `words s` -/
theorem word_fold_eq (one : List Str → Str → List Str) (word : List Str → Str → List Str)
    (hword : ∀ c w, word c w = (let w' := stripWordsOnly w; if w'.isEmpty then c else one c w'))
    {s : Str} (hs : SpaceOnly s) (cls : List Str) :
    (if (stripWordsOnly s).isEmpty then cls
     else if (stripWordsOnly s).contains ' ' then (splitChar ' ' (stripWordsOnly s)).foldl word cls
     else one cls (stripWordsOnly s)) = (words s).foldl one cls := by
  unfold words
  have hs' := spaceOnly_stripWordsOnly hs
  generalize stripWordsOnly s = t at hs' ⊢
  by_cases ht : t.isEmpty = true
  · have : t = [] := by simpa using ht
    subst this
    simp [splitChar]
  · simp only [ht, if_false, Bool.false_eq_true]
    by_cases hsp : t.contains ' ' = true
    · simp only [hsp, if_true]
      rw [← foldl_skip_empty one]
      apply foldl_congr_mem
      intro w hw c
      have hf := mem_splitChar hw
      have hn := noWs_of_field hs' hf.2 hf.1
      rw [hword, stripWordsOnly_noWs hn]
    · simp only [hsp, if_false, Bool.false_eq_true]
      have hns : ' ' ∉ t := fun m => hsp (List.contains_iff_mem.mpr m)
      rw [splitChar_no_sep hns]
      have : t ≠ [] := by simpa using ht
      simp [List.filter, this]

theorem addClassL_eq_fold {s : Str} (hs : SpaceOnly s) (cls : List Str) :
    addClassL s cls = (words s).foldl addOne cls := by
  unfold addClassL
  exact word_fold_eq addOne addWord (fun _ _ => rfl) hs cls

theorem rmClassL_eq_fold {s : Str} (hs : SpaceOnly s) (cls : List Str) :
    rmClassL s cls = (words s).foldl rmOne cls := by
  unfold rmClassL
  exact word_fold_eq rmOne rmWord (fun _ _ => rfl) hs cls

theorem foldl_addOne_of_all_mem : ∀ (ws : List Str) (cls : List Str), (∀ w ∈ ws, w ∈ cls) → ws.foldl addOne cls = cls
  | [], _, _ => rfl
  | w :: ws, cls, h => by
    simp only [List.foldl_cons]
    rw [addOne_of_mem (h w (by simp))]
    exact foldl_addOne_of_all_mem ws cls (fun x hx => h x (List.mem_cons_of_mem _ hx))

theorem foldl_rmOne_of_none_mem : ∀ (ws : List Str) (cls : List Str), (∀ w ∈ ws, w ∉ cls) → ws.foldl rmOne cls = cls
  | [], _, _ => rfl
  | w :: ws, cls, h => by
    simp only [List.foldl_cons]
    rw [rmOne_of_not_mem (h w (by simp))]
    exact foldl_rmOne_of_none_mem ws cls (fun x hx => h x (List.mem_cons_of_mem _ hx))

/-- `addClass` adds, one at a time, non-empty names without a space made of characters of its argument: a predicate
    on class lists that every such `addOne` keeps is kept by `addClassL s`, whatever the string `s` -/
theorem addClassL_ind {P : List Str → Prop} (s : Str) {cls : List Str} (h0 : P cls)
    (h : ∀ c w, P c → w ≠ [] → ' ' ∉ w → (∀ x ∈ w, x ∈ s) → P (addOne c w)) : P (addClassL s cls) := by
  have fold : ∀ (ws : List Str) c, P c → (∀ w ∈ ws, ' ' ∉ w ∧ ∀ x ∈ w, x ∈ s) → P (ws.foldl addWord c) := by
    intro ws
    induction ws with
    | nil => intro c hc _; exact hc
    | cons w ws ih =>
      intro c hc hw
      refine ih _ ?_ (fun w' h' => hw w' (List.mem_cons_of_mem _ h'))
      have hw0 := hw w (by simp)
      unfold addWord
      simp only
      split
      · exact hc
      · next hne =>
        exact h c _ hc (by simpa using hne) (fun hm => hw0.1 (mem_stripWordsOnly hm))
          (fun x hx => hw0.2 x (mem_stripWordsOnly hx))
  unfold addClassL
  simp only
  split
  · exact h0
  · next hne =>
    split
    · exact fold _ _ h0 (fun w hw =>
        ⟨(mem_splitChar hw).1, fun x hx => mem_stripWordsOnly ((mem_splitChar hw).2 x hx)⟩)
    · next hsp =>
      exact h _ _ h0 (by simpa using hne) (fun hm => hsp (List.contains_iff_mem.mpr hm)) (fun x hx => mem_stripWordsOnly hx)

theorem addClassL_clsInv (s : Str) {cls : List Str} (hc : ∀ x ∈ cls, x ≠ [] ∧ ' ' ∉ x) :
    ∀ x ∈ addClassL s cls, x ≠ [] ∧ ' ' ∉ x :=
  addClassL_ind (P := fun c => ∀ x ∈ c, x ≠ [] ∧ ' ' ∉ x) s hc (fun _ _ hc hne hsp _ => forall_addOne hc ⟨hne, hsp⟩)

theorem nodup_addClassL (s : Str) {cls : List Str} (h : cls.Nodup) : (addClassL s cls).Nodup :=
  addClassL_ind s h (fun _ w hc _ _ _ => nodup_addOne hc w)

theorem count_addClassL (s : Str) (cls : List Str) (x : Str) : (addClassL s cls).count x ≤ max 1 (cls.count x) :=
  addClassL_ind (P := fun c => c.count x ≤ max 1 (cls.count x)) s (by omega)
    (fun c w hc _ _ _ => by have := count_addOne c w x; omega)

theorem rmOne_subset {cls : List Str} {w x : Str} (h : x ∈ rmOne cls w) : x ∈ cls := by
  unfold rmOne at h
  split at h
  · exact List.mem_of_mem_erase h
  · exact h

theorem rmWord_subset {cls : List Str} {w x : Str} (h : x ∈ rmWord cls w) : x ∈ cls := by
  unfold rmWord at h
  simp only at h
  split at h
  · exact h
  · exact rmOne_subset h

theorem foldl_rmWord_subset : ∀ (ws : List Str) {cls : List Str} {x : Str}, x ∈ ws.foldl rmWord cls → x ∈ cls
  | [], _, _, h => by simpa using h
  | w :: ws, cls, x, h => by
    simp only [List.foldl_cons] at h
    exact rmWord_subset (foldl_rmWord_subset ws h)

theorem rmClassL_subset (s : Str) {cls : List Str} {x : Str} (h : x ∈ rmClassL s cls) : x ∈ cls := by
  unfold rmClassL at h
  simp only at h
  split at h
  · exact h
  · split at h
    · exact foldl_rmWord_subset _ h
    · exact rmOne_subset h

/-- a class name that the rendered `class` value gives back -/
def GoodName (w : Str) : Prop := CleanName w ∧ '&' ∉ w

/-- an operand of the property: its only white space is the ASCII space, and it has no `&` -/
def GoodStr (s : Str) : Prop := ∀ c ∈ s, (isWs c = true → c = ' ') ∧ c ≠ '&'

theorem GoodStr.spaceOnly {s : Str} (h : GoodStr s) : SpaceOnly s := fun c hc => (h c hc).1

theorem goodStr_nil : GoodStr [] := fun c hc => by cases hc

theorem goodStr_strTrue : GoodStr strTrue := by
  intro c hc
  simp [strTrue] at hc
  rcases hc with h | h | h | h <;> subst h <;> decide

theorem goodStr_strFalse : GoodStr strFalse := by
  intro c hc
  simp [strFalse] at hc
  rcases hc with h | h | h | h | h <;> subst h <;> decide

theorem goodStr_boolString (v : DotVal) : GoodStr v.boolString := by
  cases v with
  | none => exact goodStr_strFalse
  | str s =>
    show GoodStr (if lower s = strFalse ∨ lower s = ['0'] then strFalse else strTrue)
    split
    · exact goodStr_strFalse
    · exact goodStr_strTrue
  | bool b =>
    cases b
    · exact goodStr_strFalse
    · exact goodStr_strTrue

theorem goodName_of_sub {s w : Str} (hs : GoodStr s) (hne : w ≠ []) (hsp : ' ' ∉ w) (hsub : ∀ c ∈ w, c ∈ s) : GoodName w :=
  ⟨⟨hne, noWs_of_field hs.spaceOnly hsub hsp⟩, fun hm => (hs '&' (hsub '&' hm)).2 rfl⟩

theorem goodName_words {s w : Str} (hs : GoodStr s) (hw : w ∈ words s) : GoodName w :=
  have := mem_words hw
  goodName_of_sub hs this.1 this.2.1 this.2.2

theorem good_addClassL {s : Str} (hs : GoodStr s) {cls : List Str} (hc : ∀ x ∈ cls, GoodName x) :
    ∀ x ∈ addClassL s cls, GoodName x :=
  addClassL_ind (P := fun c => ∀ x ∈ c, GoodName x) s hc
    (fun _ _ hc hne hsp hsub => forall_addOne hc (goodName_of_sub hs hne hsp hsub))

end AHP.Attrs
