/-
  C13 — the two readings of the classification agree: the scan `classify` (Spec/Validate.lean) is the declarative
  "first token in error" (`FirstError`: context fold `openAfter`/`rootAfter`, local predicate `errAt`).
-/
import AHP.Spec.Validate
namespace AHP.Spec
open AHP

theorem openAfter_cons (o : List Str) (t : Token) (p : List Token) :
    openAfter o (t :: p) = openAfter (openAfter o [t]) p := by
  cases t <;> simp only [openAfter]
  split <;> rfl

theorem rootAfter_cons (r : Bool) (t : Token) (p : List Token) :
    rootAfter r (t :: p) = rootAfter (rootAfter r [t]) p := by
  cases t <;> simp only [rootAfter]

theorem classify_cons (o : List Str) (r : Bool) (t : Token) (ts : List Token) :
    classify o r (t :: ts) = match errAt o r t with
      | some e => some e
      | none => classify (openAfter o [t]) (rootAfter r [t]) ts := by
  cases t with
  | start n a =>
    simp only [classify, errAt, openAfter, rootAfter]
    split
    · rfl
    · split
      · rfl
      · split <;> rfl
  | startend n a =>
    simp only [classify, errAt, openAfter, rootAfter]
    split
    · rfl
    · split <;> rfl
  | end_ n =>
    cases o with
    | nil => simp [classify, errAt]
    | cons m rest =>
      simp only [classify, errAt, openAfter, rootAfter, List.tail_cons]
      split
      · rfl
      · split <;> rfl
  | data d =>
    simp only [classify, errAt, openAfter, rootAfter]
    split <;> rfl
  | entity d => simp only [classify, errAt, openAfter, rootAfter]; split <;> rfl
  | charref d => simp only [classify, errAt, openAfter, rootAfter]; split <;> rfl
  | comment d => simp only [classify, errAt, openAfter, rootAfter]; split <;> rfl
  | decl d => simp only [classify, errAt, openAfter, rootAfter]
  | unknownDecl d => simp only [classify, errAt, openAfter, rootAfter]
  | pi d => simp only [classify, errAt, openAfter, rootAfter]

theorem clean_nil (o : List Str) (r : Bool) : Clean o r [] := by
  intro p x q h
  cases p <;> simp at h

theorem clean_cons (o : List Str) (r : Bool) (t : Token) (ts : List Token) :
    Clean o r (t :: ts) ↔ errAt o r t = none ∧ Clean (openAfter o [t]) (rootAfter r [t]) ts := by
  constructor
  · intro h
    refine ⟨h [] t ts rfl, ?_⟩
    intro p x q hq
    have := h (t :: p) x q (by rw [hq]; rfl)
    rw [openAfter_cons, rootAfter_cons] at this
    exact this
  · intro ⟨h1, h2⟩ p x q hq
    cases p with
    | nil =>
      simp only [List.nil_append, List.cons.injEq] at hq
      rw [← hq.1]; exact h1
    | cons y p =>
      simp only [List.cons_append, List.cons.injEq] at hq
      rw [← hq.1, openAfter_cons, rootAfter_cons]
      exact h2 p x q hq.2

theorem classify_none_iff (ts : List Token) : ∀ (o : List Str) (r : Bool), classify o r ts = none ↔ Clean o r ts := by
  induction ts with
  | nil => intro o r; exact ⟨fun _ => clean_nil o r, fun _ => rfl⟩
  | cons t ts ih =>
    intro o r
    rw [classify_cons, clean_cons]
    cases he : errAt o r t with
    | none => simp only [true_and]; exact ih _ _
    | some e => simp

theorem firstError_cons (o : List Str) (r : Bool) (t : Token) (ts : List Token) (e : Exc) :
    FirstError o r (t :: ts) e ↔
      errAt o r t = some e ∨ errAt o r t = none ∧ FirstError (openAfter o [t]) (rootAfter r [t]) ts e := by
  constructor
  · rintro ⟨pre, x, post, h, hc, hx⟩
    cases pre with
    | nil =>
      simp only [List.nil_append, List.cons.injEq] at h
      rw [← h.1] at hx; exact Or.inl hx
    | cons y pre =>
      simp only [List.cons_append, List.cons.injEq] at h
      rw [← h.1] at hc hx
      rw [openAfter_cons, rootAfter_cons] at hx
      exact Or.inr ⟨((clean_cons o r t pre).mp hc).1, pre, x, post, h.2, ((clean_cons o r t pre).mp hc).2, hx⟩
  · rintro (h | ⟨h1, pre, x, post, h, hc, hx⟩)
    · exact ⟨[], t, ts, rfl, clean_nil o r, h⟩
    · exact ⟨t :: pre, x, post, by rw [h]; rfl, (clean_cons o r t pre).mpr ⟨h1, hc⟩,
        by rw [openAfter_cons, rootAfter_cons]; exact hx⟩

/-- **the two readings agree**: the scan reports `e` exactly when `e` is the error of the first token in error -/
theorem classify_some_iff (ts : List Token) : ∀ (o : List Str) (r : Bool) (e : Exc),
    classify o r ts = some e ↔ FirstError o r ts e := by
  induction ts with
  | nil =>
    intro o r e
    constructor
    · intro h; simp [classify] at h
    · rintro ⟨pre, t, post, h, _⟩; cases pre <;> simp at h
  | cons t ts ih =>
    intro o r e
    rw [classify_cons, firstError_cons]
    cases he : errAt o r t with
    | some e' => simp
    | none => simp [ih]

end AHP.Spec
