/-
  Lemmas for the code tie of xpath/_cache.py (Props/C15Code.lean): Python lists/dicts of the
  interpreter against the hand model's (`Model/Cache.lean`) under the embedding of text keys, and the two loops of the
  methods (`while True: try: recent.remove(key) except ValueError: break`; `for k in keys: try: del map[k] except: pass`)
  evaluated once and for all, for every fuel that suffices.
-/
import AHP.Lemmas.PyAstExec
import AHP.Lemmas.Cache
namespace AHP.PyAst
open AHP AHP.Gen AHP.Conv AHP.Cache

def embK (l : List Str) : List PyV := l.map PyV.str
def embD (m : List (Str × PyV)) : List (PyV × PyV) := m.map (fun p => (PyV.str p.1, p.2))

/-- `l.erase k` with the equality test the hand model uses (`DecidableEq`), not the list instance. -/
abbrev eraseK (l : List Str) (k : Str) : List Str := @List.erase Str instBEqOfDecidableEq l k

theorem removeFirst_emb (k : Str) (l : List Str) :
    removeFirst (.str k) (embK l) = if k ∈ l then some (embK (eraseK l k)) else none := by
  rw [embK, removeFirst_map pyEqV_str]; congr

theorem dGet_emb (m : List (Str × PyV)) (k : Str) : dGet (embD m) (.str k) = Cache.dictGet m k := by
  rw [Cache.dictGet_eq]; exact (dGet_map pyEqV_str id m k).trans Option.map_id'

theorem dSet_emb (m : List (Str × PyV)) (k : Str) (v : PyV) : dSet (embD m) (.str k) v = embD (Cache.dictSet m k v) := by
  rw [Cache.dictSet_eq]; exact dSet_map pyEqV_str id m k v

theorem dDel_emb (m : List (Str × PyV)) (k : Str) : dDel (embD m) (.str k) = embD (Cache.dictDel m k) := by
  rw [Cache.dictDel_eq]; exact dDel_map pyEqV_str id m k

theorem sliceTo_map {α β : Type} (f : α → β) (l : List α) (n : Int) : sliceTo (l.map f) n = (sliceTo l n).map f := by
  simp [sliceTo, List.map_take]

theorem sliceFrom_map {α β : Type} (f : α → β) (l : List α) (n : Int) : sliceFrom (l.map f) n = (sliceFrom l n).map f := by
  simp [sliceFrom, List.map_drop]

theorem embK_length (l : List Str) : (embK l).length = l.length := by simp [embK]
theorem embK_append (a b : List Str) : embK (a ++ b) = embK a ++ embK b := by simp [embK]
theorem embK_snoc (r : List Str) (k : Str) : embK r ++ [PyV.str k] = embK (r ++ [k]) := by simp [embK]
theorem sliceTo_embK (l : List Str) (n : Int) : Cache.sliceTo (embK l) n = embK (Cache.sliceTo l n) := sliceTo_map _ _ _
theorem sliceFrom_embK (l : List Str) (n : Int) : Cache.sliceFrom (embK l) n = embK (Cache.sliceFrom l n) := sliceFrom_map _ _ _

/-- The cache object: the three fields `__init__` creates, holding the hand model's state and the lock. -/
def ofState (s : State Str PyV) (held : Bool) : List (String × Field) :=
  [("cachedCompiledExpressions", .dict (embD s.map)),
   ("recentCachedExpressionStrs", .list (embK s.recent)),
   ("cacheLock", .lock held)]

/-- What the methods of `XPathExpressionCacheType` run in: the module constants `MAX_CACHED_EXPRESSIONS` and
`CLEAR_AT_ONE_TIME` as read at call time, the static method `getKeyForExpressionStr` (sha1 of the text, hex) as the
function `key`, and `fuel` iterations for each `while`. -/
def cacheCx (key : Str → Str) (MAX CLEAR fuel : Nat) : Ctx :=
  { parseInt := fun _ => .error .valueError
    funs := fun _ => none
    fuel := fuel
    globals := fun x =>
      if x = "MAX_CACHED_EXPRESSIONS" then some (.py (.int MAX))
      else if x = "CLEAR_AT_ONE_TIME" then some (.py (.int CLEAR))
      else none
    selfMeth := fun m =>
      if m = "getKeyForExpressionStr" then
        some (fun args => match args with
          | [.py (.str e)] => .ok (.py (.str (key e)))
          | _ => .error (unsupported "getKeyForExpressionStr of something else than a text"))
      else none }

theorem cacheCx_max (key : Str → Str) (MAX CLEAR fuel : Nat) :
    (cacheCx key MAX CLEAR fuel).globals "MAX_CACHED_EXPRESSIONS" = some (.py (.int MAX)) := by simp [cacheCx]
theorem cacheCx_clear (key : Str → Str) (MAX CLEAR fuel : Nat) :
    (cacheCx key MAX CLEAR fuel).globals "CLEAR_AT_ONE_TIME" = some (.py (.int CLEAR)) := by simp [cacheCx]
theorem cacheCx_fuel (key : Str → Str) (MAX CLEAR fuel : Nat) : (cacheCx key MAX CLEAR fuel).fuel = fuel := rfl
theorem cacheCx_funs (key : Str → Str) (MAX CLEAR fuel : Nat) (f : String) : (cacheCx key MAX CLEAR fuel).funs f = none := rfl
theorem cacheCx_key (key : Str → Str) (MAX CLEAR fuel : Nat) :
    (cacheCx key MAX CLEAR fuel).selfMeth "getKeyForExpressionStr"
      = some (fun args => match args with
          | [.py (.str e)] => .ok (.py (.str (key e)))
          | _ => .error (unsupported "getKeyForExpressionStr of something else than a text")) := by simp [cacheCx]

/-! ### the loop `while True: try: self.recentCachedExpressionStrs.remove(key) except ValueError: break` -/

def rmBody : List Stmt :=
  [.tryS [.fieldCall "self" "recentCachedExpressionStrs" "remove" [(.var "key")]] [.mk (some "ValueError") [.brk]]]

theorem removeAll_erase (k : Str) (l : List Str) : removeAll k (eraseK l k) = removeAll k l := by
  rw [removeAll_eq, removeAll_eq]; exact filter_erase_self k l

theorem removeAll_not_mem (k : Str) (l : List Str) (h : k ∉ l) : removeAll k l = l := by
  rw [removeAll_eq]; exact filter_ne_of_not_mem h

theorem rmLoop_run (cx : Ctx) (k : Str) (cond : Env → Except PyErr Val) (hc : ∀ env, cond env = .ok (.py (.bool true))) :
    ∀ (fuel : Nat) (l : List Str) (fs : List (String × Field)) (rest : Env),
    rest.lookup "key" = some (.py (.str k)) →
    fs.lookup "recentCachedExpressionStrs" = some (.list (embK l)) →
    l.length < fuel →
    whileLoop cond (fun env => execL cx env rmBody) fuel (("self", .obj fs) :: rest)
      = (("self", .obj (assocSet fs "recentCachedExpressionStrs" (.list (embK (removeAll k l))))) :: rest, .next) := by
  intro fuel
  induction fuel with
  | zero => intro l fs rest _ _ h; omega
  | succ n ih =>
    intro l fs rest hk hf hl
    by_cases hm : k ∈ l
    · have hstep : execL cx (("self", .obj fs) :: rest) rmBody
          = (("self", .obj (assocSet fs "recentCachedExpressionStrs" (.list (embK (eraseK l k))))) :: rest, .next) := by
        simp [rmBody, execS, hk, getField, hf, mutCall_remove, removeFirst_emb, hm, putField, assocSet, py_straight]
      have hl' : (eraseK l k).length < n := by
        have h0 := List.length_pos_of_mem hm
        have h1 : (eraseK l k).length = l.length - 1 := @List.length_erase_of_mem Str instBEqOfDecidableEq _ k l hm
        omega
      have := ih (eraseK l k) (assocSet fs "recentCachedExpressionStrs" (.list (embK (eraseK l k)))) rest hk
        (lookup_assocSet_eq _ _ _) hl'
      rw [whileLoop, hc]
      simp only [Val.truthy, truthy, if_true, hstep]
      rw [this, assocSet_assocSet, removeAll_erase]
    · have hstep : execL cx (("self", .obj fs) :: rest) rmBody = (("self", .obj fs) :: rest, .brk) := by
        simp [rmBody, execS, hk, getField, hf, mutCall_remove, removeFirst_emb, hm, catches, errIsA, excOf, py_straight]
      rw [whileLoop, hc]
      simp only [Val.truthy, truthy, if_true, hstep]
      rw [removeAll_not_mem k l hm, assocSet_self _ _ _ hf]

theorem rmLoop_stmt (cx : Ctx) (k : Str) (l : List Str) (fs : List (String × Field)) (rest : Env)
    (hk : rest.lookup "key" = some (.py (.str k)))
    (hf : fs.lookup "recentCachedExpressionStrs" = some (.list (embK l)))
    (hl : l.length < cx.fuel) :
    execS cx (("self", .obj fs) :: rest)
      (.whileS (.const (.bool true))
        [.tryS [.fieldCall "self" "recentCachedExpressionStrs" "remove" [(.var "key")]] [.mk (some "ValueError") [.brk]]])
      = (("self", .obj (assocSet fs "recentCachedExpressionStrs" (.list (embK (removeAll k l))))) :: rest, .next) := by
  rw [execS]
  exact rmLoop_run cx k _ (fun _ => rfl) cx.fuel l fs rest hk hf hl

/-! ### the loop `for keyToRemove in keysToRemove: try: del self.cachedCompiledExpressions[keyToRemove] except: pass` -/

def delBody : List Stmt :=
  [.tryS [.delItem "self" "cachedCompiledExpressions" (.var "keyToRemove")] [.mk none [.pass]]]

/-- the loop variable after the loop -/
def bindKeys (rest : Env) (ks : List Str) : Env := ks.foldl (fun r k => assocSet r "keyToRemove" (.py (.str k))) rest

theorem lookup_bindKeys (rest : Env) (ks : List Str) (x : String) (hx : x ≠ "keyToRemove") :
    (bindKeys rest ks).lookup x = rest.lookup x := by
  induction ks generalizing rest with
  | nil => rfl
  | cons k r ih =>
    simp only [bindKeys, List.foldl_cons] at ih ⊢
    rw [ih, lookup_assocSet_ne _ _ _ _ hx]

theorem delLoop_run (cx : Ctx) (V : Val) (same : Env → Bool)
    (hsame : ∀ fs rest, rest.lookup "keysToRemove" = some V → same (("self", .obj fs) :: rest) = true) :
    ∀ (ks : List Str) (m : List (Str × PyV)) (fs : List (String × Field)) (rest : Env),
    rest.lookup "keysToRemove" = some V →
    fs.lookup "cachedCompiledExpressions" = some (.dict (embD m)) →
    forLoop (fun env v => assocSet env "keyToRemove" v) (fun env => execL cx env delBody) same ((embK ks).map Val.py)
        (("self", .obj fs) :: rest)
      = (("self", .obj (assocSet fs "cachedCompiledExpressions" (.dict (embD (ks.foldl Cache.dictDel m))))) :: bindKeys rest ks,
         .next) := by
  intro ks
  induction ks with
  | nil =>
    intro m fs rest _ hf
    simp only [embK, List.map_nil, forLoop, List.foldl_nil, bindKeys]
    rw [assocSet_self _ _ _ hf]
  | cons k r ih =>
    intro m fs rest hV hf
    have hV' : (assocSet rest "keyToRemove" (.py (.str k))).lookup "keysToRemove" = some V := by
      simp [lookup_assocSet, hV]
    have hstep : execL cx (assocSet (("self", .obj fs) :: rest) "keyToRemove" (.py (.str k))) delBody
        = (("self", .obj (assocSet fs "cachedCompiledExpressions" (.dict (embD (Cache.dictDel m k)))))
            :: assocSet rest "keyToRemove" (.py (.str k)), .next) := by
      cases hg : Cache.dictGet m k with
      | none =>
        rw [Cache.dictDel_eq, Dict.del_of_not_mem (Dict.lookup_eq_none_iff.mp ((Cache.dictGet_eq ..).symm.trans hg)), assocSet_self _ _ _ hf]
        simp [delBody, execS, assocSet, lookup_assocSet_eq, getField, hf, hashable, dGet_emb, hg, catches, py_straight]
      | some v =>
        simp [delBody, execS, assocSet, lookup_assocSet_eq, getField, hf, hashable, dGet_emb, hg, putField, dDel_emb,
          py_straight]
    simp only [embK, List.map_cons, forLoop, hstep, hsame _ _ hV', if_true]
    have := ih (Cache.dictDel m k) (assocSet fs "cachedCompiledExpressions" (.dict (embD (Cache.dictDel m k))))
      (assocSet rest "keyToRemove" (.py (.str k))) hV' (lookup_assocSet_eq _ _ _)
    simp only [embK] at this
    rw [this, assocSet_assocSet]
    rfl

theorem delLoop_stmt (cx : Ctx) (ks : List Str) (m : List (Str × PyV)) (fs : List (String × Field)) (rest : Env)
    (hk : rest.lookup "keysToRemove" = some (.list (embK ks)))
    (hf : fs.lookup "cachedCompiledExpressions" = some (.dict (embD m))) :
    execS cx (("self", .obj fs) :: rest)
      (.forS "keyToRemove" (.var "keysToRemove")
        [.tryS [.delItem "self" "cachedCompiledExpressions" (.var "keyToRemove")] [.mk none [.pass]]])
      = (("self", .obj (assocSet fs "cachedCompiledExpressions" (.dict (embD (ks.foldl Cache.dictDel m))))) :: bindKeys rest ks,
         .next) := by
  have hk' : List.lookup "keysToRemove" (("self", Val.obj fs) :: rest) = some (.list (embK ks)) := hk
  rw [execS_forVar hk']
  exact delLoop_run cx (.list (embK ks)) _ (fun _ _ h => sameList_of_lookup (env := (_ :: _)) h) ks m fs rest hk hf

/-! the deletion loop on the environment `setCachedExpression` has there (keys and map are then determined by the left side, so that
`simp` can rewrite with it; the variables stand in the order in which the dumped method binds them; the removal loop needs no such
copy: its key and list are given to `rmLoop_stmt` by the caller) -/

theorem delLoop_set_stmt (cx : Ctx) (ks : List Str) (m : List (Str × PyV)) (R L : Field) (a b c d e : Val) :
    execS cx [("self", .obj [("cachedCompiledExpressions", .dict (embD m)), ("recentCachedExpressionStrs", R), ("cacheLock", L)]),
              ("expressionStr", a), ("xpathExpressionObj", b), ("key", c), ("numCachedExpressionStrs", d),
              ("numRemainingAfterClear", e), ("keysToRemove", .list (embK ks))]
      (.forS "keyToRemove" (.var "keysToRemove")
        [.tryS [.delItem "self" "cachedCompiledExpressions" (.var "keyToRemove")] [.mk none [.pass]]])
      = (("self", .obj [("cachedCompiledExpressions", .dict (embD (ks.foldl Cache.dictDel m))),
                        ("recentCachedExpressionStrs", R), ("cacheLock", L)]) ::
          bindKeys [("expressionStr", a), ("xpathExpressionObj", b), ("key", c), ("numCachedExpressionStrs", d),
              ("numRemainingAfterClear", e), ("keysToRemove", .list (embK ks))] ks, .next) := by
  rw [delLoop_stmt cx ks m _ _ (by simp [List.lookup]) (by simp [List.lookup])]
  simp [assocSet]

attribute [py_cache] eval evalList cacheCx_max cacheCx_clear cacheCx_fuel cacheCx_funs cacheCx_key List.lookup assocSet
  delLoop_set_stmt embK_snoc sliceTo_embK sliceFrom_embK embK_length getField putField mutCall_append mutCall_remove
  mutCall_acquire mutCall_release getAttr_field Field.toVal Val.toField callMethod_get2 hashable dGet_emb dSet_emb aliasOK
  Val.mutable Expr.makesNew pyCompare compareB pyIs pyOrd numOf Val.unique Val.truthy truthy Lit.toPy builtin_len pyLen pyBinop
  pySlice resultOf lookup_assocSet_eq lookup_bindKeys

end AHP.PyAst
