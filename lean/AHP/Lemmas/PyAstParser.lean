/-
  Lemmas for the code ties of the parsers' tag handlers (`Props/C02Code.lean`, `Props/C13Code.lean`): the list of open elements
  inside the interpreter, the handlers' context `parserCx`, the variables their loops keep (`Vars`), and the loops of the handlers as
  dumped — the search loop and the pop loop of `AdvancedHTMLParser.handle_endtag`, the backwards search of the validating
  parser's — each by induction on the stack; `[x for x in l]` (`collectPy_id`).
-/
import AHP.Lemmas.PyAstExec
namespace AHP.PyAstParser
open AHP AHP.Gen AHP.Conv AHP.PyAst

/-- a Python list of elements: an element is its number (`PyV.ancestor u`; the same embedding as `PyAst.embE` of
`Lemmas/PyAstColl.lean`, whose `PyAst.embU` is the list of uids as integers) -/
def embU (us : List Nat) : List PyV := us.map PyV.ancestor

theorem embU_append (a b : List Nat) : embU (a ++ b) = embU a ++ embU b := by simp [embU]
theorem embU_length (a : List Nat) : (embU a).length = a.length := by simp [embU]

/-- What the handlers run in: `tagOf u` is the `tagName` of the element number `u` (a parameter: only this attribute of an
item of `_inTag` is read), `fuel` iterations for each `while`. -/
def parserCx (tagOf : Nat → Str) (fuel : Nat) : Ctx :=
  { parseInt := fun _ => .error .valueError
    funs := fun _ => none
    fuel := fuel
    elemAttr := fun u a => if a = "tagName" then some (.py (.str (tagOf u))) else none }

theorem parserCx_tag (tagOf : Nat → Str) (fuel u : Nat) :
    (parserCx tagOf fuel).elemAttr u "tagName" = some (.py (.str (tagOf u))) := by simp [parserCx]
theorem parserCx_funs (tagOf : Nat → Str) (fuel : Nat) (f : String) : (parserCx tagOf fuel).funs f = none := rfl
theorem parserCx_fuel (tagOf : Nat → Str) (fuel : Nat) : (parserCx tagOf fuel).fuel = fuel := rfl

/-- What the loops of `handle_endtag` rely on and keep: `self` holds the object, `tagName` the name, `inTag` is the second
name of `self._inTag`, `foundIt` a boolean. -/
structure Vars (env : Env) (fs : List (String × Field)) (n : Str) (found : Bool) : Prop where
  self : env.lookup "self" = some (.obj fs)
  tag : env.lookup "tagName" = some (.py (.str n))
  inTag : env.lookup "inTag" = some (.ref "self" "_inTag")
  found : env.lookup "foundIt" = some (.py (.bool found))

theorem Vars.set {env : Env} {fs : List (String × Field)} {n : Str} {found : Bool} (hv : Vars env fs n found) (x : String) (v : Val)
    (hx : x ∉ ["self", "tagName", "inTag", "foundIt"]) : Vars (assocSet env x v) fs n found := by
  simp only [List.mem_cons, List.not_mem_nil, or_false, not_or] at hx
  exact ⟨by rw [lookup_assocSet_ne _ _ _ _ (Ne.symm hx.1), hv.self], by rw [lookup_assocSet_ne _ _ _ _ (Ne.symm hx.2.1), hv.tag],
    by rw [lookup_assocSet_ne _ _ _ _ (Ne.symm hx.2.2.1), hv.inTag], by rw [lookup_assocSet_ne _ _ _ _ (Ne.symm hx.2.2.2), hv.found]⟩

theorem Vars.setFound {env : Env} {fs : List (String × Field)} {n : Str} {found : Bool} (hv : Vars env fs n found) (b : Bool) :
    Vars (assocSet env "foundIt" (.py (.bool b))) fs n b :=
  ⟨by simp [lookup_assocSet, hv.self], by simp [lookup_assocSet, hv.tag],
    by simp [lookup_assocSet, hv.inTag], lookup_assocSet_eq _ _ _⟩

/-- `inTag[ix].tagName == tagName` (or `!=`), `ix` giving the position of the element `u` in the list -/
theorem eval_itemIs (tagOf : Nat → Str) (fuel : Nat) {env : Env} {fs : List (String × Field)} {n : Str} {found : Bool}
    (hv : Vars env fs n found) (l : List Nat) (hf : fs.lookup "_inTag" = some (.list (embU l))) (ix : Expr) (k : Int) (u : Nat)
    (hix : eval (parserCx tagOf fuel) env ix = .ok (.py (.int k))) (hitem : seqItem (embU l) k = some (.ancestor u)) :
    eval (parserCx tagOf fuel) env (.cmp .eq (.elemAttr (.index (.avar "inTag") ix) "tagName") (.var "tagName"))
        = .ok (.py (.bool (decide (tagOf u = n))))
      ∧ eval (parserCx tagOf fuel) env (.cmp .ne (.elemAttr (.index (.avar "inTag") ix) "tagName") (.var "tagName"))
        = .ok (.py (.bool (!decide (tagOf u = n)))) := by
  have h1 : eval (parserCx tagOf fuel) env (.elemAttr (.index (.avar "inTag") ix) "tagName") = .ok (.py (.str (tagOf u))) := by
    rw [eval, eval, eval_avar hv.inTag hv.self hf, hix]
    simp only [Field.toVal, pyIndex_list hitem, parserCx_tag]
  constructor <;> rw [eval, h1, eval_var hv.tag] <;> simp only [pyCompare, compareB, pyEq_py, pyEqV, bnot]

/-- `if inTag[i].tagName == tagName: foundIt = True; break`, the first statement of both search loops, at the element `u` -/
theorem foundStep (tagOf : Nat → Str) (fuel : Nat) {env : Env} {fs : List (String × Field)} {n : Str} (hv : Vars env fs n false)
    (l : List Nat) (hf : fs.lookup "_inTag" = some (.list (embU l))) (k : Int) (u : Nat)
    (hi : env.lookup "i" = some (.py (.int k))) (hitem : seqItem (embU l) k = some (.ancestor u)) (rest : List Stmt) :
    execL (parserCx tagOf fuel) env
        (.ifS (.cmp .eq (.elemAttr (.index (.avar "inTag") (.var "i")) "tagName") (.var "tagName"))
          [.assign "foundIt" (.const (.bool true)), .brk] [] :: rest)
      = if tagOf u = n then (assocSet env "foundIt" (.py (.bool true)), .brk) else execL (parserCx tagOf fuel) env rest := by
  rw [execL, execS, (eval_itemIs tagOf fuel hv l hf (.var "i") k u (eval_var hi) hitem).1]
  by_cases hu : tagOf u = n <;> simp [hu, execS, aliasOK, Val.mutable, py_straight]

theorem mem_names_cons (tagOf : Nat → Str) (n : Str) (u : Nat) (r : List Nat) :
    decide (n ∈ tagOf u :: r.map tagOf) = if tagOf u = n then true else decide (n ∈ r.map tagOf) := by
  by_cases hu : tagOf u = n
  · simp [hu]
  · have : ¬ n = tagOf u := fun e => hu e.symm
    simp [hu, this]

/-! ### the search loop `for i in range(len(inTag)): if inTag[i].tagName == tagName: foundIt = True; break` -/

def findBody : List Stmt :=
  [.ifS (.cmp .eq (.elemAttr (.index (.avar "inTag") (.var "i")) "tagName") (.var "tagName"))
     [.assign "foundIt" (.const (.bool true)), .brk] []]

/-- (`same`: the iterable is `range(…)`, a tuple that nothing can change, so the caller's test after each iteration is constantly true) -/
theorem findLoop_run (tagOf : Nat → Str) (fuel : Nat) (n : Str) (fs : List (String × Field)) (same : Env → Bool)
    (hsame : ∀ e, same e = true) :
    ∀ (suf pre : List Nat) (env : Env),
    fs.lookup "_inTag" = some (.list (embU (pre ++ suf))) →
    Vars env fs n false →
    ∃ env', forLoop (fun env v => assocSet env "i" v) (fun env => execL (parserCx tagOf fuel) env findBody) same
        (((List.range' pre.length suf.length).map (fun i => PyV.int (Int.ofNat i))).map Val.py) env = (env', .next)
      ∧ Vars env' fs n (decide (n ∈ suf.map tagOf)) := by
  intro suf
  induction suf with
  | nil => intro pre env _ hv; exact ⟨env, by simp [forLoop], by simpa using hv⟩
  | cons u r ih =>
    intro pre env hf hv
    have hv1 : Vars (assocSet env "i" (.py (.int (Int.ofNat pre.length)))) fs n false :=
      hv.set _ _ (by simp)
    have hitem : seqItem (embU (pre ++ u :: r)) (Int.ofNat pre.length) = some (.ancestor u) := by
      rw [seqItem_nat, embU, List.map_append, List.map_cons]
      simp
    simp only [List.length_cons, List.range'_succ, List.map_cons, forLoop, findBody,
      foundStep tagOf fuel hv1 _ hf _ u (lookup_assocSet_eq _ _ _) hitem, execL_nil, mem_names_cons]
    by_cases hu : tagOf u = n
    · simp only [hu, if_true]
      exact ⟨_, rfl, hv1.setFound true⟩
    · simp only [hu, if_false, hsame, if_true]
      have := ih (pre ++ [u]) _ (by rw [hf, List.append_assoc]; rfl) hv1
      rwa [List.length_append, List.length_singleton] at this

/-! ### the pop loop `while inTag[-1].tagName != tagName: inTag.pop()` -/

def topCond : Expr := .cmp .ne (.elemAttr (.index (.avar "inTag") (.const (.int (-1)))) "tagName") (.var "tagName")

def popBody : List Stmt := [.refCall "inTag" "pop" []]

/-- `inTag.pop()` on a non-empty list (innermost element `u`, the rest `r` innermost first) -/
theorem pop_run (cx : Ctx) (u : Nat) (r : List Nat) (fs : List (String × Field)) (env : Env)
    (hself : env.lookup "self" = some (.obj fs)) (hin : env.lookup "inTag" = some (.ref "self" "_inTag"))
    (hf : fs.lookup "_inTag" = some (.list (embU (u :: r).reverse))) :
    execS cx env (.refCall "inTag" "pop" [])
      = (assocSet env "self" (.obj (assocSet fs "_inTag" (.list (embU r.reverse)))), .next) := by
  have hd : (embU (r.reverse ++ [u])).dropLast = embU r.reverse := by
    rw [embU_append]; exact List.dropLast_concat
  have hne : (embU (r.reverse ++ [u])).isEmpty = false := by simp [embU]
  rw [List.reverse_cons] at hf
  simp [execS, evalList, hin, getField, hself, hf, mutCall_pop, hne, hd, putField]

/-- (`fuel` is the counter the loop runs on; `fuel0` only the field of the context, which nothing inside the loop reads: the
induction changes the one and not the other) -/
theorem popLoop_run (tagOf : Nat → Str) (n : Str) :
    ∀ (r : List Nat) (fuel fuel0 : Nat) (fs : List (String × Field)) (env : Env) (found : Bool),
    n ∈ r.map tagOf → r.length ≤ fuel →
    fs.lookup "_inTag" = some (.list (embU r.reverse)) →
    Vars env fs n found →
    ∃ env', whileLoop (fun env => eval (parserCx tagOf fuel0) env topCond)
          (fun env => execL (parserCx tagOf fuel0) env popBody) fuel env = (env', .next)
      ∧ Vars env' (assocSet fs "_inTag" (.list (embU (r.dropWhile (fun u => decide (tagOf u ≠ n))).reverse))) n found := by
  intro r
  induction r with
  | nil => intro _ _ _ _ _ hm; simp at hm
  | cons u r ih =>
    intro fuel fuel0 fs env found hm hfuel hf hv
    cases fuel with
    | zero => simp at hfuel
    | succ k =>
      have hitem : seqItem (embU (u :: r).reverse) (-1) = some (.ancestor u) := by
        rw [List.reverse_cons, embU_append]; exact seqItem_last _ _
      have hcond : eval (parserCx tagOf fuel0) env topCond = .ok (.py (.bool (!decide (tagOf u = n)))) :=
        (eval_itemIs tagOf fuel0 hv _ hf _ _ u (by rw [eval]; rfl) hitem).2
      rw [whileLoop, hcond]
      by_cases hu : tagOf u = n
      · simp only [hu, decide_true, Bool.not_true, Val.truthy, truthy, Bool.false_eq_true, if_false]
        refine ⟨env, rfl, ?_⟩
        have hdw : (u :: r).dropWhile (fun u => decide (tagOf u ≠ n)) = u :: r := by
          simp [List.dropWhile, hu]
        rw [hdw, assocSet_self _ _ _ hf]
        exact hv
      · simp only [hu, decide_false, Bool.not_false, Val.truthy, truthy, if_true]
        have hstep : execL (parserCx tagOf fuel0) env popBody
            = (assocSet env "self" (.obj (assocSet fs "_inTag" (.list (embU r.reverse)))), .next) := by
          simp only [popBody, execL, pop_run _ u r fs env hv.self hv.inTag hf]
        rw [hstep]
        have hm' : n ∈ r.map tagOf := by
          simp only [List.map_cons, List.mem_cons] at hm
          rcases hm with h | h
          · exact absurd h.symm hu
          · exact h
        have hv' : Vars (assocSet env "self" (.obj (assocSet fs "_inTag" (.list (embU r.reverse)))))
            (assocSet fs "_inTag" (.list (embU r.reverse))) n found :=
          ⟨lookup_assocSet_eq _ _ _, by simp [lookup_assocSet, hv.tag],
            by simp [lookup_assocSet, hv.inTag], by simp [lookup_assocSet, hv.found]⟩
        obtain ⟨env', h1, h2⟩ := ih k fuel0 (assocSet fs "_inTag" (.list (embU r.reverse))) _ found hm'
          (by simp at hfuel; omega) (lookup_assocSet_eq _ _ _) hv'
        refine ⟨env', h1, ?_⟩
        have hdw : (u :: r).dropWhile (fun u => decide (tagOf u ≠ n)) = r.dropWhile (fun u => decide (tagOf u ≠ n)) := by
          simp [List.dropWhile, hu]
        rw [hdw]
        rw [assocSet_assocSet] at h2
        exact h2

theorem dropWhile_head (tagOf : Nat → Str) (n : Str) (r : List Nat) (hm : n ∈ r.map tagOf) :
    ∃ u d, r.dropWhile (fun u => decide (tagOf u ≠ n)) = u :: d ∧ tagOf u = n := by
  induction r with
  | nil => simp at hm
  | cons a r ih =>
    by_cases ha : tagOf a = n
    · exact ⟨a, r, by simp [List.dropWhile, ha], ha⟩
    · simp only [List.map_cons, List.mem_cons] at hm
      rcases hm with h | h
      · exact absurd h.symm ha
      · obtain ⟨u, d, h1, h2⟩ := ih h
        refine ⟨u, d, ?_, h2⟩
        rw [List.dropWhile_cons]
        simp only [ne_eq, ha, not_false_eq_true, decide_true, if_true]
        exact h1

/-! ### the backwards search loop of the validating parser: `while i >= 0: if inTag[i].tagName == tagName: foundIt = True; break; i -= 1` -/

def backCond : Expr := .cmp .ge (.var "i") (.const (.int 0))

/-- the body of that loop, as dumped (`i -= 1` is dumped as `i = i - 1`) -/
def backBody : List Stmt :=
  [.ifS (.cmp .eq (.elemAttr (.index (.avar "inTag") (.var "i")) "tagName") (.var "tagName"))
     [.assign "foundIt" (.const (.bool true)), .brk] [],
   .assign "i" (.binop .sub (.var "i") (.const (.int 1)))]

/-- (the stack innermost first is `done ++ rest`; `i` is the index of the top of `rest` in the Python list; `fuel` / `fuel0` as in
`popLoop_run`) -/
theorem backLoop_run (tagOf : Nat → Str) (fuel0 : Nat) (n : Str) (fs : List (String × Field)) :
    ∀ (rest done : List Nat) (fuel : Nat) (env : Env),
    fs.lookup "_inTag" = some (.list (embU (done ++ rest).reverse)) →
    Vars env fs n false →
    env.lookup "i" = some (.py (.int (Int.ofNat rest.length - 1))) →
    rest.length < fuel →
    ∃ env', whileLoop (fun env => eval (parserCx tagOf fuel0) env backCond)
          (fun env => execL (parserCx tagOf fuel0) env backBody) fuel env = (env', .next)
      ∧ Vars env' fs n (decide (n ∈ rest.map tagOf)) ∧ ∃ k : Int, env'.lookup "i" = some (.py (.int k)) := by
  intro rest
  induction rest with
  | nil =>
    intro done fuel env _ hv hi hfuel
    cases fuel with
    | zero => simp at hfuel
    | succ k =>
      have hcond : eval (parserCx tagOf fuel0) env backCond = .ok (.py (.bool false)) := by
        simp only [backCond, eval, hi, Lit.toPy, pyCompare, compareB, pyOrd, numOf]
        simp
      rw [whileLoop, hcond]
      simp only [Val.truthy, truthy, Bool.false_eq_true, if_false]
      exact ⟨env, rfl, by simpa using hv, _, hi⟩
  | cons h t ih =>
    intro done fuel env hf hv hi hfuel
    cases fuel with
    | zero => simp at hfuel
    | succ k =>
      have hi0 : Int.ofNat (h :: t).length - 1 = Int.ofNat t.length := by
        simp only [List.length_cons, Int.ofNat_eq_natCast]; omega
      rw [hi0] at hi
      have hcond : eval (parserCx tagOf fuel0) env backCond = .ok (.py (.bool true)) := by
        simp only [backCond, eval, hi, Lit.toPy, pyCompare, compareB, pyOrd, numOf]
        simp
      have hitem : seqItem (embU (done ++ h :: t).reverse) (Int.ofNat t.length) = some (.ancestor h) := by
        rw [seqItem_nat, embU, List.reverse_append, List.reverse_cons, List.map_append, List.map_append, List.append_assoc]
        simp
      have hdec : eval (parserCx tagOf fuel0) env (.binop .sub (.var "i") (.const (.int 1)))
          = .ok (.py (.int (Int.ofNat t.length - 1))) := by
        simp only [eval, hi, Lit.toPy, pyBinop, numOf]
      rw [whileLoop, hcond]
      simp only [Val.truthy, truthy, if_true, backBody, foundStep tagOf fuel0 hv _ hf _ h hi hitem,
        execL_assign hdec, execL_nil, List.map_cons, mem_names_cons]
      by_cases hu : tagOf h = n
      · simp only [hu, if_true]
        exact ⟨_, rfl, hv.setFound true, _, by rw [lookup_assocSet_ne _ _ _ _ (by simp), hi]⟩
      · simp only [hu, if_false]
        exact ih (done ++ [h]) k _ (by rw [hf, List.append_assoc]; rfl) (hv.set _ _ (by simp))
          (lookup_assocSet_eq _ _ _) (by simp at hfuel; omega)

/-- `[x for x in l]` is a copy of the list -/
theorem collectPy_id (cx : Ctx) (env : Env) (l : List PyV) :
    collectPy (l.map (fun v => eval cx (assocSet env "x" (.py v)) (.var "x"))) = .ok l := by
  have hfun : (fun v => eval cx (assocSet env "x" (.py v)) (.var "x")) = (fun v => Except.ok (Val.py v)) := by
    funext v; simp only [eval, lookup_assocSet_eq]
  rw [hfun]
  induction l with
  | nil => rfl
  | cons a r ih => simp only [List.map_cons, collectPy, ih]

end AHP.PyAstParser
