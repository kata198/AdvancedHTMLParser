/-
  AHP.Model.Format — the four formatters of Formatter.py (`AdvancedHTMLFormatter`, `…MiniFormatter`,
  `…SlimTagFormatter`, `…SlimTagMiniFormatter`) and the slim element class `AdvancedTagSlim` as the code has them, as a function of
  the *token sequence* the stdlib tokenizer hands to the `handle_*` callbacks, plus the part of
  `Tags.py` they rely on (`AdvancedTag.__init__` attribute intake, `getStartTag`, `getEndTag`,
  `innerHTML`, `outerHTML` with the `_indent` prefix) and the plain parser's handlers (Parser.py) that
  C11 compares with.

  State as written: the open-element stack `_inTag` (frames; a frame keeps the blocks appended so far,
  newest first), `root`, `doctype`, `currentIndentLevel`, `inPreformatted` (Python ints: `Int`).
  The code attaches a child to its parent when it is *opened*; the frames attach it when it is closed
  (or, for still-open elements, in `rootOfStack`) — the same tree.
-/
import AHP.Model.Basic
import AHP.Gen.Tables
namespace AHP.Fmt
open AHP

/-! ### tables (generated from constants.py on every run) -/
def voidTags : List Str := Gen.voidTags.map String.toList
def preTags : List Str := Gen.preformattedTags.map String.toList
def preserveTags : List Str := Gen.preserveContentsTags.map String.toList
def wrapper : Str := Gen.invisibleRootTag.toList
def binaryAttrs : List Str := Gen.fmtBinaryAttrs.map String.toList
def binaryStringAttrs : List Str := Gen.fmtBinaryStringAttrs.map String.toList

def isVoid (n : Str) : Bool := voidTags.contains n
def isPre (n : Str) : Bool := preTags.contains n
def isPreserve (n : Str) : Bool := preserveTags.contains n

/-! ### Python string helpers -/

/-- `str.isspace()`: what `strip()`, `lstrip()`, `rstrip()` without argument remove. -/
def pyWs (c : Char) : Bool := isWs c

def rdropWhile (p : Char → Bool) (s : Str) : Str := (s.reverse.dropWhile p).reverse

def pyLstrip (s : Str) : Str := s.dropWhile pyWs
def pyRstrip (s : Str) : Str := rdropWhile pyWs s
def pyStrip (s : Str) : Str := pyRstrip (pyLstrip s)

def isCRLF (c : Char) : Bool := c = '\r' || c = '\n'
def tabToSpace (c : Char) : Char := if c = '\t' then ' ' else c

/-- `Formatter.handle_data`, the rewriting of a data piece outside preserved content:
    `data.replace('\t',' ').strip('\r\n')`, then a leading run of white space that starts with a space
    becomes one space, then a trailing run that ends with a space becomes one space. -/
def squeeze (s : Str) : Str :=
  let d := rdropWhile isCRLF ((s.map tabToSpace).dropWhile isCRLF)
  let d := if d.head? = some ' ' then ' ' :: pyLstrip d else d
  if d.getLast? = some ' ' then pyRstrip d ++ [' '] else d

/-- `indent * level` (a negative count gives the empty string). -/
def rep : Nat → Str → Str
  | 0, _ => []
  | n+1, s => s ++ rep n s

/-! ### attribute intake and rendering (`AdvancedTag.__init__`, `SpecialAttributesDict`, `getStartTag`) -/

def dictSet {α} (d : List (Str × α)) (k : Str) (v : α) : List (Str × α) :=
  if d.any (fun p => p.1 = k) then d.map (fun p => if p.1 = k then (k, v) else p) else d ++ [(k, v)]
def dictDel {α} (d : List (Str × α)) (k : Str) : List (Str × α) := d.filter (fun p => p.1 ≠ k)

def isAlpha (c : Char) : Bool := ('a' ≤ c && c ≤ 'z') || ('A' ≤ c && c ≤ 'Z')
def isAlnum (c : Char) : Bool := isAlpha c || ('0' ≤ c && c ≤ '9')

/-- `Tags.isValidAttributeName` (ASCII). -/
def validAttrName (s : Str) : Bool :=
  match s with
  | [] => false
  | c :: _ => (isAlpha c || c = '_') && s.all (fun x => isAlnum x || x = '-' || x = '_')

/-- `WORDS_ONLY_RE.sub(' ', …)`: runs of two or more spaces become one. -/
def collapseSpaces : Bool → Str → Str
  | _, [] => []
  | prev, c :: r =>
    if c = ' ' then (if prev then collapseSpaces true r else ' ' :: collapseSpaces true r)
    else c :: collapseSpaces false r

/-- `className = value`: `stripWordsOnly`, split on single spaces, empty names dropped. -/
def classNames (v : Str) : List Str :=
  (splitChar ' ' (collapseSpaces false (pyStrip v))).filter (fun w => !w.isEmpty)

/-- `StyleAttribute.styleToDict`. -/
def styleToDict (v : Str) : List (Str × Str) :=
  (splitChar ';' (pyStrip v)).foldl (fun d item =>
    if item.contains ':' then
      dictSet d (lower (pyStrip (item.takeWhile (· ≠ ':')))) (pyStrip ((item.dropWhile (· ≠ ':')).drop 1))
    else d) []

/-- `StyleAttribute._asStr`. -/
def styleStr (d : List (Str × Str)) : Str :=
  joinWith (str "; ") (d.map (fun p => p.1 ++ str ": " ++ p.2))

/-- `conversions.convertToBooleanString` on an attribute value (`None` = value-less). -/
def boolString (v : Option Str) : Str :=
  match v with
  | none => str "false"
  | some s => if lower s = str "false" || lower s = str "0" then str "false" else str "true"

/-- What the element keeps of its attributes: the dict (insertion ordered; the `style` key holds the
    style object, rendered from `style`), `_classNames`, the style map. -/
structure AStore where
  dict : List (Str × Option Str) := []
  classes : List Str := []
  style : List (Str × Str) := []
  deriving DecidableEq, Repr, Inhabited

inductive Err where
  | multipleRoot     -- MultipleRootNodeException
  | noRoot           -- ValueError of getHTML when nothing was parsed
  deriving DecidableEq, Repr

/-- One `myAttributes[key] = value` of `AdvancedTag.__init__` (`SpecialAttributesDict.__setitem__`). -/
def AStore.set (a : AStore) (key0 : Str) (value : Option Str) : AStore :=
  let key := lower key0
  if !validAttrName key then a
  else if key = str "style" then
    -- StyleAttribute(value, tag) (a value-less `style` is the empty style), copied once more by
    -- `tag.style = …` through its string form
    let sd := styleToDict (styleStr (styleToDict (value.getD [])))
    -- the style setter keeps the key present exactly while the style is non-empty (fix 32e1733)
    let d1 := if sd.isEmpty then dictDel a.dict key else dictSet a.dict key (some [])
    { a with dict := d1, style := sd }
  else if key = str "class" then
    -- no value means no class names (fix fc296cb)
    { a with classes := classNames (value.getD []) }
  else if binaryStringAttrs.contains key then
    { a with dict := dictSet a.dict key (some (boolString value)) }
  else { a with dict := dictSet a.dict key value }

def mkStore : List (Str × Option Str) → AStore → AStore
  | [], a => a
  | (k, v) :: r, a => mkStore r (a.set k v)

/-- `_attributes.items()` after `_handleClassAttr`. -/
def AStore.items (a : AStore) : List (Str × Option Str) :=
  let d1 := if a.classes.isEmpty then dictDel a.dict (str "class")
            else dictSet a.dict (str "class") (some (joinWith [' '] a.classes))
  if a.style.isEmpty then dictDel d1 (str "style") else dictSet d1 (str "style") (some (styleStr a.style))

def escapeQuotes (v : Str) : Str := v.flatMap (fun c => if c = '"' then str "&quot;" else [c])

def renderAttr (p : Str × Option Str) : Str :=
  match p.2 with
  | none => p.1
  | some v => if !v.isEmpty || !binaryAttrs.contains p.1 then p.1 ++ str "=\"" ++ escapeQuotes v ++ str "\"" else p.1

def attrString (a : AStore) : Str :=
  let l := a.items.map renderAttr
  if l.isEmpty then [] else ' ' :: joinWith [' '] l

/-! ### the tree and its serialisation -/

/-- The class of the element objects a formatter creates: `AdvancedTag` or `AdvancedTagSlim(slimSelfClosing)`. -/
inductive Kind where
  | normal
  | slim (ssc : Bool)
  deriving DecidableEq, Repr, Inhabited

/-- `verb` is a ghost flag (the code's blocks are plain `str` either way): `true` for the blocks written by
    `handle_entityref/charref/comment`, `false` for `handle_data` blocks.  No function of the model reads it;
    the theorems use it to say which blocks must survive verbatim. -/
inductive Node where
  | text (verb : Bool) (s : Str)
  | elem (kind : Kind) (name : Str) (st : AStore) (sc : Bool) (indent : Str) (kids : List Node)
  deriving Repr, Inhabited

def dropLast (n : Nat) (s : Str) : Str := s.take (s.length - n)
def endsWith (suf s : Str) : Bool := suf.isSuffixOf s

/-- `AdvancedTag.getStartTag`. -/
def startTagNormal (name : Str) (st : AStore) (sc : Bool) (indent : Str) : Str :=
  indent ++ '<' :: name ++ attrString st ++ (if sc then str " />" else str " >")

/-- `AdvancedTagSlim.getStartTag`: string surgery on the normal start tag. -/
def startTag (kind : Kind) (name : Str) (st : AStore) (sc : Bool) (indent : Str) : Str :=
  let ret := startTagNormal name st sc indent
  match kind with
  | .normal => ret
  | .slim ssc =>
    if endsWith (str " >") ret then dropLast 2 ret ++ str ">"
    else if ssc && endsWith (str " />") ret then dropLast 3 ret ++ str "/>"
    else ret

/-- `blocks[-1]` is a string that ends with the indent (`blocks` starts as `['']`). -/
def lastTextEndsWith (ind : Str) (kids : List Node) : Bool :=
  match kids.getLast? with
  | none => endsWith ind []
  | some (.text _ s) => endsWith ind s
  | some (.elem ..) => false

/-- `AdvancedTag.getEndTag`. -/
def endTag (name : Str) (sc : Bool) (indent : Str) (kids : List Node) : Str :=
  if sc then []
  else if !indent.isEmpty && isPre name then str "</" ++ name ++ str ">"
  else if !indent.isEmpty && isPreserve name && lastTextEndsWith indent kids then str "</" ++ name ++ str ">"
  else indent ++ str "</" ++ name ++ str ">"

mutual
/-- `outerHTML` (a text block is itself). -/
def outer : Node → Str
  | .text _ s => s
  | .elem k n st sc ind kids => startTag k n st sc ind ++ (if sc then [] else innerL kids) ++ endTag n sc ind kids
/-- `innerHTML` of a block list. -/
def innerL : List Node → Str
  | [] => []
  | x :: xs => outer x ++ innerL xs
end

/-! ### tokens -/

inductive Tok where
  | start (name : Str) (attrs : List (Str × Option Str))
  | startend (name : Str) (attrs : List (Str × Option Str))
  | end_ (name : Str)
  | data (s : Str)
  | entity (s : Str)
  | charref (s : Str)
  | comment (s : Str)
  | decl (s : Str)
  | unknownDecl (s : Str)
  | pi (s : Str)            -- no handler: ignored by every class here
  deriving Repr, Inhabited

/-! ### builder state shared by the formatter and the plain parser -/

/-- An open element (`_inTag` entry) with the blocks appended so far, newest first. -/
structure Frame where
  kind : Kind
  name : Str
  st : AStore
  indent : Str
  rev : List Node
  deriving Repr, Inhabited

structure St where
  stack : List Frame := []          -- head = `_inTag[-1]`
  closed : Option Node := none      -- the root once it is no longer open
  doctype : Option Str := none
  level : Int := 0                  -- currentIndentLevel
  inPre : Int := 0                  -- inPreformatted
  deriving Repr, Inhabited

def Frame.close (f : Frame) : Node := .elem f.kind f.name f.st false f.indent f.rev.reverse

/-- append a block to the innermost open element; with nothing open the block is the root -/
def attach (n : Node) (fs : List Frame) (closed : Option Node) : List Frame × Option Node :=
  match fs with
  | f :: r => ({ f with rev := n :: f.rev } :: r, closed)
  | [] => ([], some n)

/-- `self.root is None` -/
def St.noRoot (s : St) : Bool := s.stack.isEmpty && s.closed.isNone

/-- close the open elements from the innermost outwards; `n` is the already finished innermost one -/
def zipUp : Node → List Frame → Node
  | n, [] => n
  | n, f :: fs => zipUp (Frame.close { f with rev := n :: f.rev }) fs

/-- the tree `self.root` points to, still-open elements included (with something open the root is not closed) -/
def rootOfStack : List Frame → Option Node → Option Node
  | [], closed => closed
  | f :: fs, _ => some (zipUp f.close fs)

def St.root (s : St) : Option Node := rootOfStack s.stack s.closed

def truthy (d : Option Str) : Bool := match d with | some s => !s.isEmpty | none => false

/-- the doctype line of `getHTML` (`if self.doctype:` — an empty declaration prints nothing) -/
def doctypeLine (doctype : Option Str) : Str :=
  match doctype with
  | some d => if d.isEmpty then [] else str "<!" ++ d ++ str ">\n"
  | none => []

/-- `getHTML` of parser and formatter. -/
def docHTML (doctype : Option Str) (root : Option Node) : Except Err Str :=
  match root with
  | none => .error .noRoot
  | some r =>
    let dt := doctypeLine doctype
    match r with
    | .elem _ n _ sc _ kids => if n = wrapper then .ok (dt ++ (if sc then [] else innerL kids)) else .ok (dt ++ outer r)
    | .text _ s => .ok (dt ++ s)

/-! ### the formatter -/

structure Cfg where
  kind : Kind        -- which `handle_starttag` the class has (normal / slim with `self.slimSelfClosing`)
  indent : Str       -- `self.indent` after `__init__`
  mini : Bool        -- `_getIndent` overridden to return ''
  deriving Repr, Inhabited

/-- `_getIndent` -/
def getIndent (cfg : Cfg) (level : Int) : Str :=
  if cfg.mini then [] else '\n' :: rep level.toNat cfg.indent

/-- `AdvancedHTMLFormatter.handle_starttag` (normal element class). -/
def handleStart (cfg : Cfg) (s : St) (name0 : Str) (attrs : List (Str × Option Str)) (sc0 : Bool) : Except Err St :=
  let name := lower name0
  let sc := sc0 || isVoid name
  let st := mkStore attrs {}
  if !s.noRoot && s.stack.isEmpty then .error .multipleRoot
  else
      let indent := if s.inPre = 0 then getIndent cfg s.level else []
      if sc then
        let p := attach (.elem .normal name st true indent []) s.stack s.closed
        .ok { s with stack := p.1, closed := p.2 }
      else
        .ok { s with stack := ⟨.normal, name, st, indent, []⟩ :: s.stack,
                     level := if name ≠ wrapper then s.level + 1 else s.level,
                     inPre := if isPre name then s.inPre + 1 else s.inPre }

/-- `handle_starttag_slim`: the same body written a second time, creating `AdvancedTagSlim`. -/
def handleStartSlim (cfg : Cfg) (ssc : Bool) (s : St) (name0 : Str) (attrs : List (Str × Option Str)) (sc0 : Bool) : Except Err St :=
  let name := lower name0
  let sc := sc0 || isVoid name
  let st := mkStore attrs {}
  if !s.noRoot && s.stack.isEmpty then .error .multipleRoot
  else
      let indent := if s.inPre = 0 then getIndent cfg s.level else []
      if sc then
        let p := attach (.elem (.slim ssc) name st true indent []) s.stack s.closed
        .ok { s with stack := p.1, closed := p.2 }
      else
        .ok { s with stack := ⟨.slim ssc, name, st, indent, []⟩ :: s.stack,
                     level := if name ≠ wrapper then s.level + 1 else s.level,
                     inPre := if isPre name then s.inPre + 1 else s.inPre }

def startHandler (cfg : Cfg) : St → Str → List (Str × Option Str) → Bool → Except Err St :=
  match cfg.kind with
  | .normal => handleStart cfg
  | .slim ssc => handleStartSlim cfg ssc

/-- one turn of `while inTag[-1].tagName != tagName:` — pop an element closed implicitly -/
def popImplicit (s : St) : St :=
  match s.stack with
  | [] => s
  | f :: fs =>
    let p := attach f.close fs s.closed
    { s with stack := p.1, closed := p.2,
             inPre := if isPre f.name then s.inPre - 1 else s.inPre,
             level := s.level - 1 }

def endLoop (name : Str) : Nat → St → St
  | 0, s => s
  | n+1, s =>
    match s.stack with
    | [] => s
    | f :: _ => if f.name ≠ name then endLoop name n (popImplicit s) else s

/-- the final `inTag.pop()` of `handle_endtag` with its bookkeeping (`name` is the tag name of the end tag) -/
def popExplicit (name : Str) (s : St) : St :=
  match s.stack with
  | [] => s
  | f :: fs =>
    let p := attach f.close fs s.closed
    { s with stack := p.1, closed := p.2,
             level := if name ≠ wrapper then s.level - 1 else s.level,
             inPre := if isPre name then s.inPre - 1 else s.inPre }

/-- `handle_endtag` -/
def handleEnd (s : St) (name : Str) : St :=
  if !s.stack.any (fun f => f.name = name) then s
  else popExplicit name (endLoop name s.stack.length s)

def appendText (s : St) (verb : Bool) (t : Str) : St :=
  match s.stack with
  | f :: r => { s with stack := { f with rev := .text verb t :: f.rev } :: r }
  | [] => s

/-- `handle_data` -/
def handleData (s : St) (d : Str) : Except Err St :=
  if d.isEmpty then .ok s
  else match s.stack with
    | f :: _ =>
      let d' := if s.inPre = 0 && !isPreserve f.name then squeeze d else d
      .ok (appendText s false d')
    | [] => if (pyStrip d).isEmpty then .ok s else .error .multipleRoot

/-- `handle_entityref`, `handle_charref`, `handle_comment` -/
def handleVerbatim (s : St) (t : Str) : Except Err St :=
  if s.stack.isEmpty then .error .multipleRoot else .ok (appendText s true t)

def step (cfg : Cfg) (s : St) : Tok → Except Err St
  | .start n a => startHandler cfg s n a false
  | .startend n a => startHandler cfg s n a true
  | .end_ n => .ok (handleEnd s n)
  | .data d => handleData s d
  | .entity e => handleVerbatim s ('&' :: e ++ [';'])
  | .charref c => handleVerbatim s ('&' :: '#' :: c ++ [';'])
  | .comment c => handleVerbatim s (str "<!--" ++ c ++ str "-->")
  | .decl d => .ok { s with doctype := some d }
  | .unknownDecl d => .ok (if truthy s.doctype then s else { s with doctype := some d })
  | .pi _ => .ok s

def run (cfg : Cfg) : List Tok → St → Except Err St
  | [], s => .ok s
  | t :: ts, s => match step cfg s t with
    | .ok s' => run cfg ts s'
    | .error e => .error e

/-! ### the second pass inside the invisible wrapper (`feed`, `utils.addStartTag`, `DOCTYPE_MATCH`) -/

/-- `[\n]*[ \t]*` matches the whole string -/
def doctypeLead (s : Str) : Bool := (s.dropWhile (· = '\n')).all (fun c => c = ' ' || c = '\t')
def isDoctype (d : Str) : Bool := lower (d.take 7) = str "doctype"

/-- token image of `addStartTag(contents, '<xxxblank>') + '</xxxblank>'` -/
def wrapToks (toks : List Tok) : List Tok :=
  let ws := Tok.start wrapper []
  let we := Tok.end_ wrapper
  match toks with
  | .decl d :: rest => if isDoctype d then .decl d :: ws :: rest ++ [we] else ws :: toks ++ [we]
  | .data s :: .decl d :: rest =>
    if doctypeLead s && isDoctype d then .data s :: .decl d :: ws :: rest ++ [we] else ws :: toks ++ [we]
  | _ => ws :: toks ++ [we]

/-- `feed`: first pass; on `MultipleRootNodeException` reset and parse again inside the wrapper. -/
def feed (cfg : Cfg) (toks : List Tok) : Except Err St :=
  match run cfg toks {} with
  | .error .multipleRoot => run cfg (wrapToks toks) {}
  | r => r

/-- formatter `parseStr` + `getHTML` -/
def format (cfg : Cfg) (toks : List Tok) : Except Err Str :=
  match feed cfg toks with
  | .ok s => docHTML s.doctype s.root
  | .error e => .error e

/-! ### the formatter object across calls: `_reset`, `feed` on a used object, `parseStr` (C03)

Additions for C03; nothing above changes. -/

/-- `AdvancedHTMLFormatter._reset`, field by field: `currentIndentLevel = 0; _inTag = []; root = None;
    doctype = None; inPreformatted = 0` (`parsedData` is never read; the tokenizer's own reset is outside the
    model).  `root = None` clears both places the model keeps the root in. -/
def St.reset (s : St) : St := { s with level := 0, stack := [], closed := none, doctype := none, inPre := 0 }

/-- One pass that also says in which state the object is LEFT: the raising handlers raise before they assign
    anything, so after an exception the object is in the state it had before the offending token. -/
def runS (cfg : Cfg) : List Tok → St → St × Option Err
  | [], s => (s, none)
  | t :: ts, s => match step cfg s t with
    | .ok s' => runS cfg ts s'
    | .error e => (s, some e)

/-- `feed` on the object as it is (no reset): the pass; on MultipleRootNodeException `self.reset()` and the
    wrapped text. -/
def feedS (cfg : Cfg) (s : St) (toks : List Tok) : St × Option Err :=
  match runS cfg toks s with
  | (s1, some .multipleRoot) => runS cfg (wrapToks toks) s1.reset
  | r => r

/-- `parseStr` / `parseFile`: `self.reset()`, then `feed`. -/
def parseStrS (cfg : Cfg) (s : St) (toks : List Tok) : St × Option Err := feedS cfg s.reset toks

/-! ### the plain parser's handlers (Parser.py) — the tree C11 compares the formatter's tree with -/
namespace Plain

def handleStart (s : St) (name0 : Str) (attrs : List (Str × Option Str)) (sc0 : Bool) : Except Err St :=
  let name := lower name0
  let sc := sc0 || isVoid name
  let st := mkStore attrs {}
  if !s.noRoot && s.stack.isEmpty then .error .multipleRoot
  else if sc then
    let p := attach (.elem .normal name st true [] []) s.stack s.closed
    .ok { s with stack := p.1, closed := p.2 }
  else .ok { s with stack := ⟨.normal, name, st, [], []⟩ :: s.stack }

def pop (s : St) : St :=
  match s.stack with
  | [] => s
  | f :: fs => let p := attach f.close fs s.closed; { s with stack := p.1, closed := p.2 }

def endLoop (name : Str) : Nat → St → St
  | 0, s => s
  | n+1, s =>
    match s.stack with
    | [] => s
    | f :: _ => if f.name ≠ name then endLoop name n (pop s) else s

def handleEnd (s : St) (name : Str) : St :=
  if !s.stack.any (fun f => f.name = name) then s
  else pop (endLoop name s.stack.length s)

def handleData (s : St) (d : Str) : Except Err St :=
  if d.isEmpty then .ok s
  else match s.stack with
    | _ :: _ => .ok (appendText s false d)
    | [] => if (pyStrip d).isEmpty then .ok s else .error .multipleRoot

def step (s : St) : Tok → Except Err St
  | .start n a => handleStart s n a false
  | .startend n a => handleStart s n a true
  | .end_ n => .ok (handleEnd s n)
  | .data d => handleData s d
  | .entity e => handleVerbatim s ('&' :: e ++ [';'])
  | .charref c => handleVerbatim s ('&' :: '#' :: c ++ [';'])
  | .comment c => handleVerbatim s (str "<!--" ++ c ++ str "-->")
  | .decl d => .ok { s with doctype := some d }
  | .unknownDecl d => .ok (if truthy s.doctype then s else { s with doctype := some d })
  | .pi _ => .ok s

def run : List Tok → St → Except Err St
  | [], s => .ok s
  | t :: ts, s => match step s t with
    | .ok s' => run ts s'
    | .error e => .error e

def feed (toks : List Tok) : Except Err St :=
  match run toks {} with
  | .error .multipleRoot => run (wrapToks toks) {}
  | r => r

/-- `AdvancedHTMLParser.parseStr` + `getHTML` -/
def html (toks : List Tok) : Except Err Str :=
  match feed toks with
  | .ok s => docHTML s.doctype s.root
  | .error e => .error e

end Plain

/-! ### the four classes and their constructor arguments -/

inductive IndentArg where
  | dflt                 -- argument omitted
  | str (s : Str)
  | int (i : Int)
  deriving Repr, Inhabited

/-- `__init__`: an integer means that many spaces -/
def indentOf (dflt : Str) : IndentArg → Str
  | .dflt => dflt
  | .str s => s
  | .int i => List.replicate i.toNat ' '

inductive Class where
  | pretty | mini | slim | slimMini
  deriving DecidableEq, Repr, Inhabited

/-- the configuration an instance of each class ends up with -/
def mkCfg (c : Class) (ind : IndentArg) (ssc : Bool) : Cfg :=
  match c with
  | .pretty => ⟨.normal, indentOf (str "  ") ind, false⟩
  | .mini => ⟨.normal, [], true⟩
  | .slim => ⟨.slim ssc, indentOf (str "    ") ind, false⟩
  | .slimMini => ⟨.slim ssc, [], true⟩

end AHP.Fmt
