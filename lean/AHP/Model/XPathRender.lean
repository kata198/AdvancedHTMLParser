/-
  AHP.Model.XPathRender — the *surface syntax* of XPath expressions (what is written: number literals are
  digit strings, tag names may be in upper case) and a renderer to text, parametric in the *layout*
  (`Style`: optional white space at every site the regular expressions allow it, letter case of the words,
  quote of string literals); the inverse direction of AHP.Model.XPathParse.  Imports Model files only, so that the driver can run `parseExpr (renderExpr e)` next to the
  library.

  `S N` is `P N` (AHP.Model.XPathSpec) with literals as written: `num l x` is the numeral `l` together with
  the number it denotes (`S.wf` demands `nm.parse l.text = some x`, i.e. `float(text) = x`).
-/
import AHP.Model.XPathSpec
import AHP.Model.XPathParse
namespace AHP.XPath

/-- `'0'`…`'9'` -/
def digitChar (d : Fin 10) : Char := Char.ofNat (48 + d.val)

/-- A number literal as `BEV_SV_NUMBER_RE` reads it: `digits`, or `[-]digits.digits` (the integer part may
    be empty when a fraction follows; a sign is only read together with a fraction). -/
structure NumLit where
  neg : Bool
  ip : List (Fin 10)
  fp : Option (List (Fin 10))
  deriving Repr, Inhabited

def NumLit.text (l : NumLit) : Str :=
  (if l.neg then ['-'] else []) ++ l.ip.map digitChar ++
    (match l.fp with
     | some f => '.' :: f.map digitChar
     | none => [])

def NumLit.wf (l : NumLit) : Bool :=
  match l.fp with
  | some f => !f.isEmpty
  | none => !l.ip.isEmpty && !l.neg

/-- Surface syntax of a predicate. -/
inductive S (N : Type) where
  | num (l : NumLit) (x : N)
  | str (s : Str)
  | attr (name : Str)
  | text
  | last
  | position
  | concat (args : List (S N))
  | contains (a b : S N)
  | nspace0
  | nspace1 (a : S N)
  | group (p : S N)
  | bin (o : Op) (l r : S N)
  deriving Inhabited

mutual
/-- The abstract syntax tree of a surface tree. -/
def S.toP {N : Type} : S N → P N
  | .num _ x => .lit (.num x)
  | .str s => .lit (.str s)
  | .attr n => .attr n
  | .text => .text
  | .last => .last
  | .position => .position
  | .concat args => .concat (S.toPs args)
  | .contains a b => .contains a.toP b.toP
  | .nspace0 => .nspace0
  | .nspace1 a => .nspace1 a.toP
  | .group p => .group p.toP
  | .bin o l r => .bin o l.toP r.toP
def S.toPs {N : Type} : List (S N) → List (P N)
  | [] => []
  | p :: ps => p.toP :: S.toPs ps
end

/-! ### Layout: everything the regular expressions leave to the writer -/

/-- The places where `[ \t]*` (or `[ \t]+`) may be written. -/
inductive Site
  | opL | opR            -- before / after a binary operator
  | fnName               -- between a function name and its `(`
  | open | close         -- after the `(` / before the `)` of a group or a call (`open` also inside an empty `( )`)
  | commaL | commaR      -- before / after the comma that follows an argument
  | start | stop         -- before the first lead-in / after the last step
  | lead                 -- after a lead-in
  | brL | brIn | brOut   -- before `[`, after `[`, before `]`
  | stepEnd              -- after a step that is followed by another one
  deriving DecidableEq, Repr

/-- A layout: for every node of the expression (addressed by its path: child indices, innermost first)
    the white space at each of its sites, the spelling of its word (function name, word operator, axis)
    and the quote of its string literal.  Every `Style` is admissible: of the white space only the spaces
    and tabs are used, a spelling that is not a case variant of the word is replaced by the word, a
    mandatory separator that is missing is written as one space, a quote that occurs in the string is
    not used. -/
structure Style where
  ws : Site → List Nat → Str
  word : List Nat → Str → Str
  single : List Nat → Bool

/-- `[ \t]*` at a site -/
def Style.sp (st : Style) (k : Site) (π : List Nat) : Str := (st.ws k π).filter isSpTab

/-- `[wW][oO][rR][dD]`: a spelling of the word, every letter in either case -/
def Style.spell (st : Style) (π : List Nat) (w : Str) : Str :=
  if (st.word π w).map lowerChar = w then st.word π w else w

/-- `[ \t]+` where the grammar needs a separator -/
def sepOf (need : Bool) (w : Str) : Str := if need && w.isEmpty then [' '] else w

/-- One space on either side of binary operators and after commas, lower-case words, `"` preferred. -/
def Style.canon : Style where
  ws := fun k _ => match k with
    | .opL => [' ']
    | .opR => [' ']
    | .commaR => [' ']
    | _ => []
  word := fun _ w => w
  single := fun _ => false

/-- The quote a string literal is written with: the one the string does not contain; the preferred one
    when it contains neither. -/
def quoteWith (single : Bool) (s : Str) : Char :=
  if s.contains '"' then '\'' else if s.contains '\'' then '"' else if single then '\'' else '"'

/-- A string that can be written as a literal at all: it does not contain both kinds of quote, does
    not end in a backslash (the tokenizer would read `\"` as an escaped quote) and has no line feed
    (`.+` of the group / function expressions does not cross one).  The value is taken verbatim: there
    is no unescaping in `BodyElementValue_StaticValue_String`. -/
def strOk (s : Str) : Bool :=
  !(s.contains '"' && s.contains '\'') && !s.contains '\n' && s.getLast? != some '\\'

/-- `[*]|[a-zA-Z_][a-zA-Z0-9_\-]*` -/
def attrNameOk : Str → Bool
  | [] => false
  | c :: r => (c = '*' && r.isEmpty) || (isNameStart c && r.all isAttrChar)

/-- `[\*]|[a-zA-Z_][a-zA-Z0-9_]*` -/
def tagNameOk : Str → Bool
  | [] => false
  | c :: r => (c = '*' && r.isEmpty) || (isNameStart c && r.all isNameChar)

mutual
/-- What can be written: numerals that denote their number, writable strings, names of the right shape,
    `concat` with at least two arguments.  (Operator precedence is *not* a condition here: the
    tokenizer delivers the in-order list of any tree; `P.wf` matters for evaluation only.) -/
def S.wf {N : Type} (nm : Num N) : S N → Prop
  | .num l x => l.wf = true ∧ nm.parse l.text = some x
  | .str s => strOk s = true
  | .attr n => attrNameOk n = true
  | .concat args => 2 ≤ args.length ∧ S.wfs nm args
  | .contains a b => S.wf nm a ∧ S.wf nm b
  | .nspace1 a => S.wf nm a
  | .group p => S.wf nm p
  | .bin _ l r => S.wf nm l ∧ S.wf nm r
  | _ => True
def S.wfs {N : Type} (nm : Num N) : List (S N) → Prop
  | [] => True
  | p :: ps => S.wf nm p ∧ S.wfs nm ps
end

def opText : Op → Str
  | .arith .concat => ['|', '|']
  | .arith .add => ['+']
  | .arith .sub => ['-']
  | .arith .mul => ['*']
  | .arith .div => ['d', 'i', 'v']
  | .arith .mod => ['m', 'o', 'd']
  | .cmp .eq => ['=']
  | .cmp .ne => ['!', '=']
  | .cmp .lt => ['<']
  | .cmp .le => ['<', '=']
  | .cmp .gt => ['>']
  | .cmp .ge => ['>', '=']
  | .bool .and => ['a', 'n', 'd']
  | .bool .or => ['o', 'r']

/-- Operators that need white space in front: the words (`@n div` would read `ndiv` as part of the
    name only without it) and `-` (`@n-1` is the attribute `n-1`). -/
def needL : Op → Bool
  | .arith .sub => true
  | .arith .div => true
  | .arith .mod => true
  | .bool _ => true
  | _ => false

/-- Operators that need white space behind: `and` / `or` (`[ \t]+` in their expressions) and `-`
    (`1 -.5` would read `-.5` as a literal). -/
def needR : Op → Bool
  | .arith .sub => true
  | .bool _ => true
  | _ => false

/-- the operators that are words (spelled in either letter case); the others are written as they are -/
def isWordOp : Op → Bool
  | .arith .div => true
  | .arith .mod => true
  | .bool _ => true
  | _ => false

/-- an operator as written -/
def Style.spellOp (st : Style) (π : List Nat) (o : Op) : Str :=
  if isWordOp o then st.spell π (opText o) else opText o

def wText : Str := ['t', 'e', 'x', 't']
def wLast : Str := ['l', 'a', 's', 't']
def wPosition : Str := ['p', 'o', 's', 'i', 't', 'i', 'o', 'n']
def wConcat : Str := ['c', 'o', 'n', 'c', 'a', 't']
def wContains : Str := ['c', 'o', 'n', 't', 'a', 'i', 'n', 's']
def wNspace : Str := ['n', 'o', 'r', 'm', 'a', 'l', 'i', 'z', 'e', '-', 's', 'p', 'a', 'c', 'e']

mutual
/-- Text of a predicate in a given layout.  `π` = the path of the node. -/
def renderS {N : Type} (st : Style) : List Nat → S N → Str
  | _, .num l _ => l.text
  | π, .str s => quoteWith (st.single π) s :: (s ++ [quoteWith (st.single π) s])
  | _, .attr n => '@' :: n
  | π, .text => st.spell π wText ++ (st.sp .fnName π ++ ('(' :: (st.sp .open π ++ [')'])))
  | π, .last => st.spell π wLast ++ (st.sp .fnName π ++ ('(' :: (st.sp .open π ++ [')'])))
  | π, .position => st.spell π wPosition ++ (st.sp .fnName π ++ ('(' :: (st.sp .open π ++ [')'])))
  | π, .nspace0 => st.spell π wNspace ++ (st.sp .fnName π ++ ('(' :: (st.sp .open π ++ [')'])))
  | π, .concat args =>
    st.spell π wConcat ++ (st.sp .fnName π ++ ('(' :: (st.sp .open π ++ (renderArgs st π 0 args ++ (st.sp .close π ++ [')'])))))
  | π, .contains a b =>
    st.spell π wContains ++ (st.sp .fnName π ++ ('(' :: (st.sp .open π ++
      ((renderS st (0 :: π) a ++ (st.sp .commaL (0 :: π) ++ (',' :: (st.sp .commaR (0 :: π) ++ renderS st (1 :: π) b))))
        ++ (st.sp .close π ++ [')'])))))
  | π, .nspace1 a =>
    st.spell π wNspace ++ (st.sp .fnName π ++ ('(' :: (st.sp .open π ++ (renderS st (0 :: π) a ++ (st.sp .close π ++ [')'])))))
  | π, .group p => '(' :: (st.sp .open π ++ (renderS st (0 :: π) p ++ (st.sp .close π ++ [')'])))
  | π, .bin o l r =>
    renderS st (0 :: π) l ++ (sepOf (needL o) (st.sp .opL π) ++ (st.spellOp π o ++
      (sepOf (needR o) (st.sp .opR π) ++ renderS st (1 :: π) r)))
/-- the arguments of a call from the `k`-th on, with their commas -/
def renderArgs {N : Type} (st : Style) (π : List Nat) : Nat → List (S N) → Str
  | _, [] => []
  | k, p :: ps =>
    renderS st (k :: π) p ++
      (if ps.isEmpty then [] else st.sp .commaL (k :: π) ++ (',' :: (st.sp .commaR (k :: π) ++ renderArgs st π (k + 1) ps)))
end

/-! ### Steps -/

/-- A step as written (the tag name in any letter case). -/
structure SurfStep (N : Type) where
  dbl : Bool
  axis : Option Axis
  name : Str
  preds : List (S N)

/-- The abstract step: the name test is lower-cased. -/
def SurfStep.toSStep {N : Type} (s : SurfStep N) : SStep N :=
  { dbl := s.dbl, axis := s.axis, name := lower s.name, preds := S.toPs s.preds }

def SurfStep.wf {N : Type} (nm : Num N) (s : SurfStep N) : Prop :=
  tagNameOk s.name = true ∧ S.wfs nm s.preds

def axisWord : Axis → Str
  | .child => ['c', 'h', 'i', 'l', 'd']
  | .descendant => ['d', 'e', 's', 'c', 'e', 'n', 'd', 'a', 'n', 't']
  | .descendantOrSelf => ['d', 'e', 's', 'c', 'e', 'n', 'd', 'a', 'n', 't', '-', 'o', 'r', '-', 's', 'e', 'l', 'f']
  | .parent => ['p', 'a', 'r', 'e', 'n', 't']
  | .ancestor => ['a', 'n', 'c', 'e', 's', 't', 'o', 'r']
  | .ancestorOrSelf => ['a', 'n', 'c', 'e', 's', 't', 'o', 'r', '-', 'o', 'r', '-', 's', 'e', 'l', 'f']

/-- `axis::` in the spelling of the layout, or nothing -/
def axisPrefix (st : Style) (π : List Nat) : Option Axis → Str
  | some a => st.spell π (axisWord a) ++ [':', ':']
  | none => []

/-- the predicates of step `i` from the `j`-th on -/
def renderPreds {N : Type} (st : Style) (i : Nat) : Nat → List (S N) → Str
  | _, [] => []
  | j, p :: ps =>
    st.sp .brL [j, i] ++ ('[' :: (st.sp .brIn [j, i] ++ (renderS st [j, i] p ++ (st.sp .brOut [j, i] ++ (']' :: renderPreds st i (j + 1) ps)))))

def renderStep {N : Type} (st : Style) (i : Nat) (s : SurfStep N) : Str :=
  (if s.dbl then ['/', '/'] else ['/']) ++
    (st.sp .lead [i] ++ (axisPrefix st [i] s.axis ++ (s.name ++ renderPreds st i 0 s.preds)))

/-- the steps from the `i`-th on -/
def renderSteps {N : Type} (st : Style) : Nat → List (SurfStep N) → Str
  | _, [] => []
  | i, s :: ss => renderStep st i s ++ (if ss.isEmpty then [] else st.sp .stepEnd [i] ++ renderSteps st (i + 1) ss)

/-- Text of an expression in a given layout. -/
def renderExpr {N : Type} (st : Style) (ss : List (SurfStep N)) : Str :=
  st.sp .start [] ++ (renderSteps st 0 ss ++ st.sp .stop [])

end AHP.XPath
