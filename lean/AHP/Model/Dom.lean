/-
  AHP.Model.Dom — the bookkeeping model of the mutable DOM (`Tags.py`; DESIGN §5 C04, "What is modelled").

  An element keeps *redundant* state in the library: `blocks` (text and elements, in order), `children`
  (elements only), `text` (cached concatenation of the text blocks), `parentNode`, `ownerDocument`,
  `isSelfClosing`.  Every mutator below updates those fields one by one, as the Python code does.

  Object references become containment: an element block *is* the subtree.  A world is the list of
  all trees that are not contained in another one (document roots and detached elements).  This is
  sound exactly on forest-shaped object graphs — the precondition C04 states ("an element passed to
  an append/insert call is currently detached") plus the invariant that C04 proves; the
  correspondence adapter checks forest shape when it maps the Python object graph into a world.
  Walks that the code does through the `children` references of a child object
  (`getAllChildNodes`, `containsUid`) are walks through the element blocks here.

  Element identity is a `Nat` allocated in creation order; documents (parsers) are `Nat`s as well.
-/
import AHP.Model.Basic
import AHP.Gen.Tables
namespace AHP.Dom

/-- The scalar fields of an `AdvancedTag` (everything except `blocks`). -/
structure Meta where
  id : Nat
  name : Str
  attrs : List (Str × Option Str)
  sc : Bool                   -- isSelfClosing
  children : List Nat         -- `children`, as uids
  text : Str                  -- `text`
  parent : Option Nat         -- `parentNode`
  owner : Option Nat          -- `ownerDocument`
  deriving Repr, Inhabited, DecidableEq

/-- A block: a text node or an element with its blocks. -/
inductive DN where
  | text (s : Str)
  | el (m : Meta) (blocks : List DN)
  deriving Repr, Inhabited

/-- The ids of the element entries of a block list, in order (`tagBlocks`). -/
def elemIds : List DN → List Nat
  | [] => []
  | .text _ :: bs => elemIds bs
  | .el m _ :: bs => m.id :: elemIds bs

/-- `''.join(text blocks)`. -/
def textOf : List DN → Str
  | [] => []
  | .text s :: bs => s ++ textOf bs
  | .el _ _ :: bs => textOf bs

def DN.isEl : DN → Bool
  | .text _ => false
  | .el _ _ => true

/-- uid of an element block (0 for text; only used on elements). -/
def DN.rid : DN → Nat
  | .text _ => 0
  | .el m _ => m.id

def rootId : DN → Option Nat
  | .text _ => none
  | .el m _ => some m.id

mutual
/-- all element ids of a tree, pre-order -/
def ids : DN → List Nat
  | .text _ => []
  | .el m bs => m.id :: idsL bs
def idsL : List DN → List Nat
  | [] => []
  | b :: bs => ids b ++ idsL bs
end

mutual
/-- `x.ownerDocument = o` for the element and everything `getAllChildNodes()` reaches. -/
def reown (o : Option Nat) : DN → DN
  | .text x => .text x
  | .el m bs => .el { m with owner := o } (reownL o bs)
def reownL (o : Option Nat) : List DN → List DN
  | [] => []
  | b :: bs => reown o b :: reownL o bs
end

/-- `child.parentNode = p` -/
def setParent (p : Option Nat) : DN → DN
  | .text x => .text x
  | .el m bs => .el { m with parent := p } bs

mutual
/-- the element with uid `t` (first in pre-order): its fields and blocks -/
def find? (t : Nat) : DN → Option (Meta × List DN)
  | .text _ => none
  | .el m bs => if m.id = t then some (m, bs) else findL? t bs
def findL? (t : Nat) : List DN → Option (Meta × List DN)
  | [] => none
  | b :: bs => match find? t b with
    | some r => some r
    | none => findL? t bs
end

/-- The effect of one call on the element it is invoked on: new fields, new blocks, and the subtrees
    that left the element (they become roots of the world). -/
structure Edit where
  m : Meta
  blocks : List DN
  out : List DN
  deriving Inhabited

mutual
/-- apply a local edit at the element with uid `t`; returns the new tree and the subtrees taken out -/
def upd (t : Nat) (f : Meta → List DN → Edit) : DN → DN × List DN
  | .text s => (.text s, [])
  | .el m bs =>
    if m.id = t then (.el (f m bs).m (f m bs).blocks, (f m bs).out)
    else (.el m (updL t f bs).1, (updL t f bs).2)
def updL (t : Nat) (f : Meta → List DN → Edit) : List DN → List DN × List DN
  | [] => ([], [])
  | b :: bs => ((upd t f b).1 :: (updL t f bs).1, (upd t f b).2 ++ (updL t f bs).2)
end

/-! ### Python string helpers used by `removeText` -/

/-- `p in s` -/
def isInfix (p : Str) : Str → Bool
  | [] => p.isEmpty
  | c :: cs => p.isPrefixOf (c :: cs) || isInfix p cs

def removeAllGo (p : Str) : Nat → Str → Str
  | 0, s => s
  | _, [] => []
  | fuel+1, c :: cs =>
    if p.isPrefixOf (c :: cs) then removeAllGo p fuel ((c :: cs).drop p.length)
    else c :: removeAllGo p fuel cs

/-- `s.replace(p, '')`: all non-overlapping occurrences, left to right (`''` removes nothing). -/
def removeAll (p s : Str) : Str :=
  if p.isEmpty then s else removeAllGo p (s.length + 1) s

/-! ### Values handed to and returned by the calls -/

/-- A block argument: a string, or a reference to an existing element. -/
inductive Blk where
  | txt (s : Str)
  | elm (id : Nat)
  deriving Repr, Inhabited, DecidableEq

/-- Python `==` between a reference argument and an entry of `blocks`
    (`str.__eq__`; `AdvancedTag.__eq__` compares uids; mixed types are unequal). -/
def blockEq : Blk → DN → Bool
  | .txt s, .text x => s == x
  | .elm c, .el m _ => m.id == c
  | _, _ => false

/-- `blocks.index(ref)`; `none` = ValueError -/
def indexOf (r : Blk) : List DN → Option Nat
  | [] => none
  | b :: bs => if blockEq r b then some 0 else (indexOf r bs).map (· + 1)

/-- Python values returned by the calls. `raise k` = the call raised exception `k`. -/
inductive Val where
  | none
  | bool (b : Bool)
  | nat (n : Nat)
  | el (id : Nat)
  | str (s : Str)
  | list (vs : List Val)
  | raise (k : String)
  deriving Repr, Inhabited

def blkVal : Blk → Val
  | .txt s => .str s
  | .elm c => .el c

def dnVal : DN → Val
  | .text s => .str s
  | .el m _ => .el m.id

/-! ### The local effect of each mutator on `(fields, blocks)` of the element it is called on -/

/-- `appendText`: `self.text += text; self.isSelfClosing = False; self.blocks.append(text)` -/
def locAppendText (s : Str) (m : Meta) (bs : List DN) : Edit :=
  ⟨{ m with text := m.text ++ s, sc := false }, bs ++ [.text s], []⟩

/-- the accounting done on an element that is being put under `m`:
    `child.parentNode = self`; `ownerDocument` of the child and of all its descendants. -/
def attach (m : Meta) (c : DN) : DN := reown m.owner (setParent (some m.id) c)

/-- `appendChild(child)` with `child` the detached tree `c`. -/
def locAppendChild (c : DN) (m : Meta) (bs : List DN) : Edit :=
  ⟨{ m with sc := false, children := m.children ++ [c.rid] }, bs ++ [attach m c], []⟩

/-- `blocks.remove(child)`: the first block equal to the element `c` -/
def removeFirstEl (c : Nat) : List DN → Option (DN × List DN)
  | [] => none
  | .text s :: bs => (removeFirstEl c bs).map (fun r => (r.1, .text s :: r.2))
  | .el m k :: bs =>
    if m.id = c then some (.el m k, bs)
    else (removeFirstEl c bs).map (fun r => (r.1, .el m k :: r.2))

/-- `removeChild(child)`: `children.remove`, `blocks.remove`, clear `parentNode`, clear
    `ownerDocument` below.  `none` = nothing was touched (the call returns None).  If the child is
    listed in `children` but is not a block, `children` has already been edited when `blocks.remove`
    raises: the partial effect is kept, as in the code. -/
def locRemoveChild (c : Nat) (m : Meta) (bs : List DN) : Option Edit × Val :=
  if c ∈ m.children then
    match removeFirstEl c bs with
    | some r => (some ⟨{ m with children := m.children.erase c }, r.2, [reown none (setParent none r.1)]⟩, .el c)
    | none => (some ⟨{ m with children := m.children.erase c }, bs, []⟩, .none)
  else (none, .none)

/-- the first text block containing `s`: its old value and the list with every occurrence removed from it -/
def replaceFirstText (s : Str) : List DN → Option (Str × List DN)
  | [] => none
  | .el m k :: bs => (replaceFirstText s bs).map (fun r => (r.1, .el m k :: r.2))
  | .text x :: bs =>
    if isInfix s x then some (x, .text (removeAll s x) :: bs)
    else (replaceFirstText s bs).map (fun r => (r.1, .text x :: r.2))

/-- `removeText(text)`: edit the first matching text block, regenerate `text`; returns the old block or None. -/
def locRemoveText (s : Str) (m : Meta) (bs : List DN) : Edit × Val :=
  match replaceFirstText s bs with
  | some r => (⟨{ m with text := textOf r.2 }, r.2, []⟩, .str r.1)
  | none => (⟨{ m with text := textOf bs }, bs, []⟩, .none)

/-- every text block containing `s`: old values, and the list with the occurrences removed -/
def replaceAllText (s : Str) : List DN → List Str × List DN
  | [] => ([], [])
  | .el m k :: bs => ((replaceAllText s bs).1, .el m k :: (replaceAllText s bs).2)
  | .text x :: bs =>
    if isInfix s x then (x :: (replaceAllText s bs).1, .text (removeAll s x) :: (replaceAllText s bs).2)
    else ((replaceAllText s bs).1, .text x :: (replaceAllText s bs).2)

/-- `removeTextAll(text)` -/
def locRemoveTextAll (s : Str) (m : Meta) (bs : List DN) : Edit × Val :=
  (⟨{ m with text := textOf (replaceAllText s bs).2 }, (replaceAllText s bs).2, []⟩,
   .list ((replaceAllText s bs).1.map .str))

/-- `l[:i] + [x] + l[i:]` -/
def insertAt {α} (i : Nat) (x : α) (l : List α) : List α := l.take i ++ x :: l.drop i

/-- `_linkInsertedBlock` + the list edits of `insertBefore`/`insertAfter`, for a text block put at
    block position `i`: blocks edited, `text` regenerated from the new blocks, self-closing cleared. -/
def locInsertTextAt (i : Nat) (s : Str) (m : Meta) (bs : List DN) : Edit :=
  ⟨{ m with text := textOf (insertAt i (.text s) bs), sc := false }, insertAt i (.text s) bs, []⟩

/-- the same for an element `c` put at block position `i`: its position in `children` is the number
    of element blocks ahead of it; then the accounting of `attach`. -/
def locInsertElAt (i : Nat) (c : DN) (m : Meta) (bs : List DN) : Edit :=
  ⟨{ m with children := insertAt (elemIds (bs.take i)).length c.rid m.children, sc := false },
   insertAt i (attach m c) bs, []⟩

/-! ### Attributes (plain names only; `class`/`style`/boolean routing belongs to the attribute model) -/

def isAlpha (c : Char) : Bool := ('a' ≤ c && c ≤ 'z') || ('A' ≤ c && c ≤ 'Z')
def isAlnum (c : Char) : Bool := isAlpha c || ('0' ≤ c && c ≤ '9')

/-- `isValidAttributeName` (ASCII) -/
def validAttrName : Str → Bool
  | [] => false
  | c :: cs => (isAlpha c || c = '_') && (c :: cs).all (fun ch => isAlnum ch || ch = '-' || ch = '_')

/-- `dict.__setitem__` on an insertion-ordered dict -/
def setAssoc (k : Str) (v : Option Str) : List (Str × Option Str) → List (Str × Option Str)
  | [] => [(k, v)]
  | (k', v') :: r => if k' = k then (k, v) :: r else (k', v') :: setAssoc k v r

/-- `setAttribute(name, value)` for a plain attribute name: KeyError on an invalid name, else the
    lower-cased key is set. -/
def locSetAttribute (k : Str) (v : Str) (m : Meta) (bs : List DN) : Option Edit × Val :=
  if validAttrName k then (some ⟨{ m with attrs := setAssoc (lower k) (some v) m.attrs }, bs, []⟩, .none)
  else (none, .raise "KeyError")

/-! ### Worlds -/

/-- All trees that are not inside another tree, the next fresh element uid and document id. -/
structure World where
  roots : List DN
  next : Nat
  nextDoc : Nat
  deriving Inhabited

def World.find? (w : World) (t : Nat) : Option (Meta × List DN) := findL? t w.roots

/-- apply a local edit at element `t`; subtrees that left it become roots -/
def World.edit (w : World) (t : Nat) (f : Meta → List DN → Edit) : World :=
  { w with roots := (updL t f w.roots).1 ++ (updL t f w.roots).2 }

/-- take the root with uid `c` out of the list of roots -/
def takeRoot (c : Nat) : List DN → Option (DN × List DN)
  | [] => none
  | r :: rs =>
    if rootId r = some c then some (r, rs)
    else (takeRoot c rs).map (fun x => (x.1, r :: x.2))

/-! ### Trees as the parser / the constructor builds them -/

/-- A parsed node without bookkeeping: what the tree builder is given. -/
inductive FN where
  | text (s : Str)
  | el (name : Str) (attrs : List (Str × Option Str)) (sc : Bool) (kids : List FN)
  deriving Repr, Inhabited

def isVoid (name : Str) : Bool := Gen.voidTags.contains name.s

mutual
/-- Build the element tree for a parsed node the way the constructor plus `appendChild`/`appendText`
    do: uids in creation (pre-)order starting at `n`, the leading empty indent block, `children` and
    `text` filled, `parentNode`/`ownerDocument` set, self-closing kept only without content. -/
def mk (par own : Option Nat) : FN → Nat → DN × Nat
  | .text s, n => (.text s, n)
  | .el name attrs sc kids, n =>
    (.el ⟨n, name, attrs, (sc || isVoid name) && kids.isEmpty, elemIds (mkL (some n) own kids (n+1)).1,
          textOf (mkL (some n) own kids (n+1)).1, par, own⟩
         (.text [] :: (mkL (some n) own kids (n+1)).1),
     (mkL (some n) own kids (n+1)).2)
def mkL (par own : Option Nat) : List FN → Nat → List DN × Nat
  | [], n => ([], n)
  | k :: ks, n => ((mk par own k n).1 :: (mkL par own ks (mk par own k n).2).1, (mkL par own ks (mk par own k n).2).2)
end

/-- What the document parser produced for a fragment: one root element, or (second pass, after
    `MultipleRootNodeException`) the contents of the invisible wrapper element. -/
inductive Parsed where
  | single (root : FN)
  | multi (tops : List FN)
  deriving Repr, Inhabited

def wrapperName : Str := Gen.invisibleRootTag.toList

/-- The root element a temporary parser `doc` holds after `parseStr(html)`, uids in creation order
    from `n` on (the wrapper element of the second pass is created first). -/
def Parsed.build (doc n : Nat) : Parsed → DN × Nat
  | .single r => mk none (some doc) r n
  | .multi tops =>
    (.el ⟨n, wrapperName, [], false, elemIds (mkL (some n) (some doc) tops (n+1)).1,
          textOf (mkL (some n) (some doc) tops (n+1)).1, none, some doc⟩
         (.text [] :: (mkL (some n) (some doc) tops (n+1)).1),
     (mkL (some n) (some doc) tops (n+1)).2)

/-- one block of the wrapper after `rootNode.removeChildren(list(rootNode.children))`: every element
    block listed in `children` has been detached (`parentNode`, `ownerDocument` below cleared) -/
def detachTop (ch : List Nat) : DN → DN
  | .text s => .text s
  | .el m k => if m.id ∈ ch then reown none (setParent none (.el m k)) else .el m k

/-- `createBlocksFromHTML`, given the parser's root: the wrapper's blocks (copied before the tags
    are removed from the wrapper), or the single root itself (`rootNode.remove()` is a no-op there). -/
def createBlocks : DN → List DN
  | .text s => [.text s]
  | .el m bs => if m.name = wrapperName then bs.map (detachTop m.children) else [.el m bs]

def toBlk : DN → Blk
  | .text s => .txt s
  | .el m _ => .elm m.id

/-! ### The calls on a world -/

/-- Run a call on element `t`. `loc` gives the local edit (`none` = nothing touched) and the
    returned value. The outer `none` = `t` is not an element of the world. -/
def World.apply (w : World) (t : Nat) (loc : Meta → List DN → Option Edit × Val) : Option (World × Val) :=
  match w.find? t with
  | none => none
  | some (m, bs) =>
    match (loc m bs).1 with
    | none => some (w, (loc m bs).2)
    | some _ => some (w.edit t (fun m bs => ((loc m bs).1).getD ⟨m, bs, []⟩), (loc m bs).2)

def World.appendText (w : World) (t : Nat) (s : Str) : Option (World × Val) :=
  w.apply t (fun m bs => (some (locAppendText s m bs), .none))

/-- `appendChild(child)`; `child` must be a root of the world that does not contain `t`
    (the precondition of C04; anything else is outside the model: outer `none`). -/
def World.appendChild (w : World) (t c : Nat) : Option (World × Val) :=
  match takeRoot c w.roots with
  | none => none
  | some (ct, rest) =>
    World.apply { w with roots := rest } t (fun m bs => (some (locAppendChild ct m bs), .el c))

/-- `appendBlock(block)`: dispatch on the type, return the block -/
def World.appendBlock (w : World) (t : Nat) : Blk → Option (World × Val)
  | .txt s => (w.appendText t s).map (fun r => (r.1, .str s))
  | .elm c => w.appendChild t c

/-- the loop of `appendBlocks` -/
def World.appendBlocksLoop (w : World) (t : Nat) : List Blk → Option World
  | [] => some w
  | b :: bs => match w.appendBlock t b with
    | none => none
    | some r => World.appendBlocksLoop r.1 t bs

def World.appendBlocks (w : World) (t : Nat) (bs : List Blk) : Option (World × Val) :=
  (w.appendBlocksLoop t bs).map (fun w' => (w', .list (bs.map blkVal)))

/-- `appendInnerHTML(html)`, given what the parser builds for `html`: the blocks of
    `createBlocksFromHTML` (new detached elements: they join the world as roots), then `appendBlocks`. -/
def World.appendInnerHTML (w : World) (t : Nat) (p : Parsed) : Option (World × Val) :=
  (World.appendBlocksLoop
      { roots := w.roots ++ (createBlocks (p.build w.nextDoc w.next).1).filter DN.isEl,
        next := (p.build w.nextDoc w.next).2, nextDoc := w.nextDoc + 1 }
      t ((createBlocks (p.build w.nextDoc w.next).1).map toBlk)).map (fun w' => (w', .none))

/-- text inserted before (`after = false`) / after the reference block; `none` = ValueError -/
def locInsertText (after : Bool) (r : Blk) (s : Str) (m : Meta) (bs : List DN) : Option Edit × Val :=
  match indexOf r bs with
  | none => (none, .raise "ValueError")
  | some i => (some (locInsertTextAt (if after then i + 1 else i) s m bs), .str s)

/-- an element inserted before / after the reference block (at the end when the reference is not a
    block: that case is never executed, `World.insert` raises before editing) -/
def locInsertEl (after : Bool) (r : Blk) (c : DN) (m : Meta) (bs : List DN) : Edit :=
  match indexOf r bs with
  | none => locInsertElAt bs.length c m bs
  | some i => locInsertElAt (if after then i + 1 else i) c m bs

/-- `insertBefore(child, ref)` / `insertAfter(child, ref)`: append when `ref` is None; ValueError
    (nothing touched, the child stays where it was) when `ref` is not among the blocks. -/
def World.insert (w : World) (after : Bool) (t : Nat) (b : Blk) (ref : Option Blk) : Option (World × Val) :=
  match ref with
  | none => w.appendBlock t b
  | some r =>
    match b with
    | .txt s => w.apply t (locInsertText after r s)
    | .elm c =>
      match takeRoot c w.roots with
      | none => none
      | some (ct, rest) =>
        match findL? t rest with
        | none => none
        | some (_, bs) =>
          match indexOf r bs with
          | none => some (w, .raise "ValueError")
          | some _ => some (World.edit { w with roots := rest } t (locInsertEl after r ct), .el c)

def World.removeText (w : World) (t : Nat) (s : Str) : Option (World × Val) :=
  w.apply t (fun m bs => (some (locRemoveText s m bs).1, (locRemoveText s m bs).2))

def World.removeTextAll (w : World) (t : Nat) (s : Str) : Option (World × Val) :=
  w.apply t (fun m bs => (some (locRemoveTextAll s m bs).1, (locRemoveTextAll s m bs).2))

def World.removeChild (w : World) (t c : Nat) : Option (World × Val) :=
  w.apply t (locRemoveChild c)

/-- `remove()`: reads the cached `parentNode`; the result of the parent's `removeChild` is ignored -/
def World.remove (w : World) (t : Nat) : Option (World × Val) :=
  match w.find? t with
  | none => none
  | some (m, _) =>
    match m.parent with
    | none => some (w, .bool false)
    | some p => (w.removeChild p t).map (fun r => (r.1, .bool true))

/-- `removeBlock(block)`: `removeChild` for a tag, `removeText` for a string -/
def World.removeBlock (w : World) (t : Nat) : Blk → Option (World × Val)
  | .elm c => w.removeChild t c
  | .txt s => w.removeText t s

/-- the loops of `removeChildren` / `removeBlocks`: results collected in order -/
def World.removeBlocksLoop (w : World) (t : Nat) : List Blk → Option (World × List Val)
  | [] => some (w, [])
  | b :: bs => match w.removeBlock t b with
    | none => none
    | some r => (World.removeBlocksLoop r.1 t bs).map (fun r' => (r'.1, r.2 :: r'.2))

def World.removeBlocks (w : World) (t : Nat) (bs : List Blk) : Option (World × Val) :=
  (w.removeBlocksLoop t bs).map (fun r => (r.1, .list r.2))

def World.removeChildren (w : World) (t : Nat) (cs : List Nat) : Option (World × Val) :=
  w.removeBlocks t (cs.map .elm)

/-- names with special routing in `SpecialAttributesDict` / `getStartTag`: outside this model -/
def specialAttr (k : Str) : Bool :=
  ["class", "style", "spellcheck", "hidden", "checked", "selected", "autoplay", "controls", "loop", "muted",
   "compact", "novalidate", "noresize", "autofocus", "disabled", "formnovalidate", "multiple", "readonly",
   "required", "declare", "reversed", "async", "defer", "nowrap", "default"].contains (lower k).s

def World.setAttribute (w : World) (t : Nat) (k v : Str) : Option (World × Val) :=
  if specialAttr k then none else w.apply t (locSetAttribute k v)

/-- The public mutating calls (C04's op alphabet, plus `setAttribute` for C05's failing calls). -/
inductive Op where
  | appendText (t : Nat) (s : Str)
  | appendChild (t : Nat) (c : Option Nat)        -- `none` = Python None
  | appendBlock (t : Nat) (b : Blk)
  | appendBlocks (t : Nat) (bs : List Blk)
  | appendInnerHTML (t : Nat) (p : Parsed)
  | insertBefore (t : Nat) (b : Blk) (ref : Option Blk)
  | insertAfter (t : Nat) (b : Blk) (ref : Option Blk)
  | removeText (t : Nat) (s : Str)
  | removeTextAll (t : Nat) (s : Str)
  | remove (t : Nat)
  | removeChild (t : Nat) (c : Nat)
  | removeChildren (t : Nat) (cs : List Nat)
  | removeBlock (t : Nat) (b : Blk)
  | removeBlocks (t : Nat) (bs : List Blk)
  | setAttribute (t : Nat) (k v : Str)
  deriving Repr, Inhabited

/-- One call. Outer `none`: the call is outside the model (unknown element, or an element argument
    that is not a detached root / contains the target — C04's precondition). -/
def step (w : World) : Op → Option (World × Val)
  | .appendText t s => w.appendText t s
  | .appendChild t none => (w.find? t).map (fun _ => (w, .raise "KeyError"))
  | .appendChild t (some c) => w.appendChild t c
  | .appendBlock t b => w.appendBlock t b
  | .appendBlocks t bs => w.appendBlocks t bs
  | .appendInnerHTML t p => w.appendInnerHTML t p
  | .insertBefore t b ref => w.insert false t b ref
  | .insertAfter t b ref => w.insert true t b ref
  | .removeText t s => w.removeText t s
  | .removeTextAll t s => w.removeTextAll t s
  | .remove t => w.remove t
  | .removeChild t c => w.removeChild t c
  | .removeChildren t cs => w.removeChildren t cs
  | .removeBlock t b => w.removeBlock t b
  | .removeBlocks t bs => w.removeBlocks t bs
  | .setAttribute t k v => w.setAttribute t k v

/-- a history of calls; stops (`none`) when a call is outside the model -/
def run (w : World) : List Op → Option World
  | [] => some w
  | op :: ops => match step w op with
    | none => none
    | some r => run r.1 ops

/-- The initial world of a case: a seed tree (owned by document 0 when `doc`), then spare detached trees. -/
def initWorld (doc : Bool) (seed : FN) (spares : List FN) : World :=
  { roots := (mk none (if doc then some 0 else none) seed 0).1 ::
             (mkL none none spares (mk none (if doc then some 0 else none) seed 0).2).1,
    next := (mkL none none spares (mk none (if doc then some 0 else none) seed 0).2).2,
    nextDoc := 1 }

end AHP.Dom
