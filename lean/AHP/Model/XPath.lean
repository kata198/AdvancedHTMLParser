/-
  AHP.Model.XPath — the XPath engine (`xpath/_body.py`, `_filters.py`, `_axes.py`, `parsing.py`,
  `operation.py`, `expression.py`) as the code has it, from the *flat body-element list* onwards.

  What the regex tokenizers of `parsing.py` / `_body.py` produce from the text of an expression is the
  input here (the tokenizers themselves are AHP/Model/XPathParse.lean):

  * a step is `lead-in × axis? × name test × predicates`;
  * a predicate is a *flat* list of body elements `BE`: values, value generators (`@a`, `text()`,
    `last()`, `position()`, `concat(…)`, `contains(…)`, `normalize-space(…)`), parenthesised groups
    (`BodyLevel_Group`, again flat lists) and operators of three classes;
  * `evaluateLevelForTags`: resolve groups and generators for the tag, then one left-to-right pass
    per operator class (arithmetic/concat, comparison, boolean), `pass` below is its `while` loop;
  * `_optimizeStaticValueCalculations` (`optimize`) and `Concat.createFromMatch` fold constants at
    compile time;
  * `filterTagsByBody`: boolean → keep/drop, number `n` → "n-th among same-named siblings";
  * step functions of `_filters.py`, the step driver of `expression.py` with de-duplication.

  Numbers are an abstract structure `Num N` (Python `float`): the theorems hold for every instance,
  the driver instantiates `Float`.  `Option` = "raises" (error classes are not distinguished).
-/
import AHP.Model.Basic
namespace AHP.XPath

/-! ### Values and operators -/

inductive Val (N : Type) where
  | num (n : N)
  | str (s : Str)
  | bool (b : Bool)
  | null
  deriving Repr, Inhabited

inductive ArithOp | concat | add | sub | mul | div | mod
  deriving Repr, DecidableEq, Inhabited
inductive CmpOp | eq | ne | lt | le | gt | ge
  deriving Repr, DecidableEq, Inhabited
inductive BoolOp | and | or
  deriving Repr, DecidableEq, Inhabited

/-- An operator with its class: the order of `ORDERED_BE_TYPES_TO_PROCESS_VALUES`. -/
inductive Op where
  | arith (o : ArithOp)     -- BodyElementOperation      (class 0)
  | cmp (o : CmpOp)         -- BodyElementComparison     (class 1)
  | bool (o : BoolOp)       -- BodyElementBooleanOps     (class 2)
  deriving Repr, DecidableEq, Inhabited

def Op.cls : Op → Nat
  | .arith _ => 0
  | .cmp _ => 1
  | .bool _ => 2

/-- What the engine needs of Python's `float`. -/
structure Num (N : Type) where
  parse : Str → Option N            -- `float(str)`; `none` = ValueError
  ofNat : Nat → N
  add : N → N → N
  sub : N → N → N
  mul : N → N → N
  div : N → N → Option N            -- `none` = ZeroDivisionError
  mod : N → N → Option N
  eq : N → N → Bool
  lt : N → N → Bool
  le : N → N → Bool
  /-- `int(x)` and the test `float(int(x)) == x`: `none` = `int()` raises (nan, inf);
      `some none` = not integral; `some (some k)` = the integer. -/
  toIndex : N → Option (Option Int)
  toStr : N → Option Str            -- `str(float)`, where modelled

section
variable {N : Type} (nm : Num N)

/-- `float(value)` as applied to the Python value inside a `BodyElementValue`. -/
def toFloat : Val N → Option N
  | .num n => some n
  | .str s => nm.parse s
  | .bool b => some (nm.ofNat (if b then 1 else 0))
  | .null => none

/-- Lexicographic `<` on code points (Python `str.__lt__`). -/
def strLt : Str → Str → Bool
  | [], [] => false
  | [], _ :: _ => true
  | _ :: _, [] => false
  | a :: as, b :: bs => if a.toNat < b.toNat then true else if a = b then strLt as bs else false

/-- Python `==` between the raw values when they are not both convertible to float. -/
def rawEq : Val N → Val N → Bool
  | .null, .null => true
  | .str a, .str b => a == b
  | .bool a, .bool b => a == b          -- unreachable: booleans always convert
  | .num a, .num b => nm.eq a b         -- unreachable
  | _, _ => false

/-- `BodyElementOperation.performOperation`. -/
def applyArith (o : ArithOp) (a b : Val N) : Option (Val N) :=
  match o with
  | .concat =>
    match a, b with
    | .str x, .str y => some (.str (x ++ y))
    | _, _ => none
  | _ =>
    match toFloat nm a, toFloat nm b with
    | some x, some y =>
      match o with
      | .add => some (.num (nm.add x y))
      | .sub => some (.num (nm.sub x y))
      | .mul => some (.num (nm.mul x y))
      | .div => (nm.div x y).map .num
      | .mod => (nm.mod x y).map .num
      | .concat => none
    | _, _ => none

/-- `BodyElementComparison.doComparison`: both sides as floats when possible, else the raw values. -/
def applyCmp (o : CmpOp) (a b : Val N) : Option (Val N) :=
  match toFloat nm a, toFloat nm b with
  | some x, some y =>
    some (.bool (match o with
      | .eq => nm.eq x y
      | .ne => !nm.eq x y
      | .lt => nm.lt x y
      | .le => nm.le x y
      | .gt => nm.lt y x
      | .ge => nm.le y x))
  | _, _ =>
    match o with
    | .eq => some (.bool (rawEq nm a b))
    | .ne => some (.bool (!rawEq nm a b))
    | _ =>
      -- ordering on raw values: only `str` with `str` is defined
      match a, b with
      | .str x, .str y =>
        some (.bool (match o with
          | .lt => strLt x y
          | .le => strLt x y || x == y
          | .gt => strLt y x
          | _ => strLt y x || x == y))
      | _, _ => none

/-- `BodyElementBooleanOps.doBooleanOp`: both sides must be Python `bool`. -/
def applyBool (o : BoolOp) (a b : Val N) : Option (Val N) :=
  match a, b with
  | .bool x, .bool y => some (.bool (match o with | .and => x && y | .or => x || y))
  | _, _ => none

def applyOp : Op → Val N → Val N → Option (Val N)
  | .arith o => applyArith nm o
  | .cmp o => applyCmp nm o
  | .bool o => applyBool o

end

/-! ### Flat body elements -/

/-- A body element.  `BodyLevel_Group`s and function arguments hold flat lists again. -/
inductive BE (N : Type) where
  | val (v : Val N)                       -- BodyElementValue (static or resolved)
  | attr (name : Str)                     -- @name
  | text                                  -- text()
  | last                                  -- last()
  | position                              -- position()
  | concatFn (args : List (BE N))         -- concat(a, b, …): every argument a `.group`
  | containsFn (a b : BE N)               -- contains(a, b): both `.group`s
  | nspace0                               -- normalize-space()
  | nspace1 (a : BE N)                    -- normalize-space(a)
  | group (l : List (BE N))               -- ( … )
  | op (o : Op)
  deriving Inhabited

/-- What a predicate sees of the tag it is evaluated for. -/
structure Ctx where
  attrs : List (Str × Str)    -- attribute names are stored lower-case
  text : Str                  -- `innerText`: the tag's own text blocks, concatenated
  pos : Nat                   -- index among the same-named children of the parent, from 1 (1 without parent)
  last : Nat                  -- number of same-named children of the parent (1 without parent)
  deriving Repr, Inhabited

def lookupAttr : List (Str × Str) → Str → Option Str
  | [], _ => none
  | (k, v) :: rest, n => if k = n then some v else lookupAttr rest n

/-! ### One pass of `evaluateLevelForTags` -/

/-- The `while i < numElements` loop for operator class `k`; `acc` is `nextElements` reversed, its
    head is `leftSide`. -/
def pass {N : Type} (nm : Num N) (k : Nat) : List (BE N) → List (BE N) → Option (List (BE N))
  | [], acc => some acc.reverse
  | .op o :: rest, acc =>
    if o.cls = k then
      match acc, rest with
      | .val l :: acc', .val r :: rest' =>
        match applyOp nm o l r with
        | some v => pass nm k rest' (.val v :: acc')
        | none => none
      | _, _ => none
    else pass nm k rest (.op o :: acc)
  | e :: rest, acc => pass nm k rest (e :: acc)

/-- The three passes and the "exactly one value left" check (on a list whose groups and
    generators are already resolved). -/
def reduce {N : Type} (nm : Num N) (l : List (BE N)) : Option (Val N) :=
  match (pass nm 0 l []).bind (fun l1 => (pass nm 1 l1 []).bind (fun l2 => pass nm 2 l2 [])) with
  | some [.val v] => some v
  | _ => none

/-- Python `str(value)` of the value inside a BodyElementValue (`contains`). -/
def valToStr {N : Type} (nm : Num N) : Val N → Option Str
  | .str s => some s
  | .num n => nm.toStr n
  | .bool b => some (if b then "True".toList else "False".toList)
  | .null => some []

/-- `''.join(parts)` of `concat`: every part must be a `str`; `Null` counts as `''` at run time. -/
def joinStrs {N : Type} : List (Val N) → Option Str
  | [] => some []
  | .str s :: rest => (joinStrs rest).map (s ++ ·)
  | .null :: rest => joinStrs rest
  | _ :: _ => none

def vals {N : Type} : List (BE N) → Option (List (Val N))
  | [] => some []
  | .val v :: rest => (vals rest).map (v :: ·)
  | _ :: _ => none

/-- Python `needle in hay` for strings. -/
def isInfix (needle hay : Str) : Bool :=
  (List.range (hay.length + 1)).any (fun i => needle.isPrefixOf (hay.drop i))

/-- The value a resolved element carries (`none` when it is not a value). -/
def valOf {N : Type} : Option (BE N) → Option (Val N)
  | some (.val v) => some v
  | _ => none

/-- `normalize-space(arg)`: the argument must be a string or Null; leading/trailing white space stripped. -/
def nspaceVal {N : Type} : Option (Val N) → Option (Val N)
  | some (.str s) => some (.str (strip s))
  | some .null => some (.str [])
  | _ => none

/-- `contains(a, b)`: `str(b) in str(a)`. -/
def containsVal {N : Type} (nm : Num N) : Option (Val N) → Option (Val N) → Option (Val N)
  | some x, some y =>
    match valToStr nm x, valToStr nm y with
    | some s1, some s2 => some (.bool (isInfix s2 s1))
    | _, _ => none
  | _, _ => none

/-- `concat(…)`: the values of the arguments joined. -/
def concatVal {N : Type} : Option (List (Val N)) → Option (Val N)
  | some parts => (joinStrs parts).map .str
  | none => none

mutual
/-- First half of `evaluateLevelForTags` for one element: sub-levels and generators become values,
    operators stay. -/
def resolve {N : Type} (nm : Num N) (c : Ctx) : BE N → Option (BE N)
  | .val v => some (.val v)
  | .op o => some (.op o)
  | .attr name =>
    if name.contains '*' then none
    else match lookupAttr c.attrs (lower name) with
      | none => some (.val .null)
      | some v => some (.val (.str v))
  | .text => some (.val (.str c.text))
  | .last => some (.val (.num (nm.ofNat c.last)))
  | .position => some (.val (.num (nm.ofNat c.pos)))
  | .group l =>
    match resolveList nm c l with
    | some l' => (reduce nm l').map .val
    | none => none
  | .concatFn args => (concatVal ((resolveList nm c args).bind vals)).map .val
  | .containsFn a b => (containsVal nm (valOf (resolve nm c a)) (valOf (resolve nm c b))).map .val
  | .nspace0 => some (.val (.str (strip c.text)))
  | .nspace1 a => (nspaceVal (valOf (resolve nm c a))).map .val
def resolveList {N : Type} (nm : Num N) (c : Ctx) : List (BE N) → Option (List (BE N))
  | [] => some []
  | e :: rest =>
    match resolve nm c e, resolveList nm c rest with
    | some e', some rest' => some (e' :: rest')
    | _, _ => none
end

/-- `BodyLevel.evaluateLevelForTag`: the value of a flat level for one tag (`none` = raises). -/
def evalLevel {N : Type} (nm : Num N) (c : Ctx) (l : List (BE N)) : Option (Val N) :=
  (resolveList nm c l).bind (reduce nm)

/-! ### Compile-time constant folding -/

/-- May the element before the left operand / after the right operand stay where it is when an
    operator of class `k` is applied at compile time? -/
def leftOk {N : Type} (k : Nat) : List (BE N) → Bool
  | [] => true
  | .op o :: _ => k < o.cls
  | _ :: _ => false
def rightOk {N : Type} (k : Nat) : List (BE N) → Bool
  | [] => true
  | .op o :: _ => k ≤ o.cls
  | _ :: _ => false

/-- The decision of the (repaired) `_optimizeStaticValueCalculations` at an operator `o` of the class
    being processed, `acc` = `ret` reversed, `rest` = the elements after the operator:
    `none` = leave it; `some none` = the pre-calculation raises; `some (some v)` = replace
    `left o right` by `v`.  An operator between two static values is applied when the element before
    the left value is absent or an operator of a *higher* class (so the left value is all the
    operator will see at run time) and the element after the right value is absent or an operator of
    class `≥ k` (so the right value is not the head of a tighter-binding chain). -/
def foldAt {N : Type} (nm : Num N) (k : Nat) (o : Op) (acc rest : List (BE N)) : Option (Option (Val N)) :=
  match acc, rest with
  | .val l :: acc', .val r :: rest' =>
    if leftOk k acc' && rightOk k rest' then some (applyOp nm o l r) else none
  | _, _ => none

/-- One pass of the (repaired) `_optimizeStaticValueCalculations` for operator class `k`
    (`skip` = the head of the input is the right operand just consumed). -/
def optPass {N : Type} (nm : Num N) (k : Nat) : Bool → List (BE N) → List (BE N) → Option (List (BE N))
  | _, [], acc => some acc.reverse
  | true, _ :: rest, acc => optPass nm k false rest acc
  | false, .op o :: rest, acc =>
    if o.cls = k then
      match foldAt nm k o acc rest with
      | none => optPass nm k false rest (.op o :: acc)
      | some none => none                        -- the exception propagates: compile error
      | some (some v) => optPass nm k true rest (.val v :: acc.tail)
    else optPass nm k false rest (.op o :: acc)
  | false, e :: rest, acc => optPass nm k false rest (e :: acc)

/-- `_optimizeStaticValueCalculations`: lists of at most two elements are returned unchanged; then the
    arithmetic pass and the comparison pass (boolean operators are never folded). -/
def optimize {N : Type} (nm : Num N) (l : List (BE N)) : Option (List (BE N)) :=
  if l.length ≤ 2 then some l
  else (optPass nm 0 false l []).bind (fun l1 => optPass nm 1 false l1 [])

/-- The static values of one `concat` argument group, as `createFromMatch` collects them. -/
def staticParts {N : Type} : List (BE N) → Option (List (Val N))
  | [] => some []
  | .val v :: rest => (staticParts rest).map (v :: ·)
  | _ :: _ => none

def staticArgs {N : Type} : List (BE N) → Option (List (Val N))
  | [] => some []
  | .group l :: rest =>
    match staticParts l, staticArgs rest with
    | some a, some b => some (a ++ b)
    | _, _ => none
  | .val v :: rest => (staticArgs rest).map (v :: ·)
  | _ :: _ => none

/-- `''.join(staticValueParts)` at compile time: every part must be a `str` (no `Null` leniency here). -/
def joinStatic {N : Type} : List (Val N) → Option Str
  | [] => some []
  | .str s :: rest => (joinStatic rest).map (s ++ ·)
  | _ :: _ => none

mutual
/-- What the parser leaves in place of a freshly tokenised element: groups and arguments optimised
    inside-out, an all-static `concat` replaced by its value. `none` = the compile step raises. -/
def compileBE {N : Type} (nm : Num N) : BE N → Option (BE N)
  | .group l =>
    match compileEach nm l with
    | some l' => (optimize nm l').map .group
    | none => none
  | .concatFn args =>
    match compileEach nm args with
    | some args' =>
      match staticArgs args' with
      | some parts => (joinStatic parts).map (fun s => .val (.str s))
      | none => some (.concatFn args')
    | none => none
  | .containsFn a b =>
    match compileBE nm a, compileBE nm b with
    | some a', some b' => some (.containsFn a' b')
    | _, _ => none
  | .nspace1 a => (compileBE nm a).map .nspace1
  | e => some e
def compileEach {N : Type} (nm : Num N) : List (BE N) → Option (List (BE N))
  | [] => some []
  | e :: rest =>
    match compileBE nm e, compileEach nm rest with
    | some e', some rest' => some (e' :: rest')
    | _, _ => none
end

/-- `parseBodyStringIntoBodyElements`: the compiled form of one predicate. -/
def compileLevel {N : Type} (nm : Num N) (l : List (BE N)) : Option (List (BE N)) :=
  (compileEach nm l).bind (optimize nm)

/-! ### Documents -/

/-- One element of the document table; the id of an element is its index (pre-order). -/
structure Elem where
  name : Str
  parent : Option Nat
  attrs : List (Str × Str)
  text : Str
  deriving Repr, Inhabited

abbrev Doc := List Elem

def Doc.name (d : Doc) (i : Nat) : Str := (d.getD i default).name
def Doc.parent (d : Doc) (i : Nat) : Option Nat := (d.getD i default).parent

/-- `tag.children`: the elements whose parent is `i`, in document order. -/
def Doc.children (d : Doc) (i : Nat) : List Nat :=
  (List.range d.length).filter (fun j => d.parent j == some i)

/-- `getAllChildNodes`: children and their descendants, pre-order (`fuel` ≥ depth). -/
def Doc.descFuel (d : Doc) : Nat → Nat → List Nat
  | 0, _ => []
  | fuel + 1, i => (d.children i).flatMap (fun c => c :: d.descFuel fuel c)

def Doc.desc (d : Doc) (i : Nat) : List Nat := d.descFuel d.length i

/-- The `while curNode:` loop of the ancestor functions: nearest first. -/
def Doc.ancFuel (d : Doc) : Nat → Nat → List Nat
  | 0, _ => []
  | fuel + 1, i =>
    match d.parent i with
    | none => []
    | some p => p :: d.ancFuel fuel p

def Doc.anc (d : Doc) (i : Nat) : List Nat := d.ancFuel d.length i

/-- Is the table a pre-order listing of a forest (parents first; the next element is a child of the
    current one or of one of its ancestors, or a new root)?  Hypothesis `PreOrder` of C14c/d, decidable. -/
def Doc.isPreOrder (d : Doc) : Bool :=
  (List.range d.length).all (fun j =>
    (match d.parent j with
     | none => true
     | some p => decide (p < j)) &&
    (match d.parent (j + 1) with
     | none => true
     | some p => p == j || (d.anc j).contains p))

def nameOk (d : Doc) (name : Str) (i : Nat) : Bool := name = ['*'] || d.name i = name

/-- The children of the parent that carry the same tag name (`childrenOfRelevance`). -/
def Doc.sameNamed (d : Doc) (i : Nat) : Option (List Nat) :=
  match d.parent i with
  | none => none
  | some p => some ((d.children p).filter (fun c => d.name c = d.name i))

def idxOf (x : Nat) : List Nat → Nat
  | [] => 0
  | y :: ys => if y = x then 0 else idxOf x ys + 1

def Doc.ctx (d : Doc) (i : Nat) : Ctx :=
  let e := d.getD i default
  match d.sameNamed i with
  | none => ⟨e.attrs, e.text, 1, 1⟩
  | some sibs => ⟨e.attrs, e.text, idxOf i sibs + 1, sibs.length⟩

/-! ### Steps -/

inductive Axis | child | descendant | descendantOrSelf | parent | ancestor | ancestorOrSelf
  deriving Repr, DecidableEq, Inhabited

/-- The find-functions of `_filters.py` (`name` already lower-case, `*` = wildcard). -/
def oneLevel (d : Doc) (name : Str) (i : Nat) : List Nat := (d.children i).filter (nameOk d name)
def oneLevelOrSelf (d : Doc) (name : Str) (i : Nat) : List Nat :=
  (if nameOk d name i then [i] else []) ++ oneLevel d name i
def multiLevel (d : Doc) (name : Str) (i : Nat) : List Nat := (d.desc i).filter (nameOk d name)
def multiLevelOrSelf (d : Doc) (name : Str) (i : Nat) : List Nat :=
  (if nameOk d name i then [i] else []) ++ multiLevel d name i
def parentLevel (d : Doc) (name : Str) (i : Nat) : List Nat :=
  match d.parent i with
  | some p => if nameOk d name p then [p] else []
  | none => []
def ancestorLevel (d : Doc) (name : Str) (i : Nat) : List Nat := (d.anc i).filter (nameOk d name)
def ancestorOrSelfLevel (d : Doc) (name : Str) (i : Nat) : List Nat :=
  (if nameOk d name i then [i] else []) ++ ancestorLevel d name i

def axisFn (d : Doc) : Axis → Str → Nat → List Nat
  | .child => oneLevel d
  | .descendant => multiLevel d
  | .descendantOrSelf => multiLevelOrSelf d
  | .parent => parentLevel d
  | .ancestor => ancestorLevel d
  | .ancestorOrSelf => ancestorOrSelfLevel d

structure Step (N : Type) where
  dbl : Bool                       -- lead-in `//`
  axis : Option Axis
  name : Str                       -- lower-cased by the parser
  preds : List (List (BE N))       -- one flat level per `[…]`

/-- The find-function `parseXPathStrIntoOperations` picks for a step. -/
def stepFn {N : Type} (d : Doc) (first : Bool) (s : Step N) : Nat → List Nat :=
  match s.axis with
  | some a => axisFn d a s.name
  | none =>
    if s.dbl then (if first then multiLevelOrSelf d s.name else multiLevel d s.name)
    else (if first then oneLevelOrSelf d s.name else oneLevel d s.name)

/-- `TagCollection(resultNodes)`: first occurrences, in order. -/
def dedup : List Nat → List Nat
  | [] => []
  | x :: xs => x :: (dedup xs).filter (· ≠ x)

/-- `XPathOperation.applyFunction`. -/
def applyFind (f : Nat → List Nat) (cur : List Nat) : List Nat := dedup (cur.flatMap f)

/-- `_mk_xpath_op_filter_tag_is_nth_child_index(tag.tagName, n)` applied to the tag itself. -/
def isNth (d : Doc) (i : Nat) (n : Int) : Bool :=
  match d.sameNamed i with
  | none => n == 1
  | some sibs => (Int.ofNat (idxOf i sibs) + 1) == n

/-- The retain/discard decision of `filterTagsByBody` for one tag given its final value. -/
def keepTag {N : Type} (nm : Num N) (d : Doc) (i : Nat) : Val N → Option Bool
  | .bool b => some b
  | .num n =>
    match nm.toIndex n with
    | none => none
    | some none => some false
    | some (some k) => some (isNth d i k)
  | _ => none                -- VALIDATE_ONLY_BOOLEAN_OR_STR: XPathRuntimeError

/-- `BodyLevel_Top.filterTagsByBody`: all tags are evaluated first (any failure raises), then filtered. -/
def filterByBody {N : Type} (nm : Num N) (d : Doc) (l : List (BE N)) (cur : List Nat) : Option (List Nat) :=
  if cur.isEmpty then some []
  else if l.isEmpty then none          -- `resultPerTag` stays empty: indexing it raises IndexError
  else
    let rec go : List Nat → Option (List Nat)
      | [] => some []
      | i :: rest =>
        match (evalLevel nm (d.ctx i) l).bind (keepTag nm d i), go rest with
        | some b, some r => some (if b then i :: r else r)
        | _, _ => none
    (go cur).map dedup

/-- The operations of one step in order: the find-function, then each predicate; an empty
    intermediate collection ends the whole evaluation with an empty result. -/
def runPreds {N : Type} (nm : Num N) (d : Doc) : List (List (BE N)) → List Nat → Option (List Nat)
  | [], cur => some cur
  | p :: ps, cur =>
    match filterByBody nm d p cur with
    | none => none
    | some [] => some []
    | some cur' => runPreds nm d ps cur'

def runSteps {N : Type} (nm : Num N) (d : Doc) : Bool → List (Step N) → List Nat → Option (List Nat)
  | _, [], cur => some cur
  | first, s :: ss, cur =>
    match applyFind (stepFn d first s) cur with
    | [] => some []
    | cur1 =>
      match runPreds nm d s.preds cur1 with
      | none => none
      | some [] => some []
      | some cur2 => runSteps nm d false ss cur2

/-- `XPathExpression.evaluate`: the start collection is de-duplicated (`TagCollection(curResults)`). -/
def evaluate {N : Type} (nm : Num N) (d : Doc) (steps : List (Step N)) (start : List Nat) : Option (List Nat) :=
  runSteps nm d true steps (dedup start)

/-- Compile every predicate of every step (`parseXPathStrIntoOperations`); `none` = the constructor raises. -/
def compileSteps {N : Type} (nm : Num N) : List (Step N) → Option (List (Step N))
  | [] => some []
  | s :: ss =>
    match compilePreds s.preds, compileSteps nm ss with
    | some ps, some ss' => some ({ s with preds := ps } :: ss')
    | _, _ => none
where
  compilePreds : List (List (BE N)) → Option (List (List (BE N)))
    | [] => some []
    | p :: ps =>
      match compileLevel nm p, compilePreds ps with
      | some p', some ps' => some (p' :: ps')
      | _, _ => none

/-- Root nodes of a document: the elements without a parent — unless the invisible wrapper is the
    root, in which case its children (`getRootNodes`). -/
def Doc.rootNodes (d : Doc) (wrapper : Bool) : List Nat :=
  if wrapper then d.children 0 else (List.range d.length).filter (fun i => d.parent i == none)

/-! ### Entry points (`xpath/expression.py` `XPathExpression.evaluate`, `Parser.py`, `Tags.py`)

  Additions for C14 "all entry points agree": every public function that evaluates an expression, written
  down as the code has it — what it does with its receiver before it reaches the step driver `evaluate`.
  The constructor `XPathExpression(text)` is a parameter `compile : Str → Option (List (Step N))` here (it is
  `compileText` of AHP.Model.XPathParse, which this file cannot import; the compiled-expression cache in front
  of it is C15); `none` = the call raises, whatever the class. -/

/-- The classes `XPathExpression.evaluate(pathRoot)` tells apart, in the order of its `issubclass` chain
    (any other class: `ValueError`, outside the model). -/
inductive PathRoot where
  | tag (i : Nat)                    -- an `AdvancedTag`
  | parser (wrapper : Bool)          -- an `AdvancedHTMLParser` (`wrapper`: its root is the invisible wrapper)
  | tagCollection (ms : List Nat)    -- a `TagCollection` (checked before `list`, of which it is a subclass)
  | listOrTuple (ms : List Nat)      -- a plain `list` / `tuple` of tags
  deriving Repr, Inhabited

/-- `curResults` of `XPathExpression.evaluate`: `[pathRoot]`, `pathRoot.getRootNodes()`, `pathRoot.all()`,
    `list(pathRoot)`. -/
def PathRoot.start (d : Doc) : PathRoot → List Nat
  | .tag i => [i]
  | .parser w => d.rootNodes w
  | .tagCollection ms => ms
  | .listOrTuple ms => ms

/-- `XPathExpression.evaluate(pathRoot)` on a compiled expression: `TagCollection(curResults)`, then the
    operations in order (`evaluate`). -/
def exprEvaluate {N : Type} (nm : Num N) (d : Doc) (steps : List (Step N)) (r : PathRoot) : Option (List Nat) :=
  evaluate nm d steps (r.start d)

/-- `XPathExpression(text).evaluate(pathRoot)`: the constructor first (it raises on a text that does not
    compile), then the method. -/
def textEvaluate {N : Type} (compile : Str → Option (List (Step N))) (nm : Num N) (d : Doc) (text : Str)
    (r : PathRoot) : Option (List Nat) :=
  match compile text with
  | none => none
  | some steps => exprEvaluate nm d steps r

/-- `AdvancedHTMLParser.getElementsByXPathExpression(text)`: `rootNodes = self.getRootNodes()` *first*, then the
    constructor, then `xpathExpression.evaluate(rootNodes)` — the receiver is handed over as a plain list. -/
def parserGetElementsByXPathExpression {N : Type} (compile : Str → Option (List (Step N))) (nm : Num N) (d : Doc)
    (wrapper : Bool) (text : Str) : Option (List Nat) :=
  let rootNodes := d.rootNodes wrapper
  match compile text with
  | none => none
  | some steps => exprEvaluate nm d steps (.listOrTuple rootNodes)

/-- `getElementsByXPath = getElementsByXPathExpression` (class attribute alias). -/
def parserGetElementsByXPath {N : Type} (compile : Str → Option (List (Step N))) (nm : Num N) (d : Doc)
    (wrapper : Bool) (text : Str) : Option (List Nat) :=
  parserGetElementsByXPathExpression compile nm d wrapper text

/-- The second argument of `AdvancedHTMLParser.evaluate(text, whichDoc=None)`. -/
inductive WhichDoc | default | self | other
  deriving Repr, DecidableEq, Inhabited

/-- `AdvancedHTMLParser.evaluate(text, whichDoc)`: `ValueError` unless `whichDoc` is `None` or the parser
    itself, then `self.getElementsByXPathExpression(text)`. -/
def parserEvaluate {N : Type} (compile : Str → Option (List (Step N))) (nm : Num N) (d : Doc)
    (wrapper : Bool) (text : Str) (whichDoc : WhichDoc) : Option (List Nat) :=
  if whichDoc = .other then none
  else parserGetElementsByXPathExpression compile nm d wrapper text

/-- `AdvancedTag.getElementsByXPathExpression(text)`: the constructor, then `xpathExpression.evaluate(self)`. -/
def tagGetElementsByXPathExpression {N : Type} (compile : Str → Option (List (Step N))) (nm : Num N) (d : Doc)
    (i : Nat) (text : Str) : Option (List Nat) :=
  match compile text with
  | none => none
  | some steps => exprEvaluate nm d steps (.tag i)

/-- `AdvancedTag.getElementsByXPath = getElementsByXPathExpression`. -/
def tagGetElementsByXPath {N : Type} (compile : Str → Option (List (Step N))) (nm : Num N) (d : Doc)
    (i : Nat) (text : Str) : Option (List Nat) :=
  tagGetElementsByXPathExpression compile nm d i text

/-- `TagCollection.getElementsByXPathExpression(text)`: an empty collection answers with an empty collection
    *before* the constructor runs (so a text that does not compile is not noticed); otherwise the constructor,
    then `xpathExpression.evaluate(self)`. -/
def collGetElementsByXPathExpression {N : Type} (compile : Str → Option (List (Step N))) (nm : Num N) (d : Doc)
    (ms : List Nat) (text : Str) : Option (List Nat) :=
  if ms.isEmpty then some []
  else
    match compile text with
    | none => none
    | some steps => exprEvaluate nm d steps (.tagCollection ms)

/-- `TagCollection.getElementsByXPath = getElementsByXPathExpression`. -/
def collGetElementsByXPath {N : Type} (compile : Str → Option (List (Step N))) (nm : Num N) (d : Doc)
    (ms : List Nat) (text : Str) : Option (List Nat) :=
  collGetElementsByXPathExpression compile nm d ms text

/-- What every entry point on a **parser** comes to: compile the text, evaluate from the document's root nodes
    (the root, or the children of the invisible wrapper). -/
def evalParser {N : Type} (compile : Str → Option (List (Step N))) (nm : Num N) (d : Doc) (wrapper : Bool)
    (text : Str) : Option (List Nat) :=
  (compile text).bind (fun steps => evaluate nm d steps (d.rootNodes wrapper))

/-- … on an **element**: compile, evaluate from the element itself. -/
def evalElement {N : Type} (compile : Str → Option (List (Step N))) (nm : Num N) (d : Doc) (i : Nat)
    (text : Str) : Option (List Nat) :=
  (compile text).bind (fun steps => evaluate nm d steps [i])

/-- … on a **collection / list / tuple**: compile, evaluate from its members in order. -/
def evalColl {N : Type} (compile : Str → Option (List (Step N))) (nm : Num N) (d : Doc) (ms : List Nat)
    (text : Str) : Option (List Nat) :=
  (compile text).bind (fun steps => evaluate nm d steps ms)

/-- The public entry points on a parser `p` (the property names all four). -/
inductive ParserEntry where
  | getElementsByXPathExpression                 -- p.getElementsByXPathExpression(text)
  | getElementsByXPath                           -- p.getElementsByXPath(text)
  | evaluate (whichDoc : WhichDoc)               -- p.evaluate(text[, whichDoc])
  | exprEvaluate                                 -- XPathExpression(text).evaluate(p)
  | exprEvaluateRootNodes (asTuple : Bool)       -- XPathExpression(text).evaluate(p.getRootNodes()) / tuple(…)
  deriving Repr, Inhabited

def ParserEntry.run {N : Type} (compile : Str → Option (List (Step N))) (nm : Num N) (d : Doc) (wrapper : Bool)
    (text : Str) : ParserEntry → Option (List Nat)
  | .getElementsByXPathExpression => parserGetElementsByXPathExpression compile nm d wrapper text
  | .getElementsByXPath => parserGetElementsByXPath compile nm d wrapper text
  | .evaluate w => parserEvaluate compile nm d wrapper text w
  | .exprEvaluate => textEvaluate compile nm d text (.parser wrapper)
  | .exprEvaluateRootNodes _ => textEvaluate compile nm d text (.listOrTuple (d.rootNodes wrapper))

/-- The public entry points on an element. -/
inductive TagEntry where
  | getElementsByXPathExpression | getElementsByXPath | exprEvaluate
  | exprEvaluateSingleton (asTuple : Bool)       -- XPathExpression(text).evaluate([tag]) / (tag,)
  deriving Repr, Inhabited

def TagEntry.run {N : Type} (compile : Str → Option (List (Step N))) (nm : Num N) (d : Doc) (i : Nat)
    (text : Str) : TagEntry → Option (List Nat)
  | .getElementsByXPathExpression => tagGetElementsByXPathExpression compile nm d i text
  | .getElementsByXPath => tagGetElementsByXPath compile nm d i text
  | .exprEvaluate => textEvaluate compile nm d text (.tag i)
  | .exprEvaluateSingleton _ => textEvaluate compile nm d text (.listOrTuple [i])

/-- The public entry points on a collection with members `ms`. -/
inductive CollEntry where
  | getElementsByXPathExpression | getElementsByXPath
  | exprEvaluate                                 -- XPathExpression(text).evaluate(collection)
  | exprEvaluateList (asTuple : Bool)            -- XPathExpression(text).evaluate(list(collection)) / tuple(…)
  deriving Repr, Inhabited

def CollEntry.run {N : Type} (compile : Str → Option (List (Step N))) (nm : Num N) (d : Doc) (ms : List Nat)
    (text : Str) : CollEntry → Option (List Nat)
  | .getElementsByXPathExpression => collGetElementsByXPathExpression compile nm d ms text
  | .getElementsByXPath => collGetElementsByXPath compile nm d ms text
  | .exprEvaluate => textEvaluate compile nm d text (.tagCollection ms)
  | .exprEvaluateList _ => textEvaluate compile nm d text (.listOrTuple ms)

/-- the two collection *methods* (they short-cut on an empty collection) -/
def CollEntry.isMethod : CollEntry → Bool
  | .getElementsByXPathExpression => true
  | .getElementsByXPath => true
  | _ => false

end AHP.XPath
