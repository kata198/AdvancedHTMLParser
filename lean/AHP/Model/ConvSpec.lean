/-
  AHP.Model.ConvSpec — the *documented* rules of the typed DOM properties (C19), written from the property text,
  README.md, ChangeLog, the docstrings of conversions.py and the comments of the tables in constants.py — not from
  the tables' contents.  (Executable, importing the model only, so that the driver can evaluate it: the harness compares this
  specification with its own Python restatement c19_spec.py on every cell.)

    Spec.tagProps / commonProps   which dot names exist on which element type
    Spec.htmlName                 dot name → HTML attribute name
    Spec.srule                    the rule of a (element type, dot name) pair
    Spec.expected                 what reading a property gives for an attribute state (absent / text)
    Spec.assign                   what an assignment does (raise / remove / store text)
    Spec.disp                     the get/set behaviour a rule demands of `__getattribute__`/`__setattr__`, in the
                                  vocabulary of the model's dispatch — the right-hand side of the table obligations
-/
import AHP.Model.Conv
namespace AHP.Conv.Spec
open AHP AHP.Gen AHP.Conv

/-! ### names -/

/-- Per element type, the dot names beyond the common ones (alphabetical, as sets).  `button`, `select`, `option`
"inherit the special attributes from input" (value, checked and the form-control events); `submit` "inherits special
attributes from input plus onsubmit". -/
def tagProps0 : List (String × List String) :=
  [("a", ["href", "target"]),
   ("area", ["alt", "coords", "download", "href", "rel", "shape", "target"]),
   ("audio", ["autoplay", "controls", "loop", "muted", "preload", "src"]),
   ("base", ["href", "target"]),
   ("basefont", ["color", "face", "size"]),
   ("bdo", ["dir"]),
   ("blockquote", ["cite"]),
   ("body", ["alink", "background", "bgcolor", "link", "onafterprint", "onbeforeprint", "onbeforeunload", "onerror",
             "onhashchange", "onload", "onmessage", "onoffline", "ononline", "onpagehide", "onpageshow",
             "onpopstate", "onresize", "onstorage", "onunload", "vlink"]),
   ("button", ["autofocus", "checked", "disabled", "form", "formAction", "formEnctype", "formMethod",
               "formNoValidate", "formTarget", "onchange", "oncontextmenu", "oninput", "oninvalid", "onreset",
               "onsearch", "onselect", "type", "value"])]

def tagProps1 : List (String × List String) :=
  [("canvas", ["height", "width"]),
   ("caption", ["align"]),
   ("col", ["span", "valign", "width"]),
   ("colgroup", ["align", "span", "valign", "width"]),
   ("data", ["value"]),
   ("del", ["cite", "dateTime"]),
   ("details", ["ontoggle"]),
   ("dir", ["compact"]),
   ("div", ["align"]),
   ("embed", ["height", "src", "type", "width"]),
   ("fieldset", ["form"]),
   ("font", ["color", "face", "size"]),
   ("form", ["acceptCharset", "action", "autocomplete", "encoding", "enctype", "method", "noValidate", "onblur",
             "onchange", "oncontextmenu", "onfocus", "oninput", "oninvalid", "onreset", "onsearch", "onselect",
             "onsubmit", "target"]),
   ("frame", ["frameBorder", "longDesc", "marginHeight", "marginWidth", "noResize", "scrolling", "src"]),
   ("frameset", ["cols", "rows"]),
   ("h1", ["align"])]

def tagProps2 : List (String × List String) :=
  [("h2", ["align"]),
   ("h3", ["align"]),
   ("h4", ["align"]),
   ("h5", ["align"]),
   ("h6", ["align"]),
   ("head", ["profile"]),
   ("hr", ["align", "noShade", "size", "width"]),
   ("html", ["xmlns"]),
   ("iframe", ["align", "frameBorder", "height", "marginHeight", "marginWidth", "sandbox", "scrolling", "src",
               "srcdoc", "width"]),
   ("img", ["align", "alt", "border", "crossOrigin", "height", "hspace", "isMap", "longDesc", "sizes", "src",
            "srcset", "useMap", "vspace", "width"])]

def tagProps3 : List (String × List String) :=
  [("input", ["accept", "align", "alt", "autocomplete", "autofocus", "checked", "dir", "disabled", "form",
              "formAction", "formEnctype", "formMethod", "formNoValidate", "formTarget", "list", "max", "maxLength",
              "min", "multiple", "onchange", "oncontextmenu", "oninput", "oninvalid", "onreset", "onsearch",
              "onselect", "pattern", "placeholder", "readOnly", "required", "size", "src", "step", "type", "value",
              "width"]),
   ("ins", ["cite", "dateTime"]),
   ("label", ["for", "form"]),
   ("legend", ["align"]),
   ("li", ["type", "value"]),
   ("link", ["charset", "crossOrigin", "href", "hreflang", "media", "rel", "rev", "sizes", "target", "type"])]

def tagProps4 : List (String × List String) :=
  [("menu", ["label", "onshow", "type"]),
   ("menuitem", ["checked", "disabled", "icon", "label", "radiogroup", "type"]),
   ("meta", ["charset", "content", "httpEquiv", "scheme"]),
   ("meter", ["form", "high", "low", "max", "min", "optimum", "value"]),
   ("object", ["align", "archive", "border", "classid", "codeBase", "codeType", "data", "declare", "form", "height",
               "hspace", "standby", "type", "useMap", "vspace", "width"]),
   ("ol", ["compact", "reversed", "start", "type"]),
   ("optgroup", ["disabled", "label"]),
   ("option", ["checked", "disabled", "label", "onchange", "oncontextmenu", "oninput", "oninvalid", "onreset",
               "onsearch", "onselect", "selected", "value"])]

def tagProps5 : List (String × List String) :=
  [("output", ["for", "form"]),
   ("p", ["align"]),
   ("param", ["type", "value", "valueType"]),
   ("pre", ["width"]),
   ("progress", ["max", "value"]),
   ("q", ["cite"]),
   ("script", ["async", "charset", "defer", "src", "type"]),
   ("select", ["autofocus", "checked", "disabled", "form", "multiple", "onchange", "oncontextmenu", "oninput",
               "oninvalid", "onreset", "onsearch", "onselect", "required", "size", "value"]),
   ("source", ["media", "sizes", "src", "srcdest", "type"]),
   ("style", ["media", "scoped", "type"])]

def tagProps6 : List (String × List String) :=
  [("submit", ["accept", "align", "alt", "autocomplete", "autofocus", "checked", "dir", "disabled", "form",
               "formAction", "formEnctype", "formMethod", "formNoValidate", "formTarget", "list", "max", "maxLength",
               "min", "multiple", "onchange", "oncontextmenu", "oninput", "oninvalid", "onreset", "onsearch",
               "onselect", "onsubmit", "pattern", "placeholder", "readOnly", "required", "size", "src", "step",
               "type", "value", "width"]),
   ("table", ["align", "bgcolor", "border", "cellPadding", "cellSpacing", "frame", "rules", "summary", "width"]),
   ("tbody", ["align", "char", "charoff", "vAlign"])]

def tagProps7 : List (String × List String) :=
  [("td", ["abbr", "align", "axis", "bgcolor", "char", "charoff", "colSpan", "headers", "height", "noWrap",
           "rowSpan", "scope", "vAlign", "width"]),
   ("textarea", ["autofocus", "cols", "dirname", "disabled", "form", "maxLength", "placeholder", "readOnly",
                 "required", "rows", "wrap"]),
   ("tfoot", ["align", "char", "charoff", "vAlign"]),
   ("th", ["abbr", "align", "axis", "bgcolor", "char", "charoff", "colSpan", "headers", "height", "noWrap",
           "rowSpan", "scope", "sorted", "vAlign", "width"]),
   ("thead", ["align", "char", "charoff", "vAlign"]),
   ("time", ["dateTime"]),
   ("tr", ["align", "bgcolor", "char", "charoff", "vAlign"]),
   ("track", ["default", "kind", "label", "src", "srclang"]),
   ("ul", ["compact", "type"]),
   ("video", ["autoplay", "controls", "height", "loop", "muted", "poster", "preload", "src", "width"])]

def tagProps : List (String × List String) :=
  tagProps0 ++ tagProps1 ++ tagProps2 ++ tagProps3 ++ tagProps4 ++ tagProps5 ++ tagProps6 ++ tagProps7


/-- The dot names every element has: the global attributes and the common event handlers. -/
def commonProps : List String :=
  ["align", "className", "dir", "hidden", "id", "lang", "name", "onblur", "onchange", "onclick", "oncontextmenu",
   "oncopy", "oncut", "ondblclick", "ondrag", "ondragend", "ondragenter", "ondragleave", "ondragover", "ondragstop",
   "ondrop", "onfocus", "onkeydown", "onkeypress", "onkeyup", "onmousedown", "onmousemove", "onmouseout",
   "onmouseover", "onmouseup", "onmousewheel", "onpaste", "onscroll", "onselect", "onwheel", "spellcheck",
   "tabIndex", "title"]

/-- The HTML attribute name of a dot name: lower case, except the four names that differ by more than case. -/
def htmlName (prop : String) : String :=
  if prop = "className" then "class"
  else if prop = "httpEquiv" then "http-equiv"
  else if prop = "acceptCharset" then "accept-charset"
  else if prop = "encoding" then "enctype"
  else lowerS prop

/-- "These attributes are binary (only accept true/false)" — by dot name. -/
def booleanProps : List String :=
  ["hidden", "checked", "selected", "autoplay", "controls", "loop", "muted", "compact", "noValidate", "noResize",
   "autofocus", "disabled", "formNoValidate", "multiple", "readOnly", "required", "declare", "reversed", "async",
   "defer", "noWrap", "default"]

/-! ### rules -/

inductive SRule where
  | className
  | boolean
  | boolString
  | intOrMinusOne
  | capped (lo hi absent invalid : Int)          -- clamped into lo..hi; unset: absent; empty / not a number: invalid
  | nonNegative (dflt : Int)                     -- n ≥ 0, anything else (unset, negative, not a number): dflt
  | atLeast (lo dflt : Int)                      -- n ≥ lo, anything else: dflt
  | maxLength                                    -- unset -1, empty 0, n ≥ 0, anything else -1; assignment validated
  | enum (members : List String) (absent invalid : Lit) (empty : Option Lit)   -- empty = none: same as invalid
  | parentForm
  | tokens
  | string (dflt : Lit)
  deriving DecidableEq, Repr, Inhabited

def srule (tag prop : String) : SRule :=
  if prop = "className" then .className
  else if prop = "spellcheck" then .boolString
  else if booleanProps.contains prop then .boolean
  else if prop = "tabIndex" then .intOrMinusOne
  else if prop = "span" || prop = "colSpan" then .capped 1 1000 1 1
  else if prop = "rowSpan" then .capped 0 65534 1 0
  else if prop = "hspace" || prop = "vspace" then .nonNegative 0
  else if prop = "size" then (if tag = "input" then .nonNegative 20 else .string (.str ""))
  else if prop = "cols" then (if tag = "textarea" then .atLeast 1 20 else .string (.str ""))
  else if prop = "rows" then (if tag = "textarea" then .atLeast 1 2 else .string (.str ""))
  else if prop = "maxLength" then .maxLength
  else if prop = "method" then .enum ["get", "post"] (.str "get") (.str "get") (some (.str ""))
  else if prop = "autocomplete" then
    (if tag = "form" then .enum ["on", "off"] (.str "on") (.str "on") none
     else .enum ["on", "off"] (.str "") (.str "") (some (.str "")))
  else if prop = "crossOrigin" then .enum ["use-credentials", "anonymous"] .none (.str "anonymous") (some .none)
  else if prop = "kind" then
    .enum ["captions", "chapters", "descriptions", "metadata", "subtitles"] (.str "subtitles") (.str "metadata") none
  else if prop = "form" then .parentForm
  else if prop = "sandbox" then .tokens
  else if "on".isPrefixOf prop then .string .none
  else .string (.str "")

/-! ### meaning -/

/-- The text an element holds for an attribute (the value-less state is outside the property's quantifier). -/
inductive St where
  | absent
  | text (s : Str)
  deriving DecidableEq, Repr, Inhabited

/-- DOMTokenList of a text: "stripping to single words and splitting by blank, ignoring the empty string case". -/
def tokensOf (s : Str) : List Str :=
  let t := stripWordsOnly s
  if t = [] then [] else splitChar ' ' t

/-- the class names of a text: its non-empty blank-separated words -/
def words (s : Str) : List Str := (splitChar ' ' (stripWordsOnly s)).filter (fun w => !w.isEmpty)

def clamp (lo hi n : Int) : Int := max lo (min hi n)

/-- What reading the property gives. -/
def expected (parseInt : Str → Except PyErr Int) (r : SRule) (st : St) (ancestors : List String) (classNames : List Str) : PyV :=
  match r, st with
  | .className, _ => .str (joinWith [' '] classNames)
  | .boolean, .absent => .bool false
  | .boolean, .text _ => .bool true
  | .boolString, .absent => .bool false
  | .boolString, .text s => .bool (!(lower s = str "false" || lower s = str "0"))
  | .intOrMinusOne, .absent => .int (-1)
  | .intOrMinusOne, .text s =>
    if s = [] then .int (-1) else match parseInt s with | .ok n => .int n | .error _ => .int 0
  | .capped _ _ a _, .absent => .int a
  | .capped lo hi _ i, .text s =>
    if s = [] then .int i else match parseInt s with | .ok n => .int (clamp lo hi n) | .error _ => .int i
  | .nonNegative d, .absent => .int d
  | .nonNegative d, .text s => match parseInt s with | .ok n => if n < 0 then .int d else .int n | .error _ => .int d
  | .atLeast _ d, .absent => .int d
  | .atLeast lo d, .text s =>
    if s = [] then .int d else match parseInt s with | .ok n => if n < lo then .int d else .int n | .error _ => .int d
  | .maxLength, .absent => .int (-1)
  | .maxLength, .text s =>
    if s = [] then .int 0 else match parseInt s with | .ok n => if n < 0 then .int (-1) else .int n | .error _ => .int (-1)
  | .enum _ a _ _, .absent => a.toPy
  | .enum ms _ i e, .text s =>
    if s = [] then (match e with | some v => v.toPy | none => i.toPy)
    else if ms.contains (String.ofList (lower s)) then .str (lower s) else i.toPy
  | .parentForm, _ => nearest "form" ancestors 0
  | .tokens, .absent => .tokens []
  | .tokens, .text s => .tokens (tokensOf s)
  | .string d, .absent => d.toPy
  | .string _, .text s => .str s

/-- What an assignment does. -/
inductive Assign where
  | raise
  | remove
  | store (s : Str)
  deriving DecidableEq, Repr, Inhabited

/-- the assigned values the property speaks of: text, integers, booleans, None -/
def plain : PyV → Bool
  | .none => true
  | .str _ => true
  | .int _ => true
  | .bool _ => true
  | _ => false

/-- the only raising assignment: maxLength with a value that is neither empty nor a non-negative integer -/
def outOfRange (parseInt : Str → Except PyErr Int) (v : PyV) : Bool :=
  if isNoneOrEmpty v then false
  else match pyInt parseInt v with
    | .ok n => n < 0
    | .error _ => true

def assign (parseInt : Str → Except PyErr Int) (r : SRule) (v : PyV) : Assign :=
  match r with
  | .maxLength => if outOfRange parseInt v then .raise else .store (tostr v)
  | .boolean => if truthy v then .store [] else .remove
  | .boolString =>
    match v with
    | .str s => .store (if lower s = str "false" || lower s = str "0" then str "false" else str "true")
    | v => .store (if truthy v then str "true" else str "false")
  | .className => .store (joinWith [' '] (words (match v with | .none => [] | v => tostr v)))
  | _ => .store (tostr v)

def empOf : Option Lit → Emp
  | none => .invalid
  | some v => .val v

/-- well-formedness of a rule: the range is not empty, the unset default is what the rule itself gives for it -/
def wf : SRule → Bool
  | .capped lo hi a _ => decide (lo ≤ hi) && decide (lo ≤ a) && decide (a ≤ hi)
  | .enum ms a i e =>
    (match convertPossibleValues a.toPy ms (.val i) (empOf e) with
     | .ok v => decide (v = a.toPy)
     | .error _ => false)
  | _ => true

/-! ### what a rule demands of the dispatch -/

def mlRule (attr : String) : Rule :=
  .maxLength attr (.int (-1)) (.str "-1") (some 0) none (.val (.int 0)) (.val (.int (-1))) (.raise "IndexSizeErrorException")

def disp (attr : String) : SRule → Disp
  | .className => { get := .className, set := .className, validate := none }
  | .boolean => { get := .boolean attr, set := .boolean attr, validate := none }
  | .boolString => { get := .boolStr attr, set := .boolStr attr, validate := none }
  | .intOrMinusOne => { get := .special (.conv .intOrMinusOne attr .none), set := .string attr, validate := none }
  | .capped lo hi a i =>
    { get := .special (.conv (.intCapped (some lo) (some hi) (.val (.int i)) .invalid) attr (.int a)),
      set := .string attr, validate := none }
  | .nonNegative d => { get := .special (.conv (.positiveInt (.int d)) attr (.int d)), set := .string attr, validate := none }
  | .atLeast lo d =>
    { get := .special (.conv (.intRange (some lo) none (.val (.int d)) .invalid) attr (.int d)), set := .string attr, validate := none }
  | .maxLength => { get := .special (mlRule attr), set := .string attr, validate := some (mlRule attr) }
  | .enum ms a i e => { get := .special (.conv (.possible ms (.val i) (empOf e)) attr a), set := .string attr, validate := none }
  | .parentForm => { get := .special (.parentTag "form"), set := .string attr, validate := none }
  | .tokens => { get := .special (.conv .tokens attr (.str "")), set := .string attr, validate := none }
  | .string d => { get := .string attr d, set := .string attr, validate := none }

/-! ### normal form of a dispatch entry (what the table obligations compare) -/

/-- `_special_value_rows/cols/size/autocomplete`: the branch taken for this element type. -/
def resolve (tag : String) : Rule → Rule
  | .byTag t a b => if tag = t then resolve tag a else resolve tag b
  | r => r

def normGet (tag : String) : GetKind → GetKind
  | .className => .className
  | .special r =>
    match resolve tag r with
    | .conv .raw a d => .string (lowerS a) d          -- an unconverted attribute value is a plain string property
    | r' => .special r'
  | .boolStr a => .boolStr (lowerS a)
  | .boolean a => .boolean (lowerS a)
  | .string a d => .string (lowerS a) d

def normSet : SetKind → SetKind
  | .className => .className
  | .boolStr a => .boolStr (lowerS a)
  | .boolean a => .boolean (lowerS a)
  | .string a => .string (lowerS a)

/-- The attribute store lower-cases every key, so names are compared in lower case. -/
def norm (tag : String) (d : Disp) : Disp :=
  { get := normGet tag d.get, set := normSet d.set, validate := d.validate }

/-! ### side conditions under which the model's store behaves as a plain map on the names involved -/

def plainName (T : Tables) (a : String) : Bool :=
  let k := lowerS a
  !T.booleans.contains a && !T.booleans.contains k && !T.boolStrings.contains k && k != "class" && k != "style"
  && lowerS k == k

def boolName (T : Tables) (a : String) : Bool :=
  let k := lowerS a
  T.booleans.contains a && T.booleans.contains k && !T.boolStrings.contains k && k != "class" && k != "style"
  && lowerS k == k

def boolStrName (T : Tables) (a : String) : Bool :=
  let k := lowerS a
  !T.booleans.contains a && !T.booleans.contains k && T.boolStrings.contains k && k != "class" && k != "style"
  && lowerS k == k

def ruleOK (T : Tables) : Rule → Bool
  | .conv _ a _ => plainName T a
  | .parentTag _ => true
  | .byTag _ a b => ruleOK T a && ruleOK T b
  | .maxLength a _ _ _ _ _ _ _ => plainName T a

def getOK (T : Tables) : GetKind → Bool
  | .className => true
  | .special r => ruleOK T r
  | .boolStr a => boolStrName T a
  | .boolean a => boolName T a
  | .string a _ => plainName T a

def setOK (T : Tables) : SetKind → Bool
  | .className => true
  | .boolStr a => boolStrName T a && isValidAttributeName a && isValidAttributeName (lowerS a)
  | .boolean a => boolName T a && isValidAttributeName a && isValidAttributeName (lowerS a)
  | .string a => plainName T a && isValidAttributeName a && isValidAttributeName (lowerS a)

def dispOK (T : Tables) (d : Disp) : Bool := getOK T d.get && setOK T d.set

/-- Everything the table obligation says about one (element type, dot name) pair. -/
def cellOK (T : Tables) (tag prop : String) : Bool :=
  match dispatch T tag prop with
  | none => false
  | some d =>
    decide (norm tag d = disp (htmlName prop) (srule tag prop)) && dispOK T d && !T.rawAttrs.contains prop
    && wf (srule tag prop) && lowerS (htmlName prop) == htmlName prop

end AHP.Conv.Spec
