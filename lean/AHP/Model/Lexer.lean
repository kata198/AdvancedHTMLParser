/-
  AHP.Model.Lexer — `lexStrict`: the stdlib tokenizer (html.parser, convert_charrefs = False, never close()d)
  on a *strict sub-language*: what the library's own serialisers emit plus the lexical variants C02 quantifies
  over (mixed-case names, double / single / unquoted / value-less attributes, white space variants, doctype,
  comments, processing instructions, references, raw-text elements).  Outside that sub-language the answer
  is `none` — never a guess.  The correspondence check compares `lexStrict` with the real tokenizer on every
  generated string on which `lexStrict` answers `some`.
-/
import AHP.Model.Token
namespace AHP

def span (p : Char → Bool) : Str → Str × Str
  | [] => ([], [])
  | c :: cs => if p c then let r := span p cs; (c :: r.1, r.2) else ([], c :: cs)

/-- characters of a tag name after the first letter -/
def isTagCh (c : Char) : Bool := isAlnum c || c = '-' || c = '_' || c = ':' || c = '.'
/-- What ends the name of a start tag: html.parser reads `[a-zA-Z][^\t\n\r\f />\x00]*` — an *explicit* set, not `\s`
    (`<div\x0bid=x>` and `<div\xa0id=x>` are start tags named `div\x0bid=x`, `div\xa0id=x`).  `\x00` is outside the
    sub-language.  Everywhere else inside a tag the patterns say `\s`, which for a `str` pattern is `str.isspace()` = `isWs`
    (`commentclose`, `attrfind_tolerant`, `endtagfind`, the `</\s*script\s*>` of CDATA mode). -/
def isTagEnd (c : Char) : Bool := c = ' ' || c = '\t' || c = '\n' || c = '\r' || c = '\x0c' || c = '/' || c = '>'
/-- does the text after the name characters of a start tag begin with a character that ends the name? -/
def tagNameEnds : Str → Bool
  | [] => false
  | c :: _ => isTagEnd c
/-- characters of an attribute name -/
def isAttrCh (c : Char) : Bool :=
  !(isWs c) && c ≠ '/' && c ≠ '>' && c ≠ '=' && c ≠ '"' && c ≠ '\'' && c ≠ '<' && c ≠ '&' && c ≠ '`' && c ≠ '\x00'
/-- characters of an unquoted attribute value -/
def isUnqCh (c : Char) : Bool := isAttrCh c
/-- entity name characters after the first letter: `[-.a-zA-Z0-9]` -/
def isEntCh (c : Char) : Bool := isAlnum c || c = '-' || c = '.'
def isHex (c : Char) : Bool := isDigit c || ('a' ≤ c && c ≤ 'f') || ('A' ≤ c && c ≤ 'F')

/-- text up to (not including) the first `q`; `none` when `q` does not occur -/
def readUntil (q : Char) : Str → Option (Str × Str)
  | [] => none
  | c :: cs => if c = q then some ([], cs) else
      match readUntil q cs with
      | some (v, r) => some (c :: v, r)
      | none => none

/-- `html.unescape` on the sub-language: `&quot;` becomes `"`; any other `&` must be followed by a
    character that cannot start a reference (not a letter, not `#`), else `none`. -/
def unescValue : Nat → Str → Option Str
  | 0, _ => none
  | _ + 1, [] => some []
  | k + 1, c :: cs =>
    if c = '&' then
      if "quot;".toList.isPrefixOf cs then (unescValue k (cs.drop 5)).map ('"' :: ·)
      else match cs with
        | [] => some ['&']
        | d :: _ => if isAlpha d || d = '#' then none else (unescValue k cs).map ('&' :: ·)
    else (unescValue k cs).map (c :: ·)

/-- attributes after the tag name, up to and including `>` or `/>`: `(attrs, selfClosing, rest)` -/
def lexAttrs : Nat → Str → Option (List Attr × Bool × Str)
  | 0, _ => none
  | k + 1, s =>
    let s1 := s.dropWhile isWs
    match s1 with
    | [] => none
    | c :: r =>
      if c = '>' then some ([], false, r)
      else if c = '/' then
        match r with
        | d :: r' => if d = '>' then some ([], true, r') else none
        | [] => none
      else if s1.length = s.length then none        -- an attribute must be separated by white space
      else
        let nr := span isAttrCh s1
        if nr.1.isEmpty then none else
        let r2 := nr.2.dropWhile isWs
        match r2 with
        | '=' :: r3 =>
          let r4 := r3.dropWhile isWs
          match r4 with
          | [] => none
          | q :: r5 =>
            if q = '"' || q = '\'' then
              match readUntil q r5 with
              | none => none
              | some (raw, r6) =>
                match unescValue (raw.length + 1) raw with
                | none => none
                | some v => (lexAttrs k r6).map (fun x => ((lower nr.1, some v) :: x.1, x.2.1, x.2.2))
            else
              let vr := span isUnqCh r4
              if vr.1.isEmpty then none else
              match vr.2 with
              | [] => none
              | e :: _ =>
                if isWs e || e = '>' then
                  (lexAttrs k vr.2).map (fun x => ((lower nr.1, some vr.1) :: x.1, x.2.1, x.2.2))
                else none
        | _ => (lexAttrs k nr.2).map (fun x => ((lower nr.1, none) :: x.1, x.2.1, x.2.2))

/-- does `s` start with `</` ws* `name` ws* `>` (case-insensitively)?  Returns what follows. -/
def matchEndTag (name : Str) (s : Str) : Option Str :=
  match s with
  | '<' :: '/' :: r =>
    let r1 := r.dropWhile isWs
    if (lower (r1.take name.length)) = name then
      match (r1.drop name.length).dropWhile isWs with
      | '>' :: r2 => some r2
      | _ => none
    else none
  | _ => none

/-- raw text of `script`/`style`: up to the first matching end tag; `none` when there is none -/
def lexRaw (name : Str) : Nat → Str → Option (Str × Str)
  | 0, _ => none
  | _ + 1, [] => none
  | k + 1, c :: cs =>
    match matchEndTag name (c :: cs) with
    | some r => some ([], r)
    | none => (lexRaw name k cs).map (fun x => (c :: x.1, x.2))

/-- does the comment close (`--` ws* `>`) start here?  Returns what follows it. -/
def commentCloses : Str → Option Str
  | '-' :: '-' :: r =>
    match r.dropWhile isWs with
    | '>' :: r2 => some r2
    | _ => none
  | _ => none

/-- first position of `--` ws* `>`: comment body and what follows the close -/
def lexComment : Nat → Str → Option (Str × Str)
  | 0, _ => none
  | _ + 1, [] => none
  | k + 1, c :: cs =>
    match commentCloses (c :: cs) with
    | some r => some ([], r)
    | none => (lexComment k cs).map (fun x => (c :: x.1, x.2))

/-- characters of a data run -/
def isTextCh (d : Char) : Bool := d ≠ '<' && d ≠ '&'

def isRawText (n : Str) : Bool := n = "script".toList || n = "style".toList

/-- one token at the head of a non-empty input; a raw-text start tag is returned together with its content and end tag -/
def lexOne (fuel : Nat) (s : Str) : Option (List Token × Str) :=
  match s with
  | [] => none
  | '<' :: r =>
    match r with
    | [] => none
    | c :: r1 =>
      if isAlpha c then
        -- start tag
        let nr := span isTagCh (c :: r1)
        if !tagNameEnds nr.2 then none else     -- any other character would be part of the name: outside the sub-language
        match lexAttrs fuel nr.2 with
        | none => none
        | some (attrs, sc, rest) =>
          let n := lower nr.1
          if sc then some ([.startend n attrs], rest)
          else if isRawText n then
            match lexRaw n fuel rest with
            | none => none
            | some (raw, rest') =>
              some ((if raw.isEmpty then [.start n attrs, .end_ n] else [.start n attrs, .data raw, .end_ n]), rest')
          else some ([.start n attrs], rest)
      else if c = '/' then
        let r2 := r1.dropWhile isWs
        match r2 with
        | [] => none
        | d :: _ =>
          if isAlpha d then
            let nr := span isTagCh r2
            match nr.2.dropWhile isWs with
            | '>' :: rest => some ([.end_ (lower nr.1)], rest)
            | _ => none
          else none
      else if c = '!' then
        match r1 with
        | '-' :: '-' :: r2 => (lexComment fuel r2).map (fun x => ([.comment x.1], x.2))
        | _ =>
          if lower (r1.take 7) = "doctype".toList then
            (readUntil '>' r1).map (fun x => ([.decl x.1], x.2))
          else none
      else if c = '?' then
        (readUntil '>' r1).map (fun x => ([.pi x.1], x.2))
      else
        -- `<` followed by a character that cannot open markup: the data "<"
        some ([.data ['<']], c :: r1)
  | '&' :: r =>
    match r with
    | [] => none
    | '#' :: r1 =>
      match r1 with
      | [] => none
      | x :: r2 =>
        if x = 'x' || x = 'X' then
          let hr := span isHex r2
          if hr.1.isEmpty then none else
          match hr.2 with
          | ';' :: rest => some ([.charref (x :: hr.1)], rest)
          | _ => none
        else
          let dr := span isDigit r1
          if dr.1.isEmpty then none else
          match dr.2 with
          | ';' :: rest => some ([.charref dr.1], rest)
          | _ => none
    | c :: r1 =>
      if isAlpha c then
        let nr := span isEntCh (c :: r1)
        match nr.2 with
        | ';' :: rest => some ([.entity nr.1], rest)
        | _ => none
      else some ([.data ['&']], c :: r1)
  | c :: r =>
    let dr := span isTextCh (c :: r)
    some ([.data dr.1], dr.2)

def lexN : Nat → Str → Option (List Token)
  | 0, _ => none
  | k + 1, s =>
    if s.isEmpty then some [] else
    match lexOne (k + 1) s with
    | some (ts, rest) => if rest.length < s.length then (lexN k rest).map (ts ++ ·) else none
    | none => none

def lexStrict (s : Str) : Option (List Token) := lexN (s.length + 1) s

end AHP
