/-
  AHP.Model.XPathSpec — the *specification* side of C14: predicate syntax trees with three
  precedence levels and a recursive, precedence-respecting reference evaluator; step semantics as
  relations over `parent`; `flatten`, the flat body-element list the tokenizer is expected to produce
  for a syntax tree.  Imports AHP.Model.XPath only, so that the driver can run it next to the model.
-/
import AHP.Model.XPath
namespace AHP.XPath

/-- Predicate syntax.  A binary node carries an operator of class 0 (arithmetic / `||`), 1 (comparison)
    or 2 (`and`/`or`); `P.wf` says that the tree is what a precedence grammar with these three levels and
    left-associative operators produces (anything else needs a `group`). -/
inductive P (N : Type) where
  | lit (v : Val N)
  | attr (name : Str)
  | text
  | last
  | position
  | concat (args : List (P N))
  | contains (a b : P N)
  | nspace0
  | nspace1 (a : P N)
  | group (p : P N)
  | bin (o : Op) (l r : P N)
  deriving Inhabited

mutual
/-- `P.wf k p`: `p` is an expression of level ≤ `k` (atoms are level 0 without operator). `k = 3`: any. -/
def P.wf {N : Type} : Nat → P N → Bool
  | k, .bin o l r => o.cls < k && P.wf (o.cls + 1) l && P.wf o.cls r
  | _, .concat args => P.wfList args
  | _, .contains a b => P.wf 3 a && P.wf 3 b
  | _, .nspace1 a => P.wf 3 a
  | _, .group p => P.wf 3 p
  | _, _ => true
def P.wfList {N : Type} : List (P N) → Bool
  | [] => true
  | p :: ps => P.wf 3 p && P.wfList ps
end

def Val.isNull {N : Type} : Val N → Bool
  | .null => true
  | _ => false

mutual
/-- no literal is Null (the grammar has number and string literals only) -/
def P.noNull {N : Type} : P N → Bool
  | .lit v => !v.isNull
  | .concat args => P.noNullList args
  | .contains a b => P.noNull a && P.noNull b
  | .nspace1 a => P.noNull a
  | .group p => P.noNull p
  | .bin _ l r => P.noNull l && P.noNull r
  | _ => true
def P.noNullList {N : Type} : List (P N) → Bool
  | [] => true
  | p :: ps => P.noNull p && P.noNullList ps
end

mutual
/-- The flat body-element list of a syntax tree: in-order, groups and arguments nested. -/
def flatten {N : Type} : P N → List (BE N)
  | .lit v => [.val v]
  | .attr n => [.attr n]
  | .text => [.text]
  | .last => [.last]
  | .position => [.position]
  | .concat args => [.concatFn (flattenArgs args)]
  | .contains a b => [.containsFn (.group (flatten a)) (.group (flatten b))]
  | .nspace0 => [.nspace0]
  | .nspace1 a => [.nspace1 (.group (flatten a))]
  | .group p => [.group (flatten p)]
  | .bin o l r => flatten l ++ .op o :: flatten r
def flattenArgs {N : Type} : List (P N) → List (BE N)
  | [] => []
  | p :: ps => .group (flatten p) :: flattenArgs ps
end

mutual
/-- Reference evaluation: operands first, then the operator — nothing else. -/
def evalP {N : Type} (nm : Num N) (c : Ctx) : P N → Option (Val N)
  | .lit v => some v
  | .attr name =>
    if name.contains '*' then none
    else match lookupAttr c.attrs (lower name) with
      | none => some .null
      | some v => some (.str v)
  | .text => some (.str c.text)
  | .last => some (.num (nm.ofNat c.last))
  | .position => some (.num (nm.ofNat c.pos))
  | .concat args => concatVal (evalArgs nm c args)
  | .contains a b => containsVal nm (evalP nm c a) (evalP nm c b)
  | .nspace0 => some (.str (strip c.text))
  | .nspace1 a => nspaceVal (evalP nm c a)
  | .group p => evalP nm c p
  | .bin o l r =>
    match evalP nm c l, evalP nm c r with
    | some x, some y => applyOp nm o x y
    | _, _ => none
def evalArgs {N : Type} (nm : Num N) (c : Ctx) : List (P N) → Option (List (Val N))
  | [] => some []
  | p :: ps =>
    match evalP nm c p, evalArgs nm c ps with
    | some v, some vs => some (v :: vs)
    | _, _ => none
end

/-! ### Steps, as the property words them -/

structure SStep (N : Type) where
  dbl : Bool
  axis : Option Axis
  name : Str
  preds : List (P N)

/-- `j` is a descendant of `i` iff `i` is among the ancestors of `j`; in document order. -/
def specDesc (d : Doc) (i : Nat) : List Nat :=
  (List.range d.length).filter (fun j => (d.anc j).contains i)

def specSelf (d : Doc) (name : Str) (i : Nat) : List Nat := if nameOk d name i then [i] else []

/-- One step applied to one element: axis and name test (a step without explicit axis is `child`, or
    `descendant` after `//`; the *first* step of an expression additionally admits the element itself). -/
def specAxis {N : Type} (d : Doc) (first : Bool) (s : SStep N) (i : Nat) : List Nat :=
  let t := nameOk d s.name
  match s.axis with
  | some .child => (d.children i).filter t
  | some .descendant => (specDesc d i).filter t
  | some .descendantOrSelf => specSelf d s.name i ++ (specDesc d i).filter t
  | some .parent => (d.parent i).toList.filter t
  | some .ancestor => (d.anc i).filter t
  | some .ancestorOrSelf => specSelf d s.name i ++ (d.anc i).filter t
  | none =>
    (if first then specSelf d s.name i else []) ++
      (if s.dbl then (specDesc d i).filter t else (d.children i).filter t)

/-- Is the tag kept by a predicate? (`none` = the evaluation raises) -/
def specKeep {N : Type} (nm : Num N) (d : Doc) (p : P N) (i : Nat) : Option Bool :=
  (evalP nm (d.ctx i) p).bind (keepTag nm d i)

def specFilter {N : Type} (nm : Num N) (d : Doc) (p : P N) : List Nat → Option (List Nat)
  | [] => some []
  | i :: rest =>
    match specKeep nm d p i, specFilter nm d p rest with
    | some b, some r => some (if b then i :: r else r)
    | _, _ => none

def specPreds {N : Type} (nm : Num N) (d : Doc) : List (P N) → List Nat → Option (List Nat)
  | [], cur => some cur
  | p :: ps, cur =>
    match specFilter nm d p cur with
    | none => none
    | some [] => some []
    | some cur' => specPreds nm d ps cur'

def specSteps {N : Type} (nm : Num N) (d : Doc) : Bool → List (SStep N) → List Nat → Option (List Nat)
  | _, [], cur => some cur
  | first, s :: ss, cur =>
    match dedup (cur.flatMap (specAxis d first s)) with
    | [] => some []
    | cur1 =>
      match specPreds nm d s.preds cur1 with
      | none => none
      | some [] => some []
      | some cur2 => specSteps nm d false ss cur2

/-- The denotation of an expression on a start collection. -/
def specEval {N : Type} (nm : Num N) (d : Doc) (steps : List (SStep N)) (start : List Nat) : Option (List Nat) :=
  specSteps nm d true steps (dedup start)

/-- The uncompiled flat form of an expression (what the tokenizers are expected to deliver). -/
def flattenSteps {N : Type} (steps : List (SStep N)) : List (Step N) :=
  steps.map (fun s => { dbl := s.dbl, axis := s.axis, name := s.name, preds := s.preds.map flatten })

/-! ### The value-level clauses of the property, written from its text

  `evalP`, `specKeep` and `specAxis` above share their leaf functions (`applyOp`, `keepTag`, `Doc.ctx`, `nameOk`) with the
  model.  The definitions below do not: each is a direct reading of one clause of the property, in terms of the
  document table and the natural numbers only.  Lemmas/XPathValues.lean relates them to the model's functions. -/

/-- "an absent attribute": the element carries no attribute of that name (names are case-insensitive and kept
    in lower case) -/
def Ctx.lacks (c : Ctx) (name : Str) : Prop := ∀ v, (lower name, v) ∉ c.attrs

def Doc.lacksAttr (d : Doc) (i : Nat) (name : Str) : Prop := ∀ v, (lower name, v) ∉ (d.getD i default).attrs

/-- "both sides are numeric": the value is a number, or a string that reads as one (`float(s)` succeeds — an
    attribute value such as `"10"`), or a truth value (`float(True) == 1.0`); with the number it stands for -/
inductive IsNumeric {N : Type} (nm : Num N) : Val N → N → Prop
  | num (x : N) : IsNumeric nm (.num x) x
  | str (s : Str) (x : N) : nm.parse s = some x → IsNumeric nm (.str s) x
  | bool (b : Bool) : IsNumeric nm (.bool b) (nm.ofNat (if b then 1 else 0))

/-- the relation a comparison operator stands for, on numbers -/
def numRel {N : Type} (nm : Num N) : CmpOp → N → N → Bool
  | .eq, x, y => nm.eq x y
  | .ne, x, y => !nm.eq x y
  | .lt, x, y => nm.lt x y
  | .le, x, y => nm.le x y
  | .gt, x, y => nm.lt y x
  | .ge, x, y => nm.le y x

/-- … and on natural numbers, with the order of the natural numbers -/
def natRel : CmpOp → Nat → Nat → Bool
  | .eq, a, b => decide (a = b)
  | .ne, a, b => decide (a ≠ b)
  | .lt, a, b => decide (a < b)
  | .le, a, b => decide (a ≤ b)
  | .gt, a, b => decide (b < a)
  | .ge, a, b => decide (b ≤ a)

/-- "the n-th among their same-named siblings": the position of element `i`, counted from 1, among the children
    of its parent that carry its tag name — one more than the number of *earlier* rows of the table with the same
    parent and the same name; an element without parent is the first (and only) one. -/
def specPos (d : Doc) (i : Nat) : Nat :=
  match d.parent i with
  | none => 1
  | some p => ((List.range i).filter (fun j => decide (d.parent j = some p) && decide (d.name j = d.name i))).length + 1

/-- the number of children of the parent of `i` with its tag name (`last()`) -/
def specLast (d : Doc) (i : Nat) : Nat :=
  match d.parent i with
  | none => 1
  | some p => ((List.range d.length).filter (fun j => decide (d.parent j = some p) && decide (d.name j = d.name i))).length

/-- element `i` is the `n`-th among its same-named siblings -/
def specNth (d : Doc) (i n : Nat) : Prop := specPos d i = n

instance (d : Doc) (i n : Nat) : Decidable (specNth d i n) := inferInstanceAs (Decidable (specPos d i = n))

end AHP.XPath
