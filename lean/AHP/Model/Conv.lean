/-
  AHP.Model.Conv — executable model of the typed DOM properties (C19, DESIGN §4 and §5 C19):

    conversions.py      convertToIntOrNegativeOneIfUnset, convertToBooleanString, convertBooleanStringToBoolean,
                        convertToPositiveInt, _handleInvalid, convertPossibleValues, convertToIntRange,
                        convertToIntRangeCapped                                  (all of the file)
    constants.py        the *shapes* of the special-value lambdas and `_special_value_*` helpers (`evalRule`);
                        their literal arguments and all tables come from `AHP.Gen` (regenerated from the source)
    Tags.py             AdvancedTag.__getattribute__ / __setattr__ dispatch, getAttribute, setAttribute,
                        hasAttribute, removeAttribute, isValidAttributeName, className
    SpecialAttributes   SpecialAttributesDict.__getitem__/__setitem__/__delitem__/__contains__/get/keys
                        (the spellcheck branches, the lazy `class` key), DOMTokenList.__init__ (string form)
    utils.py            tostr, stripWordsOnly

  Python values are `PyV`, raising calls are `Except PyErr`.  Python's `int()` on text is a parameter
  `parseInt : Str → Except PyErr Int` of everything that converts; `pyIntOfStr` is the ASCII/Unicode-decimal exact
  executable instance the driver runs (CPython 3.12: padding, sign, underscores, Unicode decimal digits, the
  4300-digit limit).
-/
import AHP.Model.Basic
import AHP.Gen.Tables
namespace AHP.Conv
open AHP AHP.Gen

/-- Exceptions, by the small enum the harness canonicalises to. -/
inductive PyErr where
  | valueError
  | typeError
  | keyError
  | indexSizeError
  | other (name : String)
  deriving DecidableEq, Repr, Inhabited

/-- Python values that flow through the typed properties. -/
inductive PyV where
  | none
  | str (s : Str)
  | int (n : Int)
  | bool (b : Bool)
  | tokens (ws : List Str)        -- a DOMTokenList
  | ancestor (i : Nat)            -- the i-th ancestor element (0 = parent)
  | opaque (what : String)        -- an object the model does not look into (the StyleAttribute)
  deriving DecidableEq, Repr, Inhabited

def _root_.AHP.Gen.Lit.toPy : Lit → PyV
  | .none => .none
  | .str s => .str s.toList
  | .int n => .int n
  | .bool b => .bool b

/-- `bool(v)` -/
def truthy : PyV → Bool
  | .none => false
  | .str s => !s.isEmpty
  | .int n => n != 0
  | .bool b => b
  | .tokens ws => !ws.isEmpty
  | .ancestor _ => true
  | .opaque _ => true

/-- `utils.tostr(v)` (= `str(v)`). -/
def tostr : PyV → Str
  | .none => str "None"
  | .str s => s
  | .int n => (toString n).toList
  | .bool true => str "True"
  | .bool false => str "False"
  | .tokens ws => joinWith [' '] ws
  | .ancestor _ => str "<AdvancedTag>"
  | .opaque w => w.toList

/-- `hasattr(v, 'lower')` -/
def hasLower : PyV → Bool
  | .str _ => true
  | _ => false

/-! ### Python `int()` -/

/-- Code points of the digit zero of every Unicode 15.0 decimal-digit block (CPython 3.12 `unicodedata`). -/
def decZeros : List Nat :=
  [0x30, 0x660, 0x6f0, 0x7c0, 0x966, 0x9e6, 0xa66, 0xae6, 0xb66, 0xbe6, 0xc66, 0xce6, 0xd66, 0xde6, 0xe50, 0xed0,
   0xf20, 0x1040, 0x1090, 0x17e0, 0x1810, 0x1946, 0x19d0, 0x1a80, 0x1a90, 0x1b50, 0x1bb0, 0x1c40, 0x1c50, 0xa620,
   0xa8d0, 0xa900, 0xa9d0, 0xa9f0, 0xaa50, 0xabf0, 0xff10, 0x104a0, 0x10d30, 0x11066, 0x110f0, 0x11136, 0x111d0,
   0x112f0, 0x11450, 0x114d0, 0x11650, 0x116c0, 0x11730, 0x118e0, 0x11950, 0x11c50, 0x11d50, 0x11da0, 0x11f50,
   0x16a60, 0x16ac0, 0x16b50, 0x1d7ce, 0x1d7d8, 0x1d7e2, 0x1d7ec, 0x1d7f6, 0x1e140, 0x1e2f0, 0x1e4f0, 0x1e950,
   0x1fbf0]

def digitVal? (c : Char) : Option Nat :=
  let n := c.toNat
  (decZeros.find? (fun z => z ≤ n && n < z + 10)).map (fun z => n - z)

/-- What `int()` skips around the number: ASCII `Py_ISSPACE` (not 0x1c–0x1f: ASCII text is taken verbatim), and the
non-ASCII `str.isspace()` characters, which `_PyUnicode_TransformDecimalAndSpaceToASCII` turns into a blank. -/
def isIntSpace (c : Char) : Bool :=
  let n := c.toNat
  (9 ≤ n && n ≤ 13) || n == 32 || n == 0x85 || n == 0xa0 || n == 0x1680 || (0x2000 ≤ n && n ≤ 0x200a)
  || n == 0x2028 || n == 0x2029 || n == 0x202f || n == 0x205f || n == 0x3000

/-- digits with single underscores between them; returns value, digit count, rest. `pd` = previous char was a digit. -/
def scanDigits : Str → Nat → Nat → Bool → Option (Nat × Nat × Str)
  | [], acc, cnt, pd => if pd then some (acc, cnt, []) else none
  | c :: r, acc, cnt, pd =>
    if c = '_' then (if pd then scanDigits r acc cnt false else none)
    else match digitVal? c with
      | some d => scanDigits r (acc * 10 + d) (cnt + 1) true
      | none => if pd then some (acc, cnt, c :: r) else none

/-- `int(s)` for a `str` argument, base 10. The only failure is `ValueError`. -/
def pyIntOfStr (s : Str) : Except PyErr Int :=
  let s1 := s.dropWhile isIntSpace
  let (neg, s2) : Bool × Str := match s1 with
    | '+' :: r => (false, r)
    | '-' :: r => (true, r)
    | _ => (false, s1)
  match scanDigits s2 0 0 false with
  | none => .error .valueError
  | some (v, cnt, rest) =>
    if rest.all isIntSpace && cnt ≤ 4300 then .ok (if neg then -(Int.ofNat v) else Int.ofNat v)
    else .error .valueError

/-- `int(v)` for the values that reach it. -/
def pyInt (parseInt : Str → Except PyErr Int) : PyV → Except PyErr Int
  | .str s => parseInt s
  | .int n => .ok n
  | .bool b => .ok (if b then 1 else 0)
  | _ => .error .typeError

/-! ### conversions.py -/

def isNoneOrEmpty : PyV → Bool
  | .none => true
  | .str [] => true
  | _ => false

/-- convertToIntOrNegativeOneIfUnset: `-1` if unset, `0` on any failure of `int()` (bare `except`). -/
def convertToIntOrNegativeOneIfUnset (parseInt : Str → Except PyErr Int) (val : PyV) : PyV :=
  if isNoneOrEmpty val then .int (-1)
  else match pyInt parseInt val with
    | .ok n => .int n
    | .error _ => .int 0

/-- convertToBooleanString -/
def convertToBooleanString (val : PyV) : Str :=
  match val with
  | .str s => let l := lower s; if l = str "false" || l = str "0" then str "false" else str "true"
  | v => if truthy v then str "true" else str "false"

/-- convertBooleanStringToBoolean -/
def convertBooleanStringToBoolean (val : PyV) : Bool :=
  if !truthy val then false
  else match val with
    | .str s => !(lower s = str "false")
    | _ => true

/-- convertToPositiveInt (its `invalidDefault` is returned as is, never raised). -/
def convertToPositiveInt (parseInt : Str → Except PyErr Int) (val : PyV) (invalid : Lit) : PyV :=
  match val with
  | .none => invalid.toPy
  | v => match pyInt parseInt v with
    | .error _ => invalid.toPy
    | .ok n => if n < 0 then invalid.toPy else .int n

def excOf (name : String) : PyErr :=
  if name = "IndexSizeErrorException" then .indexSizeError
  else if name = "ValueError" then .valueError
  else if name = "TypeError" then .typeError
  else if name = "KeyError" then .keyError
  else .other name

/-- _handleInvalid -/
def handleInvalid : Inv → Except PyErr PyV
  | .val l => .ok l.toPy
  | .raise e => .error (excOf e)

def handleEmpty (invalid : Inv) : Emp → Except PyErr PyV
  | .invalid => handleInvalid invalid
  | .val l => .ok l.toPy

/-- convertPossibleValues (`.lower()` is ASCII here; DESIGN §7). -/
def convertPossibleValues (val : PyV) (members : List String) (invalid : Inv) (empty : Emp) : Except PyErr PyV :=
  match val with
  | .none => handleEmpty invalid empty
  | v =>
    let s := lower (tostr v)
    if s = [] then handleEmpty invalid empty
    else if members.contains (String.ofList s) then .ok (.str s)
    else handleInvalid invalid

/-- convertToIntRange: only `ValueError` of `int()` is caught. -/
def convertToIntRange (parseInt : Str → Except PyErr Int) (val : PyV) (lo hi : Option Int) (invalid : Inv) (empty : Emp) :
    Except PyErr PyV :=
  if isNoneOrEmpty val then handleEmpty invalid empty
  else match pyInt parseInt val with
    | .error .valueError => handleInvalid invalid
    | .error e => .error e
    | .ok n =>
      if (match lo with | some l => decide (n < l) | none => false) then handleInvalid invalid
      else if (match hi with | some h => decide (n > h) | none => false) then handleInvalid invalid
      else .ok (.int n)

def clampLo (lo : Option Int) (n : Int) : Int :=
  match lo with | some l => if n < l then l else n | none => n
def clampHi (hi : Option Int) (n : Int) : Int :=
  match hi with | some h => if n > h then h else n | none => n

/-- convertToIntRangeCapped -/
def convertToIntRangeCapped (parseInt : Str → Except PyErr Int) (val : PyV) (lo hi : Option Int) (invalid : Inv) (empty : Emp) :
    Except PyErr PyV :=
  if isNoneOrEmpty val then handleEmpty invalid empty
  else match pyInt parseInt val with
    | .error .valueError => handleInvalid invalid
    | .error e => .error e
    | .ok n => .ok (.int (clampHi hi (clampLo lo n)))

/-- utils.stripWordsOnly: strip, then every run of two or more blanks becomes one blank. -/
def squeezeBlanks : Str → Str
  | ' ' :: ' ' :: r => squeezeBlanks (' ' :: r)
  | c :: r => c :: squeezeBlanks r
  | [] => []

/-- `str.isspace()` / what `str.strip()` removes (CPython 3.12, Unicode 15). -/
def isPySpace (c : Char) : Bool :=
  let n := c.toNat
  (9 ≤ n && n ≤ 13) || (0x1c ≤ n && n ≤ 0x20) || n == 0x85 || n == 0xa0 || n == 0x1680 || (0x2000 ≤ n && n ≤ 0x200a)
  || n == 0x2028 || n == 0x2029 || n == 0x202f || n == 0x205f || n == 0x3000

/-- `s.strip()` -/
def pyStrip (s : Str) : Str := ((s.dropWhile isPySpace).reverse.dropWhile isPySpace).reverse

def stripWordsOnly (s : Str) : Str := squeezeBlanks (pyStrip s)

/-- `[x for x in s.split(' ') if x]` -/
def wordsOf (s : Str) : List Str := (splitChar ' ' s).filter (fun w => !w.isEmpty)

/-- DOMTokenList(v): a string is stripped to words; `None` (a value-less attribute) has no tokens; numbers are not
iterable (`TypeError`). -/
def domTokenList : PyV → Except PyErr PyV
  | .none => .ok (.tokens [])
  | .str s =>
    let t := stripWordsOnly s
    if t = [] then .ok (.tokens []) else .ok (.tokens (splitChar ' ' t))
  | .tokens ws => .ok (.tokens ws)
  | _ => .error .typeError

/-! ### the element and its attribute store -/

def lowerS (s : String) : String := String.ofList (lower s.toList)

structure Tables where
  links : List String
  tagProps : List (String × List String)
  renames : List (String × String)
  booleans : List String
  boolStrings : List String
  events : List String
  specials : List (String × Rule)
  validated : List (String × Rule)
  rawAttrs : List String

def genTables : Tables :=
  { links := Gen.propLinks, tagProps := Gen.tagProps, renames := Gen.propRenames, booleans := Gen.booleanAttrs,
    boolStrings := Gen.booleanStringAttrs, events := Gen.eventAttrs, specials := Gen.specialRules,
    validated := Gen.validatedProps, rawAttrs := Gen.rawTagAttrs }

structure Elem where
  tag : String
  attrs : List (String × Option Str)      -- the underlying dict, insertion-ordered; `none` = value-less attribute
  classNames : List Str
  pyattrs : List (String × PyV)           -- plain Python attributes set through object.__setattr__
  ancestors : List String                 -- tag names of the ancestors, nearest first
  deriving Repr, Inhabited

def Elem.new (tag : String) (ancestors : List String := []) : Elem :=
  { tag := tag, attrs := [], classNames := [], pyattrs := [], ancestors := ancestors }

def dictSet {β} (k : String) (v : β) : List (String × β) → List (String × β)
  | [] => [(k, v)]
  | (k', v') :: r => if k' = k then (k, v) :: r else (k', v') :: dictSet k v r

/-- `del d[k]` (keys of a dict are unique; every entry with that key goes). -/
def dictDel {β} (k : String) : List (String × β) → List (String × β)
  | [] => []
  | (k', v') :: r => if k' = k then dictDel k r else (k', v') :: dictDel k r

/-- AdvancedTag.className: `str(self.classList)` -/
def Elem.className (e : Elem) : Str := joinWith [' '] e.classNames

/-- `__setattr__`'s className branch (also reached through `_attributes['class'] = v`). -/
def Elem.setClassName (e : Elem) (v : PyV) : Elem :=
  -- `className = None` means no class names, not the name "None" (fix fc296cb)
  { e with classNames := wordsOf (stripWordsOnly (match v with | .none => [] | v => tostr v)) }

/-- SpecialAttributesDict.__contains__ -/
def Elem.dictContains (e : Elem) (key : String) : Bool :=
  let k := lowerS key
  if k = "class" then !e.classNames.isEmpty else (e.attrs.lookup k).isSome

/-- `dict.__getitem__` with the `except KeyError: None` of the callers: the text, `None` when absent or value-less. -/
def entryVal : Option (Option Str) → PyV
  | some (some v) => .str v
  | _ => .none

/-- SpecialAttributesDict.__getitem__ -/
def Elem.dictGetItem (T : Tables) (e : Elem) (key : String) : PyV :=
  let k := lowerS key
  if k = "style" then .opaque "style"
  else if k = "class" then .str e.className
  else if T.boolStrings.contains k then .str (convertToBooleanString (entryVal (e.attrs.lookup k)))
  else entryVal (e.attrs.lookup k)

/-- `key in self.keys()` after `_handleClassAttr` (the style key is never present here: the style is empty). -/
def Elem.inKeys (e : Elem) (k : String) : Bool :=
  if k = "class" then !e.classNames.isEmpty
  else if k = "style" then false
  else (e.attrs.lookup k).isSome

/-- SpecialAttributesDict.get -/
def Elem.dictGet (T : Tables) (e : Elem) (key : String) (dflt : PyV) : PyV :=
  let k := lowerS key
  if k = "class" then .str e.className
  else if k = "style" || e.inKeys k then e.dictGetItem T k
  else dflt

/-- AdvancedTag.getAttribute -/
def Elem.getAttribute (T : Tables) (e : Elem) (name : String) (dflt : PyV) : PyV :=
  if T.booleans.contains name then
    if e.dictContains name then
      let v := e.dictGetItem T name
      if !truthy v then .bool true else v
    else .bool false
  else e.dictGet T name dflt

/-- AdvancedTag.hasAttribute -/
def Elem.hasAttribute (e : Elem) (name : String) : Bool := e.dictContains (lowerS name)

def isAlphaC (c : Char) : Bool := ('a' ≤ c && c ≤ 'z') || ('A' ≤ c && c ≤ 'Z')
def isAlnumC (c : Char) : Bool := isAlphaC c || ('0' ≤ c && c ≤ '9')

/-- Tags.isValidAttributeName (ASCII) -/
def isValidAttributeName (name : String) : Bool :=
  match name.toList with
  | [] => false
  | c :: r => (isAlphaC c || c = '_') && (c :: r).all (fun x => isAlnumC x || x = '-' || x = '_')

/-- SpecialAttributesDict.__setitem__ -/
def Elem.dictSetItem (T : Tables) (e : Elem) (key : String) (v : PyV) : Except PyErr Elem :=
  let k := lowerS key
  if k = "style" then .error (.other "style-not-modelled")
  else if k = "class" then .ok (e.setClassName v)
  else if T.boolStrings.contains k then .ok { e with attrs := dictSet k (some (convertToBooleanString v)) e.attrs }
  else match v with
    | .str s => .ok { e with attrs := dictSet k (some s) e.attrs }
    | .none => .ok { e with attrs := dictSet k none e.attrs }
    | _ => .error (.other "non-string-attribute-value")

/-- AdvancedTag.setAttribute -/
def Elem.setAttribute (T : Tables) (e : Elem) (name : String) (v : PyV) : Except PyErr Elem :=
  if !isValidAttributeName name then .error .keyError else e.dictSetItem T name v

/-- AdvancedTag.removeAttribute -/
def Elem.removeAttribute (e : Elem) (name : String) : Elem :=
  let k := lowerS name
  if k = "style" then e
  else if k = "class" then { e with classNames := [] }
  else { e with attrs := dictDel k e.attrs }

/-- `AdvancedTag(tag, attrList)`: the constructor's loop (what the parser calls). -/
def Elem.ofAttrList (T : Tables) (tag : String) (ancestors : List String) : List (String × Option Str) → Elem → Elem
  | [], e => e
  | (k, v) :: r, e =>
    let k' := lowerS k
    if !isValidAttributeName k' then Elem.ofAttrList T tag ancestors r e
    else match e.dictSetItem T k' (match v with | some s => .str s | none => .none) with
      | .ok e' => Elem.ofAttrList T tag ancestors r e'
      | .error _ => Elem.ofAttrList T tag ancestors r e

/-- `getAttributesList()`: the dict after `_handleClassAttr` (the `class` key appended when there are class names and
the key was not there yet — it never is in this model, `class` is routed to `classNames`). -/
def Elem.attributesList (e : Elem) : List (String × Option Str) :=
  if e.classNames.isEmpty then e.attrs else e.attrs ++ [("class", some e.className)]

/-! ### special values (constants.py) -/

def nearest (name : String) : List String → Nat → PyV
  | [], _ => .none
  | t :: r, i => if t = name then .ancestor i else nearest name r (i + 1)

def evalConv (parseInt : Str → Except PyErr Int) (c : Conv) (v : PyV) : Except PyErr PyV :=
  match c with
  | .raw => .ok v
  | .tokens => domTokenList v
  | .intOrMinusOne => .ok (convertToIntOrNegativeOneIfUnset parseInt v)
  | .positiveInt inv => .ok (convertToPositiveInt parseInt v inv)
  | .possible ms inv emp => convertPossibleValues v ms inv emp
  | .intRange lo hi inv emp => convertToIntRange parseInt v lo hi inv emp
  | .intCapped lo hi inv emp => convertToIntRangeCapped parseInt v lo hi inv emp

/-- One entry of TAG_ITEM_ATTRIBUTES_SPECIAL_VALUES applied to an element. -/
def evalRule (T : Tables) (parseInt : Str → Except PyErr Int) (e : Elem) : Rule → Except PyErr PyV
  | .conv c attr dflt => evalConv parseInt c (e.getAttribute T attr dflt.toPy)
  | .parentTag name => .ok (nearest name e.ancestors 0)
  | .byTag tag a b => if e.tag = tag then evalRule T parseInt e a else evalRule T parseInt e b
  | .maxLength attr absent dflt lo hi emp getInv _ =>
    if !e.hasAttribute attr then .ok absent.toPy
    else convertToIntRange parseInt (e.getAttribute T attr dflt.toPy) lo hi getInv emp

/-- An entry of TAG_ITEM_ATTRIBUTES_SPECIAL_VALIDATION applied to a new value (`_special_value_maxLength(em, v)`). -/
def validateRule (parseInt : Str → Except PyErr Int) (v : PyV) : Rule → Except PyErr Unit
  | .maxLength _ _ _ lo hi emp _ setInv => (convertToIntRange parseInt v lo hi setInv emp).map (fun _ => ())
  | _ => .error (.other "validation-not-modelled")

/-! ### dispatch of `__getattribute__` / `__setattr__` -/

inductive GetKind where
  | className
  | special (r : Rule)
  | boolStr (attr : String)
  | boolean (attr : String)
  | string (attr : String) (dflt : Lit)
  deriving DecidableEq, Repr, Inhabited

inductive SetKind where
  | className
  | boolStr (attr : String)
  | boolean (attr : String)
  | string (attr : String)
  deriving DecidableEq, Repr, Inhabited

/-- What a linked dot name does on read, on assignment, and the validation run before the assignment. -/
structure Disp where
  get : GetKind
  set : SetKind
  validate : Option Rule
  deriving DecidableEq, Repr, Inhabited

def isLinked (T : Tables) (tag prop : String) : Bool :=
  T.links.contains prop || ((T.tagProps.lookup tag).getD []).contains prop

def renamed (T : Tables) (prop : String) : String := (T.renames.lookup prop).getD prop

/-- The read path after the `object.__getattribute__` short cut (class attributes of AdvancedTag: `className`). -/
def getKind (T : Tables) (prop : String) : GetKind :=
  if prop = "className" then .className
  else match T.specials.lookup prop with
    | some r => .special r
    | none =>
      let name := renamed T prop
      if T.boolStrings.contains name then .boolStr name
      else if T.booleans.contains name then .boolean name
      else .string name (if T.events.contains name then .none else .str "")

def setKind (T : Tables) (prop : String) : SetKind :=
  if prop = "className" then .className
  else
    let name := renamed T prop
    if T.boolStrings.contains name then .boolStr name
    else if T.booleans.contains name then .boolean name
    else .string name

/-- `none`: the name is not a linked property of this element type. -/
def dispatch (T : Tables) (tag prop : String) : Option Disp :=
  if prop = "className" then some { get := .className, set := .className, validate := none }
  else if isLinked T tag prop then
    some { get := getKind T prop, set := setKind T prop, validate := T.validated.lookup prop }
  else none

def evalGet (T : Tables) (parseInt : Str → Except PyErr Int) (e : Elem) : GetKind → Except PyErr PyV
  | .className => .ok (.str e.className)
  | .special r => evalRule T parseInt e r
  | .boolStr a => .ok (.bool (convertBooleanStringToBoolean (e.getAttribute T a .none)))
  | .boolean a => .ok (.bool (match e.getAttribute T a (.bool false) with | .bool false => false | _ => true))
  | .string a d => .ok (e.getAttribute T a d.toPy)

/-- `getattr(em, prop)` -/
def getProp (T : Tables) (parseInt : Str → Except PyErr Int) (e : Elem) (prop : String) : Except PyErr PyV :=
  match e.pyattrs.lookup prop with
  | some v => .ok v
  | none =>
    match dispatch T e.tag prop with
    | some d => evalGet T parseInt e d.get
    | none => .ok .none

def evalSet (T : Tables) (e : Elem) (v : PyV) : SetKind → Except PyErr Elem
  | .className => .ok (e.setClassName v)
  | .boolStr a => e.setAttribute T a v
  | .boolean a => if !truthy v then .ok (e.removeAttribute a) else e.setAttribute T a (.str [])
  | .string a => e.setAttribute T a (.str (tostr v))

/-- `setattr(em, prop, v)` -/
def setProp (T : Tables) (parseInt : Str → Except PyErr Int) (e : Elem) (prop : String) (v : PyV) : Except PyErr Elem :=
  if T.rawAttrs.contains prop then .ok { e with pyattrs := dictSet prop v e.pyattrs }
  else match dispatch T e.tag prop with
    | some d =>
      match (match d.validate with | some r => validateRule parseInt v r | none => .ok ()) with
      | .error err => .error err
      | .ok () => evalSet T e v d.set
    | none =>
      if prop = "style" then .error (.other "style-not-modelled")
      else .ok { e with pyattrs := dictSet prop v e.pyattrs }

end AHP.Conv
