/-
  AHP.Model.Pickle — the code behind C17 (pickled / cloned documents) and the document state C16 observes.

  * `Attrs`   : `SpecialAttributesDict` as the code has it — the raw insertion-ordered dict, the
                authoritative `_classNames` list and the style map of `tag.style`; `class`/`style` keys are
                materialised *lazily* by `_handleClassAttr` inside `items()/keys()/__iter__/__repr__`.
  * `DN`      : an element with the redundant fields `Tags.py` keeps (`blocks`, `children`, `text`,
                `parentNode`, `ownerDocument`, `isSelfClosing`) plus two identities: `oid` (the Python object,
                allocated in creation order) and `uid` (the uuid, which unpickling *copies*).
  * `getstate` / `load` : `AdvancedTag.__getstate__` / pickle + `__setstate__` (re-construction through
                `__init__` + `appendBlock`).
  * `Parser`  : the fields of `AdvancedHTMLParser` / `IndexedAdvancedHTMLParser` that matter here, with
                `__getstate__`/`__setstate__`.
  * `clone`   : `cloneNode`, `__copy__`, `__deepcopy__`;  `isTagEqual`.
  * edits     : the mutators the correspondence stream applies to one side after unpickling.
-/
import AHP.Model.Basic
import AHP.Gen.Tables
namespace AHP.Pk
open AHP

/-! ### Python dict as an insertion-ordered association list -/

def dget (k : Str) : List (Str × α) → Option α
  | [] => none
  | (k', v) :: r => if k' = k then some v else dget k r

/-- `d[k] = v`: an existing key keeps its position, a new key goes last. -/
def dset (k : Str) (v : α) : List (Str × α) → List (Str × α)
  | [] => [(k, v)]
  | (k', v') :: r => if k' = k then (k, v) :: r else (k', v') :: dset k v r

/-- `del d[k]` (silently nothing when absent — every call site swallows the `KeyError`). -/
def ddel (k : Str) : List (Str × α) → List (Str × α)
  | [] => []
  | (k', v') :: r => if k' = k then r else (k', v') :: ddel k r

def dkeys (d : List (Str × α)) : List Str := d.map Prod.fst
def dhas (k : Str) (d : List (Str × α)) : Bool := (dkeys d).contains k

/-! ### Tables and string helpers -/

def sClass : Str := str "class"
def sStyle : Str := str "style"

/-- `constants.TAG_ITEM_BINARY_ATTRIBUTES` (regenerated from the source on every run). -/
def binaryAttrs : List Str := Gen.binaryAttributes.map str

/-- `constants.TAG_ITEM_BINARY_ATTRIBUTES_STRING_ATTR`. -/
def boolStrAttrs : List Str := Gen.binaryStringAttributes.map str

def voidTags : List Str := Gen.voidTags.map str
def invisibleRoot : Str := str Gen.invisibleRootTag

def isAlpha (c : Char) : Bool := ('a' ≤ c && c ≤ 'z') || ('A' ≤ c && c ≤ 'Z')
def isDigit (c : Char) : Bool := '0' ≤ c && c ≤ '9'
def nameChar (c : Char) : Bool := isAlpha c || isDigit c || c = '-' || c = '_'

/-- `Tags.isValidAttributeName`, ASCII. -/
def validAttrName : Str → Bool
  | [] => false
  | c :: cs => (isAlpha c || c = '_') && (c :: cs).all nameChar

/-- `WORDS_ONLY_RE.sub(' ', s)`: every run of two or more spaces becomes one space. -/
def collapseSp : Str → Str
  | [] => []
  | c :: r =>
    if c = ' ' then
      match r with
      | [] => [c]
      | c2 :: _ => if c2 = ' ' then collapseSp r else c :: collapseSp r
    else c :: collapseSp r

/-- `utils.stripWordsOnly`. -/
def stripWordsOnly (s : Str) : Str := collapseSp (strip s)

/-- `__setattr__('className', v)`: `[x for x in stripWordsOnly(v).split(' ') if x]`. -/
def classTokens (v : Str) : List Str := (splitChar ' ' (stripWordsOnly v)).filter (fun w => !w.isEmpty)

/-- `str(DOMTokenList(_classNames))`. -/
def className (cls : List Str) : Str := joinWith [' '] cls

/-- `utils.escapeQuotes`. -/
def escQ : Str → Str
  | [] => []
  | c :: r => if c = '"' then str "&quot;" ++ escQ r else c :: escQ r

/-- `conversions.convertToBooleanString`. -/
def convBoolStr : Option Str → Str
  | none => str "false"
  | some s => let l := lower s; if l = str "false" || l = str "0" then str "false" else str "true"

/-- split an item of a style string at its first `:` (`item.index(':')`; `none` = `ValueError`). -/
def splitColon : Str → Option (Str × Str)
  | [] => none
  | c :: r => if c = ':' then some ([], r) else
    match splitColon r with
    | none => none
    | some (a, b) => some (c :: a, b)

/-- `StyleAttribute.styleToDict`. -/
def styleToDict (s : Str) : List (Str × Str) :=
  (splitChar ';' (strip s)).foldl
    (fun d item => match splitColon item with
      | none => d
      | some (n, v) => dset (lower (strip n)) (strip v) d) []

/-- `StyleAttribute._asStr`. -/
def styleStr (sty : List (Str × Str)) : Str :=
  joinWith (str "; ") (sty.map (fun p => p.1 ++ str ": " ++ p.2))

/-! ### The attribute store -/

/-- What the raw dict holds under a key: `None`, a string, or the `StyleAttribute` object (every read of
    which resolves to the element's current style). -/
inductive DVal where
  | none
  | str (s : Str)
  | style
  deriving DecidableEq, Repr, Inhabited

def DVal.ofOpt : Option Str → DVal
  | .none => .none
  | .some s => .str s

structure Attrs where
  dict : List (Str × DVal)
  cls  : List Str
  sty  : List (Str × Str)
  deriving DecidableEq, Repr, Inhabited

namespace Attrs

def empty : Attrs := ⟨[], [], []⟩

/-- `StyleAttribute._ensureHtmlAttribute` on the raw dict. -/
def ensureStyle (sty : List (Str × Str)) (d : List (Str × DVal)) : List (Str × DVal) :=
  if sty.isEmpty then ddel sStyle d else dset sStyle .style d

/-- `SpecialAttributesDict._handleClassAttr`: the lazy synchronisation every iterating reader performs. -/
def handle (a : Attrs) : Attrs :=
  let d1 := if a.cls.isEmpty then ddel sClass a.dict else dset sClass (.str (className a.cls)) a.dict
  { a with dict := ensureStyle a.sty d1 }

/-- the value a reader sees for a raw dict entry (`tostr(value)`). -/
def render (a : Attrs) : DVal → Option Str
  | .none => .none
  | .str s => some s
  | .style => some (styleStr a.sty)

/-- `getAttributesList()` (after the `items()` it calls has synchronised). -/
def attrsList (a : Attrs) : List (Str × Option Str) :=
  (handle a).dict.map (fun p => (p.1, render a p.2))

/-- `SpecialAttributesDict.__setitem__` (string / `None` values).  A missing value is the empty style
    (fix 5f68e85) resp. no class names; the `style` branch returns after the setter has kept the key present
    exactly while the style is non-empty (fix 32e1733).  `none` = the call raises (never, kept for the callers). -/
def setitem (a : Attrs) (key0 : Str) (v : Option Str) : Option Attrs :=
  let key := lower key0
  if key = sStyle then
    let s : Str := match v with | .none => [] | .some s => s
    let sty1 := styleToDict s                  -- StyleAttribute(value, tag): its __init__ ensures
    let d1 := ensureStyle sty1 a.dict
    let sty2 := styleToDict (styleStr sty1)    -- tag.style = …  copies it once more through its string
    let d2 := ensureStyle sty2 d1              --   (the copy's __init__)
    let d3 := ensureStyle sty2 d2              --   self.style._ensureHtmlAttribute()
    some { a with sty := sty2, dict := d3 }
  else if key = sClass then
    some { a with cls := classTokens (match v with | .none => [] | .some s => s) }
  else if boolStrAttrs.contains key then
    some { a with dict := dset key (.str (convBoolStr v)) a.dict }
  else some { a with dict := dset key (DVal.ofOpt v) a.dict }

/-- the attribute loop of `AdvancedTag.__init__`. -/
def initGo (a : Attrs) : List (Str × Option Str) → Option Attrs
  | [] => some a
  | (k, v) :: r =>
    if validAttrName (lower k) then
      match setitem a (lower k) v with
      | .none => .none
      | .some a' => initGo a' r
    else initGo a r

def init (l : List (Str × Option Str)) : Option Attrs := initGo empty l

/-- `SpecialAttributesDict.__delitem__` through `removeAttribute`. -/
def delitem (a : Attrs) (key0 : Str) : Attrs :=
  let key := lower key0
  if key = sStyle then
    -- tag.style = '' : a fresh empty StyleAttribute; both `_ensureHtmlAttribute` calls delete the key
    { a with sty := [], dict := ddel sStyle a.dict }
  else if key = sClass then { a with cls := [] }
  else { a with dict := ddel key a.dict }

/-- `AdvancedTag.addClass` for one token (`stripWordsOnly` applied, no inner space). -/
def addClass (a : Attrs) (tok : Str) : Attrs :=
  if tok.isEmpty || a.cls.contains tok then a else { a with cls := a.cls ++ [tok] }

/-- one `name="value"` / bare-name piece of `getStartTag`. -/
def attrPiece (a : Attrs) (k : Str) : DVal → Str
  | .none => k
  | .str s => if !s.isEmpty || !binaryAttrs.contains k then k ++ str "=\"" ++ escQ s ++ str "\"" else k
  | .style => k ++ str "=\"" ++ escQ (styleStr a.sty) ++ str "\""

def pieces (a : Attrs) : List Str := (handle a).dict.map (fun p => attrPiece a p.1 p.2)

/-- `getStartTag` (`_indent` is empty on every tree the parser or the public constructors build). -/
def startTag (name : Str) (a : Attrs) (sc : Bool) : Str :=
  let ps := pieces a
  let attrString := if ps.isEmpty then [] else ' ' :: joinWith [' '] ps
  str "<" ++ name ++ attrString ++ (if sc then str " />" else str " >")

/-- `_attributes.get(k)` for a plain key (not `class`/`style`): the raw value or `None`. -/
def getPlain (a : Attrs) (k : Str) : Option Str :=
  match dget k a.dict with
  | some (.str s) => some s
  | _ => .none

/-- `tag.getAttribute(k)` as the index functions use it.  Indexes on `class` / `style` (which `getAttribute`
    answers with the class string / the style object) are not modelled: such an element is simply not indexed. -/
def getIdx (a : Attrs) (k : Str) : Option Str :=
  if k = sClass || k = sStyle then .none else getPlain a k

/-- what `self._attributes.get(key)` returns inside `isTagEqual`, as a comparable value:
    `class` → the class string, `style` → the style map, else the rendered raw value. -/
inductive GVal where
  | none
  | str (s : Str)
  | sty (m : List (Str × Str))
  deriving Repr

def getForEq (a : Attrs) (k : Str) : GVal :=
  if k = sClass then .str (className a.cls)
  else if k = sStyle then .sty a.sty
  else match dget k (handle a).dict with
    | some (.str s) => if boolStrAttrs.contains k then .str (convBoolStr (some s)) else .str s
    | some .style => .sty a.sty
    | some .none => if boolStrAttrs.contains k then .str (convBoolStr .none) else .none
    | .none => .none

/-- `StyleAttribute.__eq__`: same key set, same value per key (order-insensitive). -/
def styEq (m1 m2 : List (Str × Str)) : Bool :=
  (dkeys m1).all (fun k => (dkeys m2).contains k) && (dkeys m2).all (fun k => (dkeys m1).contains k)
  && (dkeys m1).all (fun k => dget k m1 == dget k m2)

def GVal.eq : GVal → GVal → Bool
  | .none, .none => true
  | .str a, .str b => a == b
  | .sty a, .sty b => styEq a b
  | _, _ => false

end Attrs

/-! ### Elements with the cached fields the code keeps -/

inductive DN where
  | text (s : Str)
  | el (oid uid : Nat) (name : Str) (attrs : Attrs) (sc : Bool) (blocks : List DN) (children : List Nat)
       (txt : Str) (parent : Option Nat) (owner : Option Nat)
  deriving Repr, Inhabited

namespace DN

def oid : DN → Nat
  | .text _ => 0
  | .el o .. => o

def isEl : DN → Bool
  | .text _ => false
  | .el .. => true

/-- the oids of the element entries of a block list -/
def elemIds : List DN → List Nat
  | [] => []
  | .text _ :: bs => elemIds bs
  | .el o .. :: bs => o :: elemIds bs

/-- concatenation of the text entries of a block list -/
def textOf : List DN → Str
  | [] => []
  | .text s :: bs => s ++ textOf bs
  | .el .. :: bs => textOf bs

mutual
/-- `outerHTML` (a text block renders as itself) -/
def html : DN → Str
  | .text s => s
  | .el _ _ name attrs sc blocks _ _ _ _ =>
    Attrs.startTag name attrs sc ++ (if sc then [] else htmlL blocks) ++ (if sc then [] else str "</" ++ name ++ str ">")
def htmlL : List DN → Str
  | [] => []
  | b :: bs => html b ++ htmlL bs
end

/-- `innerHTML` -/
def inner : DN → Str
  | .text _ => []
  | .el _ _ _ _ sc blocks _ _ _ _ => if sc then [] else htmlL blocks

mutual
/-- number of elements -/
def size : DN → Nat
  | .text _ => 0
  | .el _ _ _ _ _ blocks _ _ _ _ => 1 + sizeL blocks
def sizeL : List DN → Nat
  | [] => 0
  | b :: bs => size b + sizeL bs
end

mutual
/-- all elements in document order (`getAllNodes`) -/
def elems : DN → List DN
  | .text _ => []
  | .el o u n a sc blocks ch t p ow => .el o u n a sc blocks ch t p ow :: elemsL blocks
def elemsL : List DN → List DN
  | [] => []
  | b :: bs => elems b ++ elemsL bs
end

mutual
def oids : DN → List Nat
  | .text _ => []
  | .el o _ _ _ _ blocks _ _ _ _ => o :: oidsL blocks
def oidsL : List DN → List Nat
  | [] => []
  | b :: bs => oids b ++ oidsL bs
end

mutual
def uids : DN → List Nat
  | .text _ => []
  | .el _ u _ _ _ blocks _ _ _ _ => u :: uidsL blocks
def uidsL : List DN → List Nat
  | [] => []
  | b :: bs => uids b ++ uidsL bs
end

/-! #### construction and the two appenders `__setstate__` rebuilds with -/

/-- `AdvancedTag.__init__(tagName, attrList, isSelfClosing, ownerDocument)`; `none` = raises. -/
def mk (oid uid : Nat) (name : Str) (attrList : List (Str × Option Str)) (sc : Bool) (owner : Option Nat) : Option DN :=
  match Attrs.init attrList with
  | .none => .none
  | .some a =>
    -- the void test is made on the name as passed, the stored name is lower-cased
    some (.el oid uid (lower name) a (if !sc && voidTags.contains name then true else sc) [.text []] [] [] .none owner)

/-- `appendText`: `text += t; isSelfClosing = False; blocks.append(t)`. -/
def appendText (s : Str) : DN → DN
  | .text x => .text x
  | .el o u n a _ blocks ch t p ow => .el o u n a false (blocks ++ [.text s]) ch (t ++ s) p ow

mutual
/-- `for subChild in child.getAllChildNodes(): subChild.ownerDocument = …` together with the child's own. -/
def reown (ow : Option Nat) : DN → DN
  | .text x => .text x
  | .el o u n a sc blocks ch t p _ => .el o u n a sc (reownL ow blocks) ch t p ow
def reownL (ow : Option Nat) : List DN → List DN
  | [] => []
  | b :: bs => reown ow b :: reownL ow bs
end

def setParent (p : Option Nat) : DN → DN
  | .text x => .text x
  | .el o u n a sc blocks ch t _ ow => .el o u n a sc blocks ch t p ow

/-- `appendChild`: parent link, owner propagated below, `isSelfClosing = False`, both lists appended. -/
def appendChild (c : DN) : DN → DN
  | .text x => .text x
  | .el o u n a _ blocks ch t p ow =>
    .el o u n a false (blocks ++ [reown ow (setParent (some o) c)]) (ch ++ [c.oid]) t p ow

/-- `appendBlock`: by the block's type. -/
def appendBlock (p : DN) (b : DN) : DN :=
  match b with
  | .text s => appendText s p
  | c => appendChild c p

def setSc (v : Bool) : DN → DN
  | .text x => .text x
  | .el o u n a _ blocks ch t p ow => .el o u n a v blocks ch t p ow

/-- what `__setstate__` assigns directly after `__init__`: uid, owner, `blocks = []`. -/
def setStateFields (uid : Nat) (ow : Option Nat) : DN → DN
  | .text x => .text x
  | .el o _ n a sc _ ch t p _ => .el o uid n a sc [] ch t p ow

end DN

/-! ### Pickling an element tree -/

/-- The pickled form: per element the `__getstate__` dict (`ownerDocument` is a reference that the
    unpickler resolves through its memo), text blocks as themselves. -/
inductive PS where
  | text (s : Str)
  | el (name : Str) (attrs : List (Str × Option Str)) (sc : Bool) (uid : Nat) (owner : Option Nat) (blocks : List PS)
  deriving Repr, Inhabited

mutual
/-- `AdvancedTag.__getstate__`, applied recursively by pickle to the element blocks. -/
def getstate : DN → PS
  | .text s => .text s
  | .el _ u n a sc blocks _ _ _ ow => .el n (Attrs.attrsList a) sc u ow (getstateL blocks)
def getstateL : List DN → List PS
  | [] => []
  | b :: bs => getstate b :: getstateL bs
end

mutual
/-- `getAttributesList()` inside `__getstate__` synchronises `class`/`style` in the *original*. -/
def materialise : DN → DN
  | .text s => .text s
  | .el o u n a sc blocks ch t p ow => .el o u n (Attrs.handle a) sc (materialiseL blocks) ch t p ow
def materialiseL : List DN → List DN
  | [] => []
  | b :: bs => materialise b :: materialiseL bs
end

mutual
/-- Unpickling: the object is created (fresh `oid`), its blocks are unpickled, then `__setstate__` runs
    `__init__`, copies uid and owner, clears `blocks` and re-appends every block through `appendBlock`;
    finally the self-closing flag of the state is restored (the appenders clear it).
    `ρ` resolves an `ownerDocument` reference (pickle memo); `none` = an exception escapes. -/
def load (ρ : Option Nat → Option Nat) : PS → Nat → Option (DN × Nat)
  | .text s, n => some (.text s, n)
  | .el name attrs sc uid owner blocks, n =>
    match loadL ρ blocks (n + 1) with
    | .none => .none
    | .some (kids, n') =>
      match DN.mk n uid name attrs sc .none with
      | .none => .none
      | .some e0 =>
        some (DN.setSc sc (kids.foldl DN.appendBlock (DN.setStateFields uid (ρ owner) e0)), n')
def loadL (ρ : Option Nat → Option Nat) : List PS → Nat → Option (List DN × Nat)
  | [], n => some ([], n)
  | b :: bs, n =>
    match load ρ b n with
    | .none => .none
    | .some (b', n1) =>
      match loadL ρ bs n1 with
      | .none => .none
      | .some (bs', n2) => some (b' :: bs', n2)
end

/-- `pickle.loads(pickle.dumps(t))` for a detached tree. -/
def roundTrip (ρ : Option Nat → Option Nat) (t : DN) (n : Nat) : Option (DN × Nat) := load ρ (getstate t) n

/-! ### cloneNode / copy / deepcopy and tag equality -/

/-- `cloneNode`, `__copy__`, `__deepcopy__`: `self.__class__(self.tagName, self.getAttributesList(), self.isSelfClosing)`. -/
def clone (oid uid : Nat) : DN → Option DN
  | .text _ => .none
  | .el _ _ n a sc _ _ _ _ _ => DN.mk oid uid n (Attrs.attrsList a) sc .none

/-- `isTagEqual`. -/
def isTagEqual : DN → DN → Bool
  | .el _ _ n1 a1 _ _ _ _ _ _, .el _ _ n2 a2 _ _ _ _ _ _ =>
    let k1 := dkeys (Attrs.handle a1).dict
    let k2 := dkeys (Attrs.handle a2).dict
    n1 == n2 && k1.all (fun k => k2.contains k) && k2.all (fun k => k1.contains k)
      && k1.all (fun k => (Attrs.getForEq a1 k).eq (Attrs.getForEq a2 k))
  | _, _ => false

/-- `==` : same type and same uid. -/
def tagEq : DN → DN → Bool
  | .el _ u1 .., .el _ u2 .. => u1 == u2
  | _, _ => false

/-! ### Edits applied to one side (by object) -/

mutual
/-- apply `f` to the element whose object id is `t` -/
def mapAt (t : Nat) (f : DN → DN) : DN → DN
  | .text x => .text x
  | .el o u n a sc blocks ch tx p ow =>
    if o = t then f (.el o u n a sc blocks ch tx p ow)
    else .el o u n a sc (mapAtL t f blocks) ch tx p ow
def mapAtL (t : Nat) (f : DN → DN) : List DN → List DN
  | [] => []
  | b :: bs => mapAt t f b :: mapAtL t f bs
end

def updAttrs (f : Attrs → Attrs) : DN → DN
  | .text x => .text x
  | .el o u n a sc blocks ch t p ow => .el o u n (f a) sc blocks ch t p ow

/-- `setAttribute(k, v)`: `KeyError` on an invalid name (nothing changes), else `_attributes[k] = v`. -/
def setAttribute (k v : Str) (e : DN) : DN :=
  if validAttrName k then
    updAttrs (fun a => match Attrs.setitem a k (some v) with | some a' => a' | .none => a) e
  else e

def removeAttribute (k : Str) : DN → DN := updAttrs (fun a => Attrs.delitem a k)
def addClass (tok : Str) : DN → DN := updAttrs (fun a => Attrs.addClass a tok)

/-- remove the first element block equal (`==`, i.e. same uid) to the child, `list.remove` style -/
def removeFirstUid (u : Nat) : List DN → List DN
  | [] => []
  | .text s :: bs => .text s :: removeFirstUid u bs
  | .el o u' n a sc bl ch t p ow :: bs =>
    if u' = u then bs else .el o u' n a sc bl ch t p ow :: removeFirstUid u bs

def findChild (i : Nat) (blocks : List DN) : Option DN := (blocks.filter DN.isEl)[i]?

def uidOf : DN → Nat
  | .text _ => 0
  | .el _ u .. => u

/-- `removeChild(children[i])` on this element: `children.remove(child)` (object references: the first entry
    equal to the child) and `blocks.remove(child)` (first block `==` the child, i.e. same uid).  The removed
    child is dropped here (it becomes a detached tree with parent and owner cleared). -/
def removeChildAt (i : Nat) : DN → DN
  | .text x => .text x
  | .el o u n a sc blocks ch t p ow =>
    match findChild i blocks with
    | .none => .el o u n a sc blocks ch t p ow
    | some c =>
      .el o u n a sc (removeFirstUid (uidOf c) blocks) (ch.erase c.oid) t p ow

inductive Edit where
  | appendText (s : Str)
  | appendChild (name : Str)
  | setAttribute (k v : Str)
  | removeAttribute (k : Str)
  | addClass (tok : Str)
  | removeChild (i : Nat)
  deriving Repr

/-- one edit at the element `t`; `oid`/`uid` are the fresh identities a created element gets. -/
def applyEdit (t : Nat) (oid uid : Nat) (e : Edit) (d : DN) : DN :=
  match e with
  | .appendText s => mapAt t (DN.appendText s) d
  | .appendChild name =>
    match DN.mk oid uid name [] false .none with
    | some c => mapAt t (DN.appendChild c) d
    | .none => d
  | .setAttribute k v => mapAt t (setAttribute k v) d
  | .removeAttribute k => mapAt t (removeAttribute k) d
  | .addClass tok => mapAt t (addClass tok) d
  | .removeChild i => mapAt t (removeChildAt i) d

/-! ### Parsers -/

structure Index where
  ids : Bool
  names : Bool
  classes : Bool
  tags : Bool
  idMap : List (Str × Nat)
  nameMap : List (Str × List Nat)
  classMap : List (Str × List Nat)
  tagMap : List (Str × List Nat)
  attrMaps : List (Str × List (Str × List Nat))     -- `_otherAttributeIndexes` (addIndexOnAttribute), in insertion order
  deriving Repr, Inhabited

structure Parser where
  oid : Nat
  root : Option DN
  doctype : Option Str
  hasReset : Bool          -- `'reset' in self.__dict__` (the hook `parseStr` calls first)
  index : Option Index     -- `IndexedAdvancedHTMLParser` only
  deriving Repr, Inhabited

def dappend (k : Str) (x : Nat) (m : List (Str × List Nat)) : List (Str × List Nat) :=
  match dget k m with
  | some l => dset k (l ++ [x]) m
  | .none => dset k [x] m

/-- `_indexTag` for one element. -/
def indexOne (ix : Index) : DN → Index
  | .text _ => ix
  | .el o _ n a _ _ _ _ _ _ =>
    let ix1 := if ix.ids then
        (match Attrs.getIdx a (str "id") with
         | some v => if v.isEmpty then ix else { ix with idMap := dset v o ix.idMap }
         | .none => ix) else ix
    let ix2 := if ix1.names then
        (match Attrs.getIdx a (str "name") with
         | some v => if v.isEmpty then ix1 else { ix1 with nameMap := dappend v o ix1.nameMap }
         | .none => ix1) else ix1
    let ix3 := if ix2.classes then { ix2 with classMap := a.cls.foldl (fun m c => dappend c o m) ix2.classMap } else ix2
    let ix4 := if ix3.tags then { ix3 with tagMap := dappend n o ix3.tagMap } else ix3
    -- `_otherIndexFunction` per indexed attribute: `tag.getAttribute(name)` when it is not None
    { ix4 with attrMaps := ix4.attrMaps.map (fun p =>
        match Attrs.getIdx a p.1 with
        | some v => (p.1, dappend v o p.2)
        | .none => p) }

/-- the index after a parse: every element indexed in creation (document) order. -/
def indexDoc (ids names classes tags : Bool) (attrNames : List Str) (root : DN) : Index :=
  (DN.elems root).foldl indexOne ⟨ids, names, classes, tags, [], [], [], [], attrNames.map (fun k => (k, []))⟩

/-- the oid an object reference resolves to after unpickling (pickle memo: old object ↦ new object) -/
def remap (m : List (Nat × Nat)) (r : Nat) : Nat :=
  match m.lookup r with
  | some r' => r'
  | .none => r

def Index.remap (m : List (Nat × Nat)) (ix : Index) : Index :=
  { ix with idMap := ix.idMap.map (fun p => (p.1, Pk.remap m p.2)),
            nameMap := ix.nameMap.map (fun p => (p.1, p.2.map (Pk.remap m))),
            classMap := ix.classMap.map (fun p => (p.1, p.2.map (Pk.remap m))),
            tagMap := ix.tagMap.map (fun p => (p.1, p.2.map (Pk.remap m))),
            attrMaps := ix.attrMaps.map (fun q => (q.1, q.2.map (fun p => (p.1, p.2.map (Pk.remap m))))) }

/-- `AdvancedHTMLParser.__getstate__` as an observer of the original: a copy of `__dict__` without
    `reset`; the live dict keeps its hook. -/
def Parser.afterGetstate (p : Parser) : Parser :=
  { p with root := p.root.map materialise }

/-- `pickle.loads(pickle.dumps(parser))`: a new parser object `n`, the root unpickled with every
    `ownerDocument` reference resolved to the new parser, references remapped, `reset` restored by
    `__setstate__`. -/
def Parser.roundTrip (p : Parser) (n : Nat) : Option (Parser × Nat) :=
  let ρ : Option Nat → Option Nat := fun o => if o = some p.oid then some n else o
  match p.root with
  | .none => some ({ p with oid := n, hasReset := true }, n + 1)
  | some r =>
    match load ρ (getstate r) (n + 1) with
    | .none => .none
    | some (r', n') =>
      let m := (DN.oids r).zip (DN.oids r')
      some ({ oid := n, root := some r', doctype := p.doctype, hasReset := true,
              index := p.index.map (Index.remap m) }, n')

/-- `getHTML()`: doctype line, then the root (its inner HTML when it is the invisible wrapper);
    `none` = `ValueError` (nothing parsed). -/
def Parser.html (p : Parser) : Option Str :=
  match p.root with
  | .none => .none
  | some r =>
    let dt := match p.doctype with
      | some d => if d.isEmpty then [] else str "<!" ++ d ++ str ">\n"
      | .none => []
    match r with
    | .el _ _ name _ _ _ _ _ _ _ => some (dt ++ (if name = invisibleRoot then DN.inner r else DN.html r))
    | .text _ => .none

end AHP.Pk
