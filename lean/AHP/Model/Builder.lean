/-
  AHP.Model.Builder — `AdvancedHTMLParser.handle_*`, `_reset`, `feed` (Parser.py) and the validating variant
  (Validator.py) as a step function over the open-element stack.

  The code attaches a child to its parent when the child is *opened*; the model keeps the open elements as
  a zipper of frames and attaches when the frame is *closed* (or at end of input: `finish`).  Both give the
  same tree; what the model cannot express is aliasing, which the DOM model (AHP.Model.Dom) covers.
-/
import AHP.Model.Tree
namespace AHP

/-- An open element: `self._inTag[i]`, with the blocks appended so far (newest first). -/
structure Frame where
  name : Str
  attrs : AttrState
  rev : List Node
  deriving Repr, Inhabited

def Frame.close (f : Frame) : Node := .elem f.name f.attrs false f.rev.reverse

/-- The tree part of the parser state: `_inTag` (innermost first) and the root once it is complete. -/
structure TState where
  stack : List Frame
  root : Option Node
  deriving Repr, Inhabited

def TState.init : TState := ⟨[], none⟩

/-- `self.root is not None` -/
def TState.hasRoot (s : TState) : Bool := !s.stack.isEmpty || s.root.isSome

inductive Outcome (σ : Type) where
  | ok (s : σ)
  | multipleRoot                 -- MultipleRootNodeException
  | invalidClose                 -- validating parser only
  | missedClose
  | invalidAttr
  deriving Repr, Inhabited

/-- append a finished block to the innermost open element, or make it the root -/
def addNode (s : TState) (c : Node) : TState :=
  match s.stack with
  | f :: fs => { s with stack := { f with rev := c :: f.rev } :: fs }
  | [] => { s with root := some c }

/-- `inTag.pop()` -/
def pop1 (s : TState) : TState :=
  match s.stack with
  | f :: fs => addNode { s with stack := fs } f.close
  | [] => s

/-- `while inTag[-1].tagName != tagName: inTag.pop()` then `inTag.pop()` (the caller checked presence) -/
def popTo (n : Str) : Nat → TState → TState
  | 0, s => s
  | k + 1, s =>
    match s.stack with
    | f :: _ => if f.name = n then pop1 s else popTo n k (pop1 s)
    | [] => s

/-- `handle_starttag` / `handle_startendtag` -/
def handleStart (s : TState) (n : Str) (a : List Attr) (selfClosing : Bool) : Outcome TState :=
  let n := lower n
  let sc := selfClosing || isVoid n
  let attrs := intake a AttrState.empty
  if !s.hasRoot || !s.stack.isEmpty then
    if sc then .ok (addNode s (.elem n attrs true []))
    else .ok { s with stack := ⟨n, attrs, []⟩ :: s.stack }
  else .multipleRoot

def handleEnd (s : TState) (n : Str) : TState :=
  if (s.stack.map (·.name)).contains n then popTo n s.stack.length s else s

/-- text-like callbacks that insist on an open element -/
def addTextStrict (s : TState) (t : Str) : Outcome TState :=
  if s.stack.isEmpty then .multipleRoot else .ok (addNode s (.text t))

/-- the handlers' effect on the tree (`handle_decl`, `unknown_decl`, `handle_pi` do not touch it) -/
def stepT (s : TState) : Token → Outcome TState
  | .start n a => handleStart s n a false
  | .startend n a => handleStart s n a true
  | .end_ n => .ok (handleEnd s n)
  | .data d =>
    if d.isEmpty then .ok s
    else if !s.stack.isEmpty then .ok (addNode s (.text d))
    else if isBlank d then .ok s else .multipleRoot
  | .entity e => addTextStrict s ('&' :: e ++ [';'])
  | .charref c => addTextStrict s ('&' :: '#' :: c ++ [';'])
  | .comment c => addTextStrict s ("<!--".toList ++ c ++ "-->".toList)
  | .decl _ => .ok s
  | .unknownDecl _ => .ok s
  | .pi _ => .ok s

/-- `handle_decl` / `unknown_decl`: every declaration replaces the doctype, an unknown declaration only fills a gap -/
def stepD (dt : Option Str) : Token → Option Str
  | .decl d => some d
  | .unknownDecl d =>
    match dt with
    | some d0 => if d0.isEmpty then some d else dt
    | none => some d
  | _ => dt

/-- Parser state: the tree part and `doctype`. -/
structure BState where
  tree : TState
  doctype : Option Str
  deriving Repr, Inhabited

def BState.init : BState := ⟨TState.init, none⟩

def Outcome.map {σ τ : Type} (f : σ → τ) : Outcome σ → Outcome τ
  | .ok s => .ok (f s)
  | .multipleRoot => .multipleRoot
  | .invalidClose => .invalidClose
  | .missedClose => .missedClose
  | .invalidAttr => .invalidAttr

/-- one tokenizer callback -/
def step (s : BState) (t : Token) : Outcome BState :=
  (stepT s.tree t).map (fun tr => ⟨tr, stepD s.doctype t⟩)

def runT (s : TState) : List Token → Outcome TState
  | [] => .ok s
  | t :: ts => match stepT s t with
    | .ok s' => runT s' ts
    | .multipleRoot => .multipleRoot
    | .invalidClose => .invalidClose
    | .missedClose => .missedClose
    | .invalidAttr => .invalidAttr

def run (s : BState) : List Token → Outcome BState
  | [] => .ok s
  | t :: ts => match step s t with
    | .ok s' => run s' ts
    | .multipleRoot => .multipleRoot
    | .invalidClose => .invalidClose
    | .missedClose => .missedClose
    | .invalidAttr => .invalidAttr

/-- end of input: everything still open is closed (the tree is already linked in the code) -/
def closeAll : Nat → TState → TState
  | 0, s => s
  | k + 1, s => match s.stack with
    | [] => s
    | _ :: _ => closeAll k (pop1 s)

def finish (s : TState) : TState := closeAll s.stack.length s

def BState.doc (s : BState) : Doc := ⟨s.doctype, (finish s.tree).root⟩

/-- token-level `addStartTag(contents, '<xxxblank>') + '</xxxblank>'`: the wrapper start goes after a leading
    doctype (optionally preceded by newlines then blanks), else in front. -/
def wrapToks (toks : List Token) : List Token :=
  let w := Token.start wrapperName []
  let e := Token.end_ wrapperName
  match leadDoctype toks with
  | some (pre, r) => pre ++ w :: r ++ [e]
  | none => w :: toks ++ [e]

inductive FeedResult where
  | doc (d : Doc) (secondPass : Bool)
  | raised (e : Exc)
  deriving Repr, Inhabited

def Outcome.exc {σ : Type} : Outcome σ → Exc
  | .ok _ => .multipleRoot     -- not used on `ok`
  | .multipleRoot => .multipleRoot
  | .invalidClose => .invalidClose
  | .missedClose => .missedClose
  | .invalidAttr => .invalidAttr

/-! ### `utils.addStartTag` at character level -/

/-- text up to and including the first `q` -/
def takeThrough (q : Char) : Str → Option (Str × Str)
  | [] => none
  | c :: cs => if c = q then some ([c], cs) else
      match takeThrough q cs with
      | some (a, b) => some (c :: a, b)
      | none => none

/-- `DOCTYPE_MATCH.match(contents)`: `[\n]*[ \t]*<!doctype[^>]*>` (letters of either case) at the very start;
    returns the matched prefix and what follows it -/
def doctypePrefix (s : Str) : Option (Str × Str) :=
  let nl := s.takeWhile (· = '\n')
  let r1 := s.dropWhile (· = '\n')
  let bl := r1.takeWhile (fun c => c = ' ' || c = '\t')
  let r2 := r1.dropWhile (fun c => c = ' ' || c = '\t')
  match r2 with
  | '<' :: '!' :: r3 =>
    if lower (r3.take 7) = "doctype".toList then
      match takeThrough '>' (r3.drop 7) with
      | some (a, b) => some (nl ++ bl ++ ('<' :: '!' :: r3.take 7) ++ a, b)
      | none => none
    else none
  | _ => none

/-- `addStartTag(contents, startTag)` -/
def addStartTagStr (contents startTag : Str) : Str :=
  match doctypePrefix contents with
  | some (pre, rest) => pre ++ startTag ++ rest
  | none => startTag ++ contents

/-- the text of the second pass: `addStartTag(contents, '<xxxblank>') + '</xxxblank>'` -/
def wrapStr (contents : Str) : Str :=
  addStartTagStr contents ('<' :: wrapperName ++ ['>']) ++ ('<' :: '/' :: wrapperName ++ ['>'])

/-- a pass that is not retried: its document or its exception -/
def FeedResult.ofPass (second : Bool) : Outcome BState → FeedResult
  | .ok s => .doc s.doc second
  | o => .raised o.exc

/-- `feed` after `reset`: first pass; on MultipleRootNodeException reset and parse inside the wrapper. -/
def feedTokens (toks : List Token) : FeedResult :=
  match run BState.init toks with
  | .multipleRoot => FeedResult.ofPass true (run BState.init (wrapToks toks))
  | o => FeedResult.ofPass false o

/-- `getRootNodes` -/
def Doc.rootNodes (d : Doc) : List Node :=
  match d.root with
  | none => []
  | some (.elem n a sc kids) =>
    if n = wrapperName then kids.filter (fun k => !k.isText) else [.elem n a sc kids]
  | some t => [t]

def Doc.html (d : Doc) : Option Str := d.root.map (docHTML d.doctype)

/-! ### validating parser (Validator.py) -/

def vStepT (s : TState) : Token → Outcome TState
  | .start n a =>
    if a.all (fun p => validAttrName p.1) then handleStart s n a false else .invalidAttr
  | .startend n a =>
    -- `handle_startendtag` calls the overridden `handle_starttag`
    if a.all (fun p => validAttrName p.1) then handleStart s n a true else .invalidAttr
  | .end_ n =>
    match s.stack with
    | [] => .invalidClose
    | f :: _ =>
      if !(s.stack.map (·.name)).contains n then .invalidClose
      else if f.name ≠ n then .missedClose
      else .ok (pop1 s)
  | t => stepT s t

def vStep (s : BState) (t : Token) : Outcome BState :=
  (vStepT s.tree t).map (fun tr => ⟨tr, stepD s.doctype t⟩)

def vRun (s : BState) : List Token → Outcome BState
  | [] => .ok s
  | t :: ts => match vStep s t with
    | .ok s' => vRun s' ts
    | .multipleRoot => .multipleRoot
    | .invalidClose => .invalidClose
    | .missedClose => .missedClose
    | .invalidAttr => .invalidAttr

def vFeedTokens (toks : List Token) : FeedResult :=
  match vRun BState.init toks with
  | .multipleRoot => FeedResult.ofPass true (vRun BState.init (wrapToks toks))
  | o => FeedResult.ofPass false o

/-! ### the object across calls: `_reset`, `feed` on a used object, `parseStr` (C03)

Additions for C03 ("without leaving the object unusable for the next parse"); nothing above changes. -/

/-- `_reset`, field by field: `self.root = None; self.doctype = None; self._inTag = []` (the tokenizer's own
    `HTMLParser.reset` is outside the model).  That these three assignments cover the WHOLE model state is
    `C03.reset_restores_init`. -/
def BState.reset (s : BState) : BState :=
  { s with tree := { s.tree with stack := [], root := none }, doctype := none }

/-- which exception an outcome is, if any -/
def Outcome.err {σ : Type} : Outcome σ → Option Exc
  | .ok _ => none
  | .multipleRoot => some .multipleRoot
  | .invalidClose => some .invalidClose
  | .missedClose => some .missedClose
  | .invalidAttr => some .invalidAttr

/-- One pass that also says in which state the object is LEFT.  Every raising handler raises before it
    assigns anything (`handle_starttag` builds `newTag` and raises in the `else:`; the text handlers only
    raise), so after an exception the object is in the state it had before the offending token — elements
    still open, root set, doctype set, whatever the earlier tokens did. -/
def runS (s : BState) : List Token → BState × Option Exc
  | [] => (s, none)
  | t :: ts => match step s t with
    | .ok s' => runS s' ts
    | o => (s, o.err)

/-- `feed(contents)` on the object AS IT IS (`feed` itself does not reset — a second `feed` continues the
    document): the pass; on MultipleRootNodeException `self.reset()` and the wrapped text. -/
def feedS (s : BState) (toks : List Token) : BState × Option Exc :=
  match runS s toks with
  | (s1, some .multipleRoot) => runS s1.reset (wrapToks toks)
  | r => r

/-- `parseStr` / `parseFile`: `self.reset()`, then `feed`. -/
def parseStrS (s : BState) (toks : List Token) : BState × Option Exc := feedS s.reset toks

/-- what a caller sees after `parseStr`: the document, or the exception -/
def resultOf (second : Bool) (r : BState × Option Exc) : FeedResult :=
  match r.2 with
  | none => .doc r.1.doc second
  | some e => .raised e

/-! #### `handle_endtag` with the failure of `inTag[-1]` on an empty list explicit

`handleEnd`/`popTo` above are total because the code wraps the body in `try: … except: pass`.  The variant
below keeps the IndexError (`none`): `C03.handleEnd_never_index_error` shows it never happens — the bare
`except` of `handle_endtag` is dead code, not a totalisation the model hides behind. -/

def popToE (n : Str) : Nat → TState → Option TState
  | 0, _ => none                      -- `inTag[-1]` on `[]`: the loop ran the list empty
  | k + 1, s =>
    match s.stack with
    | f :: _ => if f.name = n then some (pop1 s) else popToE n k (pop1 s)
    | [] => none                      -- IndexError

def handleEndE (s : TState) (n : Str) : Option TState :=
  if (s.stack.map (·.name)).contains n then popToE n s.stack.length s else some s

end AHP
