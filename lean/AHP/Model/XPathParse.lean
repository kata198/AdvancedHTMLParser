/-
  AHP.Model.XPathParse — the *text → body elements* step of the XPath engine, as the code has it:

    xpath/parsing.py   parseXPathStrIntoOperations, NEXT_TAG_OPERATION_RE, BRACKETED_SUBSET_RE
    xpath/_body.py     parseBodyStringIntoBodyElements, _parseBodyLevelGroup,
                       _parseFunctionArgsToBodyElements, the `*_RE` expressions in the order of
                       ALL_BODY_ELEMENT_RES (VALUE_GENERATOR_RES + STATIC_VALUES_RES + COMPARISON_RES
                       + OPERATION_RES + BOOLEAN_OPS_RES), BODY_ELEMENT_GROUP_OPEN_RE / _CLOSE_RE,
                       BODY_ELEMENT_GROUP_FUNCTION_NEXT_ARG_RE
    xpath/_axes.py     the alternation TAG_OPERATION_AXES_POSSIBILITIES_REGEX_STR (dict order)

  Output: the *untouched* token structure — `PStep`s with one flat `BE` list per `[…]`.  The library
  folds constants while it tokenizes (`_optimizeStaticValueCalculations` at the end of every level,
  `Concat.createFromMatch`); tokenizing does not depend on the folding, so the library's result is
  `parseExpr` followed by `compileSteps` of AHP.Model.XPath (`none` = the constructor raises, whatever
  the exception class).

  Every regular expression is anchored at the start of the remaining text and is modelled by a
  function that returns what the match consumed; where Python's backtracking matters it is spelled
  out (string literals, the bracket scanner, the axis prefix, `.+ … $`).  ASCII-exact: Python's `\d` and
  `str.lower()` are modelled on ASCII input only (the tie generates ASCII).  White space is exact: the regular
  expressions of xpath/*.py name `[ \t]` (`isSpTab`), the `str.strip()` calls between them (`strip`) remove all of
  `str.isspace()`.

  Fuel: every loop iteration and every nested level consumes at least one character and at most two
  units of fuel in the body loop (`parseBody` starts it with more than twice the length of the text) and one unit in
  the predicate and step loops (started with more than the length of the text).
-/
import AHP.Model.XPath
namespace AHP.XPath

/-! ### Character classes -/

/-- `[ \t]` -/
def isSpTab (c : Char) : Bool := c = ' ' || c = '\t'
/-- a leading / trailing `[ \t]*` -/
def skipSp (s : Str) : Str := s.dropWhile isSpTab

def isAlpha (c : Char) : Bool := (decide ('a' ≤ c) && decide (c ≤ 'z')) || (decide ('A' ≤ c) && decide (c ≤ 'Z'))
/-- `[\d]` on ASCII -/
def isDigit (c : Char) : Bool := decide ('0' ≤ c) && decide (c ≤ '9')
/-- `[a-zA-Z_]` -/
def isNameStart (c : Char) : Bool := isAlpha c || c = '_'
/-- `[a-zA-Z0-9_]` -/
def isNameChar (c : Char) : Bool := isAlpha c || isDigit c || c = '_'
/-- `[a-zA-Z0-9_\-]` -/
def isAttrChar (c : Char) : Bool := isNameChar c || c = '-'

/-- A word spelled `[wW][oO][rR][dD]` in a regular expression (`[\-]` for a dash): the text must
    start with the (lower-case) word, every letter in either case.  Returns the rest. -/
def wordCI : Str → Str → Option Str
  | [], s => some s
  | _ :: _, [] => none
  | w :: ws, c :: cs => if lowerChar c = w then wordCI ws cs else none

/-- `(?P<restOfBody>.+) … $` at the end of an expression: `.` does not match a line feed and `$`
    also matches just before a final line feed.  The text must be non-empty and free of line feeds
    (apart from a final one, which is left out). -/
def dotPlusEnd (r : Str) : Option Str :=
  let body := if r.getLast? = some '\n' then r.dropLast else r
  if body.isEmpty || body.contains '\n' then none else some body

/-! ### `BRACKETED_SUBSET_RE`

  `^[ \t]*[\[](?P<bracket_inner>((["]([\\]["]|[^"])*["])|([']([\\][']|[^'])*['])|[^\]])*)[\]][ \t]*`

  Python's matcher is a depth-first search that prefers, at every item boundary, a quoted string over
  a single character and more items over fewer; inside a string it prefers `\"` as an escaped pair and
  falls back to "`\` is an ordinary character and the quote closes the string".  A quote is therefore
  *escaped* exactly when the character before it is a backslash.  `scanB` / `scanQ` are that search;
  they return (`bracket_inner`, text after the closing `]`). -/

def consFst (c : Char) : Option (Str × Str) → Option (Str × Str)
  | some (i, t) => some (c :: i, t)
  | none => none

mutual
/-- at an item boundary of the bracket body -/
def scanB : Str → Option (Str × Str)
  | [] => none
  | c :: r =>
    if c = ']' then some ([], r)
    else if c = '"' || c = '\'' then
      match scanQ c false r with          -- a quoted string …
      | some x => some (c :: x.1, x.2)
      | none => consFst c (scanB r)       -- … else the quote is an ordinary character
    else consFst c (scanB r)
/-- inside a string opened by `q`; `bs` = the previous character is a backslash -/
def scanQ (q : Char) : Bool → Str → Option (Str × Str)
  | _, [] => none
  | bs, c :: r =>
    if c = q then
      if bs then
        match scanQ q false r with        -- escaped pair, the string goes on …
        | some x => some (c :: x.1, x.2)
        | none => consFst c (scanB r)     -- … else this quote closes it
      else consFst c (scanB r)
    else consFst c (scanQ q (c = '\\') r)
end

/-- `BRACKETED_SUBSET_RE.match`: (`bracket_inner`, the text after the match). -/
def bracket (s : Str) : Option (Str × Str) :=
  match skipSp s with
  | '[' :: r =>
    match scanB r with
    | some (inner, rest) => some (inner, skipSp rest)
    | none => none
  | _ => none

/-! ### Static values -/

/-- `[q](?P<value>([\\][q]|[^q])*)[q]` after the opening quote: up to the first quote that is not
    preceded by a backslash; when there is none, up to the last one that is. -/
def litQ (q : Char) : Bool → Str → Option (Str × Str)
  | _, [] => none
  | bs, c :: r =>
    if c = q then
      if bs then
        match litQ q false r with
        | some x => some (c :: x.1, x.2)
        | none => some ([], r)
      else some ([], r)
    else consFst c (litQ q (c = '\\') r)

/-- `BEV_SV_STRING_DOUBLE_QUOTE_RE` / `…_SINGLE_QUOTE_RE` (after the leading white space): the value is
    the raw inner text, backslashes included (`BodyElementValue_StaticValue_String` does not unescape). -/
def strTok (q : Char) (t : Str) : Option (Str × Str) :=
  match t with
  | c :: r => if c = q then (match litQ q false r with
                             | some (v, rest) => some (v, skipSp rest)
                             | none => none) else none
  | [] => none

/-- an optional `-` -/
def splitSign : Str → Str × Str
  | [] => ([], [])
  | c :: r => if c = '-' then (['-'], r) else ([], c :: r)

/-- `BEV_SV_NUMBER_RE` value group `([-]){0,1}([\d]*[\.][\d]+)|([\d]+)`: the sign belongs to the first
    alternative only; (`value`, rest). -/
def numTok (t : Str) : Option (Str × Str) :=
  let plain : Option (Str × Str) :=
    if (t.takeWhile isDigit).isEmpty then none else some (t.takeWhile isDigit, skipSp (t.dropWhile isDigit))
  let su := splitSign t
  match su.2.dropWhile isDigit with
  | '.' :: f =>
    if (f.takeWhile isDigit).isEmpty then plain
    else some (su.1 ++ su.2.takeWhile isDigit ++ '.' :: f.takeWhile isDigit, skipSp (f.dropWhile isDigit))
  | _ => plain

/-! ### Value generators without arguments, operators -/

/-- `BEVG_FETCH_ATTRIBUTE_RE`: `[@](?P<attributeName>([*]|[a-zA-Z_][a-zA-Z0-9_\-]*))[ \t]*` -/
def attrTok (t : Str) : Option (Str × Str) :=
  match t with
  | '@' :: r =>
    match r with
    | c :: r' =>
      if c = '*' then some (['*'], skipSp r')
      else if isNameStart c then some (c :: r'.takeWhile isAttrChar, skipSp (r'.dropWhile isAttrChar))
      else none
    | [] => none
  | _ => none

/-- `word[ \t]*[\(][ \t]*[\)][ \t]*` (`text()`, `last()`, `position()`): the rest. -/
def fn0Tok (w : Str) (t : Str) : Option Str :=
  match wordCI w t with
  | some r =>
    match skipSp r with
    | '(' :: r1 =>
      match skipSp r1 with
      | ')' :: r2 => some (skipSp r2)
      | _ => none
    | _ => none
  | none => none

/-- `word[ \t]*[\(][ \t]*(?P<restOfBody>.+))$` (`concat(`, `contains(`, `normalize-space(`): `restOfBody`
    (up to leading white space, which the argument parser strips). -/
def fnOpenTok (w : Str) (t : Str) : Option Str :=
  match wordCI w t with
  | some r =>
    match skipSp r with
    | '(' :: r1 => dotPlusEnd r1
    | _ => none
  | none => none

/-- `VALUE_GENERATOR_RES` entries 1–4 in order. -/
def genTok {N : Type} (t : Str) : Option (BE N × Str) :=
  match attrTok t with
  | some (n, r) => some (.attr n, r)
  | none =>
  match fn0Tok ['t', 'e', 'x', 't'] t with
  | some r => some (.text, r)
  | none =>
  match fn0Tok ['l', 'a', 's', 't'] t with
  | some r => some (.last, r)
  | none =>
  match fn0Tok ['p', 'o', 's', 'i', 't', 'i', 'o', 'n'] t with
  | some r => some (.position, r)
  | none => none

/-- `STATIC_VALUES_RES` in order: `"…"`, `'…'`, number (`float(value)` by `nm.parse`). -/
def staticTok {N : Type} (nm : Num N) (t : Str) : Option (BE N × Str) :=
  match strTok '"' t with
  | some (v, r) => some (.val (.str v), r)
  | none =>
  match strTok '\'' t with
  | some (v, r) => some (.val (.str v), r)
  | none =>
  match numTok t with
  | some (v, r) => (nm.parse v).map (fun x => (.val (.num x), r))
  | none => none

/-- `COMPARISON_RES` in order: `=`, `!=`, `<=`, `<`, `>=`, `>`. -/
def cmpTok (t : Str) : Option (CmpOp × Str) :=
  match t with
  | '=' :: r => some (.eq, skipSp r)
  | '!' :: '=' :: r => some (.ne, skipSp r)
  | '<' :: '=' :: r => some (.le, skipSp r)
  | '<' :: r => some (.lt, skipSp r)
  | '>' :: '=' :: r => some (.ge, skipSp r)
  | '>' :: r => some (.gt, skipSp r)
  | _ => none

/-- the two words of `OPERATION_RES`: `div`, `mod` (no white space needed after them) -/
def arithWords (t : Str) : Option (ArithOp × Str) :=
  match wordCI ['d', 'i', 'v'] t with
  | some r => some (.div, skipSp r)
  | none =>
  match wordCI ['m', 'o', 'd'] t with
  | some r => some (.mod, skipSp r)
  | none => none

/-- `OPERATION_RES` in order: `||`, `+`, `-`, `*`, `div`, `mod`. -/
def arithTok (t : Str) : Option (ArithOp × Str) :=
  match t with
  | '|' :: '|' :: r => some (.concat, skipSp r)
  | '+' :: r => some (.add, skipSp r)
  | '-' :: r => some (.sub, skipSp r)
  | '*' :: r => some (.mul, skipSp r)
  | _ => arithWords t

/-- `[ \t]+` after `and` / `or` -/
def sp1 (r : Str) : Option Str :=
  match r with
  | c :: _ => if isSpTab c then some (skipSp r) else none
  | [] => none

/-- `BOOLEAN_OPS_RES` in order: `and[ \t]+`, `or[ \t]+`. -/
def boolTok (t : Str) : Option (BoolOp × Str) :=
  match (wordCI ['a', 'n', 'd'] t).bind sp1 with
  | some r => some (.and, r)
  | none =>
  match (wordCI ['o', 'r'] t).bind sp1 with
  | some r => some (.or, r)
  | none => none

/-- The rest of `ALL_BODY_ELEMENT_RES` after the value generators. -/
def restTok {N : Type} (nm : Num N) (t : Str) : Option (BE N × Str) :=
  match staticTok nm t with
  | some x => some x
  | none =>
  match cmpTok t with
  | some (o, r) => some (.op (.cmp o), r)
  | none =>
  match arithTok t with
  | some (o, r) => some (.op (.arith o), r)
  | none =>
  match boolTok t with
  | some (o, r) => some (.op (.bool o), r)
  | none => none

/-! ### Levels -/

/-- `BODY_ELEMENT_GROUP_OPEN_RE`: `^([ \t]*[\(](?P<restOfBody>.+)[ \t]*)$` -/
def groupOpen (s : Str) : Option Str :=
  match skipSp s with
  | '(' :: r => dotPlusEnd r
  | _ => none

/-- `BODY_ELEMENT_GROUP_CLOSE_RE`: `^[ \t]*[\)][ \t]*` -/
def groupClose (s : Str) : Option Str :=
  match skipSp s with
  | ')' :: r => some (skipSp r)
  | _ => none

/-- `BODY_ELEMENT_GROUP_FUNCTION_NEXT_ARG_RE`: `^[ \t]*[,][ \t]*` -/
def nextArg (s : Str) : Option Str :=
  match skipSp s with
  | ',' :: r => some (skipSp r)
  | _ => none

/-- The three loops of `_body.py` are textual copies that differ in what they test before the
    common part (group open, then `ALL_BODY_ELEMENT_RES`):
    `top` = `parseBodyStringIntoBodyElements` (nothing), `group` = `_parseBodyLevelGroup` (close),
    `args` = `_parseFunctionArgsToBodyElements` (close, then comma). -/
inductive Mode | top | group | args
  deriving DecidableEq, Repr

/-- The arguments a function call ends up with: the finished groups plus the last one when it is not empty. -/
def finishArgs {N : Type} (cur done : List (BE N)) : List (BE N) :=
  if cur.isEmpty then done else done ++ [.group cur]

/-- `createFromMatch` / `__init__` of the three function classes on the parsed arguments:
    `concat` ≥ 2, `contains` exactly 2, `normalize-space` 0 or 1 (else XPathParseError). -/
def mkConcat {N : Type} (args : List (BE N)) : Option (BE N) :=
  if args.length < 2 then none else some (.concatFn args)
def mkContains {N : Type} : List (BE N) → Option (BE N)
  | [a, b] => some (.containsFn a b)
  | _ => none
def mkNspace {N : Type} : List (BE N) → Option (BE N)
  | [] => some .nspace0
  | [a] => some (.nspace1 a)
  | _ => none

mutual
/-- One round of the common part of the loops at a non-empty text: a parenthesised group, else the
    first of `ALL_BODY_ELEMENT_RES` that matches; (element, remaining text). -/
def item {N : Type} (nm : Num N) : Nat → Str → Option (BE N × Str)
  | 0, _ => none
  | fuel + 1, s =>
    match groupOpen s with
    | some body =>
      match loop nm fuel .group (strip body) [] [] with
      | some (cur, _, rest) => some (.group cur, rest)
      | none => none
    | none =>
    let t := skipSp s
    match genTok t with
    | some x => some x
    | none =>
    match fnOpenTok ['c', 'o', 'n', 'c', 'a', 't'] t with
    | some body =>
      match loop nm fuel .args (strip body) [] [] with
      | some (cur, done, rest) => (mkConcat (finishArgs cur done)).map (·, rest)
      | none => none
    | none =>
    match fnOpenTok ['c', 'o', 'n', 't', 'a', 'i', 'n', 's'] t with
    | some body =>
      match loop nm fuel .args (strip body) [] [] with
      | some (cur, done, rest) => (mkContains (finishArgs cur done)).map (·, rest)
      | none => none
    | none =>
    match fnOpenTok ['n', 'o', 'r', 'm', 'a', 'l', 'i', 'z', 'e', '-', 's', 'p', 'a', 'c', 'e'] t with
    | some body =>
      match loop nm fuel .args (strip body) [] [] with
      | some (cur, done, rest) => (mkNspace (finishArgs cur done)).map (·, rest)
      | none => none
    | none => restTok nm t
/-- `while curString:` of the three loops.  `cur` = the elements of the level (of the current argument),
    `done` = the finished arguments; result (`cur`, `done`, text handed back to the caller). -/
def loop {N : Type} (nm : Num N) : Nat → Mode → Str → List (BE N) → List (BE N) → Option (List (BE N) × List (BE N) × Str)
  | 0, _, _, _, _ => none
  | fuel + 1, mode, s, cur, done =>
    if s.isEmpty then
      (if mode = .top then some (cur, done, []) else none)       -- "Missing close parenthesis"
    else
      match (if mode = .top then none else groupClose s) with
      | some rest => some (cur, done, rest)
      | none =>
      match (if mode = .args then nextArg s else none) with
      | some rest =>
        if cur.isEmpty then none                                   -- "Function call has empty argument"
        else loop nm fuel mode rest [] (done ++ [.group cur])
      | none =>
      match item nm fuel s with
      | some (e, rest) => loop nm fuel mode rest (cur ++ [e]) done
      | none => none                                               -- "Failed to parse body string"
end

/-- `parseBodyStringIntoBodyElements` before its final `_optimizeStaticValueCalculations`. -/
def parseBody {N : Type} (nm : Num N) (s : Str) : Option (List (BE N)) :=
  match loop nm (2 * s.length + 2) .top (strip s) [] [] with
  | some (cur, _, _) => some cur
  | none => none

/-! ### Steps -/

/-- What `(?P<axis>…)` can match: the keys of `TAG_OPERATION_AXES_TO_FIND_TAG_FUNC_GEN` in dict order. -/
inductive AxisTok | parent | ancestor | ancestorOrSelf | descendant | descendantOrSelf | child | self
  deriving DecidableEq, Repr, Inhabited

def AxisTok.word : AxisTok → Str
  | .parent => ['p', 'a', 'r', 'e', 'n', 't']
  | .ancestor => ['a', 'n', 'c', 'e', 's', 't', 'o', 'r']
  | .ancestorOrSelf => ['a', 'n', 'c', 'e', 's', 't', 'o', 'r', '-', 'o', 'r', '-', 's', 'e', 'l', 'f']
  | .descendant => ['d', 'e', 's', 'c', 'e', 'n', 'd', 'a', 'n', 't']
  | .descendantOrSelf => ['d', 'e', 's', 'c', 'e', 'n', 'd', 'a', 'n', 't', '-', 'o', 'r', '-', 's', 'e', 'l', 'f']
  | .child => ['c', 'h', 'i', 'l', 'd']
  | .self => ['s', 'e', 'l', 'f']

def AxisTok.all : List AxisTok :=
  [.parent, .ancestor, .ancestorOrSelf, .descendant, .descendantOrSelf, .child, .self]

/-- The axis of the model; `self` (a function that returns the tag itself, not a list) is outside it. -/
def AxisTok.toAxis : AxisTok → Option Axis
  | .parent => some .parent
  | .ancestor => some .ancestor
  | .ancestorOrSelf => some .ancestorOrSelf
  | .descendant => some .descendant
  | .descendantOrSelf => some .descendantOrSelf
  | .child => some .child
  | .self => none

def AxisTok.ofAxis : Axis → AxisTok
  | .parent => .parent
  | .ancestor => .ancestor
  | .ancestorOrSelf => .ancestorOrSelf
  | .descendant => .descendant
  | .descendantOrSelf => .descendantOrSelf
  | .child => .child

/-- One parsed step: what `parseXPathStrIntoOperations` appends for it (the find-function is
    determined by lead-in, axis, position and name; then one `BodyLevel_Top` per non-empty `[…]`). -/
structure PStep (N : Type) where
  dbl : Bool
  axis : Option AxisTok
  name : Str
  preds : List (List (BE N))

/-- `(?P<tagname>[\*]|([a-zA-Z_][a-zA-Z0-9_]*))`: (tagname, rest) -/
def tagName (u : Str) : Option (Str × Str) :=
  match u with
  | c :: r =>
    if c = '*' then some (['*'], r)
    else if isNameStart c then some (c :: r.takeWhile isNameChar, r.dropWhile isNameChar)
    else none
  | [] => none

/-- `((?P<axis>…)[:][:]){0,1}(?P<tagname>…)` with an axis: the first alternative that is followed by
    `::` and a tag name. -/
def axisName (u : Str) : List AxisTok → Option (AxisTok × Str × Str)
  | [] => none
  | a :: as =>
    match wordCI a.word u with
    | some (':' :: ':' :: r) =>
      match tagName r with
      | some (n, rest) => some (a, n, rest)
      | none => axisName u as
    | _ => axisName u as

/-- `([:][:](?P<suffix>[a-zA-Z][a-zA-Z0-9_]*([\(][ \t]*[\)]){0,1})){0,1}`: is the suffix `node()` in the sense
    of `(suffix.strip().lower()).replace(' ', '') == 'node()'`, and the text after the match. -/
def suffix (r : Str) : Bool × Str :=
  match r with
  | ':' :: ':' :: c :: r1 =>
    if isAlpha c then
      let word := c :: r1.takeWhile isNameChar
      let r2 := r1.dropWhile isNameChar
      match r2 with
      | '(' :: r3 =>
        match skipSp r3 with
        | ')' :: r4 => (lower word = ['n', 'o', 'd', 'e'] && (r3.takeWhile isSpTab).all (· = ' '), r4)
        | _ => (false, r2)
      | _ => (false, r2)
    else (false, r)
  | _ => (false, r)

/-- `^[ \t]*(?P<lead_in>[/]{1,2})`: (is it `//`, rest).  (`[/]{1,2}` never needs to give a slash back: a tag
    name cannot start with one.) -/
def leadIn (s : Str) : Option (Bool × Str) :=
  match skipSp s with
  | '/' :: r =>
    match r with
    | '/' :: r' => some (true, r')
    | _ => some (false, r)
  | _ => none

/-- `(?P<full_tag>…)` up to the tag name: with an axis when one of the alternatives, `::` and a tag name
    follow, else the bare tag name; (axis, tag name, rest). -/
def tagCore (u : Str) : Option (Option AxisTok × Str × Str) :=
  match axisName u AxisTok.all with
  | some (a, n, rest) => some (some a, n, rest)
  | none =>
    match tagName u with
    | some (n, rest) => some (none, n, rest)
    | none => none

/-- `thisTagName` after `.lower()` and the `node()` rule. -/
def finalName (n : Str) (isNode : Bool) : Str :=
  if isNode && lower n = ['c', 'h', 'i', 'l', 'd'] then ['*'] else lower n

/-- `NEXT_TAG_OPERATION_RE.match` and the name handling that follows: (`//`?, axis, tag name, rest). -/
def tagOp (s : Str) : Option (Bool × Option AxisTok × Str × Str) :=
  match leadIn s with
  | none => none
  | some (dbl, r) =>
    match tagCore (skipSp r) with
    | none => none
    | some (ax, n, rest) => some (dbl, ax, finalName n (suffix rest).1, (suffix rest).2)

/-- The bracket handling after a tag operation: while a `[…]` follows and its stripped inner text is not
    empty, one body per bracket; an empty `[]` is consumed and ends the list; (bodies, remaining text). -/
def parsePreds {N : Type} (nm : Num N) : Nat → Str → Option (List (List (BE N)) × Str)
  | 0, _ => none
  | fuel + 1, r =>
    match bracket r with
    | none => some ([], r)
    | some (inner, rest) =>
      if (strip inner).isEmpty then some ([], strip rest)
      else
        match parseBody nm (strip inner), parsePreds nm fuel (strip rest) with
        | some l, some (ls, r') => some (l :: ls, r')
        | _, _ => none

/-- The `while keepGoing` loop on a non-empty `remainingStr`. -/
def parseSteps {N : Type} (nm : Num N) : Nat → Str → Option (List (PStep N))
  | 0, _ => none
  | fuel + 1, s =>
    match tagOp s with
    | none => none                                  -- "Could not parse xpath string"
    | some (dbl, ax, name, r) =>
      match parsePreds nm (r.length + 1) (strip r) with
      | none => none
      | some (ps, r') =>
        let st : PStep N := { dbl := dbl, axis := ax, name := name, preds := ps }
        if r'.isEmpty then some [st]
        else (parseSteps nm fuel r').map (st :: ·)

/-- `parseXPathStrIntoOperations` without the constant folding: `none` = XPathParseError. -/
def parseExpr {N : Type} (nm : Num N) (s : Str) : Option (List (PStep N)) :=
  if (strip s).isEmpty then some [] else parseSteps nm (s.length + 1) (strip s)

/-! ### Into the evaluator's types -/

def PStep.toStep {N : Type} (s : PStep N) : Option (Step N) :=
  match s.axis with
  | none => some { dbl := s.dbl, axis := none, name := s.name, preds := s.preds }
  | some a => (a.toAxis).map (fun ax => { dbl := s.dbl, axis := some ax, name := s.name, preds := s.preds })

def PStep.ofStep {N : Type} (s : Step N) : PStep N :=
  { dbl := s.dbl, axis := s.axis.map AxisTok.ofAxis, name := s.name, preds := s.preds }

/-- All steps within the model's axes (`none` when a `self::` step occurs). -/
def toSteps {N : Type} : List (PStep N) → Option (List (Step N))
  | [] => some []
  | s :: ss =>
    match s.toStep, toSteps ss with
    | some s', some ss' => some (s' :: ss')
    | _, _ => none

/-- `XPathExpression(text)`: tokenize, then fold constants; `none` = the constructor raises. -/
def compileText {N : Type} (nm : Num N) (s : Str) : Option (List (Step N)) :=
  ((parseExpr nm s).bind toSteps).bind (compileSteps nm)

end AHP.XPath
